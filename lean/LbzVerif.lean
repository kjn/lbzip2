-- GENERATED by tools/setup.py: every module of the library
import LbzVerif.Basic.Bits
import LbzVerif.Basic.Crc
import LbzVerif.Gen.Cli
import LbzVerif.Gen.Consts
import LbzVerif.Gen.CrcTab
import LbzVerif.Gen.DecodeTab
import LbzVerif.Gen.Parse
import LbzVerif.Gen.Process
import LbzVerif.Gen.ScanTab
import LbzVerif.Gen.SchedC
import LbzVerif.Gen.SchedD
import LbzVerif.Lemmas.AssignCanon
import LbzVerif.Lemmas.BitBuf
import LbzVerif.Lemmas.BitsBasic
import LbzVerif.Lemmas.BwtInverseKey
import LbzVerif.Lemmas.BwtInverseLF
import LbzVerif.Lemmas.BwtInverseNaive
import LbzVerif.Lemmas.CliNaming
import LbzVerif.Lemmas.CliParse
import LbzVerif.Lemmas.CollectCanon
import LbzVerif.Lemmas.CollectSpec
import LbzVerif.Lemmas.CollectSplit
import LbzVerif.Lemmas.CompressBits
import LbzVerif.Lemmas.CompressBlock
import LbzVerif.Lemmas.CompressCut
import LbzVerif.Lemmas.CompressFile
import LbzVerif.Lemmas.CompressInspect
import LbzVerif.Lemmas.CompressMtf
import LbzVerif.Lemmas.CompressSimple
import LbzVerif.Lemmas.CompressWitness
import LbzVerif.Lemmas.CompressWitnessHello
import LbzVerif.Lemmas.Copy
import LbzVerif.Lemmas.CrcFlipBits
import LbzVerif.Lemmas.CrcFlipMain
import LbzVerif.Lemmas.CrcFlipWitness
import LbzVerif.Lemmas.Delta
import LbzVerif.Lemmas.DeltaFastpath
import LbzVerif.Lemmas.Emit
import LbzVerif.Lemmas.ExpandBits
import LbzVerif.Lemmas.ExpandBlock
import LbzVerif.Lemmas.ExpandChain
import LbzVerif.Lemmas.ExpandHello
import LbzVerif.Lemmas.ExpandLocal
import LbzVerif.Lemmas.ExpandMain
import LbzVerif.Lemmas.ExpandParse
import LbzVerif.Lemmas.ExpandSched
import LbzVerif.Lemmas.ExpandSchedWitness
import LbzVerif.Lemmas.ExpandSpec
import LbzVerif.Lemmas.ExpandStep
import LbzVerif.Lemmas.ExpandTop
import LbzVerif.Lemmas.Fail
import LbzVerif.Lemmas.Files
import LbzVerif.Lemmas.GroupBlock
import LbzVerif.Lemmas.GroupDefs
import LbzVerif.Lemmas.GroupFinal
import LbzVerif.Lemmas.GroupMachine
import LbzVerif.Lemmas.GroupPure
import LbzVerif.Lemmas.Ibwt
import LbzVerif.Lemmas.IbwtDerand
import LbzVerif.Lemmas.IbwtLink
import LbzVerif.Lemmas.IbwtRand
import LbzVerif.Lemmas.IbwtSort
import LbzVerif.Lemmas.IbwtTests
import LbzVerif.Lemmas.ListAux
import LbzVerif.Lemmas.ListCount
import LbzVerif.Lemmas.ListSum
import LbzVerif.Lemmas.Lts
import LbzVerif.Lemmas.MtfEnc
import LbzVerif.Lemmas.MtfInit
import LbzVerif.Lemmas.MtfOne
import LbzVerif.Lemmas.MtfRun
import LbzVerif.Lemmas.MtfSlide
import LbzVerif.Lemmas.MtfSpec
import LbzVerif.Lemmas.PrefixCanon
import LbzVerif.Lemmas.PrefixDummy
import LbzVerif.Lemmas.PrefixOpt
import LbzVerif.Lemmas.PrefixOptTable
import LbzVerif.Lemmas.PrefixRank
import LbzVerif.Lemmas.PrefixTree
import LbzVerif.Lemmas.Race.Basic
import LbzVerif.Lemmas.Race.Copy
import LbzVerif.Lemmas.Race.CopyWitness
import LbzVerif.Lemmas.Race.SchedCCover
import LbzVerif.Lemmas.Race.SchedCFootprint
import LbzVerif.Lemmas.Race.SchedCOwner
import LbzVerif.Lemmas.Race.SchedCTie
import LbzVerif.Lemmas.Race.SchedCWitness
import LbzVerif.Lemmas.Race.SchedDFootprint
import LbzVerif.Lemmas.Race.SchedDProt
import LbzVerif.Lemmas.Race.SchedDRelease
import LbzVerif.Lemmas.Race.SchedDThread
import LbzVerif.Lemmas.Race.SchedDTie
import LbzVerif.Lemmas.Race.SchedDUniq
import LbzVerif.Lemmas.Race.SchedDWitness
import LbzVerif.Lemmas.Reorder
import LbzVerif.Lemmas.RetrieveBitmap
import LbzVerif.Lemmas.RetrieveBits
import LbzVerif.Lemmas.RetrieveCall
import LbzVerif.Lemmas.RetrieveDelta
import LbzVerif.Lemmas.RetrieveEqns
import LbzVerif.Lemmas.RetrieveFast
import LbzVerif.Lemmas.RetrieveHeader
import LbzVerif.Lemmas.RetrieveOk
import LbzVerif.Lemmas.RetrieveSelectors
import LbzVerif.Lemmas.RetrieveSim
import LbzVerif.Lemmas.RetrieveSpecLink
import LbzVerif.Lemmas.RetrieveSplit
import LbzVerif.Lemmas.RetrieveTables
import LbzVerif.Lemmas.RetrieveValues
import LbzVerif.Lemmas.Rle1Dec
import LbzVerif.Lemmas.Rle1Len
import LbzVerif.Lemmas.ScanAuto
import LbzVerif.Lemmas.ScanBits
import LbzVerif.Lemmas.ScanLoop
import LbzVerif.Lemmas.ScanLps
import LbzVerif.Lemmas.ScanOcc
import LbzVerif.Lemmas.ScanTabs
import LbzVerif.Lemmas.SchedC.Basic
import LbzVerif.Lemmas.SchedC.Canon
import LbzVerif.Lemmas.SchedC.CanonSplit
import LbzVerif.Lemmas.SchedC.Conserve
import LbzVerif.Lemmas.SchedC.Enabled
import LbzVerif.Lemmas.SchedC.Measure
import LbzVerif.Lemmas.SchedC.Order
import LbzVerif.Lemmas.SchedC.OutputN
import LbzVerif.Lemmas.SchedC.Pos
import LbzVerif.Lemmas.SchedC.Quiet
import LbzVerif.Lemmas.SchedC.Reader
import LbzVerif.Lemmas.SchedC.Reserve
import LbzVerif.Lemmas.SchedC.Restore
import LbzVerif.Lemmas.SchedC.ShapeS
import LbzVerif.Lemmas.SchedC.StepRel
import LbzVerif.Lemmas.SchedC.SuffixS
import LbzVerif.Lemmas.SchedC.UnitN
import LbzVerif.Lemmas.SchedC.Wake
import LbzVerif.Lemmas.SchedC.Witness
import LbzVerif.Lemmas.SchedC.WitnessS
import LbzVerif.Lemmas.SchedC.XIO
import LbzVerif.Lemmas.SchedD.Basic
import LbzVerif.Lemmas.SchedD.Cons
import LbzVerif.Lemmas.SchedD.Exact
import LbzVerif.Lemmas.SchedD.Hi
import LbzVerif.Lemmas.SchedD.Holder
import LbzVerif.Lemmas.SchedD.InSlots
import LbzVerif.Lemmas.SchedD.Input
import LbzVerif.Lemmas.SchedD.Inv
import LbzVerif.Lemmas.SchedD.Leak
import LbzVerif.Lemmas.SchedD.Lo
import LbzVerif.Lemmas.SchedD.Measure
import LbzVerif.Lemmas.SchedD.Mem
import LbzVerif.Lemmas.SchedD.Objects
import LbzVerif.Lemmas.SchedD.OrderCap
import LbzVerif.Lemmas.SchedD.Progress
import LbzVerif.Lemmas.SchedD.ProgressFinal
import LbzVerif.Lemmas.SchedD.Proj
import LbzVerif.Lemmas.SchedD.ProjSound
import LbzVerif.Lemmas.SchedD.ProjW
import LbzVerif.Lemmas.SchedD.ProjWSound
import LbzVerif.Lemmas.SchedD.Reserve
import LbzVerif.Lemmas.SchedD.RetrK
import LbzVerif.Lemmas.SchedD.Safe
import LbzVerif.Lemmas.SchedD.Sections
import LbzVerif.Lemmas.SchedD.Step
import LbzVerif.Lemmas.SchedD.Sub
import LbzVerif.Lemmas.SchedD.Taint
import LbzVerif.Lemmas.SchedD.Token
import LbzVerif.Lemmas.SchedD.Uniq
import LbzVerif.Lemmas.SchedD.UnordCap
import LbzVerif.Lemmas.SchedD.Wake
import LbzVerif.Lemmas.SchedD.WakeLive
import LbzVerif.Lemmas.SchedD.WakeWitness
import LbzVerif.Lemmas.SchedD.Witness
import LbzVerif.Lemmas.Sniff
import LbzVerif.Lemmas.SortBy
import LbzVerif.Lemmas.SpecBasic
import LbzVerif.Lemmas.SpecIbwtLink
import LbzVerif.Lemmas.SpecMtfLink
import LbzVerif.Lemmas.SpecTailLink
import LbzVerif.Lemmas.TransmitBits
import LbzVerif.Lemmas.TransmitCompose
import LbzVerif.Lemmas.TransmitGroups
import LbzVerif.Lemmas.TransmitLen
import LbzVerif.Lemmas.TransmitParse
import LbzVerif.Lemmas.TransmitSelMtf
import LbzVerif.Lemmas.TransmitSelMtfCore
import LbzVerif.Lemmas.TreeCode
import LbzVerif.Lemmas.TreeSound
import LbzVerif.Lemmas.TreeSoundArith
import LbzVerif.Lemmas.TreeSoundTables
import LbzVerif.Model.Canon
import LbzVerif.Model.Cli
import LbzVerif.Model.Collect
import LbzVerif.Model.Compress
import LbzVerif.Model.Copy
import LbzVerif.Model.Delta
import LbzVerif.Model.Emit
import LbzVerif.Model.Expand
import LbzVerif.Model.Fail
import LbzVerif.Model.Files
import LbzVerif.Model.Ibwt
import LbzVerif.Model.MtfDec
import LbzVerif.Model.MtfEnc
import LbzVerif.Model.Naming
import LbzVerif.Model.Operands
import LbzVerif.Model.Race
import LbzVerif.Model.Race.Copy
import LbzVerif.Model.Race.SchedC
import LbzVerif.Model.Race.SchedD
import LbzVerif.Model.Retrieve
import LbzVerif.Model.Scan
import LbzVerif.Model.SchedC
import LbzVerif.Model.SchedD
import LbzVerif.Model.SchedDW
import LbzVerif.Model.Transmit
import LbzVerif.Props.C01.Lbzip2
import LbzVerif.Props.C01.Mtf
import LbzVerif.Props.C01.Prefix
import LbzVerif.Props.C01.Roundtrip
import LbzVerif.Props.C01.Transmit
import LbzVerif.Props.C02
import LbzVerif.Props.C02.Inspect
import LbzVerif.Props.C02.Transmit
import LbzVerif.Props.C03
import LbzVerif.Props.C03.File
import LbzVerif.Props.C04
import LbzVerif.Props.C04.Blocks
import LbzVerif.Props.C05.Block
import LbzVerif.Props.C05.BlockDecode
import LbzVerif.Props.C05.Delta
import LbzVerif.Props.C05.Emit
import LbzVerif.Props.C05.File
import LbzVerif.Props.C05.Ibwt
import LbzVerif.Props.C05.Mtf
import LbzVerif.Props.C05.Parse
import LbzVerif.Props.C05.Retrieve
import LbzVerif.Props.C05.Stages
import LbzVerif.Props.C05.Tree
import LbzVerif.Props.C06.Block
import LbzVerif.Props.C06.Delta
import LbzVerif.Props.C06.File
import LbzVerif.Props.C06.Retrieve
import LbzVerif.Props.C07
import LbzVerif.Props.C07.File
import LbzVerif.Props.C08.Arith
import LbzVerif.Props.C08.RleIndex
import LbzVerif.Props.C08.Slide
import LbzVerif.Props.C09.Emit
import LbzVerif.Props.C09.File
import LbzVerif.Props.C09.Retrieve
import LbzVerif.Props.C09.Sched
import LbzVerif.Props.C10
import LbzVerif.Props.C10.File
import LbzVerif.Props.C11.Compress
import LbzVerif.Props.C11.Expand
import LbzVerif.Props.C12
import LbzVerif.Props.C13.Compress
import LbzVerif.Props.C13.Expand
import LbzVerif.Props.C14
import LbzVerif.Props.C15
import LbzVerif.Props.C15.File
import LbzVerif.Props.C16
import LbzVerif.Props.C17
import LbzVerif.Props.C18
import LbzVerif.Props.C18.Restore
import LbzVerif.Props.C19
import LbzVerif.Props.C20
import LbzVerif.Props.C21
import LbzVerif.Props.C22
import LbzVerif.Spec.Bzip2
import LbzVerif.Spec.Delta
import LbzVerif.Spec.Mtf
import LbzVerif.Spec.Prefix
import LbzVerif.Spec.Rle1
import LbzVerif.Spec.Scan
