/-
  Model.Compress — the COMPRESSOR of lbzip2 as one function from the input to
  the bytes of the `.bz2` file (properties C01, C02): the glue between the
  stage models

      input ──cut into blocks (collect(), compress.c)──▶ block bytes
            ──RLE1 (collect() + "Finalize initial RLE" of encode())──▶ rb
            ──BWT (divbwt)                      [CHOICE]──▶ (L, idx)
            ──make_map_e + do_mtf (Model.MtfEnc)──────────▶ mtfv
            ──generate_prefix_code              [CHOICE]──▶ tables, selectors
            ──selector MTF, padding (encode())────────────▶ Model.Transmit.EncBlock
            ──transmit()──────────────────────────────────▶ block bytes
      header ++ blocks in order ++ trailer(combined CRC)   (compress.c).

  Three parts of the real compressor are heuristics or too large to verify
  (DESIGN.md 2.2): `divbwt` (the Burrows–Wheeler sort), the EM clustering of
  `generate_prefix_code`, and `package_merge`.  They enter as a CHOICE per
  block — `Choice`: the sorted block `L`, the primary index `idx`, the number
  of tables, the code lengths of every table (in transmitted order) and one
  table number per group of 50 symbols — constrained by the DECIDABLE contract
  `ChoicesOK`.  Every theorem about `compressFile` is of the form "for every
  choice function satisfying the contract".  A choice is a function of the
  block content (what `encode()` is given), like the C code, which is
  deterministic per block.

  What is modelled after the C code, statement by statement:
  * `encode()`                                            → `encodeBlock`
      - `EOB = make_map_e(cmap, s->cmap) + 1`, `do_mtf`   → `MtfEnc.doMtf`
        over `s->cmap` = the byte values present in the block (`cmapOf`);
      - `cost = 48+32+1+24+3+15 + generate_prefix_code(s)`, the branch-free
        selector MTF (`Transmit.selectorMtfOf`), `cost += j + 1`;
      - `j = (8 - (cost & 7)) & 7; tree_pad = j >> 1; num_selectors += j & 1;`
        and the dummy `selectorMTF` entry;
      - `*crc = s->block_crc`.
  * `transmit()`                                          → `Transmit.transmitBits`;
    `do_transmit` allocates `(size + 3) / 4` words, `do_reorder` hands
    `wblk->size = out_expect_len` bytes of them to the sink → `blockBytes`.
  * `write_header`, `write_trailer`, `combined_crc = combine_crc(combined_crc,
    wblk->crc)` in block order (`do_reorder`)             → `assemble`.
  * the block cutting of `do_collect` / `do_collect_seq` is NOT re-modelled
    here: `cutBlocks` is the specification's `Spec.blocksOf` per chunk
    (default) / over the whole input (`--sequential`), which
    `Props.C04.Blocks.blocks_cut` proves to be what every terminated run of
    the scheduler model with the real `collect()` produces (`blocks_nonseq` /
    `blocks_seq` read it per mode; `Props.C01.Roundtrip.assemble_sched` uses
    exactly that).

  Core Lean only (linked into the driver).
-/
import LbzVerif.Basic.Bits
import LbzVerif.Gen.Consts
import LbzVerif.Gen.Process
import LbzVerif.Spec.Rle1
import LbzVerif.Spec.Prefix
import LbzVerif.Spec.Bzip2
import LbzVerif.Model.Collect
import LbzVerif.Model.MtfEnc
import LbzVerif.Model.Canon
import LbzVerif.Model.Transmit
import LbzVerif.Model.SchedC

namespace LbzVerif.Model.Compress
open LbzVerif LbzVerif.Basic LbzVerif.Model.Transmit

/-! ## Choices and their contract -/

/-- What the unverified parts of `encode()` decide for one block. -/
structure Choice where
  /-- last column of the sorted rotations of the block (`divbwt`'s output, read
      through `SA`) -/
  L : List UInt8
  /-- `s->bwt_idx`: the row of the original text -/
  idx : Nat
  /-- `s->u.s.num_trees` -/
  numTrees : Nat
  /-- code lengths, one row of `alphaSize` entries per table, in TRANSMITTED
      order (`length[tmap_new2old[t]]`) -/
  lens : List (List Nat)
  /-- `tmap_old2new[selector[gr]]` for every group of 50 symbols -/
  selectors : List Nat
  deriving Repr, Inhabited, DecidableEq

/-- `s->cmap[0..256)` when `encode()` runs `make_map_e`: `collect()` marks a
    byte value exactly when it stores it in the block, and "Finalize initial
    RLE" marks the last count byte — so the flag of `v` says whether `v` occurs
    in the block that is sorted (see the header of Model/Collect.lean). -/
def cmapOf (rb : List UInt8) : List Bool :=
  (List.range 256).map (fun v => rb.contains (UInt8.ofNat v))

/-- The byte values in use, increasing. -/
def usedOf (rb : List UInt8) : List UInt8 := usedBytes (cmapOf rb)

/-- `mtfv[0..nmtf)`: `make_map_e` + `do_mtf` over the sorted block `L`
    (`[]` where the model of `do_mtf` would index outside its arrays, which
    `ChoicesOK` excludes). -/
def mtfvOf (rb L : List UInt8) : List Nat := (MtfEnc.doMtf (usedOf rb) L).getD []

/-- What `divbwt` must satisfy: the reference inverse transform maps `(L, idx)`
    back to the block, and `L` contains no byte value foreign to the block.
    (The second clause does not follow from the first: `ibwt "ab" 0 = "aa"`.
    A true BWT is a permutation of the block and satisfies both.) -/
def BwtOK (rb L : List UInt8) (idx : Nat) : Prop :=
  Spec.Bzip2.ibwt L.toArray idx = some rb.toArray ∧ ∀ x ∈ L, x ∈ rb

instance (rb L : List UInt8) (idx : Nat) : Decidable (BwtOK rb L idx) := by
  unfold BwtOK; infer_instance

/-- What `generate_prefix_code` must satisfy for an alphabet of `as` symbols
    and `nmtf` MTF values: 2…6 tables, one row per table, every row a complete
    prefix code (Kraft sum one, lengths 1…20) over the `as` symbols, one
    selector per group of 50 values, every selector naming a table. -/
def TablesOK (as nmtf : Nat) (ch : Choice) : Prop :=
  Gen.MIN_TREES ≤ ch.numTrees ∧ ch.numTrees ≤ Gen.MAX_TREES ∧
  ch.lens.length = ch.numTrees ∧
  (∀ l ∈ ch.lens, l.length = as ∧ Spec.Prefix.Complete l) ∧
  ch.selectors.length = Canon.numSelectors nmtf ∧
  ∀ s ∈ ch.selectors, s < ch.numTrees

instance (as nmtf : Nat) (ch : Choice) : Decidable (TablesOK as nmtf ch) := by
  unfold TablesOK; infer_instance

/-- The contract for one block `rb` (the run-length encoded block `encode()`
    sorts). -/
def ChoicesOK (rb : List UInt8) (ch : Choice) : Prop :=
  BwtOK rb ch.L ch.idx ∧ TablesOK ((usedOf rb).length + 2) (mtfvOf rb ch.L).length ch

instance (rb : List UInt8) (ch : Choice) : Decidable (ChoicesOK rb ch) := by
  unfold ChoicesOK; infer_instance

/-! ## One block: `encode()` -/

/-- The encoder state before "Compute number of padding bit": no dummy
    selector, no tree padding yet. -/
def encodeBlock0 (rb : List UInt8) (crc : UInt32) (ch : Choice) : EncBlock :=
  let mtfv := mtfvOf rb ch.L
  { crc := crc.toNat, bwtIdx := ch.idx, cmap := cmapOf rb,
    numTrees := ch.numTrees, lens := ch.lens,
    codes := ch.lens.map Canon.assignCodes,
    selectors := ch.selectors,
    selectorMtf := selectorMtfOf ch.selectors,
    numSelectors := Canon.numSelectors mtfv.length,
    treePad := 0, mtfv := mtfv }

/-- `encode(s, &crc)` for the block `rb` = `block[0..nblock)` after "Finalize
    initial RLE", CRC register `crc` = `s->block_crc`, and the choices `ch`:
    what `transmit()` will read.  `cost` at the padding step is
    `Transmit.costBase`, which reads only the first `ns` selector-MTF values,
    so it is computed on the state before the padding is applied. -/
def encodeBlock (rb : List UInt8) (crc : UInt32) (ch : Choice) : EncBlock :=
  let b0 := encodeBlock0 rb crc ch
  let c := costBase b0
  let j := Canon.dummySelectors c
  { b0 with
    selectorMtf := b0.selectorMtf ++ List.replicate j 0,
    numSelectors := b0.numSelectors + j,
    treePad := Canon.treePad c }

/-- What `collect()` + "Finalize initial RLE" hand to the rest of `encode()`
    for a block whose input bytes are `b`: the run-length encoded block and the
    CRC register (`Props.C04.collect_pack`; the same pair as
    `Props.C04.Blocks.specOut`). -/
def blockIn (b : List UInt8) : List UInt8 × UInt32 :=
  (Spec.rle1 b, Model.crcFold 0xFFFFFFFF b)

/-- The whole block pipeline on the input bytes `b` of one block. -/
def compressBlock (choose : List UInt8 → Choice) (b : List UInt8) : EncBlock :=
  encodeBlock (blockIn b).1 (blockIn b).2 (choose (blockIn b).1)

/-- The bytes of one block in the output file: `transmit()` fills
    `(size + 3) / 4` 32-bit words, `sink_write_buffer(buffer, size)` writes the
    first `size = out_expect_len` bytes. -/
def blockBytes (b : EncBlock) : List UInt8 := (transmitBytes b).take (outExpectLen b)

/-! ## The file -/

/-- `write_header()` -/
def headerBytes (level : Nat) : List UInt8 := (Gen.streamHeaderBytes level).map UInt8.ofNat

/-- `write_trailer()` -/
def trailerBytes (cc : Nat) : List UInt8 :=
  Gen.streamTrailerMagic.map UInt8.ofNat ++
    (if Gen.trailerCrcBigEndian then be32 cc else (be32 cc).reverse)

/-- `combined_crc` after `do_reorder` has seen the blocks in order
    (`wblk->crc` is the raw register `s->block_crc`). -/
def combinedCrc (crcs : List UInt32) : Nat :=
  crcs.foldl (fun cc c => Gen.combineCrc cc c.toNat) 0

/-- The output file for a list of collected blocks `(finished block, block_crc)`
    in writing order. -/
def assemble (level : Nat) (choose : List UInt8 → Choice)
    (outs : List (List UInt8 × UInt32)) : List UInt8 :=
  headerBytes level ++
  outs.flatMap (fun o => blockBytes (encodeBlock o.1 o.2 (choose o.1))) ++
  trailerBytes (combinedCrc (outs.map (·.2)))

/-- The input bytes of the blocks, in order: the greedy packing `Spec.blocksOf
    cap` of the whole input (`--sequential`), or of every `granul`-byte chunk in
    turn (default mode). -/
def cutBlocks (cap granul : Nat) (seq : Bool) (input : List UInt8) : List (List UInt8) :=
  if seq then Spec.blocksOf cap input
  else (SchedC.cutChunks granul 0 input).flatMap (fun ib => Spec.blocksOf cap ib.data)

/-- The compressor with explicit block capacity and chunk size (lbzip2 uses
    `cap = granul = level·100000`; other values are for tests). -/
def compressFileGen (level cap granul : Nat) (seq : Bool) (input : List UInt8)
    (choose : List UInt8 → Choice) : List UInt8 :=
  assemble level choose ((cutBlocks cap granul seq input).map blockIn)

/-- **The compressor**: `lbzip2 -<level> [--sequential]` on `input`.
    `encoder_init(enc, bs100k * 100000u, …)`; `in_granul` from
    `set_memory_constraints` (generated). -/
def compressFile (level : Nat) (seq : Bool) (input : List UInt8)
    (choose : List UInt8 → Choice) : List UInt8 :=
  compressFileGen level (level * 100000) (Gen.memCompress 1 level).2.2.1 seq input choose

/-! ## A simple executable choice function

  NOT lbzip2's choices (those are `divbwt`, the EM clustering and
  `package_merge`): a reference compressor used as non-vacuity witness for the
  theorems and by the driver command `compressfile`.  The BWT sorts the
  rotations naively (insertion sort, quadratic — small inputs only); the tables
  are twice the "dummy second table" of `generate_prefix_code`
  (`Canon.dummyLens`, a complete code for every alphabet size 3…258,
  `Props.C02.dummyTable_complete`), every group coded with table 0. -/

/-- rotation `i` ≤ rotation `k` of `a` (length `n`), comparing from offset `j`
    for at most `fuel` positions -/
def rotLe (a : Array UInt8) (n i k : Nat) : (fuel j : Nat) → Bool
  | 0, _ => true
  | fuel + 1, j =>
    let x := a.getD ((i + j) % n) 0
    let y := a.getD ((k + j) % n) 0
    if x < y then true else if y < x then false else rotLe a n i k fuel (j + 1)

def insertRot (a : Array UInt8) (n i : Nat) : List Nat → List Nat
  | [] => [i]
  | k :: ks => if rotLe a n i k n 0 then i :: k :: ks else k :: insertRot a n i ks

/-- last column of the sorted rotations, and the row of rotation 0 -/
def naiveBwt (rb : List UInt8) : List UInt8 × Nat :=
  let a := rb.toArray
  let n := a.size
  let order := (List.range n).foldr (insertRot a n) []
  (order.map (fun i => a.getD ((i + n - 1) % n) 0), order.idxOf 0)

def simpleChoice (rb : List UInt8) : Choice :=
  let bw := naiveBwt rb
  let as := (usedOf rb).length + 2
  let nm := (mtfvOf rb bw.1).length
  { L := bw.1, idx := bw.2, numTrees := 2,
    lens := [Canon.dummyLens as, Canon.dummyLens as],
    selectors := List.replicate (Canon.numSelectors nm) 0 }

end LbzVerif.Model.Compress
