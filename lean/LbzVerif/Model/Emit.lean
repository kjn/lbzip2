/-
  Model.Emit — the resumable run-length emitter `emit()` of src/decode.c
  (the six-state "UNRLE finite state automaton"), reproduced label by label.

  Abstraction.  The IBWT linked list `t[]` with cursor `p` is represented by
  the byte sequence it yields in traversal order: `xs` = the bytes of the
  nodes NOT YET READ (`c = p = t[p >> 8]` pops the head).  `a` (`rle_avail`)
  is kept as the separate counter the C code keeps; `decode()` sets
  `a = block_size = xs.length`, and the theorems assume that equation.  Reading
  with `xs = []` yields 0 (in C the cyclic list would simply be walked again;
  unreachable when `a = xs.length`).

  Unsigned arithmetic.  `a` and `m` are `uint32_t`; `if (!a--)` tests for
  zero and then decrements, so an exhausted counter is left at
  `M1 = 0xFFFFFFFF`; the code after the loops dispatches on exactly that
  (`a != M1 && m != M1`, `m == M1`).  The model keeps that encoding.
  `m = *buf_sz` truncates a `size_t` to 32 bits — modelled (`size % 2^32`);
  the theorems assume `size < 2^32` (lbzip2's output buffers are `out_granul`
  bytes).  `c` is a `uint8_t`: after `while (c--)` it is 255.

  Control flow.  `switch (ds->rle_state)` enters at one of six labels
  (`case0` … `case5`, falling through 1→2→3→4→0→5) which duplicate parts of
  the main loop; leaving the switch by `break` reaches `post` (the test
  `a != M1 && m != M1` guarding the main loop).  The main `for(;;)` is `loop`
  with one label for each of the nine `if (!a--)` sites: `D 0 … D 3` (the four
  unrolled "next byte differs" copies), `E2`, `E3`, `E4` (2nd, 3rd equal
  byte, the count byte) and `E0` (first byte after a run).  Every label
  starts with `if (!a--)`, so `loop` is structurally recursive on `a`.

  Output is returned as the list of bytes stored through `*b++` in this call.
-/
import LbzVerif.Gen.CrcTab

namespace LbzVerif.Model.Emit

open LbzVerif

/-- `0xFFFFFFFFu`. -/
def M1 : Nat := 0xFFFFFFFF

/-- `s = (s << 8) ^ crc_table[(s >> 24) ^ b]`. -/
def crcStep (s : UInt32) (b : UInt8) : UInt32 :=
  (s <<< 8) ^^^ Gen.crcTable.getD ((s >>> 24) ^^^ b.toUInt32).toNat 0

/-- CRC register after the bytes `bs`. -/
def crcBytes (s : UInt32) (bs : List UInt8) : UInt32 := bs.foldl crcStep s

/-- The `rle_*` fields of `struct decoder_state` between two calls. -/
structure St where
  state : Nat          -- rle_state
  crc : UInt32         -- rle_crc
  xs : List UInt8      -- nodes not yet read (abstraction of rle_index over tt)
  a : Nat              -- rle_avail
  c : UInt8            -- rle_char
  d : UInt8            -- rle_prev
  deriving Repr, DecidableEq

/-- State left by `decode()`: `rle_state = 0`, `rle_crc = -1`,
`rle_avail = block_size`, `rle_prev = rle_char = 0`. -/
def St.init (xs : List UInt8) : St :=
  { state := 0, crc := 0xFFFFFFFF, xs := xs, a := xs.length, c := 0, d := 0 }

/-- Locals of one call (`p`/`t` abstracted to `xs`; `a` is passed separately
because the main loop recurses on it). -/
structure Loc where
  xs : List UInt8
  m : Nat              -- free output bytes, uint32_t
  c : UInt8
  d : UInt8
  s : UInt32
  state : Nat          -- value `ds->rle_state` holds now
  deriving Repr, DecidableEq

inductive Status
  | ok
  | more
  | errRunlen
  | abort              -- `default: abort();`
  deriving Repr, DecidableEq

/-- What one call leaves behind. -/
structure Ret where
  out : List UInt8     -- bytes written to `buf` in this call
  status : Status
  st : St              -- the rle_* fields afterwards
  left : Nat           -- `*buf_sz` afterwards
  crc : UInt32         -- `ds->crc` (assigned on OK only; 0 here otherwise)
  deriving Repr, DecidableEq

def out1 (b : UInt8) (r : Ret) : Ret := { r with out := b :: r.out }
def outN (n : Nat) (b : UInt8) (r : Ret) : Ret :=
  { r with out := List.replicate n b ++ r.out }

/-- `return ERR_RUNLEN;` — nothing is written back (fixed up in `emit`). -/
def retErr (L : Loc) : Ret :=
  { out := [], status := .errRunlen,
    st := ⟨L.state, L.s, L.xs, 0, L.c, L.d⟩, left := 0, crc := 0 }

/-- The code after the main loop:
    `ds->rle_avail = a; if (m == M1) { save; *buf_sz = 0; return MORE; }
     ds->crc = s ^ M1; *buf_sz = m; return OK;` -/
def finish (a : Nat) (L : Loc) : Ret :=
  if L.m = M1 then
    { out := [], status := .more, st := ⟨L.state, L.s, L.xs, a, L.c, L.d⟩,
      left := 0, crc := 0 }
  else
    { out := [], status := .ok, st := ⟨L.state, L.s, L.xs, a, L.c, L.d⟩,
      left := L.m, crc := L.s ^^^ 0xFFFFFFFF }

/-- The nine `if (!a--)` sites of the main loop. -/
inductive Lbl
  | D (k : Nat)        -- k-th unrolled copy (0…3) of "read next, expect it to differ"
  | E2                 -- previous two bytes equal
  | E3                 -- previous three bytes equal
  | E4                 -- four equal bytes: the count byte comes next
  | E0                 -- first byte after a completed run
  deriving Repr, DecidableEq

/-- `for (;;) { … }` entered at label `lbl` with counter `a`. -/
def loop : Lbl → Nat → Loc → Ret
  | .E4, 0, L => retErr L                       -- if (!a--) return ERR_RUNLEN;
  | _, 0, L => finish M1 L                      -- if (!a--) break;   (a = M1)
  | lbl, a + 1, L0 =>
    let x := L0.xs.headD 0                      -- c = p = t[p >> 8]
    let L := { L0 with xs := L0.xs.tail }
    match lbl with
    | .D k =>
      let L := { L with d := L.c, c := x }
      match L.m with
      | 0 => finish a { L with m := M1, state := 1 }
      | m + 1 =>
        let L := { L with m := m, s := crcStep L.s x }
        out1 x (if x ≠ L.d then loop (.D (if k < 3 then k + 1 else 0)) a L
                else loop .E2 a L)
    | .E2 =>
      let L := { L with c := x }
      match L.m with
      | 0 => finish a { L with m := M1, state := 2 }
      | m + 1 =>
        let L := { L with m := m, s := crcStep L.s x }
        out1 x (if x ≠ L.d then loop (.D 0) a L else loop .E3 a L)
    | .E3 =>
      let L := { L with c := x }
      match L.m with
      | 0 => finish a { L with m := M1, state := 3 }
      | m + 1 =>
        let L := { L with m := m, s := crcStep L.s x }
        out1 x (if x ≠ L.d then loop (.D 0) a L else loop .E4 a L)
    | .E4 =>
      if L.m < x.toNat then
        -- c -= m; while (m--) *b++ = d;  rle_state = 4; break;
        outN L.m L.d (finish a { L with c := x - UInt8.ofNat L.m,
                                        s := crcBytes L.s (List.replicate L.m L.d),
                                        m := M1, state := 4 })
      else
        -- m -= c; while (c--) *b++ = d;          (c is left at 255)
        outN x.toNat L.d (loop .E0 a { L with m := L.m - x.toNat, c := 255,
                                              s := crcBytes L.s (List.replicate x.toNat L.d) })
    | .E0 =>
      let L := { L with c := x }
      match L.m with
      | 0 => finish a { L with m := M1, state := 5 }
      | m + 1 => out1 x (loop (.D 0) a { L with m := m, s := crcStep L.s x })

/-- After `break` out of the switch: `if (likely(a != M1 && m != M1)) for(;;)…`. -/
def post (a : Nat) (L : Loc) : Ret :=
  if a ≠ M1 ∧ L.m ≠ M1 then loop (.D 0) a L else finish a L

/-- `case 5:` -/
def case5 (a : Nat) (L : Loc) : Ret :=
  match L.m with
  | 0 => finish a { L with m := M1, state := 5 }
  | m + 1 => out1 L.c (post a { L with m := m, s := crcStep L.s L.c })

/-- `case 0:` -/
def case0 (a : Nat) (L : Loc) : Ret :=
  match a with
  | 0 => post M1 L
  | a + 1 => case5 a { L with c := L.xs.headD 0, xs := L.xs.tail }

/-- `case 4:` -/
def case4 (a : Nat) (L : Loc) : Ret :=
  if L.m < L.c.toNat then
    outN L.m L.d (finish a { L with c := L.c - UInt8.ofNat L.m,
                                    s := crcBytes L.s (List.replicate L.m L.d),
                                    m := M1, state := 4 })
  else
    outN L.c.toNat L.d (case0 a { L with m := L.m - L.c.toNat, c := 255,
                                         s := crcBytes L.s (List.replicate L.c.toNat L.d) })

/-- `case 3:` -/
def case3 (a : Nat) (L : Loc) : Ret :=
  match L.m with
  | 0 => finish a { L with m := M1, state := 3 }
  | m + 1 =>
    let L := { L with m := m, s := crcStep L.s L.c }
    out1 L.c (if L.c ≠ L.d then post a L
              else match a with
                | 0 => retErr L
                | a + 1 => case4 a { L with c := L.xs.headD 0, xs := L.xs.tail })

/-- `case 2:` -/
def case2 (a : Nat) (L : Loc) : Ret :=
  match L.m with
  | 0 => finish a { L with m := M1, state := 2 }
  | m + 1 =>
    let L := { L with m := m, s := crcStep L.s L.c }
    out1 L.c (if L.c ≠ L.d then post a L
              else match a with
                | 0 => post M1 L
                | a + 1 => case3 a { L with c := L.xs.headD 0, xs := L.xs.tail })

/-- `case 1:` (`rle_state` is not assigned on the `!m--` exit: it is 1). -/
def case1 (a : Nat) (L : Loc) : Ret :=
  match L.m with
  | 0 => finish a { L with m := M1 }
  | m + 1 =>
    let L := { L with m := m, s := crcStep L.s L.c }
    out1 L.c (if L.c ≠ L.d then post a L
              else match a with
                | 0 => post M1 L
                | a + 1 => case2 a { L with c := L.xs.headD 0, xs := L.xs.tail })

/-- One call `emit(ds, buf, &size)`. -/
def emit (st : St) (size : Nat) : Ret :=
  let L : Loc := { xs := st.xs, m := size % 2 ^ 32, c := st.c, d := st.d,
                   s := st.crc, state := st.state }
  let r : Ret :=
    match st.state with
    | 0 => case0 st.a L
    | 1 => case1 st.a L
    | 2 => case2 st.a L
    | 3 => case3 st.a L
    | 4 => case4 st.a L
    | 5 => case5 st.a L
    | _ => { out := [], status := .abort, st := st, left := size, crc := 0 }
  match r.status with
  | .errRunlen => { r with st := st, left := size }      -- nothing written back
  | .ok => { r with st := { st with a := r.st.a } }       -- only rle_avail is stored
  | _ => r

/-- Result of a sequence of calls, one per buffer size, stopping at the first
call that does not return MORE. -/
structure Run where
  calls : List (Status × List UInt8)
  final : Status       -- status of the last call made (`more` if none)
  crc : UInt32         -- `ds->crc` after an OK
  st : St
  deriving Repr, DecidableEq

def run : St → List Nat → Run
  | st, [] => { calls := [], final := .more, crc := 0, st := st }
  | st, sz :: rest =>
    let r := emit st sz
    if r.status = .more then
      let q := run r.st rest
      { q with calls := (r.status, r.out) :: q.calls }
    else { calls := [(r.status, r.out)], final := r.status, crc := r.crc, st := r.st }

/-- All bytes written by a run. -/
def Run.bytes (r : Run) : List UInt8 := (r.calls.map (·.2)).flatten

end LbzVerif.Model.Emit

/-! ### Reference: bzip2's initial run-length decoding (RLE1)

Own definition (namespace `LbzVerif.Spec.UnRle1`; independent of lbzip2): bytes
are copied; after four equal consecutive bytes the next byte is a repeat count
`n` (0…255) standing for `n` more copies, after which counting starts afresh.
A sequence that ends right after four equal bytes (count byte missing) is
rejected. -/
namespace LbzVerif.Spec.UnRle1

/-- `p` = byte of the current run, `k` = its length so far (0 = no run yet,
4 = the count byte is due). -/
def go (p : UInt8) (k : Nat) : List UInt8 → Option (List UInt8)
  | [] => if k = 4 then none else some []
  | b :: bs =>
    if k = 4 then (go p 0 bs).map (List.replicate b.toNat p ++ ·)
    else if k ≠ 0 ∧ b = p then (go p (k + 1) bs).map (b :: ·)
    else (go b 1 bs).map (b :: ·)

def unRle1 (xs : List UInt8) : Option (List UInt8) := go 0 0 xs

end LbzVerif.Spec.UnRle1
