/-
  Model.Operands — the operand loop of `main()` (src/main.c, the `do { … }
  while (0 != operands)` loop, lines 925-987) and what survives from one
  operand to the next.

  Per operand the code runs
      input_init → cli → output_init → work → output_regf_uninit →
      input_oprnd_rm → sti → input_uninit
  and the ONLY things `main` itself carries to the next operand are
    * the outside world (file system, and the bytes already sent to stdout),
    * the static flag `warned` (set by every `warn*()`, never cleared),
  and the process exits with `warned ? EX_WARN : EX_OK` after the last operand.
  Every `fail*()` goes through `bailout()` and `_exit(EX_FAIL)` immediately
  (after `cleanup()` has unlinked the current output file): later operands
  are not touched.

  Besides that, C statics of the scheduler and of the two pipelines survive
  physically.  They are modelled by `Statics`; `Volatile` is what `work()`,
  `primary_thread()` / `copy()` and `init_io()` overwrite before any thread
  reads them; the rest (`Sticky`) is only safe because every non-fatal run
  puts it back (theorem `terminal_restores`, Props/C18/Restore.lean; here it
  is the explicit hypothesis `TerminalRestores`).

  `ω` = operand descriptions, `σ` = outside world (file system + stdout).
  With no FILE operand the loop body runs once as a filter: that is an `ω`
  too (the caller passes the one-element list).
-/
namespace LbzVerif.Model.Operands

/-- How the processing of one operand ends. -/
inductive Outcome
  | ok          -- processed (or silently nothing to do), no warning
  | warned      -- at least one `warn*()`: operand skipped, or processed with a metadata warning
  | fatal       -- a `fail*()`: `bailout()`, exit status 1, nothing after it runs
  deriving Repr, DecidableEq

def exOk : Nat := 0      -- EX_OK
def exWarn : Nat := 4    -- EX_WARN
def exFail : Nat := 1    -- EX_FAIL in signals.c

/-- Result of one invocation. -/
structure Result (σ : Type) where
  world : σ           -- file system and stdout afterwards
  status : Nat        -- exit status
  completed : Nat     -- operands finished (not counting a fatal one)
  deriving Repr, DecidableEq

/-- The loop of `main()`: `w` is the world, `warned` the static flag, `n`
counts finished operands. -/
def loop {ω σ : Type} (runOne : ω → σ → σ × Outcome) :
    List ω → σ → Bool → Nat → Result σ
  | [], w, warned, n => ⟨w, if warned then exWarn else exOk, n⟩
  | op :: ops, w, warned, n =>
    match (runOne op w).2 with
    | .fatal => ⟨(runOne op w).1, exFail, n⟩
    | .ok => loop runOne ops (runOne op w).1 warned (n + 1)
    | .warned => loop runOne ops (runOne op w).1 true (n + 1)

/-- One invocation with operands `ops`. -/
def runMany {ω σ : Type} (runOne : ω → σ → σ × Outcome) (ops : List ω) (w : σ) : Result σ :=
  loop runOne ops w false 0

/-! ### The same loop as a fold -/

/-- Everything the loop carries. -/
structure Acc (σ : Type) where
  world : σ
  warned : Bool
  fatal : Bool
  completed : Nat
  deriving Repr, DecidableEq

def Acc.start {σ : Type} (w : σ) : Acc σ := ⟨w, false, false, 0⟩

/-- One iteration (an absorbing state once a fatal error happened). -/
def stepAcc {ω σ : Type} (runOne : ω → σ → σ × Outcome) (a : Acc σ) (op : ω) : Acc σ :=
  if a.fatal then a
  else
    match (runOne op a.world).2 with
    | .fatal => { a with world := (runOne op a.world).1, fatal := true }
    | .ok => { a with world := (runOne op a.world).1, completed := a.completed + 1 }
    | .warned => { a with world := (runOne op a.world).1, warned := true, completed := a.completed + 1 }

def Acc.result {σ : Type} (a : Acc σ) : Result σ :=
  ⟨a.world, if a.fatal then exFail else if a.warned then exWarn else exOk, a.completed⟩

/-! ### Status algebra on the outcomes alone -/

/-- Exit status and number of finished operands from the list of per-operand
outcomes (outcomes after the first fatal one never materialise). -/
def statusOf : List Outcome → Bool → Nat → Nat × Nat
  | [], warned, n => (if warned then exWarn else exOk, n)
  | .fatal :: _, _, n => (exFail, n)
  | .ok :: os, warned, n => statusOf os warned (n + 1)
  | .warned :: os, _, n => statusOf os true (n + 1)

/-- The outcomes as they materialise in one invocation: the world is threaded
through, nothing follows a fatal one. -/
def outcomes {ω σ : Type} (runOne : ω → σ → σ × Outcome) : List ω → σ → List Outcome
  | [], _ => []
  | op :: ops, w =>
    match (runOne op w).2 with
    | .fatal => [.fatal]
    | .ok => .ok :: outcomes runOne ops (runOne op w).1
    | .warned => .warned :: outcomes runOne ops (runOne op w).1

/-- Exit status of "first these operands, then those" from the two statuses. -/
def combineStatus (a b : Nat) : Nat :=
  if a = exFail then exFail
  else if b = exFail then exFail
  else if a = exWarn ∨ b = exWarn then exWarn
  else exOk

/-- One invocation PER OPERAND, in order, each on the world the previous one
left, stopping after the first that exits with status 1; statuses combined
with `combineStatus`.  (This is the reference execution of checks/C18.py.) -/
def separately {ω σ : Type} (runOne : ω → σ → σ × Outcome) : List ω → σ → Result σ
  | [], w => ⟨w, exOk, 0⟩
  | op :: ops, w =>
    let a := runMany runOne [op] w
    if a.status = exFail then a
    else
      let b := separately runOne ops a.world
      ⟨b.world, combineStatus a.status b.status, a.completed + b.completed⟩

/-- Outcome read off the exit status of a one-operand invocation. -/
def outcomeOfStatus (st : Nat) : Outcome :=
  if st = exOk then .ok else if st = exWarn then .warned else .fatal

/-! ### Statics that physically survive -/

/-- Statics nobody resets at the start of a run: `collect_token`,
`unfinished_work` (compress.c), `next_task` (process.c; recomputed by
`select_task()` before its first read, listed here all the same). -/
structure Sticky where
  collectToken : Bool
  unfinishedWork : Bool       -- `unfinished_work != NULL`
  nextTaskNull : Bool         -- `next_task == NULL`
  deriving Repr, DecidableEq

/-- Statics overwritten at the start of every run before any thread reads
them: `set_memory_constraints()` (the four sizes), `primary_thread()` /
`copy()` (`eof`, `in_slots`, `out_slots`, `work_units`, `thread_id`),
`init_io()` (`request_close`, `finish`).  `copy()` leaves `total_out_slots =
2`, `in_granul = 65536` behind: both are in this group. -/
structure Volatile where
  totalInSlots : Nat
  totalOutSlots : Nat
  inGranul : Nat
  outGranul : Nat
  eof : Bool
  inSlots : Nat
  outSlots : Nat
  workUnits : Nat
  requestClose : Bool
  finish : Bool
  deriving Repr, DecidableEq

structure Statics where
  sticky : Sticky
  vol : Volatile
  deriving Repr, DecidableEq

/-- Initial values of the sticky statics (C initialisers). -/
def Sticky.initial : Sticky := ⟨true, false, true⟩

/-- The operand loop with the statics threaded through.  `body op w st`
receives the statics exactly as the previous operand left them. -/
def loopS {ω σ : Type} (body : ω → σ → Statics → (σ × Outcome) × Statics) :
    List ω → σ → Statics → Bool → Nat → Result σ
  | [], w, _, warned, n => ⟨w, if warned then exWarn else exOk, n⟩
  | op :: ops, w, st, warned, n =>
    match (body op w st).1.2 with
    | .fatal => ⟨(body op w st).1.1, exFail, n⟩
    | .ok => loopS body ops (body op w st).1.1 (body op w st).2 warned (n + 1)
    | .warned => loopS body ops (body op w st).1.1 (body op w st).2 true (n + 1)

/-- A body respects the reset discipline when it reads the volatile statics
only after `prologue` has overwritten them: its result is a function of the
sticky part alone. -/
def ReadsOnlySticky {ω σ : Type} (body : ω → σ → Statics → (σ × Outcome) × Statics) : Prop :=
  ∀ op w st st', st.sticky = st'.sticky → body op w st = body op w st'

/-- `terminal_restores` (Props/C18/Restore.lean): a run that starts with the
sticky statics at their initial values and does not end fatally leaves them at
their initial values. -/
def TerminalRestores {ω σ : Type} (body : ω → σ → Statics → (σ × Outcome) × Statics) : Prop :=
  ∀ op w st, st.sticky = Sticky.initial →
    (body op w st).1.2 ≠ Outcome.fatal → (body op w st).2.sticky = Sticky.initial

end LbzVerif.Model.Operands
