/-
  Model.Expand — lbzip2's decompression of a WHOLE FILE as the sequential
  composition of the pieces that exist as separate models (work package W22;
  properties C05, C06, C09).

      expandFile : List UInt8 → Except Err (List UInt8)

  What is composed, in the order the C code does it:

  * `work()` (process.c): `xread` of the 4-byte header, the `MAGIC(1..9)` test,
    `bs100k = ntohl(header) - MAGIC(0)`  —  `Model.Copy.sniff` (constants from
    Gen.Process); anything else is "not a valid bzip2 file" (no `-f`).
  * `on_input_avail` (expand.c): the rest of the file arrives in blocks whose
    size is a multiple of 4 except the last, which is zero-filled to a
    multiple of 4 (`missing = -size % 4`, kept in `eof_missing`); the input is
    then an array of big-endian 32-bit words (`toWords`).  With no input at
    all `eof_missing` keeps its initial 0.
  * `parse()` (parse.c) on the parser bitstream `parser_bs`: the bit buffer
    `buff`/`live` (`Cur.v`/`Cur.w`, same encoding as `Model.Retrieve`: `w` live
    bits left-justified in 64) and the unread words (`Cur.ws`);
    `bits_need(bs,16)` (`need16`: loads a word iff `live < 16`; no word left
    and `eof` → FINISH), `bits_peek(16)` = `buff >> 48`, `bits_dump(16)`, the
    switch = the TRANSLATED `Gen.parseStep` (its `align` flag = the arm executed
    `bits_align`: `bits_dump(live % 8)`), the tail after the loop =
    `Gen.parseAtEof`.  `parse()` resumes with the state it left, so the
    chunking into calls (MORE at the end of every input block) is invisible.
  * `do_parse`: OK → the header `(bs100k, crc)` is queued and a retrieve job
    starts at `parser_bs` (the position after the 32-bit CRC, buffer
    included); FINISH → `live += garbage; if (live >= 32) {live -= 32;
    offset--;}` and the test `offset == tail_offs && live < 8 * eof_missing`
    → ERR_EOF (`finishCheck`); any other code → `failf`.
  * `do_retrieve` / `decode()` / `do_emit` / `do_reorder` for that block:
    `Model.Retrieve.retrieve` on ALL remaining words as one segment with
    `eof = true` (`Props.C09.Retrieve.retrieve_split`: any admissible
    segmentation gives the same), `Model.Ibwt.nodes` (= `decode()` + the list
    `emit()` walks), `Model.Emit.run` with ONE output buffer of 2^32 − 2 bytes
    (`Props.C09.Emit.emit_split`: any buffer sizes give the same bytes),
    `Gen.reorderStatus` (declared size `blk_sz > bs100k·100000` → ERR_OVERFLOW;
    `crc != hdr.crc` → ERR_BLKCRC) with the header's `bs100k` and CRC; the
    bytes are appended to the output and the parser continues at the
    retriever's end position (`advance(rb->curr_pos)`: buffer and words).

  Sequential = the order in which `do_reorder` consumes `order_q`; that the
  real scheduler (any worker count, speculation, any interleaving) produces
  this result is `Props.C09.Sched.output_eq` (instantiated in
  Props/C09/File.lean).

  Deliberate inexactness (error CODE only, never ok/err): when `retrieve()`
  fails, `do_reorder` still applies the size test to `ds->block_size`, which
  holds the value of the last `SAVE()`; the retriever model keeps that value
  for ERR_EOF only (0 otherwise), so a block that already exceeds the level's
  capacity when another error is found is reported with that error instead of
  ERR_OVERFLOW.  Which of two errors is reported first is decided by the scheduler
  in the real program: when `retrieve()` fails the parser gets the token back
  and runs on from the retriever's last saved position before the block's
  status reaches `do_reorder`, so its verdict (ERR_HEADER / ERR_EOF /
  ERR_STRMCRC) usually overtakes the block's.  The model reports the first
  failure in file order and marks it (`Err.block`).

  Fuel: every iteration of `go` removes at least 16 bits from the unread bits
  (`w + 32·|ws|`), so `32·|ws| + 1` iterations always suffice
  (`Props.C06.File.expandFile_ne_fuel`, from `Props.C06.File.expand_complete`).
-/
import LbzVerif.Gen.Consts
import LbzVerif.Gen.Parse
import LbzVerif.Gen.SchedD
import LbzVerif.Gen.Process
import LbzVerif.Model.Copy
import LbzVerif.Model.Retrieve
import LbzVerif.Model.Ibwt
import LbzVerif.Model.Emit

namespace LbzVerif.Model.Expand
open LbzVerif

/-- How a decompression fails. -/
inductive Err
  /-- `failf(&ispec, "not a valid bzip2 file")` -/
  | notBzip2
  /-- `failf(&ispec, "compressed data error: %s", err2str(code))` in `do_parse`,
      `code` = value of `enum error` -/
  | data (code : Nat)
  /-- the same `failf` in `do_reorder` (a block's status) -/
  | block (code : Nat)
  /-- model-only statuses of the parts (`ub` 1000, `overread` 1001, `assertFail` 1002 of
      Model.Retrieve; 1003: `emit()` aborted or did not finish in the 2^32 − 2 byte buffer) -/
  | model (code : Nat)
  /-- the fuel of `go` ran out (impossible: `Props.C06.File.expandFile_ne_fuel`) -/
  | fuel
  deriving DecidableEq, Repr, Inhabited

def Err.name : Err → String
  | .notBzip2 => "not-bzip2"
  | .data c => toString c
  | .block c => toString c ++ " block"
  | .model c => "model-" ++ toString c
  | .fuel => "fuel"

/-! ### input -/

/-- `missing = -size % 4` for the last input block; all earlier blocks have a
size that is a multiple of 4 (`in_granul`), so this is a function of the total
length.  (No input at all: `eof_missing` keeps its initial value 0.) -/
def missingOf (n : Nat) : Nat := (4 - n % 4) % 4

/-- `ntohl` of four bytes in memory. -/
def word (a b c d : UInt8) : Nat :=
  a.toNat <<< 24 ||| b.toNat <<< 16 ||| c.toNat <<< 8 ||| d.toNat

/-- The input buffers seen as `uint32_t` arrays. -/
def toWords : List UInt8 → List Nat
  | a :: b :: c :: d :: rest => word a b c d :: toWords rest
  | _ => []

/-- The zero-filled input (`memset((char *)buffer + size, 0, missing)`). -/
def padded (rest : List UInt8) : List UInt8 := rest ++ List.replicate (missingOf rest.length) 0

/-! ### the parser bitstream -/

/-- A bitstream: `buff`, `live` and the words from `data` to the end of the input. -/
structure Cur where
  v : Nat
  w : Nat
  ws : List Nat
  deriving Repr, DecidableEq, Inhabited

/-- `bits_need(bs, 16)` with all input present and `eof` set: `none` = FINISH. -/
def need16 (c : Cur) : Option Cur :=
  if 16 ≤ c.w then some c
  else
    match c.ws with
    | [] => none
    | x :: ws => some ⟨Retrieve.refillV c.v c.w x, c.w + 32, ws⟩

/-- `bits_dump(bs, n)` -/
def dumpC (c : Cur) (n : Nat) : Cur := ⟨Retrieve.dumpV c.v n, c.w - n, c.ws⟩

/-- `bits_align(bs)` -/
def alignC (c : Cur) : Cur := dumpC c (c.w % 8)

/-- Number of unread bits. -/
def Cur.size (c : Cur) : Nat := c.w + 32 * c.ws.length

/-! ### one block -/

/-- Size of the single output buffer handed to `emit()`. -/
def bigBuf : Nat := 0xFFFFFFFE

/-- `enum error` value of an `emit()` status (`abort` / an unfinished block: model-only 1003). -/
def emitCode : Emit.Status → Nat
  | .ok => Gen.RV_OK
  | .more => 1003
  | .errRunlen => Gen.ERR_RUNLEN
  | .abort => 1003

/-- What `decode()` + `emit()` make of the block a successful `retrieve()` handed over. -/
def emitOf (r : Retrieve.Result) : Emit.Run :=
  Emit.run (Emit.St.init (Ibwt.nodes (r.st.rand == 1) r.st.bwtIdx r.st.run.out.reverse)) [bigBuf]

/-- An `enum error` value as the failure it causes in `do_parse`. -/
def failCode (s : Nat) : Err := if s < 1000 then .data s else .model s

/-- … in `do_reorder`. -/
def failBlock (s : Nat) : Err := if s < 1000 then .block s else .model s

/-- `do_retrieve` + `decode()` + `do_emit` + `do_reorder` for the block whose
header `(bs100k, crc)` the parser just returned, the retrieve job starting at
`c`.  Result: the block's bytes and where the retriever stopped. -/
def blockAt (bs100k crc : Nat) (c : Cur) : Except Err (List UInt8 × Cur) :=
  let r := Retrieve.retrieve (Retrieve.St.start c.v c.w) c.ws true
  match r.status with
  | .ok =>
    -- do_reorder applies the size test to EVERY out_blk of the block, also to those with
    -- status MORE; in the model (one buffer) that is the test below, made before the bytes
    -- are computed (a block over the declared size fails whatever emit() would say)
    let s0 := Gen.reorderStatus r.st.run.n bs100k Gen.RV_MORE 0 crc
    if s0 ≠ Gen.RV_MORE then .error (failBlock s0)
    else
      let e := emitOf r
      let s := Gen.reorderStatus r.st.run.n bs100k (emitCode e.final) e.crc.toNat crc
      if s = Gen.RV_OK then .ok (e.bytes, ⟨r.st.v, r.st.w, r.rest⟩) else .error (failBlock s)
  | .err code =>
    -- `eb->status = rv`; do_emit does not call emit(); do_reorder: size test, then failf
    .error (failBlock (Gen.reorderStatus r.st.run.n bs100k code 0 crc))
  | .more => .error (.model 1002)          -- not with `eof = true`
  | .ub => .error (.model 1000)
  | .overread => .error (.model 1001)
  | .assertFail => .error (.model 1002)

/-! ### FINISH -/

/-- `do_parse`, `rv == FINISH`: `parser_bs.live += garbage; if (parser_bs.live >= 32)
{ parser_bs.live -= 32; parser_bs.offset--; } if (parser_bs.offset == tail_offs &&
parser_bs.live < 8 * eof_missing) failf(ERR_EOF)`.  `offset == tail_offs` before the
adjustment iff no unread word is left; after `offset--` it cannot hold. -/
def finishCheck (missing garbage : Nat) (c : Cur) (acc : List UInt8) : Except Err (List UInt8) :=
  let live := c.w + garbage
  let atTail := if 32 ≤ live then false else c.ws.isEmpty
  let live := if 32 ≤ live then live - 32 else live
  if atTail ∧ live < 8 * missing then .error (.data Gen.ERR_EOF) else .ok acc

/-! ### the loop -/

/-- One iteration = one pass of `while (OK == bits_need(bs, 16))` in `parse()`
(followed, when `parse()` returns OK, by the whole block).  `p` is `par` (the
parser state survives from call to call), `c` is `parser_bs`, `acc` the bytes
written so far. -/
def go (missing : Nat) : Nat → Gen.ParseSt → Cur → List UInt8 → Except Err (List UInt8)
  | 0, _, _, _ => .error .fuel
  | f + 1, p, c, acc =>
    match need16 c with
    | none =>
      let r := Gen.parseAtEof p
      if r.2 = Gen.RV_FINISH then finishCheck missing r.1.garbage c acc
      else .error (failCode r.2)
    | some c1 =>
      let wd := c1.v >>> 48
      let c2 := dumpC c1 16
      let r := Gen.parseStep { p with align := false } wd
      let c3 := if r.1.align then alignC c2 else c2
      match r.2 with
      | none => go missing f r.1 c3 acc
      | some rv =>
        if rv = Gen.RV_OK then
          match blockAt r.1.hdBs100k r.1.hdCrc c3 with
          | .error e => .error e
          | .ok (out, c4) => go missing f r.1 c4 (acc ++ out)
        else if rv = Gen.RV_FINISH then finishCheck missing r.1.garbage c3 acc
        else .error (failCode rv)

/-- The decompressor on the bytes after the 4-byte header, level `bs100k`. -/
def expandRest (bs100k : Nat) (rest : List UInt8) : Except Err (List UInt8) :=
  let ws := toWords (padded rest)
  go (missingOf rest.length) (32 * ws.length + 1) (Gen.parserInit bs100k false) ⟨0, 0, ws⟩ []

/-- **lbzip2 -d** on a whole file (sequential composition). -/
def expandFile (x : List UInt8) : Except Err (List UInt8) :=
  match Copy.sniff x [] false false with
  | (.decompress bs100k, rest, _) => expandRest bs100k rest
  | _ => .error .notBzip2

end LbzVerif.Model.Expand
