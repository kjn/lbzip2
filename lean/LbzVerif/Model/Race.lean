/-
  Model.Race — a small generic framework for lock-discipline / ownership
  arguments about data races (property C12).

  * `Lock`    — the three monitors of src/process.c:231-236
                (`sched_mutex`, `source_mutex`, `sink_mutex`).
  * `Access`  — one read or write of a shared variable / heap object by a
                thread, with the set of locks the thread holds at that moment.
  * `conflict a b` — different threads, same variable, at least one write.
  * `common a b`   — both accesses are made while holding one common lock
                (then the monitor serialises them).
  * `Owner`   — who may touch a variable at a given moment:
                `lock l`      every access holds `l` (guarded variable; a heap
                              object sitting in a queue that `l` protects),
                `thread t`    only thread `t` touches it (thread-owned object,
                              single-thread variable such as `next_id`),
                `frozen`      immutable after the threads have started
                              (`bs100k`, `num_worker`, granularities …),
                `writer t l`  guarded by `l`, but `t` is the only writer and may
                              therefore READ it without the lock (`tail_offs`
                              in src/expand.c:895-897).
  * `Discipline` — `owns s v o`: in state `s` variable `v` has owner `o`.
                `Protected`: the access respects some owner of its variable;
                `Unique`: a variable has at most one owner.
  * `System`  — a transition system annotated with footprints: which
                sections `X` (a locked section together with the unlocked work
                that leads to it) are in progress in a state (`inProg`) and
                which accesses each performs (`fp`).  `RaceFree` is the
                statement of C12.

  The instances are `Model.Race.SchedC` (compression scheduler),
  `Model.Race.Copy` (the `-cdf` pipeline) and `Model.Race.SchedD` (expansion
  scheduler), each with its own variable type, `Discipline` and footprints;
  the `writer` owner kind is used by the last one (`tail_offs`, input buffers
  with one reference).
-/

namespace LbzVerif.Model.Race

/-- the monitors of src/process.c:231-236 -/
inductive Lock where
  | sched | source | sink
  deriving DecidableEq, Repr

/-- one access: `thread` reads (`write = false`) or writes `var` while holding
    `locks`. -/
structure Access (T V : Type) where
  thread : T
  var : V
  write : Bool
  locks : List Lock
  deriving DecidableEq, Repr

section
variable {T V : Type}

/-- two accesses conflict: different threads, same variable, one is a write -/
def conflict (a b : Access T V) : Prop :=
  a.thread ≠ b.thread ∧ a.var = b.var ∧ (a.write = true ∨ b.write = true)

/-- both accesses are made under one common lock -/
def common (a b : Access T V) : Prop := ∃ l, l ∈ a.locks ∧ l ∈ b.locks

/-- who may touch a variable -/
inductive Owner (T : Type) where
  | lock (l : Lock)
  | thread (t : T)
  | frozen
  | writer (t : T) (l : Lock)
  deriving DecidableEq, Repr

/-- the access obeys the rule of owner `o` -/
def Respects (a : Access T V) : Owner T → Prop
  | .lock l => l ∈ a.locks
  | .thread t => a.thread = t
  | .frozen => a.write = false
  | .writer t l =>
    (a.write = true → a.thread = t ∧ l ∈ a.locks) ∧ (a.write = false → a.thread = t ∨ l ∈ a.locks)

/-- ownership of variables as a function of the state -/
structure Discipline (S T V : Type) where
  owns : S → V → Owner T → Prop

/-- the `Protected` discipline: the access holds the guarding lock, or the
    variable is owned by the accessing thread at that time, or it is
    immutable-after-start and only read (or single-writer, see `Owner.writer`) -/
def Discipline.Protected {S : Type} (D : Discipline S T V) (s : S) (a : Access T V) : Prop :=
  ∃ o, D.owns s a.var o ∧ Respects a o

/-- every variable has at most one owner in state `s` -/
def Discipline.Unique {S : Type} (D : Discipline S T V) (s : S) : Prop :=
  ∀ v o₁ o₂, D.owns s v o₁ → D.owns s v o₂ → o₁ = o₂

/-- A transition system with footprints.  A *section* is one atomic section of
    the model together with the unlocked work of the thread that precedes it
    (the phase the thread is in); `inProg s x` says that in state `s` the thread
    of `x` is inside that unlocked work, or is entitled to enter / is inside the
    locked part.  `fp s x` lists everything it touches. -/
structure System (S T V X : Type) where
  reach : S → Prop
  inProg : S → X → Prop
  fp : S → X → List (Access T V)
  disc : Discipline S T V

/-- C12: two accesses that can be performed concurrently never conflict unless
    both are made under a common lock. -/
def System.RaceFree {S X : Type} (sys : System S T V X) : Prop :=
  ∀ s, sys.reach s → ∀ x y, sys.inProg s x → sys.inProg s y →
    ∀ a ∈ sys.fp s x, ∀ b ∈ sys.fp s y, conflict a b → common a b

/-- every access in every footprint respects the discipline -/
def System.AllProtected {S X : Type} (sys : System S T V X) : Prop :=
  ∀ s, sys.reach s → ∀ x, sys.inProg s x → ∀ a ∈ sys.fp s x, sys.disc.Protected s a

/-- ownership is unambiguous in every reachable state -/
def System.AllUnique {S X : Type} (sys : System S T V X) : Prop :=
  ∀ s, sys.reach s → sys.disc.Unique s

end

/-! ### helpers for writing footprints -/

section
variable {T V : Type}

/-- a read of `v` by `t` holding `L` -/
def rd (t : T) (L : List Lock) (v : V) : Access T V := ⟨t, v, false, L⟩
/-- a write of `v` by `t` holding `L` -/
def wr (t : T) (L : List Lock) (v : V) : Access T V := ⟨t, v, true, L⟩
/-- read-modify-write -/
def rw (t : T) (L : List Lock) (v : V) : List (Access T V) := [rd t L v, wr t L v]
def rds (t : T) (L : List Lock) (vs : List V) : List (Access T V) := vs.map (rd t L)
def wrs (t : T) (L : List Lock) (vs : List V) : List (Access T V) := vs.map (wr t L)

end

end LbzVerif.Model.Race
