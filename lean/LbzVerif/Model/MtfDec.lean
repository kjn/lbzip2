/-
  Model.MtfDec — executable model of decode.c's inverse move-to-front
  ("sliding lists", `mtf_one`) and of the part of `retrieve()` that consumes
  decoded symbols (zero-run accumulation `run`/`shift`, delayed writes of
  `runChar`, overflow test against `tt_limit`, EOB).

  Memory is modelled explicitly: `imtf_slide` is an array of `SLIDE_LENGTH`
  bytes, `imtf_row[i]` is the offset `imtf_row[i] - imtf_slide`.  Every read
  and write goes through `rd` / `wr`, which return `none` when the index is
  outside the array, and a pointer that would be decremented below
  `imtf_slide` also gives `none`; `Props.C08.Slide.slide_bounds` shows that `none`
  never happens.  No Mathlib.
-/
import LbzVerif.Gen.Consts
import LbzVerif.Gen.DecodeTab

namespace LbzVerif.Model.MtfDec
open LbzVerif.Gen

/-- `#define NUM_ROWS (256u / ROW_WIDTH)` -/
def NUM_ROWS : Nat := 256 / ROW_WIDTH
/-- `#define CMAP_BASE (SLIDE_LENGTH - 256)` -/
def CMAP_BASE : Nat := SLIDE_LENGTH - 256

/-- `imtf_slide[SLIDE_LENGTH]` and `imtf_row[NUM_ROWS]` (as offsets). -/
structure Slide where
  mem : Array UInt8
  row : List Nat

/-- checked read `imtf_slide[i]` -/
def rd (m : Array UInt8) (i : Nat) : Option UInt8 := m[i]?

/-- checked write `imtf_slide[i] = v` -/
def wr (m : Array UInt8) (i : Nat) (v : UInt8) : Option (Array UInt8) :=
  if i < m.size then some (m.setIfInBounds i v) else none

/-- `while (nn > 0) { pp[nn] = pp[nn-1]; nn--; }` with `pp = imtf_slide + base`
(the unrolled `switch` of the fast path, and `while (pp > bb) { tt = pp--;
*tt = *pp; }` of the general path, which is the same loop). -/
def shiftUp (m : Array UInt8) (base : Nat) : Nat → Option (Array UInt8)
  | 0 => some m
  | nn + 1 =>
    match rd m (base + nn) with
    | none => none
    | some v =>
      match wr m (base + nn + 1) v with
      | none => none
      | some m' => shiftUp m' base nn

/-- `while (bb > bg) *--kk = *--bb;` with `n = bb - bg` bytes still to copy.
Returns the memory and the final `kk`. -/
def copyDown (m : Array UInt8) (bg : Nat) (kk : Nat) : Nat → Option (Array UInt8 × Nat)
  | 0 => some (m, kk)
  | n + 1 =>
    if kk = 0 then none
    else
      match rd m (bg + n) with
      | none => none
      | some v =>
        match wr m (kk - 1) v with
        | none => none
        | some m' => copyDown m' bg (kk - 1) n

/-- `while (rr > imtf_row) { bg = *--rr; bb = bg + ROW_WIDTH; copy; *rr = kk; }` -/
def rebuildLoop (m : Array UInt8) (row : List Nat) (kk : Nat) :
    Nat → Option (Array UInt8 × List Nat)
  | 0 => some (m, row)
  | rr + 1 =>
    match row[rr]? with
    | none => none
    | some bg =>
      match copyDown m bg kk ROW_WIDTH with
      | none => none
      | some (m', kk') => rebuildLoop m' (row.set rr kk') kk' rr

/-- The rebuild executed when `imtf_row[0] == imtf_slide`. -/
def rebuild (s : Slide) : Option Slide :=
  match rebuildLoop s.mem s.row SLIDE_LENGTH NUM_ROWS with
  | none => none
  | some (m, row) => some ⟨m, row⟩

/-- `while (lno > imtf_row) { lno1 = lno; pp = --(*--lno); **lno1 = pp[ROW_WIDTH]; }`
Returns memory, rows and the final `pp`. -/
def slideLoop (m : Array UInt8) (row : List Nat) (pp : Nat) :
    Nat → Option (Array UInt8 × List Nat × Nat)
  | 0 => some (m, row, pp)
  | lno + 1 =>
    match row[lno]? with
    | none => none
    | some r =>
      if r = 0 then none                      -- pointer below imtf_slide
      else
        let pp' := r - 1
        let row' := row.set lno pp'
        match rd m (pp' + ROW_WIDTH) with
        | none => none
        | some v =>
          match row'[lno + 1]? with
          | none => none
          | some r1 =>
            match wr m r1 v with
            | none => none
            | some m' => slideLoop m' row' pp' lno

/-- `mtf_one(imtf_row, imtf_slide, c)`: returned byte and new state.  `none`:
`abort()` (c = 0) or an out-of-bounds access. -/
def mtfOne (s : Slide) (c : UInt8) : Option (UInt8 × Slide) :=
  let cn := c.toNat
  if cn < ROW_WIDTH then
    if cn = 0 then none                       -- switch: default: abort()
    else
      match s.row[0]? with
      | none => none
      | some pp =>
        match rd s.mem (pp + cn) with
        | none => none
        | some b =>
          match shiftUp s.mem pp cn with
          | none => none
          | some m1 =>
            match wr m1 pp b with
            | none => none
            | some m2 => some (b, ⟨m2, s.row⟩)
  else
    match s.row[0]? with
    | none => none
    | some r0 =>
      match (if r0 = 0 then rebuild s else some s) with
      | none => none
      | some s1 =>
        let lno := cn / ROW_WIDTH
        match s1.row[lno]? with
        | none => none
        | some bb =>
          match rd s1.mem (bb + cn % ROW_WIDTH) with
          | none => none
          | some b =>
            match shiftUp s1.mem bb (cn % ROW_WIDTH) with
            | none => none
            | some m1 =>
              match slideLoop m1 s1.row bb lno with
              | none => none
              | some (m2, row2, pp2) =>
                match wr m2 pp2 b with
                | none => none
                | some m3 => some (b, ⟨m3, row2⟩)

/-- `mtf_one` applied to a sequence of indices: returned bytes, final state. -/
def mtfMany : Slide → List UInt8 → Option (List UInt8 × Slide)
  | s, [] => some ([], s)
  | s, c :: cs =>
    match mtfOne s c with
    | none => none
    | some (b, s') =>
      match mtfMany s' cs with
      | none => none
      | some (bs, s'') => some (b :: bs, s'')

/-- The rows as set up by `retrieve()`:
`imtf_row[i] = imtf_slide + CMAP_BASE + i * ROW_WIDTH`. -/
def initRows : List Nat := (List.range NUM_ROWS).map (fun i => CMAP_BASE + i * ROW_WIDTH)

/-- A slide whose 256 list entries are `bytes` (padded with 0 / truncated to
256); the pool below `CMAP_BASE` is uninitialised in C, 0 here. -/
def slideOf (bytes : List UInt8) : Slide :=
  ⟨(List.replicate CMAP_BASE (0 : UInt8) ++ (bytes ++ List.replicate (256 - bytes.length) 0).take 256).toArray,
   initRows⟩

/-- The bitmap loop of `retrieve()`:
`imtf_slide[CMAP_BASE + alpha_size] = j++; alpha_size += bit;` for j = 0…255.
Returns the 256 bytes at `CMAP_BASE` (never-written ones 0) and `alpha_size`. -/
def bitmapLoop : List Bool → Nat → List UInt8 → Nat → List UInt8 × Nat
  | [], _, acc, a => (acc, a)
  | k :: rest, j, acc, a =>
    bitmapLoop rest (j + 1) (acc.set a (UInt8.ofNat j)) (a + (if k then 1 else 0))

def initSlide (inuse : List Bool) : Slide × Nat :=
  let r := bitmapLoop inuse 0 (List.replicate 256 0) 0
  (slideOf r.1, r.2)

/-- The logical MTF list: the 16 rows of 16 bytes, concatenated. -/
def absAt (s : Slide) (k : Nat) : UInt8 :=
  s.mem.getD (s.row.getD (k / ROW_WIDTH) 0 + k % ROW_WIDTH) 0

def abs (s : Slide) : List UInt8 := (List.range 256).map (absAt s)

/-! ### symbol consumption in `retrieve()` -/

/-- decode.c's internal symbol numbering, as produced by `make_tree`'s counting
sort from the bzip2 symbol `s` of an alphabet of `n + 2` symbols (`n` bytes in
use): `P[…] = RUN_A` for s = 0, `RUN_B` for s = 1, `s - 1` for
`2 ≤ s < alpha_size - 1`, `EOB` for `s = alpha_size - 1`. -/
def internalSym (n s : Nat) : Nat :=
  if s = 0 then 257 else if s = 1 then 258 else if s = n + 1 then 0 else s - 1

structure RunSt where
  sl : Slide
  runChar : UInt8
  run : Nat
  shift : Nat
  n : Nat                 -- `tt - ds->tt`
  out : List UInt8        -- bytes written to `tt`, most recent first
  ftab : List Nat

inductive Res where
  | ok (out : List UInt8) (ftab : List Nat)
  | overflow                                -- ERR_OVERFLOW
  | unterm                                  -- ERR_UNTERM (symbols exhausted)
  | ub                                      -- abort() / out-of-bounds / shift ≥ 32
  deriving Repr, DecidableEq

/-- `ds->ftab[runChar] += run; while (run-- > 0) *tt++ = runChar;` -/
def flush (st : RunSt) : RunSt :=
  { st with
    ftab := st.ftab.modify st.runChar.toNat (· + st.run)
    out := List.replicate st.run st.runChar ++ st.out
    n := st.n + st.run }

/-- State at the start of the MTF-value loop: `runChar = imtf_row[0][0];
run = 0; shift = 0; memset(ftab, 0)`. -/
def initRun (sl : Slide) : Option RunSt :=
  match sl.row[0]? with
  | none => none
  | some r0 =>
    match rd sl.mem r0 with
    | none => none
    | some b => some ⟨sl, b, 0, 0, 0, [], List.replicate 256 0⟩

/-- The loop body of `retrieve()` after a symbol `s` (internal numbering) has
been decoded, folded over the symbol sequence.  `limit` is `tt_limit - ds->tt`
(= MAX_BLOCK_SIZE in the C code). -/
def consume (limit : Nat) : RunSt → List Nat → Res
  | _, [] => .unterm
  | st, s :: ss =>
    if s = 0 then                                       -- IS_EOB
      if st.run > limit - st.n then .overflow
      else
        let st' := flush st
        .ok st'.out.reverse st'.ftab
    else if 256 ≤ s ∧ st.run ≤ MAX_BLOCK_SIZE then      -- IS_RUN(s) && run <= MAX_BLOCK_SIZE
      if 32 ≤ st.shift then .ub                         -- undefined shift of a 32-bit unsigned
      else
        consume limit
          { st with run := (st.run + ((s - 256) <<< st.shift) % 2 ^ 32) % 2 ^ 32
                    shift := st.shift + 1 } ss
    else if st.run > limit - st.n then .overflow
    else
      let st' := flush st
      match mtfOne st'.sl (UInt8.ofNat s) with          -- `uint8_t c` parameter
      | none => .ub
      | some (b, sl') =>
        consume limit { st' with sl := sl', runChar := b, shift := 0, run := 1 } ss

/-- `retrieve()`'s MTF-value stage on a bitmap and a bzip2-numbered symbol
sequence. -/
def retrieveSyms (inuse : List Bool) (syms : List Nat) (limit : Nat) : Res :=
  let i := initSlide inuse
  match initRun i.1 with
  | none => .ub
  | some st => consume limit st (syms.map (internalSym i.2))

end LbzVerif.Model.MtfDec
