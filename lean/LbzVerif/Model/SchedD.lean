/-
  Model.SchedD — the expansion (decompression) scheduler of lbzip2
  (src/expand.c + the generic machinery of src/process.c) as a labelled
  transition system.

  * Parametric in three UNINTERPRETED functions of the input (`Cfg.parseAt`,
    `Cfg.retrieveFrom`, `Cfg.cand`); nothing about the codec is assumed (the
    accessors `pres`/`rres` only clamp impossible answers: a header ends after
    it starts and inside the input, a block ends at or after its start).
  * One abstract position unit (think: 32-bit word).  `struct position`,
    `detached_bitstream.offset` and the `live` look-ahead are identified; an
    output buffer position is the pair (base, buffer index) (`minor++`).
  * Transitions are split at every `sched_lock`/`sched_unlock` exactly as in
    the C code (`attach()` unlocks, `detach()` locks).  A worker that finishes
    a section becomes available; "the same worker goes on with the next task
    without releasing the mutex" is the special case where the next model step
    is taken by a worker at once, so every C interleaving is a model run.
  * Guards / thresholds / priorities are the GENERATED ones (`Gen.SchedD`).
  * The code is modelled AS IT IS (tree with the `pos_le` repair of `can_emit`
    and with `discard()` as of /repo commit b64cc56: F2, F4 and F5 of DESIGN
    7.1 are repaired).  Ghost fields (never read by a guard): `gnext`,
    `Job.corrupt` …, `taint`.
  * Heap objects are values: a `struct unord_blk` is carried by the retrieve
    job that owns it (`Job.ub`, = `rb->unord_link`) while that job exists and
    sits in `orphans` afterwards (only a job that FINISHED retrieving leaves
    one: a complete entry waiting for the parser; `discard(rb)` frees the
    job's unord_blk with the job, taking it out of unord_q if it is still
    queued — in this encoding: it simply disappears with the job).  `unord_q` =
    all entries with `inq`.  The parser's writes through
    `unord_q` update the owning job in place.  Queues are multisets (lists up
    to order); a dequeue takes any element with a minimal key.
-/
import LbzVerif.Gen.SchedD
import LbzVerif.Gen.Process

namespace LbzVerif.Model.SchedD
open LbzVerif.Gen

/-! ## Input abstraction -/

/-- What `parse()` does when started (fresh automaton state) at a position. -/
inductive PRes where
  /-- block header found; the block's data (`base`) starts at `base`. -/
  | hdr (base : Nat)
  /-- end of the (last) stream recognised having read up to `upto`;
      `ok = false` is the `ERR_EOF` zero-padding test of the FINISH path. -/
  | finish (upto : Nat) (ok : Bool)
  /-- parse error detected having read up to `upto`. -/
  | err (upto : Nat)
  deriving DecidableEq, Repr, Hashable

/-- What `retrieve()`+`decode()`+`emit()`+the checks of `do_reorder` do for a
    block whose data starts at a position. -/
structure RRes where
  /-- `retrieve()` returned OK (otherwise an error code) -/
  ok : Bool
  /-- where `retrieve()` stops -/
  e : Nat
  /-- number of output buffers (`emit()` returns MORE `nb-1` times) -/
  nb : Nat
  /-- status of the last buffer after emit / size / CRC checks is OK -/
  fin : Bool
  deriving DecidableEq, Repr, Hashable

structure Cfg where
  n : Nat                     -- num_worker
  W : Nat                     -- in_granul / 4
  T : Nat                     -- total input length (units)
  totalIn : Nat
  totalOut : Nat
  ultra : Bool
  parseAt : Nat → PRes
  retrieveFrom : Nat → RRes
  cand : List Nat             -- positions (bases) the scanner reports

/-- `parseAt`, with impossible answers turned into errors. -/
def pres (c : Cfg) (p : Nat) : PRes :=
  match c.parseAt p with
  | .hdr b => if p < b ∧ b ≤ c.T then .hdr b else .err b
  | r => r

/-- `retrieveFrom`, clamped: `b ≤ e ≤ T` (for `b ≤ T`), `ok → b < e`, `nb ≥ 1`. -/
def rres (c : Cfg) (b : Nat) : RRes :=
  let r := c.retrieveFrom b
  if r.ok ∧ b < r.e ∧ r.e ≤ c.T then
    { ok := true, e := r.e, nb := max r.nb 1, fin := r.fin }
  else
    { ok := false, e := min (max r.e b) (max c.T b), nb := 1, fin := false }

/-! ## Sequential reference -/

def bufs (b i cnt : Nat) : List (Nat × Nat) := (List.range' i cnt).map (fun j => (b, j))

/-- Sink records still to come from block `b` when its first `i` buffers have
    been written, and whether the block ends well. -/
def blockOut (c : Cfg) (b i : Nat) : List (Nat × Nat) × Bool :=
  let r := rres c b
  if r.ok then
    if r.fin then (bufs b i (r.nb - i), true) else (bufs b i (r.nb - 1 - i), false)
  else ([], false)

/-- The sequential decoder from parser origin `p`: sink records and success. -/
def seqFrom (c : Cfg) : Nat → Nat → List (Nat × Nat) × Bool
  | 0, _ => ([], false)
  | f + 1, p =>
    match pres c p with
    | .err _ => ([], false)
    | .finish _ ok => ([], ok)
    | .hdr b =>
      let o := blockOut c b 0
      if o.2 then
        let r := seqFrom c f (rres c b).e
        (o.1 ++ r.1, r.2)
      else o

def seqRun (c : Cfg) : List (Nat × Nat) × Bool := seqFrom c (c.T + 1) 0

/-! ## State -/

structure UF where            -- mutable fields of a struct unord_blk
  endp : Nat
  complete : Bool
  legit : Bool
  inq : Bool                  -- still in unord_q
  deriving DecidableEq, Repr, Hashable

structure UB where            -- an unord_blk whose retrieve job no longer exists
  base : Nat
  f : UF
  corrupt : Bool              -- ghost
  deriving DecidableEq, Repr, Hashable

structure Job where           -- struct retr_blk
  curr : Nat
  base : Nat
  ub : Option UF              -- unord_link
  corrupt : Bool              -- ghost: was attached behind head_offs
  deriving DecidableEq, Repr, Hashable

structure EJob where          -- struct emit_blk
  base : Nat
  idx : Nat
  left : Nat                  -- buffers still to emit (≥ 1)
  ok : Bool                   -- status of the last buffer
  corrupt : Bool
  deriving DecidableEq, Repr, Hashable

inductive OSt where | more | ok | err
  deriving DecidableEq, Repr, Hashable

structure OB where            -- struct out_blk
  base : Nat
  idx : Nat
  st : OSt
  corrupt : Bool
  deriving DecidableEq, Repr, Hashable

def EJob.key (e : EJob) : Nat × Nat := (e.base, e.idx)
def OB.key (o : OB) : Nat × Nat := (o.base, o.idx)

/-- What a busy worker (other than the parser) is doing while the scheduler
    mutex is released. -/
inductive Phase where
  | retr (j : Job) (k : Option Nat)   -- retrieve() running, attached to block k
  | retr2 (e : EJob)                  -- decode() running, before `enqueue(emit_q)`
  | emit (e : EJob)                   -- emit() running, one out slot taken
  | scan (start k : Nat)              -- scan() running on block k from `start`
  deriving DecidableEq, Repr, Hashable

inductive RPhase where | idle | hold | ateof | done
  deriving DecidableEq, Repr, Hashable

structure State where
  rph : RPhase
  nread : Nat                 -- blocks read from the file
  rd : Nat                    -- blocks pushed to input_q so far (tail_offs = offs rd)
  head : Nat                  -- blocks shifted out of input_q (head_offs = offs head)
  eof : Bool
  rclose : Bool               -- request_close
  inSlots : Nat
  scanQ : List Nat
  retrQ : List Job
  emitQ : List EJob
  reordQ : List OB
  orderQ : List (Nat × Nat)
  orphans : List UB           -- unord_blk objects without a job
  ptok : Bool
  pdone : Bool
  ppos : Nat                  -- parser_bs
  porig : Nat                 -- where the header parse in progress started (where `par` was last reset)
  gnext : Nat                 -- ghost: origin of the next header parse
  pphase : Option (Option Nat) -- parser running, attached to block
  wu : Nat
  outSlots : Nat
  outq : Nat                  -- buffers in output_q / being written
  busy : List Phase
  written : List (Nat × Nat)  -- sink_write_buffer calls so far
  failed : Bool               -- failf() was called
  taint : Bool                -- ghost: a stale-attached job acted as master / reached the sink
  deriving DecidableEq, Repr, Hashable

def init (c : Cfg) : State :=
  { rph := .idle, nread := 0, rd := 0, head := 0, eof := false, rclose := false,
    inSlots := c.totalIn, scanQ := [], retrQ := [], emitQ := [], reordQ := [],
    orderQ := [], orphans := [], ptok := true, pdone := false,
    ppos := 0, porig := 0, gnext := 0, pphase := none, wu := c.n,
    outSlots := c.totalOut, outq := 0, busy := [], written := [], failed := false,
    taint := false }

/-! ## Positions, queues, guards -/

def offs (c : Cfg) (k : Nat) : Nat := min (k * c.W) c.T
def tailOffs (c : Cfg) (s : State) : Nat := offs c s.rd
def headOffs (c : Cfg) (s : State) : Nat := offs c s.head

def posLt (a b : Nat × Nat) : Bool := a.1 < b.1 || (a.1 == b.1 && a.2 < b.2)
def posLe (a b : Nat × Nat) : Bool := !posLt b a

def minKey? : List (Nat × Nat) → Option (Nat × Nat)
  | [] => none
  | x :: xs =>
    match minKey? xs with
    | none => some x
    | some m => if posLt m x then some m else some x

def minNat? : List Nat → Option Nat
  | [] => none
  | x :: xs =>
    match minNat? xs with
    | none => some x
    | some m => if m < x then some m else some x

def view (c : Cfg) (s : State) : DView :=
  let tl := tailOffs c s
  let oh := s.orderQ.head?
  let eh := minKey? (s.emitQ.map EJob.key)
  let rh := minKey? (s.reordQ.map OB.key)
  { ultra := c.ultra, eof := s.eof, parseToken := s.ptok, parsingDone := s.pdone,
    workUnits := s.wu, outSlots := s.outSlots, numWorker := c.n,
    totalOutSlots := c.totalOut,
    retrEmpty := s.retrQ.isEmpty, emitEmpty := s.emitQ.isEmpty,
    reordEmpty := s.reordQ.isEmpty, orderEmpty := s.orderQ.isEmpty,
    scanEmpty := s.scanQ.isEmpty,
    parserCanAttach := canAttach s.ppos tl s.eof,
    retrHeadCanAttach :=
      (match minNat? (s.retrQ.map Job.curr) with
       | some m => canAttach m tl s.eof | none => false),
    scanHeadCanAttach :=
      (match minNat? s.scanQ with
       | some m => canAttach m tl s.eof | none => false),
    emitHeadEqOrderHead :=
      (match eh, oh with | some e, some o => e == o | _, _ => false),
    emitHeadLeOrderHead :=
      (match eh, oh with | some e, some o => posLe e o | _, _ => false),
    reordHeadLeOrderHead :=
      (match rh, oh with | some r, some o => posLe r o | _, _ => false),
    reordHeadLtOrderHead :=
      (match rh, oh with | some r, some o => posLt r o | _, _ => false) }

def guardOf (t : String) (v : DView) : Bool :=
  if t = "reorder" then dCanReorder v
  else if t = "parse" then dCanParse v
  else if t = "emit" then dCanEmit v
  else if t = "retrieve" then dCanRetrieve v
  else if t = "scan" then dCanScan v
  else false

/-- `select_task()` over the generated priority list and guards. -/
def selectTask (c : Cfg) (s : State) : Option String :=
  dTaskOrder.find? (fun t => guardOf t (view c s))

def busyCount (s : State) : Nat := s.busy.length + (if s.pphase.isSome then 1 else 0)
def freeWorker (c : Cfg) (s : State) : Bool := busyCount s < c.n

def Phase.block : Phase → Option Nat
  | .retr _ k => k
  | .scan _ k => some k
  | _ => none

def attachedTo (s : State) (k : Nat) : Bool :=
  s.pphase == some (some k) || s.busy.any (fun ph => ph.block == some k)

/-- `detach()`'s `--ref_count == 0` (the phase has already been removed). -/
def detach (s : State) (k : Option Nat) : State :=
  match k with
  | none => s
  | some k =>
    if k < s.head && !attachedTo s k then { s with inSlots := s.inSlots + 1 } else s

def newHead (c : Cfg) (s : State) (p : Nat) : Nat :=
  max s.head (min s.rd (if c.T ≤ p then s.rd else p / c.W))

def releaseCount (s : State) (h h' : Nat) : Nat :=
  ((List.range' h (h' - h)).filter (fun k => !attachedTo s k)).length

/-- `advance(bs)`. -/
def advance (c : Cfg) (s : State) (p : Nat) : State :=
  let h' := newHead c s p
  let ho := offs c h'
  { s with
    ppos := p, head := h',
    inSlots := s.inSlots + releaseCount s s.head h',
    wu := s.wu + (s.retrQ.filter (fun j => j.curr < ho)).length,
    retrQ := s.retrQ.filter (fun j => !(j.curr < ho)),
    scanQ := s.scanQ.filter (fun x => !(x < ho)) }

/-! ### the parser's writes through unord_q -/

def UF.flagBad (f : UF) : UF := { f with complete := true, legit := false, inq := false }
def UF.flagGood (f : UF) : UF := { f with complete := true, legit := true, inq := false }

/-- "mis-recognised bit pattern": an incomplete entry with `p base` is popped
    and flagged -/
def flagJob (p : Nat → Bool) (j : Job) : Job :=
  { j with ub := j.ub.map (fun f => if f.inq && p j.base then f.flagBad else f) }

def flagPhase (p : Nat → Bool) : Phase → Phase
  | .retr j k => .retr (flagJob p j) k
  | ph => ph

/-- orphans: complete entries are freed, incomplete ones flagged -/
def popOrphans (p : Nat → Bool) (os : List UB) : List UB :=
  (os.filter (fun u => !(u.f.inq && p u.base && u.f.complete))).map
    (fun u => if u.f.inq && p u.base then { u with f := u.f.flagBad } else u)

def replaceFirst {α} (p : α → Bool) (g : α → α) : List α → List α
  | [] => []
  | x :: xs => if p x then g x :: xs else x :: replaceFirst p g xs

def Job.inqAt (b : Nat) (j : Job) : Bool :=
  match j.ub with | some f => f.inq && j.base == b | none => false
def Phase.inqAt (b : Nat) : Phase → Bool
  | .retr j _ => j.inqAt b
  | _ => false
def Job.good (j : Job) : Job := { j with ub := j.ub.map UF.flagGood }
def Phase.good : Phase → Phase
  | .retr j k => .retr j.good k
  | ph => ph
def Job.endp (j : Job) : Nat := match j.ub with | some f => f.endp | none => j.curr
def Phase.endp : Phase → Nat
  | .retr j _ => j.endp
  | _ => 0

/-! ## Transitions -/

inductive Label where
  | rTake | rQuit | rBlock | rEmpty | rEof
  | wDone
  | reorder (ob : OB)
  | parseStart | parseEnd
  | retrStart (j : Job) | retrEnd (j : Job) (k : Option Nat) | retrPost (e : EJob)
  | emitStart (e : EJob) | emitEnd (e : EJob)
  | scanStart (sp : Nat) | scanEnd (start k : Nat)
  deriving DecidableEq, Repr, Hashable

/-- source thread: `in_slots--` under source_mutex -/
def stepRTake (s : State) : Option State :=
  if s.rph == .idle && !s.rclose && decide (0 < s.inSlots) then
    some { s with inSlots := s.inSlots - 1, rph := .hold }
  else none

def stepRQuit (s : State) : Option State :=
  if s.rph == .idle && s.rclose then some { s with rph := .ateof } else none

/-- `xread` delivered data: `on_input_avail` -/
def stepRBlock (c : Cfg) (s : State) : Option State :=
  if s.rph == .hold && decide (s.nread * c.W < c.T) then
    let rph' := if (s.nread + 1) * c.W ≤ c.T then RPhase.idle else RPhase.ateof
    if s.pdone then
      some { s with nread := s.nread + 1, inSlots := s.inSlots + 1, rph := rph' }
    else
      some { s with nread := s.nread + 1, rd := s.rd + 1,
                    scanQ := offs c s.rd :: s.scanQ, rph := rph' }
  else none

/-- `xread` found end of file at once -/
def stepREmpty (c : Cfg) (s : State) : Option State :=
  if s.rph == .hold && !decide (s.nread * c.W < c.T) then
    some { s with inSlots := s.inSlots + 1, rph := .ateof }
  else none

def stepREof (s : State) : Option State :=
  if s.rph == .ateof then some { s with eof := true, rph := .done } else none

/-- sink thread: write one buffer, `on_write_complete` -/
def stepWDone (s : State) : Option State :=
  if decide (0 < s.outq) then
    some { s with outq := s.outq - 1, outSlots := s.outSlots + 1 }
  else none

/-- `do_reorder` (one atomic section) -/
def stepReorder (c : Cfg) (s : State) (ob : OB) : Option State :=
  if freeWorker c s && selectTask c s == some "reorder" && s.reordQ.contains ob
      && minKey? (s.reordQ.map OB.key) == some ob.key then
    if dReorderBogus (view c s) then
      some { s with reordQ := s.reordQ.erase ob, outSlots := s.outSlots + 1 }
    else
      match ob.st with
      | .err => some { s with reordQ := s.reordQ.erase ob, failed := true }
      | .more =>
        some { s with reordQ := s.reordQ.erase ob,
                      orderQ := (match s.orderQ with
                                 | [] => [] | (b, i) :: r => (b, i + 1) :: r),
                      written := s.written ++ [ob.key], outq := s.outq + 1,
                      taint := s.taint || ob.corrupt }
      | .ok =>
        some { s with reordQ := s.reordQ.erase ob, orderQ := s.orderQ.tail,
                      written := s.written ++ [ob.key], outq := s.outq + 1,
                      taint := s.taint || ob.corrupt }
  else none

/-- `do_parse` up to the `sched_unlock` inside `attach` -/
def stepParseStart (c : Cfg) (s : State) : Option State :=
  if freeWorker c s && selectTask c s == some "parse" && s.pphase.isNone then
    let k := if s.ppos < tailOffs c s then some (s.ppos / c.W) else none
    some { s with ptok := false, wu := s.wu - 1, pphase := some k }
  else none

/-- `do_parse`, rv == OK, first half: `advance`, `push(order_q)`, pop the
    entries of unord_q that lie before the new header -/
def parsePush (c : Cfg) (s1 : State) (b : Nat) : State :=
  let lt : Nat → Bool := fun x => decide (x < b)
  let s2 := advance c s1 b
  { s2 with orderQ := s2.orderQ ++ [(b, 0)], gnext := (rres c b).e,
            retrQ := s2.retrQ.map (flagJob lt),
            busy := s2.busy.map (flagPhase lt),
            orphans := popOrphans lt s2.orphans }

/-- `do_parse`, rv == OK, second half: take over a scanner-found block at
    exactly this position, or create the master retrieve job -/
def parseMatch (c : Cfg) (s3 : State) (b : Nat) : State :=
  match s3.retrQ.find? (Job.inqAt b) with
  | some j =>
    let a := advance c { s3 with retrQ := replaceFirst (Job.inqAt b) Job.good s3.retrQ } j.endp
    { a with wu := a.wu + 1 }
  | none =>
    match s3.busy.find? (Phase.inqAt b) with
    | some ph =>
      let a := advance c { s3 with busy := replaceFirst (Phase.inqAt b) Phase.good s3.busy } ph.endp
      { a with wu := a.wu + 1 }
    | none =>
      match s3.orphans.find? (fun u => u.f.inq && u.base == b) with
      | some u =>
        let a := advance c s3 u.f.endp
        if u.f.complete then
          { a with orphans := a.orphans.erase u, ptok := true, porig := u.f.endp,
                   wu := a.wu + 1, taint := a.taint || u.corrupt }
        else
          { a with orphans := replaceFirst (fun x => x == u) (fun x => { x with f := x.f.flagGood }) a.orphans,
                   wu := a.wu + 1 }
      | none =>
        { s3 with retrQ := { curr := b, base := b, ub := none, corrupt := false } :: s3.retrQ }

def parseOk (c : Cfg) (s1 : State) (b : Nat) : State := parseMatch c (parsePush c s1 b) b

/-- `do_parse`, rv == FINISH (and no ERR_EOF) -/
def parseFinish (s1 : State) (u : Nat) : State :=
  let all : Nat → Bool := fun _ => true
  { s1 with
    rclose := true, ptok := true, pdone := true, ppos := u,
    head := s1.rd,
    inSlots := s1.inSlots + releaseCount s1 s1.head s1.rd,
    wu := s1.wu + s1.retrQ.length + 1,
    retrQ := [], scanQ := [],
    busy := s1.busy.map (flagPhase all),
    orphans := popOrphans all s1.orphans }

/-- how far `parse()` has to read before it can return its verdict -/
def parseTarget : PRes → Nat
  | .hdr b => b
  | .finish u _ => u
  | .err u => u

/-- `parse()` returns MORE: the attached input block ends first -/
def parseMoreP (c : Cfg) (k : Option Nat) (target : Nat) : Bool :=
  match k with
  | some kk => decide (offs c (kk + 1) < target)
  | none => false

def parseMore (c : Cfg) (s1 : State) (k : Option Nat) : State :=
  let a := advance c s1 (offs c (k.getD 0 + 1))
  { a with ptok := true, wu := a.wu + 1 }

def parseVerdict (c : Cfg) (s1 : State) : PRes → State
  | .err _ => { s1 with failed := true }
  | .finish u ok =>
    if !ok then { s1 with rclose := true, ptok := true, pdone := true, failed := true }
    else parseFinish s1 u
  | .hdr b => parseOk c s1 b

/-- `do_parse` from the `sched_lock` inside `detach` to its end -/
def stepParseEnd (c : Cfg) (s : State) : Option State :=
  match s.pphase with
  | none => none
  | some k =>
    let s1 := detach { s with pphase := none } k
    if parseMoreP c k (parseTarget (pres c s.porig)) then some (parseMore c s1 k)
    else some (parseVerdict c s1 (pres c s.porig))

/-- `do_retrieve` up to the `sched_unlock` inside `attach` -/
def stepRetrStart (c : Cfg) (s : State) (j : Job) : Option State :=
  if freeWorker c s && selectTask c s == some "retrieve" && s.retrQ.contains j
      && minNat? (s.retrQ.map Job.curr) == some j.curr then
    let stale := decide (j.curr < headOffs c s)
    let k : Option Nat :=
      if tailOffs c s ≤ j.curr then none
      else if stale then (if s.head < s.rd then some s.head else none)
      else some (j.curr / c.W)
    some { s with retrQ := s.retrQ.erase j,
                  busy := .retr { j with corrupt := j.corrupt || stale } k :: s.busy }
  else none

/-- the job is (now) the master: created by the parser, or confirmed by it -/
def Job.master (j : Job) : Bool := match j.ub with | none => true | some f => f.complete

/-- `discard(rb)` on the early returns of `do_retrieve` (parsing_done / "found
    himself redundant" / "was overtaken"): the job and its unord_blk are gone,
    the work unit is back -/
def retrExit (s1 : State) (_j : Job) : State :=
  { s1 with wu := s1.wu + 1 }

/-- the master moves the parser position -/
def retrMove (c : Cfg) (s1 : State) (j : Job) (newc : Nat) : State :=
  if j.master then
    let a := advance c s1 newc
    { a with taint := a.taint || j.corrupt }
  else s1

def retrMoreJob (j : Job) (newc : Nat) : Job :=
  { j with curr := newc,
           ub := if j.master then j.ub else j.ub.map (fun f => { f with endp := newc }) }

/-- rv == MORE: back into retr_q (speculative: `end_pos` follows) -/
def retrMore (s2 : State) (j : Job) (newc : Nat) : State :=
  { s2 with retrQ := retrMoreJob j newc :: s2.retrQ }

/-- "We are not yet finished retrieving, but were proven not to be legitimate" -/
def Job.redundant (j : Job) : Bool :=
  match j.ub with | some f => f.complete && !f.legit | none => false

/-- where `retrieve()` stops in this step: the end of the block or of the
    attached input block -/
def retrNewc (c : Cfg) (j : Job) (k : Option Nat) : Nat :=
  match k with
  | some kk => max j.curr (min (rres c j.base).e (offs c (kk + 1)))
  | none => j.curr

/-- retrieve finished (OK or error): hand the token back or mark complete -/
def retrDone (c : Cfg) (s2 : State) (j : Job) (newc : Nat) : State :=
  let r := rres c j.base
  let ej : EJob :=
    { base := j.base, idx := 0, left := (if r.ok then r.nb else 1),
      ok := r.ok && r.fin, corrupt := j.corrupt }
  if j.master then
    { s2 with ptok := true, porig := newc, busy := .retr2 ej :: s2.busy }
  else
    { s2 with busy := .retr2 ej :: s2.busy,
              orphans :=
                (match j.ub with
                 | some f => [{ base := j.base, f := { f with complete := true, endp := newc },
                                corrupt := j.corrupt }]
                 | none => []) ++ s2.orphans }

/-- `do_retrieve` from the `sched_lock` in `detach` to the `sched_unlock`
    before `decode()` (or to its early returns) -/
def stepRetrEnd (c : Cfg) (s : State) (j : Job) (k : Option Nat) : Option State :=
  if s.busy.contains (.retr j k) then
    let newc := retrNewc c j k
    let s1 := detach { s with busy := s.busy.erase (.retr j k) } k
    if s1.pdone then some (retrExit s1 j)
    else if j.redundant then some (retrExit s1 j)
    else if !decide ((rres c j.base).e ≤ newc) then
      -- rv == MORE
      if newc < headOffs c (retrMove c s1 j newc) then
        some (retrExit (retrMove c s1 j newc) (retrMoreJob j newc))   -- "Retriever was overtaken"
      else some (retrMore (retrMove c s1 j newc) j newc)
    else some (retrDone c (retrMove c s1 j newc) j newc)
  else none

/-- `do_retrieve`: `sched_lock(); enqueue(emit_q, eb)` -/
def stepRetrPost (s : State) (e : EJob) : Option State :=
  if s.busy.contains (.retr2 e) then
    some { s with busy := s.busy.erase (.retr2 e), emitQ := e :: s.emitQ }
  else none

/-- `do_emit` up to its `sched_unlock` -/
def stepEmitStart (c : Cfg) (s : State) (e : EJob) : Option State :=
  if freeWorker c s && selectTask c s == some "emit" && s.emitQ.contains e
      && minKey? (s.emitQ.map EJob.key) == some e.key then
    some { s with outSlots := s.outSlots - 1, emitQ := s.emitQ.erase e,
                  busy := .emit e :: s.busy }
  else none

/-- `do_emit` from its `sched_lock` to the end -/
def stepEmitEnd (s : State) (e : EJob) : Option State :=
  if s.busy.contains (.emit e) then
    let s1 := { s with busy := s.busy.erase (.emit e) }
    if 1 < e.left then
      some { s1 with emitQ := { e with idx := e.idx + 1, left := e.left - 1 } :: s1.emitQ,
                     reordQ := { base := e.base, idx := e.idx, st := .more, corrupt := e.corrupt } :: s1.reordQ }
    else
      some { s1 with wu := s1.wu + 1,
                     reordQ := { base := e.base, idx := e.idx,
                                 st := (if e.ok then .ok else .err), corrupt := e.corrupt } :: s1.reordQ }
  else none

/-- `do_scan` up to the `sched_unlock` inside `attach` -/
def stepScanStart (c : Cfg) (s : State) (sp : Nat) : Option State :=
  if freeWorker c s && selectTask c s == some "scan" && s.scanQ.contains sp
      && minNat? s.scanQ == some sp then
    let start := if sp / c.W == s.ppos / c.W && sp < s.ppos then s.ppos else sp
    some { s with wu := s.wu - 1, scanQ := s.scanQ.erase sp,
                  busy := .scan start (sp / c.W) :: s.busy }
  else none

/-- first candidate in (start, hi] -/
def scanFind (c : Cfg) (start hi : Nat) : Option Nat :=
  minNat? (c.cand.filter (fun x => decide (start < x) && decide (x ≤ hi)))

/-- "Scanner found a known pattern" / "a unique match" -/
def scanNew (c : Cfg) (s1 : State) (x : Nat) : State :=
  if x ≤ s1.ppos ∨ x < headOffs c s1 then { s1 with wu := s1.wu + 1 }
  else
    { s1 with
      retrQ := { curr := x, base := x,
                 ub := some { endp := x, complete := false, legit := false, inq := true },
                 corrupt := false } :: s1.retrQ }

/-- the scan job goes back to scan_q unless its input block is used up or released -/
def scanRequeue (c : Cfg) (s2 : State) (x hi : Nat) : State :=
  if x != hi && decide (headOffs c s2 ≤ x) then { s2 with scanQ := x :: s2.scanQ } else s2

/-- `do_scan` from the `sched_lock` in `detach` to its end -/
def stepScanEnd (c : Cfg) (s : State) (start k : Nat) : Option State :=
  if s.busy.contains (.scan start k) then
    let s1 := detach { s with busy := s.busy.erase (.scan start k) } (some k)
    let hi := offs c (k + 1)
    match scanFind c start hi with
    | none => some { s1 with wu := s1.wu + 1 }
    | some x =>
      if s1.pdone then some { s1 with wu := s1.wu + 1 }
      else some (scanRequeue c (scanNew c s1 x) x hi)
  else none

def step (c : Cfg) (s : State) (l : Label) : Option State :=
  if s.failed then none
  else
    match l with
    | .rTake => stepRTake s
    | .rQuit => stepRQuit s
    | .rBlock => stepRBlock c s
    | .rEmpty => stepREmpty c s
    | .rEof => stepREof s
    | .wDone => stepWDone s
    | .reorder ob => stepReorder c s ob
    | .parseStart => stepParseStart c s
    | .parseEnd => stepParseEnd c s
    | .retrStart j => stepRetrStart c s j
    | .retrEnd j k => stepRetrEnd c s j k
    | .retrPost e => stepRetrPost s e
    | .emitStart e => stepEmitStart c s e
    | .emitEnd e => stepEmitEnd s e
    | .scanStart sp => stepScanStart c s sp
    | .scanEnd st k => stepScanEnd c s st k

/-- Every label that could possibly be enabled in `s` (superset; `step` decides). -/
def candLabels (s : State) : List Label :=
  [.rTake, .rQuit, .rBlock, .rEmpty, .rEof, .wDone, .parseStart, .parseEnd]
  ++ s.reordQ.map .reorder
  ++ s.retrQ.map .retrStart
  ++ s.emitQ.map .emitStart
  ++ s.scanQ.map .scanStart
  ++ s.busy.map (fun ph => match ph with
      | .retr j k => .retrEnd j k
      | .retr2 e => .retrPost e
      | .emit e => .emitEnd e
      | .scan st k => .scanEnd st k)

def enabled (c : Cfg) (s : State) : List Label :=
  (candLabels s).filter (fun l => (step c s l).isSome)

inductive Reach (c : Cfg) : State → Prop where
  | init : Reach c (init c)
  | step {s s' : State} (l : Label) : Reach c s → step c s l = some s' → Reach c s'

/-- run a list of labels -/
def run (c : Cfg) : State → List Label → Option State
  | s, [] => some s
  | s, l :: ls => match step c s l with | some s' => run c s' ls | none => none

theorem reach_run {c : Cfg} {s s' : State} (ls : List Label) (h : Reach c s)
    (hr : run c s ls = some s') : Reach c s' := by
  induction ls generalizing s with
  | nil => simp [run] at hr; exact hr ▸ h
  | cons l ls ih =>
    simp only [run] at hr
    split at hr
    · next s1 h1 => exact ih (Reach.step l h h1) hr
    · exact absurd hr (by simp)

/-- all workers have left the loop: `can_terminate` and nothing selected -/
def terminated (c : Cfg) (s : State) : Bool :=
  !s.failed && dCanTerminate (view c s) && (selectTask c s).isNone

/-- process over: clean termination or `failf` -/
def final (c : Cfg) (s : State) : Bool := s.failed || terminated c s

/-! ## Monitored predicates (used by theorems, witnesses and the BFS driver) -/

def Job.inq (j : Job) : Bool := match j.ub with | some f => f.inq | none => false
def Phase.inq : Phase → Bool
  | .retr j _ => j.inq
  | _ => false

/-- size(unord_q) -/
def unordSize (s : State) : Nat :=
  s.orphans.countP (·.f.inq) + s.retrQ.countP Job.inq + s.busy.countP Phase.inq
def unordCapOf (c : Cfg) : Nat := unordCap c.n c.totalOut


/-- F5: a retrieve job is queued behind `head_offs` -/
def staleAttach (c : Cfg) (s : State) : Bool := s.retrQ.any (fun j => j.curr < headOffs c s)

/-- F2: unord_blk objects nobody will ever free -/
def leakedCount (s : State) : Nat := s.orphans.countP (fun u => !u.f.inq)

def emitBusy (s : State) : Nat :=
  s.busy.countP (fun ph => match ph with | .emit _ => true | _ => false)

def unitsHeld (s : State) : Nat := s.retrQ.length + s.emitQ.length + busyCount s
def slotsHeld (s : State) : Nat := s.reordQ.length + s.outq + emitBusy s

def inputAlive (s : State) : Nat :=
  (s.rd - s.head) + ((List.range s.head).filter (fun k => attachedTo s k)).length
  + (if s.rph == .hold then 1 else 0)

def stuck (c : Cfg) (s : State) : Bool := !final c s && (enabled c s).isEmpty

end LbzVerif.Model.SchedD
