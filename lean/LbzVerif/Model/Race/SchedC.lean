/-
  Model.Race.SchedC — the race annotation of the compression scheduler
  (`Model.SchedC`): threads, shared variables and heap objects, who holds each
  heap object in a state, and — for every atomic section of the model together
  with the unlocked work that precedes it — the list of accesses it performs
  with the locks held.  Written by reading src/compress.c and src/process.c line
  by line (line numbers of the pinned tree are cited).

  Heap objects are identified by position keys:
    * `inBlk m`   — input chunk `m` = the `uint8_t` buffer `xread` fills plus
                    the `struct in_blk` wrapped around it (`pos.major = m`; the
                    same object survives re-queuing with `++pos.minor`);
    * `workBlk x` — the `struct work_blk` with `pos = x` and its encoder
                    (`enc`, freed at the end of `do_transmit`);
    * `outBuf x`  — the compressed buffer `wblk->buffer` of the block at `x`
                    (allocated in `do_transmit`, freed in `on_write_complete`).

  What is NOT annotated: the `KJN_LBZIP2_VERIF` hooks (one of them,
  `verif_dump_compress`, reads `next_id` under `sched_mutex` while the reader
  increments it outside — an instrumentation-only race, see the report), the
  pthread objects themselves, `Trace()` (compiled out), and everything
  `primary_thread` does before `init_io()` / after the joins (single-threaded).
-/
import LbzVerif.Model.SchedC
import LbzVerif.Model.Race

namespace LbzVerif.Model.Race.C
open LbzVerif.Model.SchedC

/-! ## Threads, variables -/

/-- `main` = the thread in `schedule()`/`halt()` (touches none of the variables
    below while the others run); worker 0 is `primary_thread`. -/
inductive Thread where
  | main | reader | writer
  | worker (i : Nat)
  deriving DecidableEq, Repr

/-- written only before the threads are created (`main()`,
    `set_memory_constraints()`, `schedule()`; src/process.c:791, 803-822) -/
inductive CfgVar where
  | bs100k | numWorker | ultra | totalOutSlots | inGranul | process | verbose | ispecSize
  deriving DecidableEq, Repr

inductive CVar where
  -- src/process.c:240-243, 267 — scheduler monitor
  | workUnits | outSlots | eof | nextTask
  -- src/compress.c:62-69 — scheduler monitor
  | collQ | transQ | reordQ | order | collectToken | unfinished | combinedCrc
  -- src/compress.c:66 `next_id`: reader thread only (compress.c:278)
  | nextId
  -- `ispec.total` (xread, process.c:137): reader only; `ospec.total`
  -- (xwrite, process.c:147): writer only
  | ispecTotal | ospecTotal
  -- src/process.c:242, 249 — source monitor
  | inSlots | requestClose
  -- src/process.c:262-263 — sink monitor
  | outputQ | finish
  | cfg (k : CfgVar)
  -- heap objects
  | inBlk (id : Nat)
  | workBlk (p : Pos)
  | outBuf (p : Pos)
  deriving DecidableEq, Repr

abbrev Acc := Access Thread CVar

/-! ## Holders of heap objects -/

inductive Queue where
  | coll | trans | reord | unfinished | output
  deriving DecidableEq, Repr

/-- `output_q` belongs to the sink monitor, everything else to the scheduler -/
def Queue.lock : Queue → Lock
  | .output => .sink
  | _ => .sched

inductive Holder where
  | queue (q : Queue)
  | thread (t : Thread)
  deriving DecidableEq, Repr

def Holder.owner : Holder → Owner Thread
  | .queue q => .lock q.lock
  | .thread t => .thread t

/-- 1 if `p` -/
def ind (p : Prop) [Decidable p] : Nat := if p then 1 else 0

section
variable {α σ : Type}

/-- the worker holds input chunk `m` -/
def inCnt (m : Nat) : WPhase α σ → Nat
  | .c1 ib => ind (ib.pos.major = m)
  | .s1 _ (some ib) => ind (ib.pos.major = m)
  | _ => 0

/-- the worker holds the work_blk (+ encoder) with key `x`.  In `c1 ib` and
    `s1 none (some ib)` it is the block being allocated from `ib`
    (`wblk->pos = iblk->pos`, compress.c:91, 161). -/
def wbCnt (x : Pos) : WPhase α σ → Nat
  | .c1 ib => ind (ib.pos = x)
  | .c2 w => ind (w.pos = x)
  | .s1 (some w) _ => ind (w.pos = x)
  | .s1 none (some ib) => ind (ib.pos = x)
  | .s2 w _ => ind (w.pos = x)
  | .t1 w => ind (w.pos = x)
  | _ => 0

/-- the worker holds the compressed buffer with key `x` (`do_transmit`) -/
def obCnt (x : Pos) : WPhase α σ → Nat
  | .t1 w => ind (w.pos = x)
  | _ => 0

def cntI (m : Nat) (q : List (IBlk α)) : Nat := (q.map (fun ib => ind (ib.pos.major = m))).sum
def cntW (x : Pos) (q : List (WBlk σ)) : Nat := (q.map (fun w => ind (w.pos = x))).sum
def cntO (x : Pos) : Option (WBlk σ) → Nat
  | some w => ind (w.pos = x)
  | none => 0

/-- phase of worker `i` (`exited` for a non-existent worker) -/
def phaseOf (s : State α σ) (i : Nat) : WPhase α σ := (s.ws[i]?).getD .exited

/-- how many times `h` holds input chunk `m` -/
def inHold (s : State α σ) (m : Nat) : Holder → Nat
  | .queue .coll => cntI m s.collQ
  | .thread (.worker i) => inCnt m (phaseOf s i)
  | .thread .reader => ind (s.rd = .hold ∧ m = s.nextId)
  | _ => 0

/-- how many times `h` holds the work_blk (+ encoder) with key `x` -/
def wbHold (s : State α σ) (x : Pos) : Holder → Nat
  | .queue .trans => cntW x s.transQ
  | .queue .reord => cntW x s.reordQ
  | .queue .unfinished => cntO x s.unfinished
  | .thread (.worker i) => wbCnt x (phaseOf s i)
  | _ => 0

/-- how many times `h` holds the compressed buffer with key `x` -/
def obHold (s : State α σ) (x : Pos) : Holder → Nat
  | .queue .reord => cntW x s.reordQ
  | .queue .output => cntW x s.outputQ
  | .thread .writer => cntO x s.wr
  | .thread (.worker i) => obCnt x (phaseOf s i)
  | _ => 0

/-- how many times holder `h` holds heap object `v` in state `s` (the theorems
    show it is never more than once, and that all holders together hold it at
    most once) -/
def holdCnt (s : State α σ) : CVar → Holder → Nat
  | .inBlk m, h => inHold s m h
  | .workBlk x, h => wbHold s x h
  | .outBuf x, h => obHold s x h
  | _, _ => 0

/-- holder `h` holds heap object `v` -/
def holds (s : State α σ) (v : CVar) (h : Holder) : Prop := 0 < holdCnt s v h

/-- the heap object is live -/
def live (s : State α σ) (v : CVar) : Prop := ∃ h, holds s v h

/-! ## The discipline -/

/-- the fixed owner of a global variable (`none` for heap objects) -/
def staticOwner : CVar → Option (Owner Thread)
  | .workUnits | .outSlots | .eof | .nextTask => some (.lock .sched)
  | .collQ | .transQ | .reordQ | .order | .collectToken | .unfinished | .combinedCrc =>
    some (.lock .sched)
  | .nextId | .ispecTotal => some (.thread .reader)
  | .ospecTotal => some (.thread .writer)
  | .inSlots | .requestClose => some (.lock .source)
  | .outputQ | .finish => some (.lock .sink)
  | .cfg _ => some .frozen
  | .inBlk _ | .workBlk _ | .outBuf _ => none

/-- owner of `v` in state `s`: the static one, or — for a heap object — the
    lock of the queue that holds it / the thread that holds it -/
def owns (s : State α σ) (v : CVar) (o : Owner Thread) : Prop :=
  match staticOwner v with
  | some o' => o = o'
  | none => ∃ h, holds s v h ∧ o = h.owner

def disc : Discipline (State α σ) Thread CVar := ⟨owns⟩

/-! ## Sections -/

/-- The atomic sections of `Model.SchedC` (one per `Core` constructor, four for `Core.idle`), each
    taken together with the unlocked work its thread does before it, plus
    `wIdle` (the writer's wait loop / exit test) and `finishIO` (the part of
    `uninit_io` that runs while the writer thread is still alive). -/
inductive Sec (α σ : Type) where
  | rTake | rDeliver | rEmpty | rEof
  | wIdle | wTake
  | wDone (b : WBlk σ)
  | acquire (i : Nat)
  | spurious (i : Nat)
  | runCollect (i : Nat)
  | runCollectSeq (i : Nat)
  | runTransmit (i : Nat)
  | runReorder (i : Nat) (w : WBlk σ)
  | runWait (i : Nat)
  | runExit (i : Nat)
  | c1Requeue (i : Nat) (ib : IBlk α)
  | c1Release (i : Nat) (ib : IBlk α)
  | c2Enq (i : Nat) (w : WBlk σ)
  | t1Enq (i : Nat) (w : WBlk σ)
  | s1Requeue (i : Nat) (wo : Option (WBlk σ)) (ib : IBlk α)
  | s1Release (i : Nat) (wo : Option (WBlk σ)) (ib : IBlk α)
  | s1Flush (i : Nat) (w : WBlk σ)
  | s2Full (i : Nat) (w : WBlk σ)
  | s2Part (i : Nat) (w : WBlk σ)
  | finishIO

/-- the thread that executes a section -/
def Sec.thread : Sec α σ → Thread
  | .rTake | .rDeliver | .rEmpty | .rEof => .reader
  | .wIdle | .wTake | .wDone _ => .writer
  | .acquire i | .spurious i | .runCollect i | .runCollectSeq i | .runTransmit i
  | .runReorder i _ | .runWait i | .runExit i | .c1Requeue i _ | .c1Release i _ | .c2Enq i _
  | .t1Enq i _ | .s1Requeue i _ _ | .s1Release i _ _ | .s1Flush i _ | .s2Full i _
  | .s2Part i _ => .worker i
  | .finishIO => .worker 0

/-- key of the work_blk `do_collect_seq` works on (compress.c:145, 158-166) -/
def seqKey (wo : Option (WBlk σ)) (ib : IBlk α) : Pos :=
  match wo with
  | some w => w.pos
  | none => ib.pos

/-- In state `s` the thread of the section is in the phase that leads to it
    (doing the unlocked work, waiting for the mutex, or inside the locked
    part).  Deliberately WITHOUT the `lockFree` guard of `step`: a worker in
    `c1` does its unlocked work no matter who holds `sched_mutex`. -/
def inProg (cd : Codec α σ) (s : State α σ) : Sec α σ → Prop
  | .rTake => s.rd = .idle
  | .rDeliver => s.rd = .hold
  | .rEmpty => s.rd = .hold
  | .rEof => s.rd = .eofPending
  | .wIdle => s.wr = none
  | .wTake => s.wr = none
  | .wDone b => s.wr = some b
  | .acquire i => s.ws[i]? = some .ready
  | .spurious i => s.ws[i]? = some .waiting
  | .runCollect i => s.ws[i]? = some .atHead ∧ s.nextTask = some .collect
  | .runCollectSeq i => s.ws[i]? = some .atHead ∧ s.nextTask = some .collectSeq
  | .runTransmit i => s.ws[i]? = some .atHead ∧ s.nextTask = some .transmit
  | .runReorder i w => s.ws[i]? = some .atHead ∧ s.nextTask = some .reorder ∧ s.reordQ.head? = some w
  | .runWait i => s.ws[i]? = some .atHead ∧ s.nextTask = none
  | .runExit i => s.ws[i]? = some .atHead ∧ s.nextTask = none
  | .c1Requeue i ib => s.ws[i]? = some (.c1 ib) ∧ (collectOn cd cd.init ib.data).2.1 ≠ []
  | .c1Release i ib => s.ws[i]? = some (.c1 ib) ∧ (collectOn cd cd.init ib.data).2.1 = []
  | .c2Enq i w => s.ws[i]? = some (.c2 w)
  | .t1Enq i w => s.ws[i]? = some (.t1 w)
  | .s1Requeue i wo ib => s.ws[i]? = some (.s1 wo (some ib))
  | .s1Release i wo ib => s.ws[i]? = some (.s1 wo (some ib))
  | .s1Flush i w => s.ws[i]? = some (.s1 (some w) none)
  | .s2Full i w => s.ws[i]? = some (.s2 w true)
  | .s2Part i w => s.ws[i]? = some (.s2 w false)
  | .finishIO => s.ws[0]? = some .exited

/-! ## Footprints -/

def S : List Lock := [.sched]

/-- the `struct position`s a `pqueue` operation on `coll_q` may compare
    (`up_heap`/`down_heap`, process.c:176-228, dereference `*root[..]`, i.e. the
    `pos` field — first member — of queued in_blks) -/
def collMembers (s : State α σ) : List CVar := s.collQ.map (fun ib => .inBlk ib.pos.major)
def transMembers (s : State α σ) : List CVar := s.transQ.map (fun w => .workBlk w.pos)
def reordMembers (s : State α σ) : List CVar := s.reordQ.map (fun w => .workBlk w.pos)

/-- what the guards read: `can_collect` (compress.c:72-76), `can_collect_seq`
    (129-135), `can_transmit` (210-216, incl. `peek(trans_q)->pos`),
    `can_reorder` (243-247, incl. `peek(reord_q)->pos`), `can_terminate`
    (265-270); `select_task` (process.c:555-568) reads `process->tasks` and
    writes `next_task`; `sched_unlock` (630-636) reads `next_task` again.
    Over-approximation: all guards, and `peek` may be any queue member. -/
def guardReads : List CVar :=
  [.cfg .ultra, .collQ, .workUnits, .collectToken, .eof, .unfinished, .transQ, .outSlots, .order,
   .reordQ, .cfg .numWorker, .cfg .totalOutSlots, .cfg .process]

def selectFp (t : Thread) (s : State α σ) : List Acc :=
  rds t S guardReads ++ rds t S (transMembers s) ++ rds t S (reordMembers s) ++
    [wr t S .nextTask, rd t S .nextTask]

/-- `process->finished()` alone (process.c:587) -/
def finishedFp (t : Thread) : List Acc :=
  rds t S [.cfg .process, .eof, .collQ, .workUnits, .cfg .numWorker, .outSlots,
           .cfg .totalOutSlots]

/-- unlocked part of `do_collect` / `do_collect_seq` on in_blk `m` building
    work_blk `x`: compress.c:89-105 / 157-175 (XMALLOC, `encoder_init` with
    `bs100k`, `collect()` reads the chunk and fills the encoder, updates
    `iblk->left/next/pos.minor`, `wblk->next`) -/
def collectWork (t : Thread) (m : Nat) (x : Pos) : List Acc :=
  [rd t [] (.cfg .bs100k), rd t [] (.inBlk m), wr t [] (.inBlk m), rd t [] (.workBlk x),
   wr t [] (.workBlk x)]

/-- `sched_lock(); enqueue(coll_q, iblk); sched_unlock()` (compress.c:110-112,
    179-181, 285-287) -/
def enqColl (t : Thread) (s : State α σ) (m : Nat) : List Acc :=
  [rd t S .collQ, wr t S .collQ, rd t S (.inBlk m)] ++ rds t S (collMembers s) ++ selectFp t s

/-- `source_release_buffer(iblk->buffer); free(iblk)` (compress.c:117-118,
    186-187; process.c:445-454): the frees are unlocked, `in_slots++` is under
    `source_mutex` -/
def releaseIn (t : Thread) (m : Nat) : List Acc :=
  [wr t [] (.inBlk m), rd t [.source] .inSlots, wr t [.source] .inSlots]

/-- the accesses of a section (its unlocked lead-in first, then the locked
    part), evaluated in the state in which the locked part starts -/
def fp (s : State α σ) : Sec α σ → List Acc
  -- process.c:402-416
  | .rTake =>
    [rd .reader [.source] .inSlots, rd .reader [.source] .requestClose,
     wr .reader [.source] .inSlots]
  -- process.c:418-429 (buffer = XNMALLOC; xread: process.c:110-140), then
  -- on_input_avail compress.c:273-288 (`next_id++` OUTSIDE sched_mutex)
  | .rDeliver =>
    [rd .reader [] (.cfg .inGranul), wr .reader [] (.inBlk s.nextId),
     rd .reader [] .ispecTotal, wr .reader [] .ispecTotal, rd .reader [] (.cfg .process),
     rd .reader [] .nextId, wr .reader [] .nextId] ++ enqColl .reader s s.nextId
  -- process.c:418-427, 445-454
  | .rEmpty =>
    [rd .reader [] (.cfg .inGranul), wr .reader [] (.inBlk s.nextId),
     rd .reader [.source] .inSlots, wr .reader [.source] .inSlots]
  -- process.c:435-437
  | .rEof => [wr .reader S .eof] ++ selectFp .reader s
  -- process.c:508-515, 547
  | .wIdle => [rd .writer [.sink] .outputQ, rd .writer [.sink] .finish]
  -- process.c:508-518
  | .wTake =>
    [rd .writer [.sink] .outputQ, rd .writer [.sink] .finish, wr .writer [.sink] .outputQ]
  -- process.c:520-523 (xwrite: 142-169), 525-543 (progress), compress.c:290-299
  | .wDone b =>
    [rd .writer [] (.outBuf b.pos), rd .writer [] .ospecTotal, wr .writer [] .ospecTotal,
     rd .writer [] (.cfg .process), wr .writer [] (.outBuf b.pos),
     rd .writer [] (.cfg .verbose), rd .writer [] (.cfg .ispecSize),
     rd .writer S .outSlots, wr .writer S .outSlots] ++ selectFp .writer s
  -- process.c:574 / return from xwait (594): mutex only
  | .acquire _ => []
  | .spurious _ => []
  -- process.c:578-584, compress.c:85-87
  | .runCollect i =>
    [rd (.worker i) S .nextTask, rd (.worker i) S .collQ, wr (.worker i) S .collQ,
     rd (.worker i) S .workUnits, wr (.worker i) S .workUnits] ++
      rds (.worker i) S (collMembers s) ++ selectFp (.worker i) s
  -- process.c:578-584, compress.c:145-155
  | .runCollectSeq i =>
    [rd (.worker i) S .nextTask, rd (.worker i) S .unfinished, wr (.worker i) S .unfinished,
     rd (.worker i) S .workUnits, wr (.worker i) S .workUnits, rd (.worker i) S .collQ,
     wr (.worker i) S .collQ, wr (.worker i) S .collectToken] ++
      rds (.worker i) S (collMembers s) ++ selectFp (.worker i) s
  -- process.c:578-584, compress.c:224-226
  | .runTransmit i =>
    [rd (.worker i) S .nextTask, rd (.worker i) S .transQ, wr (.worker i) S .transQ,
     rd (.worker i) S .outSlots, wr (.worker i) S .outSlots] ++
      rds (.worker i) S (transMembers s) ++ selectFp (.worker i) s
  -- process.c:578-584, compress.c:255-261 (all under sched_mutex; the push
  -- into output_q additionally under sink_mutex, process.c:468-481; only the
  -- POINTER `wblk->buffer` is copied, the buffer is not touched)
  | .runReorder i w =>
    [rd (.worker i) S .nextTask, rd (.worker i) S .reordQ, wr (.worker i) S .reordQ,
     rd (.worker i) S (.workBlk w.pos), wr (.worker i) S .order,
     rd (.worker i) [.sched, .sink] .outputQ, wr (.worker i) [.sched, .sink] .outputQ,
     rd (.worker i) S .combinedCrc, wr (.worker i) S .combinedCrc,
     wr (.worker i) S (.workBlk w.pos)] ++
      rds (.worker i) S (reordMembers s) ++ selectFp (.worker i) s
  -- process.c:578, 587-594
  | .runWait i => rd (.worker i) S .nextTask :: finishedFp (.worker i)
  -- process.c:578, 587-588, 609-610
  | .runExit i => rd (.worker i) S .nextTask :: finishedFp (.worker i)
  -- compress.c:89-112
  | .c1Requeue i ib =>
    collectWork (.worker i) ib.pos.major ib.pos ++ enqColl (.worker i) s ib.pos.major
  -- compress.c:89-105, 114-119
  | .c1Release i ib =>
    collectWork (.worker i) ib.pos.major ib.pos ++ releaseIn (.worker i) ib.pos.major
  -- compress.c:122-125 / 203-206 (`encode` works on the encoder only), then
  -- enqueue(trans_q) and, back in worker_thread_proc, select_task (584)
  | .c2Enq i w =>
    [rd (.worker i) [] (.workBlk w.pos), wr (.worker i) [] (.workBlk w.pos),
     rd (.worker i) S .transQ, wr (.worker i) S .transQ, rd (.worker i) S (.workBlk w.pos)] ++
      rds (.worker i) S (transMembers s) ++ selectFp (.worker i) s
  -- compress.c:228-239 (XNMALLOC buffer, transmit, free(enc)), select_task
  | .t1Enq i w =>
    [rd (.worker i) [] (.workBlk w.pos), wr (.worker i) [] (.workBlk w.pos),
     wr (.worker i) [] (.outBuf w.pos),
     rd (.worker i) S .workUnits, wr (.worker i) S .workUnits,
     rd (.worker i) S .reordQ, wr (.worker i) S .reordQ, rd (.worker i) S (.workBlk w.pos)] ++
      rds (.worker i) S (reordMembers s) ++ selectFp (.worker i) s
  -- compress.c:157-182
  | .s1Requeue i wo ib =>
    collectWork (.worker i) ib.pos.major (seqKey wo ib) ++ enqColl (.worker i) s ib.pos.major
  -- compress.c:157-175, 183-188
  | .s1Release i wo ib =>
    collectWork (.worker i) ib.pos.major (seqKey wo ib) ++ releaseIn (.worker i) ib.pos.major
  -- compress.c:157-169 (nothing to do: wblk != NULL, iblk == NULL), 198-200
  | .s1Flush i _ => wr (.worker i) S .collectToken :: selectFp (.worker i) s
  -- compress.c:191, 198-200
  | .s2Full i _ => wr (.worker i) S .collectToken :: selectFp (.worker i) s
  -- compress.c:191-196, process.c:584
  | .s2Part i _ =>
    [wr (.worker i) S .collectToken, wr (.worker i) S .unfinished] ++ selectFp (.worker i) s
  -- process.c:670-673 (primary thread = worker 0, after it left
  -- worker_thread_proc; the writer thread is still running)
  | .finishIO => [rd (.worker 0) [.sink] .finish, wr (.worker 0) [.sink] .finish]

/-- the annotated system: compression with `c`, `cd`, `input` -/
def sys (c : Cfg) (cd : Codec α σ) (input : List α) :
    System (State α σ) Thread CVar (Sec α σ) where
  reach := Reach c cd input
  inProg := inProg cd
  fp := fp
  disc := disc

end

end LbzVerif.Model.Race.C
