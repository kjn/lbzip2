/-
  Model.Race.Copy — the race annotation of the `-cdf` copy pipeline
  (`Model.Copy`: reader thread, writer thread, and the main thread sitting in
  `halt()` / `uninit_io()`; src/process.c:730-785).

  `Model.Copy.St` keeps buffers as values; to give them identities the state is
  instrumented with two ghost counters: `nPush` = number of
  `sink_write_buffer` calls so far, `nShift` = number of `shift(output_q)` so
  far.  Buffer `k` (variable `CVar.inBlk k`: the `uint8_t[in_granul]` array
  allocated at process.c:420) is
    * with the reader while it is the `nPush`-th buffer and the reader is
      between `XNMALLOC` and `sink_write_buffer` (`reading`/`got`/`pushing`),
    * in `output_q` (sink monitor) while `nShift ≤ k < nPush`,
    * with the writer while `k + 1 = nShift` and the writer is between `shift`
      and `free` (`writing`/`release`).
  The ghost counters do not influence the transitions (`gstep_proj`).
-/
import LbzVerif.Model.Copy
import LbzVerif.Model.Race.SchedC

namespace LbzVerif.Model.Race.Cp
open LbzVerif.Model.Copy
open LbzVerif.Model.Race.C (Thread CVar CfgVar Acc ind)

/-- `Model.Copy.St` + ghost counters -/
structure GSt where
  st : St
  nPush : Nat
  nShift : Nat
  deriving Repr, DecidableEq

def ginit (hdr inp : List UInt8) : GSt := ⟨init hdr inp, 0, 0⟩

/-- the instrumented step: `Model.Copy.step` plus counting -/
def gstep (g : GSt) (l : Label) : Option GSt :=
  (step g.st l).map fun s' =>
    ⟨s', g.nPush + (if l = .srcPush then 1 else 0), g.nShift + (if l = .snkShift then 1 else 0)⟩

theorem gstep_proj {g g' : GSt} {l : Label} (h : gstep g l = some g') : step g.st l = some g'.st := by
  unfold gstep at h
  cases hs : step g.st l with
  | none => simp [hs] at h
  | some s' => simp only [hs, Option.map_some, Option.some.injEq] at h; rw [← h]

inductive GReach (g0 : GSt) : GSt → Prop
  | refl : GReach g0 g0
  | step {g g' : GSt} (l : Label) : GReach g0 g → gstep g l = some g' → GReach g0 g'

/-! ## Holders -/

def srcHolds : Src → Bool
  | .reading _ _ | .got _ _ | .pushing _ _ => true
  | _ => false

def snkHolds : Snk → Bool
  | .writing _ | .release => true
  | _ => false

inductive Holder where
  | reader | outputQ | writer
  deriving DecidableEq, Repr

def Holder.owner : Holder → Owner Thread
  | .reader => .thread .reader
  | .outputQ => .lock .sink
  | .writer => .thread .writer

/-- holder `h` holds buffer `k` -/
def holds (g : GSt) (k : Nat) : Holder → Prop
  | .reader => k = g.nPush ∧ srcHolds g.st.src = true
  | .outputQ => g.nShift ≤ k ∧ k < g.nPush
  | .writer => k + 1 = g.nShift ∧ snkHolds g.st.snk = true

/-- fixed owners in copy mode: `out_slots`, `eof`, `next_task` under
    `sched_mutex`; `in_slots`, `request_close` under `source_mutex`;
    `output_q`, `finish` under `sink_mutex`; the configuration (`process`,
    `total_out_slots`, `in_granul`: written by `copy()` before `init_io()`)
    frozen; `ispec.total` reader-only, `ospec.total` writer-only. -/
def staticOwner : CVar → Option (Owner Thread)
  | .outSlots | .eof | .nextTask => some (.lock .sched)
  | .inSlots | .requestClose => some (.lock .source)
  | .outputQ | .finish => some (.lock .sink)
  | .ispecTotal => some (.thread .reader)
  | .ospecTotal => some (.thread .writer)
  | .cfg _ => some .frozen
  | _ => none

def owns (g : GSt) (v : CVar) (o : Owner Thread) : Prop :=
  match v with
  | .inBlk k => ∃ h, holds g k h ∧ o = h.owner
  | v => staticOwner v = some o

def disc : Discipline GSt Thread CVar := ⟨owns⟩

/-! ## Sections and footprints -/

inductive Sec where
  | srcTake | srcRead | srcRelease | srcDec | srcPush | srcEof
  | snkIdle | snkShift | snkWrite | snkRelease | snkInc
  | mainFinish
  deriving DecidableEq, Repr

def Sec.thread : Sec → Thread
  | .srcTake | .srcRead | .srcRelease | .srcDec | .srcPush | .srcEof => .reader
  | .snkIdle | .snkShift | .snkWrite | .snkRelease | .snkInc => .writer
  | .mainFinish => .main

def inProg (g : GSt) : Sec → Prop
  | .srcTake => g.st.src = .wait
  | .srcRead => ∃ b v, g.st.src = .reading b v
  | .srcRelease => ∃ b v, g.st.src = .got b v
  | .srcDec => ∃ b v, g.st.src = .got b v
  | .srcPush => ∃ b v, g.st.src = .pushing b v
  | .srcEof => g.st.src = .setEof
  | .snkIdle => g.st.snk = .idle
  | .snkShift => g.st.snk = .idle
  | .snkWrite => ∃ r, g.st.snk = .writing r
  | .snkRelease => g.st.snk = .release
  | .snkInc => g.st.snk = .inc
  -- `uninit_io` runs in the main thread once `halt()` returns; nothing in the
  -- model says when, so it is taken to be possible at any time
  | .mainFinish => True

def S : List Lock := [.sched]

/-- `sched_unlock` in copy mode (process.c:630-636): `select_task` walks the
    empty task list and sets `next_task = NULL`; `copy_terminate`
    (process.c:752-759) reads `eof`, `out_slots`, `total_out_slots` -/
def unlockFp (t : Thread) : List Acc :=
  [rd t S (.cfg .process), wr t S .nextTask, rd t S .nextTask, rd t S .eof, rd t S .outSlots,
   rd t S (.cfg .totalOutSlots)]

def fp (g : GSt) : Sec → List Acc
  -- process.c:402-416
  | .srcTake =>
    [rd .reader [.source] .inSlots, rd .reader [.source] .requestClose,
     wr .reader [.source] .inSlots]
  -- process.c:418-421, xread 110-140 (one `read(2)` per model step)
  | .srcRead =>
    [rd .reader [] (.cfg .inGranul), wr .reader [] (.inBlk g.nPush), rd .reader [] .ispecTotal,
     wr .reader [] .ispecTotal]
  -- process.c:426-427, 445-454 (`avail == 0`)
  | .srcRelease =>
    [wr .reader [] (.inBlk g.nPush), rd .reader [.source] .inSlots, wr .reader [.source] .inSlots]
  -- process.c:429, 730-735
  | .srcDec =>
    [rd .reader [] (.cfg .process), rd .reader S .outSlots, wr .reader S .outSlots] ++
      unlockFp .reader
  -- process.c:737, 468-481 (the pointer is queued; the buffer is not touched)
  | .srcPush => [rd .reader [.sink] .outputQ, wr .reader [.sink] .outputQ]
  -- process.c:435-437
  | .srcEof => wr .reader S .eof :: unlockFp .reader
  -- process.c:508-515, 547
  | .snkIdle => [rd .writer [.sink] .outputQ, rd .writer [.sink] .finish]
  -- process.c:508-518
  | .snkShift =>
    [rd .writer [.sink] .outputQ, rd .writer [.sink] .finish, wr .writer [.sink] .outputQ]
  -- process.c:521, xwrite 142-169 (one `write(2)` per model step); 525-543
  | .snkWrite =>
    [rd .writer [] (.inBlk (g.nShift - 1)), rd .writer [] .ospecTotal, wr .writer [] .ospecTotal,
     rd .writer [] (.cfg .verbose), rd .writer [] (.cfg .ispecSize)]
  -- process.c:523, 741-744, 445-454
  | .snkRelease =>
    [rd .writer [] (.cfg .process), wr .writer [] (.inBlk (g.nShift - 1)),
     rd .writer [.source] .inSlots, wr .writer [.source] .inSlots]
  -- process.c:746-748
  | .snkInc => [rd .writer S .outSlots, wr .writer S .outSlots] ++ unlockFp .writer
  -- process.c:670-673
  | .mainFinish => [rd .main [.sink] .finish, wr .main [.sink] .finish]

/-- the annotated copy pipeline -/
def sys (hdr inp : List UInt8) : System GSt Thread CVar Sec where
  reach := GReach (ginit hdr inp)
  inProg := inProg
  fp := fp
  disc := disc

end LbzVerif.Model.Race.Cp
