/-
  Lemmas.TransmitCompose — the reference parser `parseBlock` run over the whole
  block `transmit()` wrote: one lemma per field group of a well-formed block
  (composed in `Props.C01.Transmit.parse_transmit_partial`).
-/
import LbzVerif.Lemmas.TransmitGroups

namespace LbzVerif.Lemmas.TransmitCompose
open LbzVerif LbzVerif.Basic LbzVerif.Model.Canon LbzVerif.Model.Transmit
open LbzVerif.Lemmas.TransmitLen LbzVerif.Lemmas.TransmitBits LbzVerif.Lemmas.TransmitParse
open LbzVerif.Lemmas.TransmitSelMtf LbzVerif.Lemmas.TransmitGroups LbzVerif.Lemmas.ListAux
open LbzVerif.Spec.Bzip2

/-- The block the reference parser must return for `b`. -/
def expectedBlock (level start : Nat) (b : EncBlock) : Block :=
  { level := level, startBit := start, endBit := start + cost b,
    storedCrc := b.crc ^^^ 0xFFFFFFFF, rand := false, origPtr := b.bwtIdx,
    used := usedBytes b.cmap, nGroups := b.numTrees,
    selectors := b.selectors ++
      List.replicate (dummySelectors (costBase b)) (b.selectors.getLastD 0),
    tables := b.lens, nSelectorsUsed := b.ns, syms := b.mtfv.dropLast.toArray }

theorem ns_def (b : EncBlock) : b.ns = (b.mtfv.length + 49) / 50 := by
  simp [EncBlock.ns, EncBlock.nmtf, Model.Canon.numSelectors, Gen.GROUP_SIZE]

theorem ns_pos {b : EncBlock} (h : b.mtfv ≠ []) : 1 ≤ b.ns := by
  have := mtfv_length_pos h
  rw [ns_def]
  omega

theorem selectors_ne {b : EncBlock} (hw : WF b) : b.selectors ≠ [] := by
  intro he
  have := ns_pos hw.mtfv_ne
  rw [← hw.sel_len, he] at this
  exact Nat.not_succ_le_zero _ this

theorem selMtf_form {b : EncBlock} (hw : WF b) :
    b.selectorMtf = mtfEnc (List.range b.numTrees) b.selectors ++
      List.replicate (dummySelectors (costBase b)) 0 := by
  have := hw.selMtf_eq
  rw [selectorMtfOf_range b.numTrees hw.trees_range.2 b.selectors hw.sel_lt] at this
  exact this

theorem selMtf_lt {b : EncBlock} (hw : WF b) : ∀ j ∈ b.selectorMtf, j < b.numTrees := by
  intro j hj
  rw [selMtf_form hw, List.mem_append] at hj
  rcases hj with hj | hj
  · have := mtfEnc_lt (List.range b.numTrees) b.selectors
      (fun c hc => List.mem_range.mpr (hw.sel_lt c hc)) j hj
    rw [List.length_range] at this
    exact this
  · have := hw.trees_range
    rw [List.eq_of_mem_replicate hj]
    omega

theorem numSelectors_lt {b : EncBlock} (hw : WF b) :
    b.numSelectors ≤ 18002 ∧ 1 ≤ b.numSelectors := by
  have h1 := Props.C02.dummySelectors_le (costBase b)
  have h2 := ns_pos hw.mtfv_ne
  have h3 := hw.nmtf_le
  simp only [EncBlock.nmtf, Gen.MAX_BLOCK_SIZE] at h3
  rw [hw.nsel_eq]
  rw [ns_def] at h2 ⊢
  omega

theorem expectedBlock_selectors_length {b : EncBlock} (hw : WF b) (level start : Nat) :
    (expectedBlock level start b).selectors.length = b.numSelectors := by
  rw [hw.nsel_eq, ← hw.sel_len]
  exact (List.length_append).trans (congrArg _ List.length_replicate)

theorem readSelectorMtf_transmit {b : EncBlock} (hw : WF b) (pos : Nat) (rest : Bits)
    (acc : Array Nat) :
    readSelectorMtf b.numTrees b.numSelectors pos (selectorBits b ++ rest) acc =
      .ok (acc ++ b.selectorMtf.toArray, pos + (selectorBits b).length, rest) := by
  have hsl := selectorMtf_length hw
  rw [selectorBits_length b hsl, selectorBits_eq b hsl, ← hsl]
  exact readSelectorMtf_unary b.numTrees b.selectorMtf (selMtf_lt hw) pos rest acc

theorem unMtfSelectors_transmit {b : EncBlock} (hw : WF b) (acc : Array Nat) :
    unMtfSelectors (List.range b.numTrees) b.selectorMtf acc =
      some (acc ++ (b.selectors ++
        List.replicate (dummySelectors (costBase b)) (b.selectors.getLastD 0)).toArray) := by
  have hlast : b.selectors.getLast? = some (b.selectors.getLastD 0) := by
    rw [List.getLastD_eq_getLast?, List.getLast?_eq_some_getLast (selectors_ne hw)]
    rfl
  rw [selMtf_form hw]
  exact unMtf_mtfEnc_zeros (List.range b.numTrees) b.selectors
    (fun c hc => List.mem_range.mpr (hw.sel_lt c hc)) _ _ hlast acc

theorem mtfv_split {b : EncBlock} (h : b.mtfv ≠ []) :
    b.mtfv = b.mtfv.dropLast ++ [b.alphaSize - 1] :=
  ListAux.eq_dropLast_append_getLastD 0 h

theorem decodeGroups_transmit {b : EncBlock} (hw : WF b) (hc : Coded b)
    (hsym : ∀ s ∈ b.selectors, SymOK (b.lens.getD s []) (b.codes.getD s []))
    (ex : List Nat) (nUsed pos : Nat) (rest : Bits) (acc : Array Nat) :
    decodeGroups (b.lens.map mkCode).toArray (b.alphaSize - 1) (b.selectors ++ ex) nUsed pos
        ((List.range b.ns).flatMap (groupBits b) ++ rest) acc =
      .ok (nUsed + b.ns, pos + ((List.range b.ns).flatMap (groupBits b)).length, rest,
           acc ++ b.mtfv.dropLast.toArray) := by
  have hpad : b.padded = b.mtfv.dropLast ++ [b.alphaSize - 1] ++
      List.replicate (b.ns * Gen.GROUP_SIZE - b.nmtf) b.alphaSize := by
    unfold EncBlock.padded
    rw [← mtfv_split hw.mtfv_ne]
  have hnm := mtfv_length_pos hw.mtfv_ne
  have hdg := decodeGroups_enc b b.alphaSize
    (fun l hl => (hw.lens_ok l hl).1) hc.complete b.selectors
    (fun s hs => by rw [hw.lens_len]; exact hw.sel_lt s hs) hsym (alphaSize_pos b)
    b.mtfv.dropLast
    (fun x hx => ⟨hc.syms_lt x (List.dropLast_subset _ hx), by
      have h1 := hc.eob_last x hx
      have h2 := alphaSize_pos b
      omega⟩)
    (b.ns * Gen.GROUP_SIZE - b.nmtf)
    (by rw [ns_def]; simp only [Gen.GROUP_SIZE, EncBlock.nmtf]; omega)
    (by
      rw [hw.sel_len, List.length_dropLast, ns_def]
      simp only [Gen.GROUP_SIZE, EncBlock.nmtf]
      omega)
    ex nUsed pos rest acc
  rw [← hpad, ← groups_eq b hw.sel_len, hw.sel_len] at hdg
  exact hdg

end LbzVerif.Lemmas.TransmitCompose
