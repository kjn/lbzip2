/-
  Lemmas.ListAux — facts about core `List` operations that several parts of the development
  use.  Sums are in Lemmas/ListSum.lean, `countP` and `Nodup` in Lemmas/ListCount.lean, insertion
  sort in Lemmas/SortBy.lean.
-/
namespace LbzVerif.Lemmas.ListAux

universe u v

theorem getD_of_lt {α : Type} {l : List α} {i : Nat} (d : α) (h : i < l.length) :
    l.getD i d = l[i] := by
  rw [List.getD_eq_getElem?_getD, List.getElem?_eq_getElem h, Option.getD_some]

theorem getD_mem {α : Type} {l : List α} {i : Nat} (d : α) (h : i < l.length) :
    l.getD i d ∈ l := by
  rw [getD_of_lt d h]
  exact List.getElem_mem h

theorem getElem!_mem {α : Type} [Inhabited α] (l : List α) (i : Nat) (h : i < l.length) :
    l[i]! ∈ l := by
  rw [getElem!_pos l i h]; exact List.getElem_mem h

theorem getD_set_eq {α : Type} (l : List α) (q : Nat) (v d : α) (h : q < l.length) :
    (l.set q v).getD q d = v := by
  simp [List.getD_eq_getElem?_getD, h]

theorem getD_set_ne {α : Type} (l : List α) (q r : Nat) (v d : α) (h : q ≠ r) :
    (l.set q v).getD r d = l.getD r d := by
  simp [List.getD_eq_getElem?_getD, h]

theorem mem_set_self {α : Type} {l : List α} {i : Nat} {q : α} (p : α) (h : l[i]? = some q) :
    p ∈ l.set i p :=
  List.mem_of_getElem? (List.getElem?_set_self (List.getElem?_eq_some_iff.1 h).1)

theorem mem_set_of_ne {α : Type} {l : List α} {i : Nat} {q r : α} (p : α) (h : l[i]? = some q)
    (hr : r ∈ l) (hne : r ≠ q) : r ∈ l.set i p := by
  obtain ⟨j, hj⟩ := List.getElem?_of_mem hr
  have hij : i ≠ j := by
    intro e
    subst e
    rw [h] at hj
    exact hne (Option.some.inj hj).symm
  exact List.mem_of_getElem? (i := j) (by rw [List.getElem?_set_ne hij]; exact hj)

theorem getElem?_set_cases {α : Type} {l : List α} {i j : Nat} {p q : α}
    (h : (l.set i p)[j]? = some q) : (i = j ∧ q = p) ∨ (i ≠ j ∧ l[j]? = some q) := by
  rw [List.getElem?_set] at h
  split at h
  · next e =>
    split at h
    · exact .inl ⟨e, (Option.some.inj h).symm⟩
    · cases h
  · next e => exact .inr ⟨e, h⟩

theorem eq_dropLast_append_getLastD {α : Type} {l : List α} (d : α) (h : l ≠ []) :
    l = l.dropLast ++ [l.getLastD d] := by
  rw [List.getLastD_eq_getLast?, List.getLast?_eq_some_getLast h]
  exact (List.dropLast_concat_getLast h).symm

theorem map_eraseIdx {α β : Type} (f : α → β) : ∀ (l : List α) (i : Nat),
    (l.map f).eraseIdx i = (l.eraseIdx i).map f := by
  intro l
  induction l with
  | nil => intro i; rfl
  | cons a t ih =>
    intro i
    cases i with
    | zero => rfl
    | succ i => simp only [List.map_cons, List.eraseIdx_cons_succ, ih]

theorem find?_unique {α : Type u} (l : List α) (p : α → Bool) (a : α) (ha : a ∈ l) (hp : p a = true)
    (hu : ∀ b ∈ l, p b = true → b = a) : l.find? p = some a := by
  induction l with
  | nil => cases ha
  | cons x t ih =>
    rw [List.find?_cons]
    by_cases hx : p x = true
    · have := hu x (List.mem_cons_self ..) hx
      subst this
      simp [hx]
    · have hxf : p x = false := by simpa using hx
      simp only [hxf]
      have hat : a ∈ t := by
        rcases List.mem_cons.mp ha with h | h
        · subst h; exact absurd hp hx
        · exact h
      exact ih hat (fun b hb => hu b (List.mem_cons_of_mem _ hb))

theorem map_range_getD {α β : Type} (l : List α) (d : α) (f : α → β) :
    (List.range l.length).map (fun i => f (l.getD i d)) = l.map f := by
  apply List.ext_getElem
  · rw [List.length_map, List.length_range, List.length_map]
  · intro i h1 _
    rw [List.length_map, List.length_range] at h1
    rw [List.getElem_map, List.getElem_range, List.getElem_map, getD_of_lt d h1]

theorem map_range_getElem! {α β : Type} [Inhabited α] (l : List α) (f : α → β) :
    (List.range l.length).map (fun j => f l[j]!) = l.map f := by
  apply List.ext_getElem
  · simp
  · intro i h1 h2
    simp only [List.length_map, List.length_range] at h1
    simp [h1]

theorem flatMap_range_getD {α β : Type} (l : List α) (d : α) (f : α → List β) :
    (List.range l.length).flatMap (fun i => f (l.getD i d)) = l.flatMap f := by
  rw [List.flatMap_def, List.flatMap_def, map_range_getD]

theorem range_getD_self {α : Type} (l : List α) (d : α) :
    (List.range l.length).map (fun i => l.getD i d) = l := by
  rw [map_range_getD l d (fun x => x), List.map_id']

theorem ext_getD {α : Type} (d : α) {l₁ l₂ : List α} (hl : l₁.length = l₂.length)
    (h : ∀ q, q < l₁.length → l₁.getD q d = l₂.getD q d) : l₁ = l₂ := by
  rw [← range_getD_self l₁ d, ← range_getD_self l₂ d, ← hl]
  exact List.map_congr_left fun q hq => h q (List.mem_range.mp hq)

theorem getD_map {α β : Type} (f : α → β) (l : List α) (q : Nat) (d : α) :
    (l.map f).getD q (f d) = f (l.getD q d) := by
  simp only [List.getD_eq_getElem?_getD, List.getElem?_map]
  cases l[q]? <;> rfl

theorem length_flatMap_const {α β : Type} (f : α → List β) (k : Nat) (h : ∀ a, (f a).length = k)
    (l : List α) : (l.flatMap f).length = k * l.length := by
  induction l with
  | nil => rfl
  | cons a t ih => rw [List.flatMap_cons, List.length_append, ih, h, List.length_cons, Nat.mul_succ,
      Nat.add_comm]

theorem drop_flatMap_const {α β : Type} (f : α → List β) (k : Nat) (h : ∀ a, (f a).length = k)
    (l : List α) (m : Nat) : (l.flatMap f).drop (k * m) = (l.drop m).flatMap f := by
  induction m generalizing l with
  | zero => rfl
  | succ m ih =>
    cases l with
    | nil => simp
    | cons a t =>
      have e := List.drop_length_add_append (l₁ := f a) (l₂ := t.flatMap f) (k * m)
      rw [h] at e
      rw [List.flatMap_cons, Nat.mul_succ, Nat.add_comm, e, ih, List.drop_succ_cons]

theorem flatMap_congr' {α β : Type} (l : List α) (f g : α → List β)
    (h : ∀ x ∈ l, f x = g x) : l.flatMap f = l.flatMap g := by
  rw [List.flatMap_def, List.flatMap_def, List.map_congr_left h]

/-- Entry `r` of block `a + t` of a concatenation of blocks sits at (total length of the blocks
before it) + `r`; `len` names the block lengths, so that instances need no rewriting. -/
theorem flatMap_range'_index {α : Type} (g : Nat → List α) (len : Nat → Nat)
    (hlen : ∀ l, (g l).length = len l) : ∀ t a k r, t < k → r < len (a + t) →
    ((List.range' a k).flatMap g)[((List.range' a t).map len).sum + r]? = (g (a + t))[r]? := by
  intro t
  induction t with
  | zero =>
    intro a k r hk hr
    obtain ⟨k', rfl⟩ : ∃ k', k = k' + 1 := ⟨k - 1, by omega⟩
    rw [List.range'_succ, List.flatMap_cons]
    simp only [List.range'_zero, List.map_nil, List.sum_nil, Nat.zero_add, Nat.add_zero] at hr ⊢
    exact List.getElem?_append_left (by rw [hlen]; exact hr)
  | succ t ih =>
    intro a k r hk hr
    obtain ⟨k', rfl⟩ : ∃ k', k = k' + 1 := ⟨k - 1, by omega⟩
    rw [List.range'_succ, List.flatMap_cons, List.range'_succ, List.map_cons, List.sum_cons,
      List.getElem?_append_right (by rw [hlen]; omega), hlen]
    have e : len a + ((List.range' (a + 1) t).map len).sum + r - len a =
        ((List.range' (a + 1) t).map len).sum + r := by omega
    rw [e, ih (a + 1) k' r (by omega) (by rw [show a + 1 + t = a + (t + 1) by omega]; exact hr)]
    rw [show a + 1 + t = a + (t + 1) by omega]

theorem filterMap_congr' {α β : Type} (l : List α) (f g : α → Option β)
    (h : ∀ x ∈ l, f x = g x) : l.filterMap f = l.filterMap g := by
  induction l with
  | nil => rfl
  | cons a t ih =>
    rw [List.filterMap_cons, List.filterMap_cons, h a (List.mem_cons_self ..),
      ih (fun x hx => h x (List.mem_cons_of_mem _ hx))]

theorem map_range_lt {α : Type} (x y : α) {n m : Nat} (h : n ≤ m) :
    (List.range m).map (fun v => if v < n then x else y) =
      List.replicate n x ++ List.replicate (m - n) y := by
  apply List.ext_getElem
  · simp only [List.length_map, List.length_range, List.length_append, List.length_replicate]
    omega
  · intro i _ _
    simp only [List.getElem_map, List.getElem_range, List.getElem_append, List.length_replicate,
      List.getElem_replicate, dite_eq_ite]

theorem range_succ_map (n : Nat) : (List.range n).map (· + 1) = List.range' 1 n := by
  rw [List.range'_eq_map_range]
  exact List.map_congr_left fun j _ => Nat.add_comm j 1

theorem range_split {i n : Nat} (h : i ≤ n) :
    List.range n = List.range i ++ List.range' i (n - i) := by
  rw [List.range'_eq_map_range, ← List.range_add, Nat.add_sub_cancel' h]

theorem le_foldl_max (l : List Nat) (acc : Nat) :
    acc ≤ l.foldl max acc ∧ ∀ x ∈ l, x ≤ l.foldl max acc := by
  induction l generalizing acc with
  | nil => exact ⟨Nat.le_refl _, fun _ hx => nomatch hx⟩
  | cons a t ih =>
    have h := ih (max acc a)
    refine ⟨Nat.le_trans (Nat.le_max_left ..) h.1, fun x hx => ?_⟩
    rcases List.mem_cons.mp hx with rfl | hx
    · exact Nat.le_trans (Nat.le_max_right ..) h.1
    · exact h.2 x hx

end LbzVerif.Lemmas.ListAux
