/-
  Lemmas.TreeSound — `Model.Canon.lookup` on the tables of `make_tree` decodes
  every 64-bit window `v < 2^64 − 1` (the bit buffer never holds 64 live bits,
  so the lowest bit of the window is 0) of a COMPLETE length list to the symbol
  whose canonical code word is a prefix of the window (`lookup_sound`).
-/
import LbzVerif.Lemmas.TreeSoundTables

namespace LbzVerif.Lemmas.TreeSound
open LbzVerif.Spec.Prefix LbzVerif.Model.Canon LbzVerif.Lemmas.PrefixCanon
open LbzVerif.Lemmas.TransmitSym LbzVerif.Lemmas.TreeSoundArith LbzVerif.Lemmas.PrefixTree
open LbzVerif.Lemmas.TreeSoundTables

theorem cntL0 (lens : List Nat) (hc : Complete lens) : cntL lens 0 = 0 :=
  cntL_zero lens (fun x hx => (hc.2 x hx).1)

theorem not_tail_lt (lens : List Nat) (k : Nat) (h : ¬ TailZero lens k) : S lens k < S lens 21 := by
  apply Classical.byContradiction
  intro hge
  apply h
  intro j hkj hj
  apply Classical.byContradiction
  intro hcj
  have h1 := S_lt_of_cnt lens k j hkj hcj
  have h2 := S_mono lens (show j + 1 ≤ 21 by omega)
  have h3 := width_pos j
  omega

theorem W64 (lens : List Nat) (h20 : ∀ x ∈ lens, x ≤ 20) (k : Nat) :
    W (fun x => 2 ^ (64 - x)) lens k = 2 ^ 44 * S lens k :=
  W_scale _ width _ lens k fun x hx _ => by
    have := h20 x hx
    exact (two_pow_mul (by omega)).symm

/-- `k ≤ 11` makes `10 - x` exact on the symbols counted. -/
theorem W10 (lens : List Nat) (k : Nat) (hk : k ≤ 11) :
    S lens k = 2 ^ 10 * W (fun x => 2 ^ (10 - x)) lens k :=
  W_scale width _ _ lens k fun x _ hx => (two_pow_mul (by omega)).symm

/-- The sentinels are exactly the entries whose boundary `S k = 2^20` would not fit into 64 bits. -/
theorem base_eq (lens : List Nat) (hc : Complete lens) (k : Nat) (k1 : 1 ≤ k) (k21 : k ≤ 21) :
    (mkBase lens).getD k 0 = min (2 ^ 44 * S lens k) (2 ^ 64 - 1) := by
  have h21 := S21 lens hc
  by_cases h : k = 21
  · subst h; rw [base21, h21]; rfl
  · rw [base_getD lens (cntL0 lens hc) k k1 (by omega)]
    by_cases ht : TailZero lens k
    · rw [if_pos ht, S_tail lens k k21 ht, h21]; rfl
    · have hlt := not_tail_lt lens k ht
      rw [if_neg ht, W64 lens (fun x hx => (hc.2 x hx).2), M64_eq, Nat.mod_eq_of_lt (by omega)]
      omega

theorem stop_of_dec (lens : List Nat) (hc : Complete lens) (v : Nat) (hv : v < 2 ^ 64 - 1)
    (l r i : Nat) (h : Dec lens (v / 2 ^ 44) l r i) : Stop (mkBase lens) v l := by
  have hx := Nat.div_mul_le_self v (2 ^ 44)
  have hx2 := Nat.lt_mul_div_succ v (show 0 < 2 ^ 44 by omega)
  have l20 := h.l20
  constructor
  · intro j hj
    have := S_mono lens (show j + 1 ≤ l by omega)
    have := h.lo
    rw [base_eq lens hc (j + 1) (by omega) (by omega)]
    omega
  · have := h.hi
    rw [base_eq lens hc (l + 1) (by omega) (by omega)]
    omega

theorem startEntry_split (a l : Nat) (ha : a ≤ 258) (hl : l < 32) :
    (((a <<< 5) ||| l) % 2 ^ 16) &&& 0x1F = l ∧ (((a <<< 5) ||| l) % 2 ^ 16) >>> 5 = a := by
  rw [← Nat.shiftLeft_add_eq_or_of_lt (by omega : l < 2 ^ 5), Nat.shiftLeft_eq]
  have : (0x1F : Nat) = 2 ^ 5 - 1 := rfl
  rw [this, Nat.and_two_pow_sub_one_eq_mod, Nat.shiftRight_eq_div_pow]
  omega

theorem renumber_le (n s : Nat) (hs : s < n) (hn : n ≤ 258) : renumber n s ≤ 258 := by
  unfold renumber
  split
  · omega
  · split
    · omega
    · split <;> omega

theorem width_split (l : Nat) (hl : l ≤ 10) : width l = 2 ^ 10 * 2 ^ (10 - l) :=
  (two_pow_mul (by omega)).symm

theorem shr_SW (v : Nat) : v >>> (64 - SW) = v / 2 ^ 44 / 2 ^ 10 := by
  rw [Nat.shiftRight_eq_div_pow, Nat.div_div_eq_div_mul, ← Nat.pow_add]
  rfl

theorem start_short (lens : List Nat) (hc : Complete lens) (v : Nat) (l r i : Nat)
    (h : Dec lens (v / 2 ^ 44) l r i) (hl : l ≤ 10) :
    (mkStart lens (mkBase lens)).getD (v >>> (64 - SW)) 0 = startEntry lens.length l i := by
  rw [shr_SW]
  generalize v / 2 ^ 44 = x at h
  have hw := width_split l hl
  have hS := W10 lens l (by omega)
  have hlo := h.lo
  have hmod := Nat.div_add_mod (x - S lens l) (width l)
  have hmlt := Nat.mod_lt (x - S lens l) (width_pos l)
  rw [← h.r_eq] at hmod
  have hP : 0 < 2 ^ (10 - l) := Nat.two_pow_pos _
  generalize hPd : 2 ^ (10 - l) = P at hw hP
  generalize hrem : (x - S lens l) % width l = rem at hmod hmlt
  have hq : width l * r = 2 ^ 10 * (r * P) := by rw [hw, Nat.mul_assoc, Nat.mul_comm P r]
  generalize hqd : r * P = q at hq
  have hx : x = 2 ^ 10 * (W (fun x => 2 ^ (10 - x)) lens l + q) + rem := by omega
  have hcidx : x / 2 ^ 10 = W (fun x => 2 ^ (10 - x)) lens l + q + rem / 2 ^ 10 := by
    rw [hx, Nat.mul_add_div (Nat.two_pow_pos 10)]
  have hu : rem / 2 ^ 10 < P := Nat.div_lt_of_lt_mul (hw ▸ hmlt)
  have hget := startFull_getElem lens (cntL0 lens hc) l r (rem / 2 ^ 10) i h.l1 hl h.r_lt
    (by rw [hPd]; exact hu) h.i_eq
  rw [hPd, hqd, ← hcidx] at hget
  unfold mkStart
  simp only
  rw [List.getD_eq_getElem?_getD,
    List.getElem?_append_left (List.getElem?_eq_some_iff.mp hget).1, hget]
  rfl

theorem start_long (lens : List Nat) (hc : Complete lens) (v : Nat) (hv : v < 2 ^ 64 - 1) (l r i : Nat)
    (h : Dec lens (v / 2 ^ 44) l r i) (hl : 11 ≤ l) :
    ∃ Lc, 11 ≤ Lc ∧ Lc ≤ l ∧ (mkStart lens (mkBase lens)).getD (v >>> (64 - SW)) 0 = Lc := by
  have hsw : SW = 10 := rfl
  have hcdef := shr_SW v
  have h1024 : (1 : Nat) <<< SW = 1024 := rfl
  have hS11 := W10 lens 11 (by omega)
  have hfl := startFull_length lens (cntL0 lens hc)
  have hge : (startFull lens).length ≤ v >>> (64 - SW) := by
    rw [hfl, hcdef]
    have := S_mono lens hl
    have := h.lo
    omega
  refine ⟨_, ?_, ?_, rfl⟩
  all_goals
    unfold mkStart
    simp only
    rw [List.getD_eq_getElem?_getD, List.getElem?_append_right hge, ← List.getD_eq_getElem?_getD]
  · exact startRest_ge _ _ _ _ _ (by rw [h1024]; omega)
  · apply startRest_le (mkBase lens) v l (stop_of_dec lens hc v hv l r i h).above _ _ _ _
      (by rw [h1024]; omega) (by show 10 + 1 ≤ l; omega)
    intro c _ h2
    rw [hsw, Nat.shiftLeft_eq, M64_eq, Nat.mod_eq_of_lt (by omega)]
    omega

/-- The `perm[]` index of a window relative to `count[l]`: its rank inside the band that
starts at `s`. -/
theorem band_rank (v s l : Nat) (hv : v < 2 ^ 64) (hlo : s ≤ v / 2 ^ 44) (hl : l ≤ 20) :
    ((v + M64 - 2 ^ 44 * s) % M64) >>> (64 - l) = (v / 2 ^ 44 - s) / width l := by
  have hle : 2 ^ 44 * s ≤ v := Nat.le_trans (Nat.mul_le_mul_left _ hlo) (Nat.mul_div_le v _)
  have hw : 2 ^ (64 - l) = 2 ^ 44 * width l := (two_pow_mul (by omega)).symm
  rw [M64_eq, Nat.sub_add_comm hle, Nat.add_mod_right,
    Nat.mod_eq_of_lt (Nat.lt_of_le_of_lt (Nat.sub_le _ _) hv), Nat.shiftRight_eq_div_pow, hw,
    ← Nat.div_div_eq_div_mul, Nat.sub_mul_div]

theorem lookup_sound (lens : List Nat) (hc : Complete lens) (hn : lens.length ≤ 258) (v : Nat)
    (hv : v < 2 ^ 64 - 1) :
    ∃ l r i, Dec lens (v / 2 ^ 44) l r i ∧
      lookup (mkTree lens) v = some (renumber lens.length i, l) := by
  obtain ⟨l, r, i, h⟩ := dec_exists lens hc (v / 2 ^ 44) (by omega)
  refine ⟨l, r, i, h, ?_⟩
  have hsw : SW = 10 := rfl
  have hml : MAXL = 20 := rfl
  unfold lookup mkTree
  simp only
  by_cases hl : l ≤ 10
  · rw [start_short lens hc v l r i h hl]
    obtain ⟨e1, e2⟩ := startEntry_split (renumber lens.length i) l
      (renumber_le _ _ h.i_lt hn) (by omega)
    unfold startEntry
    rw [e1, e2, if_pos (by rw [hsw]; exact hl)]
  · obtain ⟨Lc, h11, hLl, e⟩ := start_long lens hc v hv l r i h (by omega)
    rw [e]
    have l20 := h.l20
    have hand : Lc &&& 0x1F = Lc := by
      have : (0x1F : Nat) = 2 ^ 5 - 1 := rfl
      rw [this, Nat.and_two_pow_sub_one_eq_mod]
      exact Nat.mod_eq_of_lt (by omega)
    rw [hand, if_neg (by rw [hsw]; omega)]
    have hstop := stop_of_dec lens hc v hv l r i h
    rw [walkUp_eq _ _ _ hstop _ Lc hLl (by rw [hml]; omega), if_neg (by rw [hml]; omega)]
    -- `base[l]` is not saturated: `S l ≤ x < 2^20`
    have hb : (mkBase lens).getD l 0 = 2 ^ 44 * S lens l := by
      have := h.lo
      rw [base_eq lens hc l h.l1 (by omega)]
      omega
    rw [hb, count_getD lens (cntL0 lens hc) l h.l1 l20]
    rw [band_rank v (S lens l) l (by omega) h.lo l20, ← h.r_eq]
    have hp := perm_getD lens (cntL0 lens hc) l r i h.l1 l20 h.i_eq
    rw [if_pos (List.getElem?_eq_some_iff.mp hp).1, List.getD_eq_getElem?_getD, hp]
    rfl

theorem bitsMSB_eq (n v : Nat) : bitsMSB n v = Basic.natToBits n v := by
  induction n with
  | zero => rfl
  | succ n ih =>
    rw [bitsMSB, Basic.natToBits, ih]
    congr 1
    unfold Spec.Prefix.bit
    rw [Nat.testBit_eq_decide_div_mod_eq]

theorem top_bits_code (lens : List Nat) (v l r i : Nat) (h : Dec lens (v / 2 ^ 44) l r i) :
    v >>> (64 - l) = canonCode lens i := by
  rw [h.code, Nat.shiftRight_eq_div_pow, Nat.div_div_eq_div_mul]
  congr 1
  have := h.l20
  exact (two_pow_mul (by omega)).symm

end LbzVerif.Lemmas.TreeSound
