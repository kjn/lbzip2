/-
  Lemmas.Rle1Dec — the decoder `Spec.unRle1` inverts `Spec.rle1`.
-/
import LbzVerif.Spec.Rle1

namespace LbzVerif.Spec

theorem flush_length (c : UInt8) (r : Nat) :
    (flush c r).length = if r ≥ 4 then 5 else r := by
  unfold flush; split <;> simp

theorem dec_copies (c : UInt8) (k j : Nat) (hk : 1 ≤ k) (hj : k + j ≤ 4) (rest : List UInt8) :
    decAux c k (List.replicate j c ++ rest)
      = (decAux c (k + j) rest).map (List.replicate j c ++ ·) := by
  induction j generalizing k with
  | zero => simp
  | succ j ih =>
    have h4 : k ≠ 4 := by omega
    have h0 : k ≠ 0 := by omega
    simp only [List.replicate_succ, List.cons_append, decAux, h4, h0, if_false, ne_eq,
      not_false_eq_true, and_self, if_true]
    rw [ih (k + 1) (by omega) (by omega)]
    have : k + 1 + j = k + (j + 1) := by omega
    rw [this]
    cases decAux c (k + (j + 1)) rest <;> simp

theorem dec_first (p c : UInt8) (k : Nat) (hk : k = 0 ∨ p ≠ c) (hk4 : k ≠ 4) (rest : List UInt8) :
    decAux p k (c :: rest) = (decAux c 1 rest).map (c :: ·) := by
  rcases hk with hk | hk
  · subst hk; simp [decAux]
  · simp only [decAux, hk4, if_false]
    have : ¬ (k ≠ 0 ∧ c = p) := by intro h; exact hk h.2.symm
    simp [this]

theorem dec_flush (p c : UInt8) (k r : Nat) (hr : 1 ≤ r) (hr' : r ≤ 259)
    (hk : k = 0 ∨ p ≠ c) (hk4 : k ≠ 4) (rest : List UInt8) :
    decAux p k (flush c r ++ rest)
      = (decAux c (if r ≥ 4 then 0 else r) rest).map (List.replicate r c ++ ·) := by
  unfold flush
  split
  · rename_i h4
    have h255 : (UInt8.ofNat (r - 4)).toNat = r - 4 := by
      simp [UInt8.toNat_ofNat']; omega
    simp only [List.cons_append, List.nil_append]
    rw [dec_first p c k hk hk4]
    have := dec_copies c 1 3 (by omega) (by omega) (UInt8.ofNat (r - 4) :: rest)
    simp only [List.replicate, List.cons_append, List.nil_append] at this
    rw [this]
    simp only [decAux, if_true, h255]
    have hr4 : r = 4 + (r - 4) := by omega
    cases decAux c 0 rest with
    | none => simp
    | some l =>
      simp only [Option.map_some, Option.some.injEq]
      conv => rhs; rw [hr4, ← List.replicate_append_replicate]
      simp [List.replicate]
  · rename_i h4
    obtain ⟨j, rfl⟩ : ∃ j, r = j + 1 := ⟨r - 1, by omega⟩
    simp only [List.replicate_succ, List.cons_append]
    rw [dec_first p c k hk hk4, dec_copies c 1 j (by omega) (by omega)]
    have : 1 + j = j + 1 := by omega
    rw [this]
    cases decAux c (j + 1) rest <;> simp

theorem dec_encAux (c : UInt8) (r : Nat) (xs : List UInt8) (hr : 1 ≤ r) (hr' : r ≤ 259)
    (p : UInt8) (k : Nat) (hk : k = 0 ∨ p ≠ c) (hk4 : k ≠ 4) :
    decAux p k (encAux c r xs) = some (List.replicate r c ++ xs) := by
  induction xs generalizing c r p k with
  | nil =>
    have := dec_flush p c k r hr hr' hk hk4 []
    simp only [List.append_nil] at this
    rw [encAux, this]
    have h4 : (if r ≥ 4 then 0 else r) ≠ 4 := by split <;> omega
    simp [decAux, h4]
  | cons x xs ih =>
    unfold encAux
    split
    · rename_i h
      obtain ⟨rfl, hlt⟩ := h
      have hlt' : r < 259 := hlt
      rw [ih x (r + 1) (by omega) (by omega) p k hk hk4]
      simp [List.replicate_succ', List.append_assoc]
    · rename_i h
      rw [dec_flush p c k r hr hr' hk hk4]
      have hk2 : (if r ≥ 4 then 0 else r) = 0 ∨ c ≠ x := by
        by_cases h4 : r ≥ 4
        · simp [h4]
        · right; intro hcx; exact h ⟨hcx.symm, by show r < 259; omega⟩
      have hk24 : (if r ≥ 4 then 0 else r) ≠ 4 := by split <;> omega
      rw [ih x 1 (by omega) (by omega) c _ hk2 hk24]
      simp

theorem unrle_rle (xs : List UInt8) : unRle1 (rle1 xs) = some xs := by
  cases xs with
  | nil => rfl
  | cons x xs =>
    have := dec_encAux x 1 xs (by omega) (by omega) 0 0 (Or.inl rfl) (by omega)
    simpa [unRle1, rle1] using this

end LbzVerif.Spec
