/-
  Lemmas.ExpandSpec — the reference `Spec.Bzip2.decodeStreams` cut at the places where lbzip2's
  parser automaton is at an anchor state: `midStream`, inside a stream, in front of a block or the
  end-of-stream marker (`decodeStreams` = header + `midStream`: `decodeStreams_succ`), and
  `tailStream`, after a stream and its padding (the trailing-data rule); their one-step equations
  and inversions, and the link between the two combined-CRC formulas (`crcUpd_combine`).
-/
import LbzVerif.Lemmas.SpecBasic
import LbzVerif.Lemmas.ExpandParse

namespace LbzVerif.Lemmas.ExpandSpec
open LbzVerif.Basic LbzVerif.Spec.Bzip2

/-- `decodeStreams` after the padding of a stream: trailing-data rule. -/
def tailStream (fS fB pos : Nat) (bits : Bits) (acc : Acc) : Except Reject Acc :=
  match takeNat 32 bits with
  | none => .ok acc
  | some (w, rest) =>
    match headerLevel w with
    | none => .ok acc
    | some level' => decodeStreams false fS fB level' pos rest acc

/-- `decodeStreams` inside a stream: the block loop with `fb` units of fuel
from offset `pos` with combined CRC `cc`, then padding and `tailStream`. -/
def midStream (fS fB fb level pos : Nat) (bits : Bits) (cc : UInt32) (acc : Acc) :
    Except Reject Acc :=
  match decodeBlocks false level fb pos bits cc acc.out #[] with
  | .error e => .error e
  | .ok (pos', bits', _, out, _) =>
    tailStream fS fB (pos' + (8 - pos' % 8) % 8) (bits'.drop ((8 - pos' % 8) % 8))
      { out := out, streams := acc.streams }

theorem decodeStreams_succ (fS fB level start : Nat) (bits : Bits) (acc : Acc) :
    decodeStreams false (fS + 1) fB level start bits acc =
      midStream fS fB fB level (start + 32) bits 0 acc := by
  rw [decodeStreams]
  unfold midStream tailStream
  cases decodeBlocks false level fB (start + 32) bits 0 acc.out #[] with
  | error e => rfl
  | ok r =>
    obtain ⟨pos, bits', stored, out, reps⟩ := r
    simp only [Bool.false_eq_true, if_false]
    rfl

theorem midStream_succ (fS fB fb level pos : Nat) (bits : Bits) (cc : UInt32) (acc : Acc) :
    midStream fS fB (fb + 1) level pos bits cc acc =
      match takeNat 48 bits with
      | none => .error .truncated
      | some (mg, b1) =>
        if mg = blockMagic then
          match parseBlock level pos b1 with
          | .error e => .error e
          | .ok (b, b2) =>
            match decodeBlock b with
            | .error e => .error e
            | .ok d =>
              midStream fS fB fb level b.endBit b2 (combine cc (UInt32.ofNat b.storedCrc))
                { out := acc.out ++ d.bytes, streams := acc.streams }
        else if mg = eosMagic then
          match takeNat 32 b1 with
          | none => .error .truncated
          | some (stored, b2) =>
            if stored = cc.toNat then
              tailStream fS fB (pos + 80 + (8 - (pos + 80) % 8) % 8)
                (b2.drop ((8 - (pos + 80) % 8) % 8)) acc
            else .error .streamCrc
        else .error .badBlockMagic := by
  unfold midStream
  rw [decodeBlocks]
  cases takeNat 48 bits with
  | none => rfl
  | some r =>
    obtain ⟨mg, b1⟩ := r
    dsimp only
    by_cases hb : mg = blockMagic
    · simp only [if_pos hb]
      cases parseBlock level pos b1 with
      | error e => rfl
      | ok r =>
        obtain ⟨b, b2⟩ := r
        dsimp only [Bool.false_eq_true, if_false]
        cases decodeBlock b <;> rfl
    · simp only [if_neg hb]
      by_cases he : mg = eosMagic
      · simp only [if_pos he]
        cases takeNat 32 b1 with
        | none => rfl
        | some r =>
          obtain ⟨stored, b2⟩ := r
          dsimp only
          by_cases hc : stored = cc.toNat
          · simp only [if_pos hc]
          · simp only [if_neg hc]
      · simp only [if_neg he]

theorem midStream_ok_cases (fS fB fb level pos : Nat) (bits : Bits) (cc : UInt32) (acc a : Acc)
    (h : midStream fS fB fb level pos bits cc acc = .ok a) :
    ∃ fb', fb = fb' + 1 ∧
      ((∃ b1 b b2 d, takeNat 48 bits = some (blockMagic, b1) ∧
          parseBlock level pos b1 = .ok (b, b2) ∧ decodeBlock b = .ok d ∧
          midStream fS fB fb' level b.endBit b2 (combine cc (UInt32.ofNat b.storedCrc))
            { out := acc.out ++ d.bytes, streams := acc.streams } = .ok a) ∨
       (∃ b1 b2, takeNat 48 bits = some (eosMagic, b1) ∧ takeNat 32 b1 = some (cc.toNat, b2) ∧
          tailStream fS fB (pos + 80 + (8 - (pos + 80) % 8) % 8)
            (b2.drop ((8 - (pos + 80) % 8) % 8)) acc = .ok a)) := by
  cases fb with
  | zero =>
    unfold midStream at h
    rw [decodeBlocks] at h
    cases h
  | succ fb' =>
    refine ⟨fb', rfl, ?_⟩
    rw [midStream_succ] at h
    split at h
    · cases h
    rename_i mg b1 h48
    split at h
    · rename_i hb
      subst hb
      split at h
      · cases h
      rename_i b b2 hp
      split at h
      · cases h
      rename_i d hd
      exact .inl ⟨b1, b, b2, d, h48, hp, hd, h⟩
    split at h
    · rename_i he
      subst he
      split at h
      · cases h
      rename_i stored b2 h32
      split at h
      · rename_i hc
        subst hc
        exact .inr ⟨b1, b2, h48, h32, h⟩
      · cases h
    · cases h

theorem tailStream_ok_cases (fS fB pos : Nat) (bits : Bits) (acc a : Acc)
    (h : tailStream fS fB pos bits acc = .ok a) :
    (a = acc ∧ ∀ w rest, takeNat 32 bits = some (w, rest) → headerLevel w = none) ∨
    (∃ w rest level' fS', takeNat 32 bits = some (w, rest) ∧ headerLevel w = some level' ∧
      fS = fS' + 1 ∧ midStream fS' fB fB level' (pos + 32) rest 0 acc = .ok a) := by
  unfold tailStream at h
  split at h
  · rename_i h32
    cases h
    exact .inl ⟨rfl, fun w rest e => by rw [h32] at e; cases e⟩
  rename_i w rest h32
  split at h
  · rename_i hl
    cases h
    refine .inl ⟨rfl, fun w' rest' e => ?_⟩
    rw [h32, Option.some.injEq, Prod.mk.injEq] at e
    rw [← e.1]
    exact hl
  rename_i level' hl
  cases fS with
  | zero => rw [decodeStreams] at h; cases h
  | succ fS' =>
    rw [decodeStreams_succ] at h
    exact .inr ⟨w, rest, level', fS', h32, hl, rfl, h⟩

theorem tailStream_none (fS fB pos : Nat) (bits : Bits) (acc : Acc)
    (h : ∀ w rest, takeNat 32 bits = some (w, rest) → headerLevel w = none) :
    tailStream fS fB pos bits acc = .ok acc := by
  unfold tailStream
  cases h32 : takeNat 32 bits with
  | none => rfl
  | some r =>
    obtain ⟨w, rest⟩ := r
    simp only
    rw [h w rest h32]

theorem tailStream_header (fS fB pos : Nat) (bits rest : Bits) (acc : Acc) (w level' : Nat)
    (h32 : takeNat 32 bits = some (w, rest)) (hl : headerLevel w = some level') :
    tailStream (fS + 1) fB pos bits acc = midStream fS fB fB level' (pos + 32) rest 0 acc := by
  unfold tailStream
  rw [h32]
  simp only
  rw [hl]
  simp only
  rw [decodeStreams_succ]

theorem crcUpd_combine (cc : UInt32) (crc : Nat) (hc : crc < 4294967296) :
    Lemmas.ExpandParse.crcUpd cc.toNat crc = (combine cc (UInt32.ofNat crc)).toNat := by
  unfold Lemmas.ExpandParse.crcUpd combine
  rw [UInt32.toNat_xor, UInt32.toNat_or, UInt32.toNat_shiftLeft, UInt32.toNat_shiftRight]
  have h1 : (UInt32.ofNat crc).toNat = crc := by
    rw [UInt32.toNat_ofNat']; exact Nat.mod_eq_of_lt hc
  rw [h1]
  have e1 : (1 : UInt32).toNat % 32 = 1 := by decide
  have e31 : (31 : UInt32).toNat % 32 = 31 := by decide
  rw [e1, e31]
  have hlt := cc.toNat_lt
  -- `or` = `xor` on disjoint bits
  have hdisj : (cc.toNat <<< 1) % 2 ^ 32 ||| cc.toNat >>> 31 =
      (cc.toNat <<< 1) % 2 ^ 32 ^^^ cc.toNat >>> 31 := by
    apply Nat.eq_of_testBit_eq
    intro i
    rw [Nat.testBit_or, Nat.testBit_xor, Nat.testBit_mod_two_pow, Nat.testBit_shiftLeft,
      Nat.testBit_shiftRight]
    by_cases hi : i = 0
    · subst hi; simp
    · have : cc.toNat.testBit (31 + i) = false :=
        Nat.testBit_lt_two_pow (Nat.lt_of_lt_of_le hlt (Nat.pow_le_pow_right (by omega) (by omega)))
      rw [this]; simp
  show ((cc.toNat <<< 1 % 4294967296 ^^^ cc.toNat >>> 31) ^^^ crc) % 4294967296 = _
  have e32 : (4294967296 : Nat) = 2 ^ 32 := by decide
  rw [e32, ← hdisj]
  apply Nat.mod_eq_of_lt
  apply Nat.xor_lt_two_pow
  · apply Nat.or_lt_two_pow
    · exact Nat.mod_lt _ (by decide)
    · calc cc.toNat >>> 31 ≤ cc.toNat := Nat.shiftRight_le _ _
        _ < 2 ^ 32 := hlt
  · rw [← e32]; exact hc

end LbzVerif.Lemmas.ExpandSpec
