/-
  Lemmas.TransmitGroups — "Transmit prefix codes" read back by the reference
  decoder's `decodeGroups`, GIVEN that the reference symbol decoder reads each
  code word of the tables in use (`SymOK`, the hypothesis of
  `parse_transmit_partial`).
-/
import LbzVerif.Lemmas.TransmitParse
import LbzVerif.Lemmas.ListSum

namespace LbzVerif.Lemmas.TransmitGroups
open LbzVerif LbzVerif.Basic LbzVerif.Model.Canon LbzVerif.Model.Transmit
open LbzVerif.Lemmas.TransmitLen LbzVerif.Lemmas.TransmitBits LbzVerif.Lemmas.TransmitParse
open LbzVerif.Lemmas.ListAux LbzVerif.Spec.Bzip2

/-- The reference symbol decoder, prepared from the lengths `B`, reads the
    code word (`B[i]` low bits of `L[i]`) of every symbol `i`. -/
def SymOK (B L : List Nat) : Prop :=
  ∀ i, i < B.length → ∀ (pos : Nat) (rest : Bits),
    decodeSym (mkCode B) pos (send (B.getD i 0) (L.getD i 0) ++ rest) =
      .ok (i, pos + B.getD i 0, rest)

/-- Code words of a symbol list under one table. -/
def codeBits (B L : List Nat) (syms : List Nat) : Bits :=
  syms.flatMap (fun mv => send (B.getD mv 0) (L.getD mv 0))

theorem codeBits_sentinel (B L : List Nat) (p : Nat) :
    codeBits B L (List.replicate p B.length) = [] := by
  unfold codeBits
  rw [List.flatMap_eq_nil_iff]
  intro x hx
  rw [List.eq_of_mem_replicate hx]
  have : B.getD B.length 0 = 0 := by simp [List.getD_eq_getElem?_getD]
  rw [this]; rfl

theorem codeBits_append (B L : List Nat) (x y : List Nat) :
    codeBits B L (x ++ y) = codeBits B L x ++ codeBits B L y := by
  simp [codeBits, List.flatMap_append]

theorem codeBits_cons (B L : List Nat) (x : Nat) (t : List Nat) :
    codeBits B L (x :: t) = send (B.getD x 0) (L.getD x 0) ++ codeBits B L t :=
  List.flatMap_cons

theorem decodeGroup_cons (B L : List Nat) (h : SymOK B L) (eob x : Nat) (hx : x < B.length)
    (hne : x ≠ eob) (k : Nat) (t : List Nat) (pos : Nat) (rest : Bits) (acc : Array Nat) :
    decodeGroup (mkCode B) eob (k + 1) pos (codeBits B L (x :: t) ++ rest) acc =
      decodeGroup (mkCode B) eob k (pos + B.getD x 0) (codeBits B L t ++ rest) (acc.push x) := by
  rw [decodeGroup, codeBits_cons, List.append_assoc, h x hx]
  simp only [beq_iff_eq, hne, if_false]

theorem codeBits_cons_length (B L : List Nat) (x : Nat) (t : List Nat) :
    (codeBits B L (x :: t)).length = B.getD x 0 + (codeBits B L t).length := by
  rw [codeBits_cons, List.length_append, send_length]

theorem decodeGroup_plain (B L : List Nat) (h : SymOK B L) (eob : Nat) (syms : List Nat)
    (hs : ∀ x ∈ syms, x < B.length ∧ x ≠ eob) (pos : Nat) (rest : Bits) (acc : Array Nat) :
    decodeGroup (mkCode B) eob syms.length pos (codeBits B L syms ++ rest) acc =
      .ok (false, pos + (codeBits B L syms).length, rest, acc ++ syms.toArray) := by
  induction syms generalizing pos acc with
  | nil =>
    rw [Array.append_empty]
    rfl
  | cons x t ih =>
    have hx := hs x (List.mem_cons_self ..)
    rw [List.length_cons, decodeGroup_cons B L h eob x hx.1 hx.2,
      ih (fun y hy => hs y (List.mem_cons_of_mem _ hy)), codeBits_cons_length, Nat.add_assoc,
      List.push_append_toArray]

theorem decodeGroup_eob (B L : List Nat) (h : SymOK B L) (eob : Nat) (he : eob < B.length)
    (pre : List Nat) (hs : ∀ x ∈ pre, x < B.length ∧ x ≠ eob) (k : Nat) (hk : pre.length < k)
    (pos : Nat) (rest : Bits) (acc : Array Nat) :
    decodeGroup (mkCode B) eob k pos (codeBits B L (pre ++ [eob]) ++ rest) acc =
      .ok (true, pos + (codeBits B L (pre ++ [eob])).length, rest, acc ++ pre.toArray) := by
  obtain ⟨k', rfl⟩ : ∃ k', k = k' + 1 := ⟨k - 1, by omega⟩
  induction pre generalizing pos acc k' with
  | nil =>
    rw [List.nil_append, codeBits_cons_length, decodeGroup, codeBits_cons, List.append_assoc,
      h eob he, Array.append_empty]
    simp only [beq_self_eq_true, if_true]
    rfl
  | cons x t ih =>
    have hx := hs x (List.mem_cons_self ..)
    rw [List.length_cons] at hk
    obtain ⟨k'', rfl⟩ : ∃ k'', k' = k'' + 1 := ⟨k' - 1, by omega⟩
    rw [List.cons_append, decodeGroup_cons B L h eob x hx.1 hx.2,
      ih (fun y hy => hs y (List.mem_cons_of_mem _ hy)) _ _ k'' (by omega), codeBits_cons_length,
      Nat.add_assoc, List.push_append_toArray]

/-- `f s group` for each selector `s` and the next 50 symbols. -/
def encG (f : Nat → List Nat → Bits) : List Nat → List Nat → Bits
  | [], _ => []
  | s :: ss, syms => f s (syms.take 50) ++ encG f ss (syms.drop 50)

theorem flatMap_chunks (f : Nat → List Nat → Bits) (sels syms : List Nat) :
    (List.range sels.length).flatMap
        (fun gr => f (sels.getD gr 0) ((syms.drop (50 * gr)).take 50)) = encG f sels syms := by
  induction sels generalizing syms with
  | nil => rfl
  | cons s ss ih =>
    rw [List.length_cons, List.range_succ_eq_map, List.flatMap_cons, List.flatMap_map, encG,
      ← ih (syms.drop 50)]
    congr 1
    apply flatMap_congr'
    intro gr _
    simp only [Nat.succ_eq_add_one, List.getD_cons_succ, List.drop_drop]
    congr 3
    omega

/-- The code words of one group under table `s`. -/
def groupF (b : EncBlock) (s : Nat) (g : List Nat) : Bits :=
  codeBits (b.lens.getD s []) (b.codes.getD s []) g

theorem groups_eq (b : EncBlock) (h : b.selectors.length = b.ns) :
    (List.range b.ns).flatMap (groupBits b) = encG (groupF b) b.selectors b.padded := by
  rw [← h, ← flatMap_chunks]
  rfl

theorem kraftComplete_of_complete (l : List Nat) (h : Spec.Prefix.Complete l) :
    kraftComplete l = true := by
  unfold kraftComplete Spec.Bzip2.kraftSum
  rw [ListSum.foldl_add_sum (fun l => 2 ^ (maxLen - l)) l 0]
  have := h.1
  unfold Spec.Prefix.kraft20 Spec.Prefix.width at this
  simp only [maxLen, Nat.zero_add, beq_iff_eq]
  exact this

/-- `decodeGroups` over the real selectors `sels` (followed by ignored extra
    selectors `ex`): symbols `pre`, the end-of-block symbol, `p < 50` sentinel
    symbols (alphabet size `as`, `eob = as − 1`). -/
theorem decodeGroups_enc (b : EncBlock) (as : Nat)
    (hlen : ∀ l ∈ b.lens, l.length = as) (hcomp : ∀ l ∈ b.lens, Spec.Prefix.Complete l)
    (sels : List Nat) (hsel : ∀ s ∈ sels, s < b.lens.length)
    (hsym : ∀ s ∈ sels, SymOK (b.lens.getD s []) (b.codes.getD s []))
    (has : 1 ≤ as)
    (pre : List Nat) (hpre : ∀ x ∈ pre, x < as ∧ x ≠ as - 1) (p : Nat) (hp : p < 50)
    (hl : sels.length * 50 = pre.length + 1 + p) (ex : List Nat)
    (nUsed pos : Nat) (rest : Bits) (acc : Array Nat) :
    decodeGroups (b.lens.map mkCode).toArray (as - 1) (sels ++ ex) nUsed pos
        (encG (groupF b) sels (pre ++ [as - 1] ++ List.replicate p as) ++ rest) acc =
      .ok (nUsed + sels.length,
           pos + (encG (groupF b) sels (pre ++ [as - 1] ++ List.replicate p as)).length,
           rest, acc ++ pre.toArray) := by
  induction sels generalizing pre nUsed pos acc with
  | nil => simp at hl; omega
  | cons s ss ih =>
    have hs := hsel s (List.mem_cons_self ..)
    have hB := hlen _ (getD_mem [] hs)
    have hok := hsym s (List.mem_cons_self ..)
    have hget : (b.lens.map mkCode).toArray[s]? = some (mkCode (b.lens.getD s [])) := by
      rw [List.getElem?_toArray, List.getElem?_map, List.getElem?_eq_getElem hs, getD_of_lt [] hs]
      rfl
    have hcpl : (mkCode (b.lens.getD s [])).complete = true :=
      kraftComplete_of_complete _ (hcomp _ (getD_mem [] hs))
    rw [List.cons_append, decodeGroups, hget]
    simp only [hcpl, Bool.not_true, Bool.false_eq_true, if_false]
    rw [encG, List.append_assoc]
    by_cases hlong : 50 ≤ pre.length
    · -- a full group of ordinary symbols
      have e1 : (pre ++ [as - 1] ++ List.replicate p as).take 50 = pre.take 50 := by
        rw [List.append_assoc, List.take_append_of_le_length hlong]
      have e2 : (pre ++ [as - 1] ++ List.replicate p as).drop 50 =
          pre.drop 50 ++ [as - 1] ++ List.replicate p as := by
        rw [List.append_assoc, List.drop_append_of_le_length hlong, List.append_assoc]
      have hlt : (pre.take 50).length = 50 := by rw [List.length_take]; omega
      rw [e1, e2]
      have := decodeGroup_plain _ _ hok (as - 1) (pre.take 50)
        (fun x hx => by
          have := hpre x (List.mem_of_mem_take hx)
          rw [hB]; exact this) pos
        (encG (groupF b) ss (pre.drop 50 ++ [as - 1] ++ List.replicate p as) ++ rest) acc
      rw [hlt] at this
      unfold groupF at this ⊢
      simp only [groupSize]
      rw [this]
      simp only
      have ih' := ih (fun x hx => hsel x (List.mem_cons_of_mem _ hx))
        (fun x hx => hsym x (List.mem_cons_of_mem _ hx)) (pre.drop 50)
        (fun x hx => hpre x (List.mem_of_mem_drop hx))
        (by simp only [List.length_cons, List.length_drop] at hl ⊢; omega)
        (nUsed + 1) (pos + (codeBits (b.lens.getD s []) (b.codes.getD s []) (pre.take 50)).length)
        (acc ++ (pre.take 50).toArray)
      unfold groupF at ih'
      rw [ih', Array.append_assoc, @List.append_toArray _ (pre.take 50), List.take_append_drop,
        List.length_cons, List.length_append, Nat.add_assoc nUsed, Nat.add_comm 1,
        Nat.add_assoc pos]
    · -- the last group
      have hss : ss = [] := by
        cases ss with
        | nil => rfl
        | cons _ _ => simp only [List.length_cons] at hl; omega
      subst hss
      simp only [List.length_cons, List.length_nil] at hl
      have e1 : (pre ++ [as - 1] ++ List.replicate p as).take 50 =
          pre ++ [as - 1] ++ List.replicate p as := by
        apply List.take_of_length_le
        simp; omega
      rw [e1, encG, List.nil_append]
      unfold groupF
      rw [codeBits_append, ← hB, codeBits_sentinel, List.append_nil, hB]
      have := decodeGroup_eob _ _ hok (as - 1) (by rw [hB]; omega) pre
        (fun x hx => by rw [hB]; exact hpre x hx) 50 (by omega) pos rest acc
      simp only [groupSize]
      rw [this]
      simp

end LbzVerif.Lemmas.TransmitGroups
