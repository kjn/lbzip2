/-
  Lemmas.SpecTailLink — the stages after the inverse BWT against the oracle.  The final
  run-length decoding is written down four times (the fourth, `Lemmas.Emit.unOut` / `unBad`, is
  tied to the first by `Lemmas.Emit.go_eq`), the derandomisation twice; they are the same
  functions:

  * `Spec.UnRle1.go` (Model/Emit.lean) = `Spec.decAux` (C04,
    Spec/Rle1.lean) — literally the same recursion;
  * `Spec.Bzip2.unRle1Go` (oracle; array accumulator, `Except`) = the above,
    with `none` ↦ `.error .missingCount`;
  * `Spec.Bzip2.derandGo` (oracle; array accumulator, `randTab`) =
    `Spec.Ibwt.derandGo Gen.randTable`;
  * `crc_link`: the CRC `emit()` leaves in `ds->crc` = `Basic.crc32Arr` of the bytes.
-/
import LbzVerif.Spec.Bzip2
import LbzVerif.Spec.Rle1
import LbzVerif.Model.Emit
import LbzVerif.Model.Ibwt
import LbzVerif.Lemmas.SpecMtfLink

namespace LbzVerif.Lemmas.SpecTailLink

theorem go_eq_decAux : ∀ (xs : List UInt8) (p : UInt8) (k : Nat),
    Spec.UnRle1.go p k xs = Spec.decAux p k xs := by
  intro xs
  induction xs with
  | nil => intro p k; rfl
  | cons b bs ih =>
    intro p k
    simp only [Spec.UnRle1.go, Spec.decAux, ih]

theorem unRle1_refs_agree (xs : List UInt8) : Spec.UnRle1.unRle1 xs = Spec.unRle1 xs :=
  go_eq_decAux xs 0 0

def ofOpt (acc : Array UInt8) : Option (List UInt8) → Except Spec.Bzip2.Reject (Array UInt8)
  | none => .error .missingCount
  | some out => .ok (acc ++ out.toArray)

theorem ofOpt_map (acc acc' : Array UInt8) (f : List UInt8 → List UInt8)
    (h : ∀ out, acc ++ (f out).toArray = acc' ++ out.toArray) (o : Option (List UInt8)) :
    ofOpt acc (o.map f) = ofOpt acc' o := by
  cases o with
  | none => rfl
  | some out => simp only [Option.map_some, ofOpt, h]

theorem unRle1Go_eq : ∀ (bs : List UInt8) (last : UInt8) (cnt : Nat) (acc : Array UInt8),
    Spec.Bzip2.unRle1Go bs last cnt acc = ofOpt acc (Spec.UnRle1.go last cnt bs) := by
  intro bs
  induction bs with
  | nil =>
    intro last cnt acc
    by_cases h : cnt = 4 <;> simp [Spec.Bzip2.unRle1Go, Spec.UnRle1.go, ofOpt, h]
  | cons b bs ih =>
    intro last cnt acc
    have hpush : ∀ out : List UInt8, acc ++ (b :: out).toArray = acc.push b ++ out.toArray :=
      fun out => by simp
    simp only [Spec.Bzip2.unRle1Go, Spec.UnRle1.go, ih]
    by_cases h4 : cnt = 4
    · simp only [h4, beq_self_eq_true, if_true]
      exact (ofOpt_map _ _ _ (fun out => Array.toList_inj.mp (by simp [SpecMtfLink.pushN_toList])) _).symm
    · have h4' : (cnt == 4) = false := by simpa using h4
      simp only [h4', h4, if_false, Bool.false_eq_true]
      by_cases he : cnt ≠ 0 ∧ b = last
      · have he' : (cnt != 0 && b == last) = true := by simpa using he
        simp only [he', if_true, if_pos he]
        exact (ofOpt_map _ _ _ hpush _).symm
      · have he' : (cnt != 0 && b == last) = false := by simpa using he
        simp only [he', Bool.false_eq_true, if_false, if_neg he]
        exact (ofOpt_map _ _ _ hpush _).symm

theorem bzip2_unRle1_eq (bs : Array UInt8) :
    Spec.Bzip2.unRle1 bs =
      match Spec.UnRle1.unRle1 bs.toList with
      | none => .error .missingCount
      | some out => .ok out.toArray := by
  unfold Spec.Bzip2.unRle1 Spec.UnRle1.unRle1
  rw [unRle1Go_eq]
  cases Spec.UnRle1.go 0 0 bs.toList <;> simp [ofOpt]

theorem randTab_getD (t : Nat) : Spec.Bzip2.randTab.getD t 0 = Gen.randTable.getD t 0 := by
  simp [Spec.Bzip2.randTab, Array.getD_eq_getD_getElem?, List.getD_eq_getElem?_getD]

theorem derandGo_eq : ∀ (bs : List UInt8) (toGo tpos : Nat) (acc : Array UInt8),
    (Spec.Bzip2.derandGo bs toGo tpos acc).toList =
      acc.toList ++ Spec.Ibwt.derandGo Gen.randTable toGo tpos bs := by
  intro bs
  induction bs with
  | nil => intro toGo tpos acc; simp [Spec.Bzip2.derandGo, Spec.Ibwt.derandGo]
  | cons b bs ih =>
    intro toGo tpos acc
    simp only [Spec.Bzip2.derandGo, Spec.Ibwt.derandGo, ih, randTab_getD]
    by_cases h : toGo = 0
    · simp [h]
    · simp [h]

/-- `Model.Emit.crcStep` is `Basic.crcStep` written out again, so the two folds are one. -/
theorem crcBytes_eq_crcRun (s : UInt32) (bs : List UInt8) :
    Model.Emit.crcBytes s bs = Basic.crcRun s bs := rfl

theorem crc_link (bs : List UInt8) :
    Model.Emit.crcBytes 0xFFFFFFFF bs ^^^ 0xFFFFFFFF = Basic.crc32Arr bs.toArray := by
  have h2 : (0xFFFFFFFF : UInt32) = -1 := by decide
  rw [Basic.crc32Arr_eq, Basic.crc32, crcBytes_eq_crcRun]
  show Basic.crcRun 0xFFFFFFFF bs ^^^ 0xFFFFFFFF = ~~~ Basic.crcRun 0xFFFFFFFF bs
  rw [h2, UInt32.xor_neg_one]

end LbzVerif.Lemmas.SpecTailLink
