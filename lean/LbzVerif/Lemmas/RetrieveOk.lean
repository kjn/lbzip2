/-
  Lemmas.RetrieveOk — the tie between the retriever's per-symbol action
  `symStep` / `eobFinish` and `Model.MtfDec.consume` (for which
  `Props.C05.Mtf.runAccum_sound` is proved).
-/
import LbzVerif.Model.Retrieve

namespace LbzVerif.Lemmas.RetrieveOk
open LbzVerif LbzVerif.Model.Retrieve
open LbzVerif.Model.MtfDec (RunSt)
open LbzVerif.Model

/-- The retriever's actions on a list of decoded symbols (internal
numbering): `symStep` per symbol; at EOB the overflow test and the flush of
`eobFinish`; `unterm` when the symbols run out. -/
def symLoop : RunSt → List Nat → MtfDec.Res
  | _, [] => .unterm
  | rs, s :: ss =>
    match symStep rs s with
    | .eob =>
      if rs.run > Gen.MAX_BLOCK_SIZE - rs.n then .overflow
      else .ok (MtfDec.flush rs).out.reverse (MtfDec.flush rs).ftab
    | .stop r => if r = .err Gen.ERR_OVERFLOW then .overflow else .ub
    | .cont rs' => symLoop rs' ss

theorem symLoop_eq_consume : ∀ (ss : List Nat) (rs : RunSt),
    symLoop rs ss = MtfDec.consume Gen.MAX_BLOCK_SIZE rs ss := by
  intro ss
  induction ss with
  | nil => intro rs; rfl
  | cons s ss ih =>
    intro rs
    rw [symLoop, MtfDec.consume]
    unfold symStep
    by_cases h0 : s = 0
    · simp only [h0, if_true]
    · simp only [h0, if_false]
      by_cases h1 : 256 ≤ s ∧ rs.run ≤ Gen.MAX_BLOCK_SIZE
      · simp only [h1, and_self, if_true]
        by_cases h2 : 32 ≤ rs.shift
        · simp [h2]
        · simp only [h2, if_false]
          exact ih _
      · simp only [h1, if_false]
        by_cases h3 : rs.run > Gen.MAX_BLOCK_SIZE - rs.n
        · simp [h3]
        · simp only [h3, if_false]
          cases MtfDec.mtfOne (MtfDec.flush rs).sl (UInt8.ofNat s) with
          | none => simp
          | some p =>
            obtain ⟨b, sl'⟩ := p
            simp only
            exact ih _

end LbzVerif.Lemmas.RetrieveOk
