/-
  Lemmas.CrcFlipMain — the stored CRC fields of a bzip2 file, as found by the
  reference walk (`crcFields`), and: flipping any bit of any of them in a file
  the reference accepts makes the reference reject, with the CRC reason
  (`decodeFile_flip`).
-/
import LbzVerif.Lemmas.ExpandSpec
import LbzVerif.Lemmas.ExpandTop
import LbzVerif.Lemmas.ExpandLocal
import LbzVerif.Lemmas.CrcFlipBits

namespace LbzVerif.Lemmas.CrcFlipMain
open LbzVerif.Basic LbzVerif.Spec.Bzip2
open LbzVerif.Lemmas.ExpandSpec LbzVerif.Lemmas.ExpandLocal
open LbzVerif.Lemmas.CrcFlipBits

/-- A stored CRC field: `pos` = bit offset (from the start of the file, bit 0 = most significant
bit of byte 0) of the first of its 32 bits. -/
inductive Field
  /-- the CRC of a block: the 32 bits after the block's 48-bit magic -/
  | block (pos : Nat)
  /-- the combined CRC of a stream: the 32 bits after the 48-bit end-of-stream magic -/
  | stream (pos : Nat)
  deriving DecidableEq, Repr

def Field.pos : Field → Nat
  | .block p => p
  | .stream p => p

def Field.reason : Field → Reject
  | .block _ => .blockCrc
  | .stream _ => .streamCrc

/-- The CRC fields the reference walk meets from a given point on.  `mode = some level`: inside a stream of
that level, `bits` (first bit at offset `pos`) start at a block magic or at the end-of-stream magic;
`mode = none`: after a stream and its padding.  Same steps, sub-parsers and offsets as
`Spec.Bzip2.decodeStreams` / `decodeBlocks`; one unit of fuel per step (a step consumes at least 32 bits). -/
def fieldsGo : Nat → Option Nat → Nat → Bits → List Field
  | 0, _, _, _ => []
  | n + 1, some level, pos, bits =>
    match takeNat 48 bits with
    | none => []
    | some (mg, b1) =>
      if mg = blockMagic then
        match parseBlock level pos b1 with
        | .error _ => []
        | .ok (b, b2) => .block (pos + 48) :: fieldsGo n (some level) b.endBit b2
      else if mg = eosMagic then
        match takeNat 32 b1 with
        | none => []
        | some (_, b2) =>
          .stream (pos + 48) ::
            fieldsGo n none (pos + 80 + (8 - (pos + 80) % 8) % 8) (b2.drop ((8 - (pos + 80) % 8) % 8))
      else []
  | n + 1, none, pos, bits =>
    match takeNat 32 bits with
    | none => []
    | some (w, rest) =>
      match headerLevel w with
      | none => []
      | some level => fieldsGo n (some level) (pos + 32) rest

/-- The stored CRC fields of a file, in file order: one `block` entry per block of every
stream, one `stream` entry per stream (also for streams without blocks). -/
def crcFields (x : List UInt8) : List Field :=
  match takeNat 32 (bytesToBits x) with
  | none => []
  | some (w, bits) =>
    match headerLevel w with
    | none => []
    | some level => fieldsGo (8 * x.length + 1) (some level) 32 bits

/-- `crcFields` on the bits as `flatMap`: the form to evaluate on a concrete file, so that the
kernel works on the list and not on the array-based `bytesToBits`. -/
theorem crcFields_flatMap (x : List UInt8) : crcFields x =
    match takeNat 32 (x.flatMap byteToBits) with
    | none => []
    | some (w, bits) =>
      match headerLevel w with
      | none => []
      | some level => fieldsGo (8 * x.length + 1) (some level) 32 bits := by
  rw [← bytesToBits_eq]
  rfl

def Field.magic : Field → Nat
  | .block _ => blockMagic
  | .stream _ => eosMagic

/-- One step of `fieldsGo`, taken out so that `fieldsGo_magic` and `fieldsGo_fuel` share one case analysis
(`fieldsStep_some`). -/
def fieldsStep : Option Nat → Nat → Bits → Option (List Field × Option Nat × Nat × Bits)
  | some level, pos, bits =>
    match takeNat 48 bits with
    | none => none
    | some (mg, b1) =>
      if mg = blockMagic then
        match parseBlock level pos b1 with
        | .error _ => none
        | .ok (b, b2) => some ([.block (pos + 48)], some level, b.endBit, b2)
      else if mg = eosMagic then
        match takeNat 32 b1 with
        | none => none
        | some (_, b2) =>
          some ([.stream (pos + 48)], none, pos + 80 + (8 - (pos + 80) % 8) % 8,
            b2.drop ((8 - (pos + 80) % 8) % 8))
      else none
  | none, pos, bits =>
    match takeNat 32 bits with
    | none => none
    | some (w, rest) =>
      match headerLevel w with
      | none => none
      | some level => some ([], some level, pos + 32, rest)

theorem fieldsGo_succ (n : Nat) (mode : Option Nat) (pos : Nat) (bits : Bits) :
    fieldsGo (n + 1) mode pos bits =
      match fieldsStep mode pos bits with
      | none => []
      | some (fs, mode', pos', bits') => fs ++ fieldsGo n mode' pos' bits' := by
  cases mode with
  | some level =>
    simp only [fieldsGo, fieldsStep]
    split
    · rfl
    · split
      · split <;> rfl
      · split
        · split <;> rfl
        · rfl
  | none =>
    simp only [fieldsGo, fieldsStep]
    split
    · rfl
    · split <;> rfl

theorem fieldsStep_some {mode mode' : Option Nat} {pos pos' : Nat} {bits bits' : Bits}
    {fs : List Field} (h : fieldsStep mode pos bits = some (fs, mode', pos', bits')) :
    ∃ d, pos' = pos + d ∧ bits' = bits.drop d ∧ bits'.length < bits.length ∧
      ∀ f ∈ fs, f.pos = pos + 48 ∧ 80 ≤ bits.length ∧
        takeNat 48 bits = some (f.magic, bits.drop 48) := by
  cases mode with
  | some level =>
    simp only [fieldsStep] at h
    split at h
    · cases h
    rename_i mg b1 h48
    have hlen48 := takeNat_length h48
    have hb1 := takeNat_drop h48
    rw [h48, ← hb1]
    split at h
    · rename_i hb
      subst hb
      split at h
      · cases h
      rename_i b b2 hp
      cases h
      obtain ⟨C, hC, h73, he, _⟩ := parseBlock_reads.2 _ _ hp
      have hl : b1.length = C.length + bits'.length := by rw [hC, List.length_append]
      refine ⟨48 + C.length, by omega, ?_, by omega, ?_⟩
      · rw [← List.drop_drop, ← hb1, hC, List.drop_append_length]
      · intro f hf
        cases hf with
        | head => exact ⟨rfl, by omega, rfl⟩
        | tail _ hf => cases hf
    · split at h
      · rename_i he
        subst he
        split at h
        · cases h
        rename_i st b2 h32
        cases h
        have hlen32 := takeNat_length h32
        refine ⟨80 + (8 - (pos + 80) % 8) % 8, by omega, ?_, by rw [List.length_drop]; omega, ?_⟩
        · rw [takeNat_drop h32, hb1, List.drop_drop, List.drop_drop]
          congr 1
          omega
        · intro f hf
          cases hf with
          | head => exact ⟨rfl, by omega, rfl⟩
          | tail _ hf => cases hf
      · cases h
  | none =>
    simp only [fieldsStep] at h
    split at h
    · cases h
    rename_i w rest h32
    split at h
    · cases h
    cases h
    have hlen32 := takeNat_length h32
    exact ⟨32, rfl, takeNat_drop h32, by omega, fun f hf => by cases hf⟩

def FlipRejected (n : Nat) : Prop :=
  (∀ (fS fB fb level pos : Nat) (bits : Bits) (cc : UInt32) (A a : Acc),
    midStream fS fB fb level pos bits cc A = .ok a →
    ∀ f ∈ fieldsGo n (some level) pos bits, pos + 48 ≤ f.pos ∧
      ∀ k, k < 32 →
        midStream fS fB fb level pos (flipAt bits (f.pos - pos + k)) cc A = .error f.reason) ∧
  (∀ (fS fB pos : Nat) (bits : Bits) (A a : Acc),
    tailStream fS fB pos bits A = .ok a →
    ∀ f ∈ fieldsGo n none pos bits, pos + 80 ≤ f.pos ∧
      ∀ k, k < 32 →
        tailStream fS fB pos (flipAt bits (f.pos - pos + k)) A = .error f.reason)

/-- Along the walk: a flip behind the current block / marker / header leaves what the reference
reads there unchanged (`parseBlock_local`, `takeNat_flip_after`); a flip inside the current field
changes the 32-bit value (`takeNat_flip`) and nothing else (`parseBlock_crc_indep`), so the
comparison fails (`decodeBlock_crc_changed`). -/
theorem flip_main : ∀ n, FlipRejected n := by
  intro n
  induction n with
  | zero =>
    constructor
    · intro fS fB fb level pos bits cc A a _ f hf
      simp [fieldsGo] at hf
    · intro fS fB pos bits A a _ f hf
      simp [fieldsGo] at hf
  | succ n ih =>
    constructor
    · intro fS fB fb level pos bits cc A a hmid f hf
      obtain ⟨fb', rfl, hcase⟩ := midStream_ok_cases fS fB fb level pos bits cc A a hmid
      rcases hcase with ⟨b1, b, b2, d, h48, hp, hd, hmid'⟩ | ⟨b1, b2, h48, h32, htail⟩
      · have hlen48 := takeNat_length h48
        have hpos := parseBlock_pos level pos b1 b b2 hp
        have hlen2 := (parseBlock_local _ _ _ _ _ hp).length_le
        simp only [fieldsGo, h48, if_true, hp, List.mem_cons] at hf
        rcases hf with rfl | hf
        · refine ⟨Nat.le_refl _, ?_⟩
          intro k hk
          show midStream fS fB (fb' + 1) level pos (flipAt bits (pos + 48 - pos + k)) cc A = _
          have e : pos + 48 - pos + k = 48 + k := by omega
          rw [e]
          have t48 := takeNat_flip_after 48 bits _ b1 h48 k
          obtain ⟨r, hcrc32, _⟩ := parseBlock_crc level pos b1 b b2 hp
          obtain ⟨v', t32, hv'⟩ := takeNat_flip 32 b1 _ r hcrc32 k hk
          obtain ⟨_, hp'⟩ := parseBlock_crc_indep level pos b1 (flipAt b1 k) _ v' r b b2 hcrc32 t32 hp
          rw [midStream_succ]
          simp only [t48, if_true, hp', decodeBlock_crc_changed b d v' hd hv']
          rfl
        · obtain ⟨hb, hflip⟩ := (ih.1 fS fB fb' level b.endBit b2 _ _ a hmid') f hf
          refine ⟨by omega, ?_⟩
          intro k hk
          obtain ⟨Cp, hb1, hloc⟩ := parseBlock_local level pos b1 b b2 hp
          have hCp : Cp.length + b2.length = b1.length := by
            rw [hb1, List.length_append]
          have e : f.pos - pos + k = 48 + (Cp.length + (f.pos - b.endBit + k)) := by omega
          rw [e]
          have t48 := takeNat_flip_after 48 bits _ b1 h48 (Cp.length + (f.pos - b.endBit + k))
          have hp' : parseBlock level pos (flipAt b1 (Cp.length + (f.pos - b.endBit + k))) =
              .ok (b, flipAt b2 (f.pos - b.endBit + k)) := by
            rw [hb1, flipAt_append_right]
            exact hloc _
          rw [midStream_succ]
          simp only [t48, if_true, hp', hd]
          exact hflip k hk
      · have hlen48 := takeNat_length h48
        have hlen32 := takeNat_length h32
        have hmg : eosMagic ≠ blockMagic := by decide
        simp only [fieldsGo, h48, hmg, if_false, if_true, h32, List.mem_cons] at hf
        rcases hf with rfl | hf
        · refine ⟨Nat.le_refl _, ?_⟩
          intro k hk
          show midStream fS fB (fb' + 1) level pos (flipAt bits (pos + 48 - pos + k)) cc A = _
          have e : pos + 48 - pos + k = 48 + k := by omega
          rw [e]
          have t48 := takeNat_flip_after 48 bits _ b1 h48 k
          obtain ⟨v', t32, hv'⟩ := takeNat_flip 32 b1 _ b2 h32 k hk
          rw [midStream_succ]
          simp only [t48, hmg, if_false, if_true, t32, hv']
          rfl
        · obtain ⟨hb, hflip⟩ := (ih.2 fS fB _ _ A a htail) f hf
          refine ⟨by omega, ?_⟩
          intro k hk
          have e : f.pos - pos + k = 48 + (32 + ((8 - (pos + 80) % 8) % 8 +
              (f.pos - (pos + 80 + (8 - (pos + 80) % 8) % 8) + k))) := by omega
          rw [e]
          have t48 := takeNat_flip_after 48 bits _ b1 h48
            (32 + ((8 - (pos + 80) % 8) % 8 + (f.pos - (pos + 80 + (8 - (pos + 80) % 8) % 8) + k)))
          have t32 := takeNat_flip_after 32 b1 _ b2 h32
            ((8 - (pos + 80) % 8) % 8 + (f.pos - (pos + 80 + (8 - (pos + 80) % 8) % 8) + k))
          rw [midStream_succ]
          simp only [t48, hmg, if_false, if_true, t32]
          rw [flipAt_drop]
          exact hflip k hk
    · intro fS fB pos bits A a htail f hf
      rcases tailStream_ok_cases fS fB pos bits A a htail with
        ⟨_, hnone⟩ | ⟨w, rest, level', fS', h32, hl, rfl, hmid⟩
      · exfalso
        cases h32 : takeNat 32 bits with
        | none => simp [fieldsGo, h32] at hf
        | some r =>
          obtain ⟨w, rest⟩ := r
          have := hnone w rest h32
          simp [fieldsGo, h32, this] at hf
      · simp only [fieldsGo, h32, hl] at hf
        obtain ⟨hb, hflip⟩ := (ih.1 fS' fB fB level' (pos + 32) rest 0 A a hmid) f hf
        refine ⟨by omega, ?_⟩
        intro k hk
        have e : f.pos - pos + k = 32 + (f.pos - (pos + 32) + k) := by omega
        rw [e]
        have t32 := takeNat_flip_after 32 bits _ rest h32 (f.pos - (pos + 32) + k)
        rw [tailStream_header fS' fB pos _ _ A w level' t32 hl]
        exact hflip k hk

theorem decodeFile_flip (x y : List UInt8) (h : decodeFile x = .ok y) (f : Field)
    (hf : f ∈ crcFields x) (k : Nat) (hk : k < 32) :
    decodeFile (flipBit x (f.pos + k)) = .error f.reason := by
  have hh := Lemmas.ExpandTop.hasHeader_of_reason h (fun e => by cases e) (fun e => by cases e)
  obtain ⟨w, htake, hlvl⟩ := Lemmas.ExpandTop.header_take x hh
  unfold decodeFile at h
  rw [Lemmas.ExpandTop.walkFile_eq, if_pos hh, decodeStreams_succ] at h
  cases hw : midStream x.length (x.length + 1) (x.length + 1) (Lemmas.Copy.headerLevel x) (0 + 32)
      (bytesToBits (x.drop 4)) 0 {} with
  | error e => rw [hw] at h; cases h
  | ok a =>
    unfold crcFields at hf
    rw [htake] at hf
    simp only [hlvl] at hf
    obtain ⟨hb, hflip⟩ := ((flip_main _).1 _ _ _ _ _ _ _ _ a hw) f hf
    have hx4 : 4 ≤ x.length := by
      have := takeNat_length htake
      rw [bytesToBits_length] at this
      omega
    have hne : (flipBit x (f.pos + k)).isEmpty = false := by
      have := flipBit_length x (f.pos + k)
      cases hx' : flipBit x (f.pos + k) with
      | nil => rw [hx'] at this; simp at this; omega
      | cons _ _ => rfl
    have e : f.pos + k = 32 + (f.pos - (0 + 32) + k) := by omega
    have t32 : takeNat 32 (bytesToBits (flipBit x (f.pos + k))) =
        some (w, flipAt (bytesToBits (x.drop 4)) (f.pos - (0 + 32) + k)) := by
      rw [bytesToBits_flipBit, e]
      exact takeNat_flip_after 32 _ _ _ htake _
    unfold decodeFile
    rw [Lemmas.ExpandTop.walkFile_of_take _ w _ _ hne t32 hlvl, flipBit_length, decodeStreams_succ,
      hflip k hk]

theorem fieldsGo_magic : ∀ (n : Nat) (mode : Option Nat) (pos : Nat) (bits : Bits) (f : Field),
    f ∈ fieldsGo n mode pos bits →
    pos + 48 ≤ f.pos ∧ f.pos + 32 ≤ pos + bits.length ∧
    takeNat 48 (bits.drop (f.pos - 48 - pos)) = some (f.magic, bits.drop (f.pos - pos)) := by
  intro n
  induction n with
  | zero => intro mode pos bits f hf; cases hf
  | succ n ih =>
    intro mode pos bits f hf
    rw [fieldsGo_succ] at hf
    cases hs : fieldsStep mode pos bits with
    | none => rw [hs] at hf; cases hf
    | some r =>
      obtain ⟨fs, mode', pos', bits'⟩ := r
      rw [hs] at hf
      obtain ⟨d, rfl, rfl, _, hfs⟩ := fieldsStep_some hs
      rcases List.mem_append.mp hf with hf | hf
      · obtain ⟨hp, h80, hm⟩ := hfs f hf
        rw [hp, show pos + 48 - 48 - pos = 0 by omega, show pos + 48 - pos = 48 by omega]
        exact ⟨Nat.le_refl _, by omega, hm⟩
      · obtain ⟨a1, a2, a3⟩ := ih mode' (pos + d) (bits.drop d) f hf
        rw [List.length_drop] at a2
        rw [List.drop_drop, List.drop_drop, show d + (f.pos - 48 - (pos + d)) = f.pos - 48 - pos by omega,
          show d + (f.pos - (pos + d)) = f.pos - pos by omega] at a3
        exact ⟨by omega, by omega, a3⟩

theorem fieldsGo_fuel : ∀ (n n' : Nat) (mode : Option Nat) (pos : Nat) (bits : Bits),
    bits.length < n → bits.length < n' → fieldsGo n mode pos bits = fieldsGo n' mode pos bits := by
  intro n
  induction n with
  | zero => intro n' mode pos bits h; cases h
  | succ n ih =>
    intro n' mode pos bits h h'
    obtain ⟨m', rfl⟩ : ∃ m', n' = m' + 1 := ⟨n' - 1, by omega⟩
    rw [fieldsGo_succ, fieldsGo_succ]
    cases hs : fieldsStep mode pos bits with
    | none => rfl
    | some r =>
      obtain ⟨fs, mode', pos', bits'⟩ := r
      obtain ⟨d, _, _, hlt, _⟩ := fieldsStep_some hs
      dsimp only
      rw [ih m' mode' pos' _ (by omega) (by omega)]

end LbzVerif.Lemmas.CrcFlipMain
