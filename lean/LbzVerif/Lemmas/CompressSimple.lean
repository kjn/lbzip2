/-
  Lemmas.CompressSimple — the table half of the contract always holds for the
  simple executable choice function (`Model.Compress.simpleChoice`: two copies
  of the dummy table of `generate_prefix_code`, all selectors 0), for every
  non-empty block; what remains of `ChoicesOK` is `BwtOK` of the naive BWT,
  which holds for every non-empty block as well (`Lemmas.BwtInverse.naiveBwt_ok`,
  the LF-mapping argument): `simpleChoice_ok`, `simpleChoice_ok_rle` — the
  contract is satisfiable for every block.
-/
import LbzVerif.Model.Compress
import LbzVerif.Lemmas.CompressMtf
import LbzVerif.Lemmas.BwtInverseNaive
import LbzVerif.Lemmas.Rle1Len
import LbzVerif.Props.C02

namespace LbzVerif.Lemmas.CompressSimple
open LbzVerif LbzVerif.Model.Compress LbzVerif.Lemmas.CompressMtf

theorem simpleChoice_tablesOK (rb : List UInt8) (hne : rb ≠ []) :
    TablesOK ((usedOf rb).length + 2) (mtfvOf rb (simpleChoice rb).L).length (simpleChoice rb) := by
  have hu1 : 1 ≤ (usedOf rb).length := List.length_pos_iff.mpr (usedOf_ne rb hne)
  have hu2 := usedOf_length_le rb
  obtain ⟨_, hc, hl⟩ := Props.C02.dummyTable_complete ((usedOf rb).length + 2)
    (by simp only [Gen.MIN_ALPHA_SIZE]; omega) (by simp only [Gen.MAX_ALPHA_SIZE]; omega)
  refine ⟨(by decide : Gen.MIN_TREES ≤ 2), (by decide : 2 ≤ Gen.MAX_TREES), rfl, ?_, ?_, ?_⟩
  · intro l hl'
    have : l = Model.Canon.dummyLens ((usedOf rb).length + 2) := by
      simp only [simpleChoice, List.mem_cons, List.not_mem_nil, or_false, or_self] at hl'
      exact hl'
    rw [this]
    exact ⟨hl, hc⟩
  · simp [simpleChoice]
  · intro s hs
    simp only [simpleChoice] at hs
    rw [List.eq_of_mem_replicate hs]
    exact (by decide : 0 < 2)

theorem simpleChoice_ok_iff (rb : List UInt8) (hne : rb ≠ []) :
    ChoicesOK rb (simpleChoice rb) ↔ BwtOK rb (naiveBwt rb).1 (naiveBwt rb).2 :=
  ⟨fun h => h.1, fun h => ⟨h, simpleChoice_tablesOK rb hne⟩⟩

theorem simpleChoice_ok (rb : List UInt8) (hne : rb ≠ []) : ChoicesOK rb (simpleChoice rb) :=
  (simpleChoice_ok_iff rb hne).mpr (Lemmas.BwtInverse.naiveBwt_ok rb hne)

/-- … in the form the file theorems ask for: on the run-length encoding of a
    non-empty piece of input -/
theorem simpleChoice_ok_rle (b : List UInt8) (hne : b ≠ []) :
    ChoicesOK (Spec.rle1 b) (simpleChoice (Spec.rle1 b)) :=
  simpleChoice_ok _ (Rle1Len.rle1_ne_nil hne)

end LbzVerif.Lemmas.CompressSimple
