/-
  Lemmas.CollectSplit — `Model.collect` is the reference machine on well-formed
  states; the reference machine does not see buffer boundaries (`canon_append`), hence
  neither does `collect` (`Props.C04.collect_split`, `collect_preserves_inv`, `collectMany_flatten`).
-/
import LbzVerif.Lemmas.CollectCanon

namespace LbzVerif.Model
open LbzVerif.Lemmas.CollectCanon

/-- States in which `collect` may be entered (they are the states it leaves
behind, see `canon_inv`): capacity positive, run length below the maximum, and
room left in the block unless it has been declared full — in particular room
for the count byte of a run of four or more. -/
def CollectState.Inv (s : CollectState) : Prop :=
  1 ≤ s.cap ∧
  match s.rle with
  | .full => True
  | .idle => s.block.length < s.cap
  | .run r _ => 1 ≤ r ∧ r < MAX_RUN_LENGTH ∧ s.block.length < s.cap

def collectCanon (s : CollectState) (buf : List UInt8) : CollectState × Nat × Bool :=
  let r := canon s.cap s.block s.rle s.crc buf
  (r.1, buf.length - r.2, r.1.rle == .full)

theorem canon_full (cap : Nat) (blk : List UInt8) (crc : UInt32) (p : List UInt8) :
    canon cap blk .full crc p = done cap blk .full crc p := by
  cases p with
  | nil => simp [canon]
  | cons x p => simp [canon, close]

theorem collect_eq_canon (s : CollectState) (hs : s.Inv) (buf : List UInt8) :
    collect s buf = collectCanon s buf := by
  obtain ⟨hcap, hi⟩ := hs
  unfold collect collectCanon
  cases hr : s.rle with
  | full =>
    simp only [canon_full, done]
    cases s; simp_all
  | idle => simp only [state0_eq_canon s.cap hcap]
  | run r c =>
    rw [hr] at hi
    simp only [finishRun_eq_canon s.cap hcap c buf r s.block s.crc hi.1 (fun _ => by omega)]

theorem canon_exit (cap : Nat) (p : List UInt8) : ∀ blk rle crc,
    (canon cap blk rle crc p).1.cap = cap ∧ (canon cap blk rle crc p).2 ≤ p.length ∧
      ((canon cap blk rle crc p).1.rle ≠ .full → (canon cap blk rle crc p).2 = 0) := by
  induction p with
  | nil =>
    intro blk rle crc
    simp only [canon]
    split <;> simp [done]
  | cons x p ih =>
    intro blk rle crc
    simp only [canon]
    split
    · have := ih (push blk rle x).1 (push blk rle x).2 (crcStep crc x)
      exact ⟨this.1, Nat.le_succ_of_le this.2.1, this.2.2⟩
    · simp [done]

/-- run length within bounds, and room for the count byte of a long run -/
def Rle.Room (cap : Nat) (blk : List UInt8) : Rle → Prop
  | .run r _ => 1 ≤ r ∧ r < MAX_RUN_LENGTH ∧ (4 ≤ r → blk.length + 1 ≤ cap)
  | _ => True

theorem push_room (cap : Nat) (blk : List UInt8) (rle : Rle) (x : UInt8)
    (hroom : rle.Room cap blk)
    (hfit : (close (push blk rle x).1 (push blk rle x).2).length ≤ cap) :
    (push blk rle x).2.Room cap (push blk rle x).1 := by
  have hm : MAX_RUN_LENGTH = 259 := rfl
  have h1 : ∀ b c, (Rle.run 1 c).Room cap b := fun _ _ => ⟨Nat.le_refl 1, by omega, by omega⟩
  cases rle with
  | run r c =>
    obtain ⟨h1', h2, h3⟩ := hroom
    by_cases hx : x = c
    · by_cases h4 : r < 4
      · simp only [push, hx, h4, if_true] at hfit ⊢
        refine ⟨by omega, by omega, fun h4' => ?_⟩
        simp only [close, ge_iff_le, h4', if_true] at hfit
        simpa using hfit
      · by_cases hmax : r + 1 = MAX_RUN_LENGTH
        · simp only [push, hx, h4, hmax, if_true, if_false]; trivial
        · simp only [push, hx, h4, hmax, if_true, if_false]
          exact ⟨by omega, by omega, fun _ => h3 (by omega)⟩
    · simp only [push, hx, if_false]; exact h1 _ _
  | _ => exact h1 _ _

theorem canon_inv (cap : Nat) (hcap : 1 ≤ cap) (p : List UInt8) : ∀ blk rle crc,
    rle.Room cap blk → (canon cap blk rle crc p).1.Inv := by
  induction p with
  | nil =>
    intro blk rle crc hr
    simp only [canon]
    split
    · exact ⟨hcap, trivial⟩
    · rename_i hn
      refine ⟨hcap, ?_⟩
      simp only [done]
      cases rle with
      | full => trivial
      | idle => simp only; omega
      | run r c => exact ⟨hr.1, hr.2.1, by omega⟩
  | cons x p ih =>
    intro blk rle crc hr
    simp only [canon]
    split
    · rename_i h
      exact ih _ _ _ (push_room cap blk rle x hr h.2)
    · exact ⟨hcap, trivial⟩

theorem inv_room (s : CollectState) (hs : s.Inv) : s.rle.Room s.cap s.block := by
  obtain ⟨_, hi⟩ := hs
  cases hr : s.rle with
  | full => trivial
  | idle => trivial
  | run r c => rw [hr] at hi; exact ⟨hi.1, hi.2.1, fun _ => hi.2.2⟩

/-- The closed block grows with every byte, so once the block has reached `cap`
every byte is refused. -/
theorem close_push_gt (blk : List UInt8) (rle : Rle) (x : UInt8) :
    blk.length < (close (push blk rle x).1 (push blk rle x).2).length := by
  cases rle with
  | run r c =>
    by_cases hx : x = c
    · by_cases h4 : r < 4
      · simp only [push, hx, h4, if_true, close]
        split <;> simp
      · by_cases hmax : r + 1 = MAX_RUN_LENGTH
        · simp [push, hx, h4, hmax, close]
        · simp [push, hx, h4, hmax, close, show 4 ≤ r + 1 by omega]
    · simp only [push, hx, if_false, close, show ¬ 1 ≥ 4 by decide]
      split <;> simp
  | _ => simp [push, close]

theorem close_of_full {cap : Nat} {blk : List UInt8} {rle : Rle} (hr : rle.Room cap blk)
    (hn : blk.length ≥ cap) : close blk rle = blk := by
  cases rle with
  | run r c =>
    have : ¬ r ≥ 4 := fun h4 => by have := hr.2.2 h4; omega
    simp only [close, this, if_false]
  | _ => rfl

theorem canon_append (cap : Nat) (a b : List UInt8) : ∀ blk rle crc, rle.Room cap blk →
    canon cap blk rle crc (a ++ b) =
      (let r := canon cap blk rle crc a
       if r.1.rle = .full then (r.1, r.2 + b.length)
       else canon cap r.1.block r.1.rle r.1.crc b) := by
  induction a with
  | nil =>
    intro blk rle crc hr
    simp only [List.nil_append, canon]
    by_cases hn : blk.length ≥ cap
    · simp only [hn, if_true, done, List.length_nil, Nat.zero_add]
      cases b with
      | nil => simp [canon, hn, done]
      | cons y b =>
        have := close_push_gt blk rle y
        rw [canon, if_neg (fun h => by omega), close_of_full hr hn]
        rfl
    · simp only [hn, if_false, done]
      cases rle with
      | full => simp [canon_full, done]
      | idle => simp
      | run r c => simp
  | cons x a ih =>
    intro blk rle crc hr
    simp only [List.cons_append, canon]
    split
    · rename_i h
      exact ih _ _ _ (push_room cap blk rle x hr h.2)
    · simp [done]; omega

theorem collectCanon_append (s : CollectState) (hs : s.Inv) (a b : List UInt8) :
    collectCanon s (a ++ b) =
      (let ra := collectCanon s a
       if ra.2.2 then ra
       else
         let rb := collectCanon ra.1 b
         (rb.1, ra.2.1 + rb.2.1, rb.2.2)) := by
  unfold collectCanon
  simp only [canon_append s.cap a b _ _ _ (inv_room s hs)]
  obtain ⟨hc, -, h0⟩ := canon_exit s.cap a s.block s.rle s.crc
  generalize canon s.cap s.block s.rle s.crc a = ra at hc h0 ⊢
  obtain ⟨sa, na⟩ := ra
  simp only at hc h0 ⊢
  by_cases hf : sa.rle = .full
  · simp only [hf, if_true, beq_self_eq_true, List.length_append]
    congr 2
    omega
  · have hb : (sa.rle == Rle.full) = false := by simpa using hf
    have hl := (canon_exit sa.cap b sa.block sa.rle sa.crc).2.1
    simp only [hf, hb, if_false, Bool.false_eq_true, hc, List.length_append, h0 hf, Nat.sub_zero]
    rw [hc] at hl
    congr 2
    omega

theorem collect_nil (s : CollectState) (hs : s.Inv) :
    collect s [] = (s, 0, s.rle == .full) := by
  rw [collect_eq_canon s hs]
  obtain ⟨hcap, hi⟩ := hs
  unfold collectCanon
  simp only [canon]
  by_cases hf : s.rle = .full
  · cases s; simp_all [done]
  · have hn : ¬ s.block.length ≥ s.cap := by
      cases hr : s.rle with
      | full => exact absurd hr hf
      | idle => rw [hr] at hi; simp only at hi; omega
      | run r c => rw [hr] at hi; simp only at hi; omega
    simp only [hn, if_false, done]
    cases s; simp_all

end LbzVerif.Model
