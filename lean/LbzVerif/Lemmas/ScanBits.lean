/-
  Lemmas.ScanBits — what the bit macros of parse.c do to the remaining bit
  string `rem bs`: `bits_dump`, the load step of `bits_need`, `bits_consume`
  and the `skip` prologue of `scan`.  The buffer arithmetic is that of
  Lemmas/BitBuf.lean (`refill_bits`, `dump_bits`): the buffer part of
  `Consistent` is `BufInv` (`bufInv_iff`).
-/
import LbzVerif.Model.Scan
import LbzVerif.Lemmas.ListAux
import LbzVerif.Lemmas.BitBuf

namespace LbzVerif.Lemmas.ScanBits

open LbzVerif.Model.Scan LbzVerif.Spec.Scan
open LbzVerif.Model.Retrieve (dumpV refillV)

theorem bitsMSB_eq : bitsMSB = Basic.natToBits := by
  funext n v
  induction n with
  | zero => rfl
  | succ k ih => rw [bitsMSB, Basic.natToBits, ih]

@[simp] theorem length_bitsMSB (n v : Nat) : (bitsMSB n v).length = n := by
  rw [bitsMSB_eq]; exact Basic.natToBits_length n v

theorem bitsMSB_congr (n v v' : Nat)
    (h : ∀ j < n, v.testBit j = v'.testBit j) : bitsMSB n v = bitsMSB n v' := by
  rw [bitsMSB_eq]; exact Basic.natToBits_congr n v v' h

theorem bitsMSB_word (w : Nat) :
    bitsMSB 32 w = bitsMSB 8 (w >>> 24) ++ (bitsMSB 8 ((w >>> 16) % 256) ++
      (bitsMSB 8 ((w >>> 8) % 256) ++ bitsMSB 8 (w % 256))) := by
  rw [bitsMSB_eq, Basic.natToBits_word]
  simp only [Basic.natToBits_mod 8 8 _ (Nat.le_refl 8)]

theorem lowZero_of_mod (x k : Nat) (h : x % 2 ^ k = 0) :
    ∀ j < k, x.testBit j = false := by
  intro j hj
  have := Nat.testBit_mod_two_pow x k j
  rw [h, Nat.zero_testBit] at this
  simpa [hj] using this.symm

theorem mod_of_lowZero (x k : Nat) (h : ∀ j < k, x.testBit j = false) :
    x % 2 ^ k = 0 := by
  apply Nat.eq_of_testBit_eq
  intro i
  rw [Nat.testBit_mod_two_pow, Nat.zero_testBit]
  by_cases hi : i < k
  · simp [h i hi]
  · simp [hi]

theorem testBit_high (x n j : Nat) (hx : x < 2 ^ n) (hj : n ≤ j) :
    x.testBit j = false :=
  Nat.testBit_lt_two_pow (Nat.lt_of_lt_of_le hx (Nat.pow_le_pow_right (by decide) hj))

theorem testBit_top (b n : Nat) (h : b < 2 ^ (n + 1)) : b.testBit n = (b >>> n != 0) := by
  have hlt : b >>> n < 2 := by
    rw [Nat.shiftRight_eq_div_pow]
    exact Nat.div_lt_of_lt_mul (by rwa [Nat.pow_succ] at h)
  rw [Nat.testBit_eq_decide_div_mod_eq, ← Nat.shiftRight_eq_div_pow]
  generalize b >>> n = x at hlt
  match x, hlt with
  | 0, _ => rfl
  | 1, _ => rfl

theorem bufInv_iff (v w : Nat) (hw : w ≤ 64) :
    RetrieveBits.BufInv v w ↔ v < 2 ^ 64 ∧ v % 2 ^ (64 - w) = 0 :=
  ⟨fun h => ⟨Nat.lt_pow_two_of_testBit _ h.hi, mod_of_lowZero _ _ fun j hj => h.lo j (by omega)⟩,
   fun ⟨h1, h2⟩ => ⟨hw, fun i hi => testBit_high v 64 i h1 hi,
      fun i hi => lowZero_of_mod _ _ h2 i (by omega)⟩⟩

theorem take_bitsMSB (v w : Nat) (hw : w ≤ 64) :
    (bitsMSB 64 v).take w = RetrieveBits.bufBits v w := by
  rw [bitsMSB_eq, RetrieveBits.bufBits_eq v w hw]

def bufBits (bs : BS) : List Bool := (bitsMSB 64 bs.buff).take bs.live

theorem rem_eq (bs : BS) :
    rem bs = bufBits bs ++ (bs.words.drop bs.data).flatMap (bitsMSB 32) := rfl

@[simp] theorem length_bufBits (bs : BS) (h : bs.live ≤ 64) :
    (bufBits bs).length = bs.live := by
  simp [bufBits]; omega

theorem length_rem (bs : BS) (h : Consistent bs) :
    (rem bs).length = bs.live + 32 * (bs.words.length - bs.data) := by
  obtain ⟨h1, -, -, h4, -⟩ := h
  rw [rem_eq, List.length_append, length_bufBits bs (by omega),
    ListAux.length_flatMap_const _ 32 (length_bitsMSB 32)]
  simp

theorem buff_zero (bs : BS) (hc : Consistent bs) (h : bs.live = 0) : bs.buff = 0 := by
  have h3 := hc.2.2.1
  rwa [h, Nat.sub_zero, Nat.mod_eq_of_lt hc.2.1] at h3

theorem dump_spec (bs : BS) (n : Nat) (hc : Consistent bs) (hn : n ≤ bs.live) :
    Consistent (dump bs n) ∧ bufBits (dump bs n) = (bufBits bs).drop n ∧
      (dump bs n).live = bs.live - n ∧ (dump bs n).data = bs.data ∧
      (dump bs n).words = bs.words := by
  obtain ⟨h1, h2, h3, h4, h5⟩ := hc
  obtain ⟨hb, hi⟩ := RetrieveBits.dump_bits bs.buff bs.live n hn
    ((bufInv_iff _ _ (by omega)).mpr ⟨h2, h3⟩)
  obtain ⟨i1, i2⟩ := (bufInv_iff _ _ (by omega)).mp hi
  refine ⟨⟨Nat.le_trans (Nat.sub_le _ _) h1, i1, i2, h4, h5⟩, ?_, rfl, rfl, rfl⟩
  show (bitsMSB 64 (dumpV bs.buff n)).take (bs.live - n) = ((bitsMSB 64 bs.buff).take bs.live).drop n
  rw [take_bitsMSB _ _ (by omega), take_bitsMSB _ _ (by omega), hb]

/-- The first buffered bit is what `bits_peek(bs, 1)` returns. -/
theorem bufBits_cons (bs : BS) (hc : Consistent bs) (hl : 0 < bs.live) :
    bufBits bs = (bs.buff >>> 63 != 0) :: bufBits (dump bs 1) := by
  rw [(dump_spec bs 1 hc hl).2.1, ← testBit_top bs.buff 63 hc.2.1]
  obtain ⟨k, hk⟩ : ∃ k, bs.live = k + 1 := ⟨bs.live - 1, by omega⟩
  unfold bufBits
  rw [hk, show (64 : Nat) = 63 + 1 by rfl, bitsMSB]
  rfl

theorem dump_rem (bs : BS) (n : Nat) (hc : Consistent bs) (hn : n ≤ bs.live) :
    Consistent (dump bs n) ∧ rem (dump bs n) = (rem bs).drop n ∧
      (dump bs n).words = bs.words := by
  obtain ⟨h1, h2, -, h4, h5⟩ := dump_spec bs n hc hn
  refine ⟨h1, ?_, h5⟩
  rw [rem_eq, rem_eq, h2, h4, h5, List.drop_append,
    length_bufBits bs (by have := hc.1; omega)]
  have : n - bs.live = 0 := by omega
  rw [this, List.drop_zero]

theorem rem_cons (bs : BS) (hc : Consistent bs) (hl : 0 < bs.live) :
    rem bs = (bs.buff >>> 63 != 0) :: rem (dump bs 1) := by
  obtain ⟨-, h2, -, h4, h5⟩ := dump_spec bs 1 hc hl
  rw [rem_eq, rem_eq, bufBits_cons bs hc hl, h4, h5]
  rfl

/-- `bits_need` when it has to load (`live < n`, a word is left): the word goes below the live
bits, so the remaining bit string does not change. -/
theorem load_spec (bs : BS) (n : Nat) (hc : Consistent bs) (hn : bs.live < n)
    (hl : bs.live < 32) (hd : bs.data < bs.words.length) :
    (need bs n).1 = true ∧ Consistent (need bs n).2 ∧
      rem (need bs n).2 = rem bs ∧ (need bs n).2.live = bs.live + 32 ∧
      (need bs n).2.data = bs.data + 1 ∧ (need bs n).2.words = bs.words := by
  obtain ⟨h1, h2, h3, h4, h5⟩ := hc
  have hw : bs.words[bs.data] < 2 ^ 32 := h5 _ (List.getElem_mem hd)
  have hneed : need bs n = (true, { bs with
      buff := refillV bs.buff bs.live bs.words[bs.data]
      data := bs.data + 1
      live := bs.live + 32 }) := by
    unfold need
    rw [if_neg (Nat.not_le_of_lt hn), if_neg (Nat.ne_of_lt hd), ListAux.getD_of_lt 0 hd, refillV,
      Nat.mod_eq_of_lt hw, show 64 - (bs.live + 32) = 32 - bs.live by omega]
  obtain ⟨hb, hi⟩ := RetrieveBits.refill_bits bs.buff bs.live bs.words[bs.data] hl
    ((bufInv_iff _ _ (by omega)).mpr ⟨h2, h3⟩)
  obtain ⟨i1, i2⟩ := (bufInv_iff _ _ (by omega)).mp hi
  rw [hneed]
  refine ⟨rfl, ⟨by show bs.live + 32 ≤ 63; omega, i1, i2, hd, h5⟩, ?_, rfl, rfl, rfl⟩
  rw [rem_eq, rem_eq]
  show (bitsMSB 64 _).take (bs.live + 32) ++ (bs.words.drop (bs.data + 1)).flatMap (bitsMSB 32) = _
  rw [take_bitsMSB _ _ (by omega), hb, RetrieveBits.wordBits_eq, ← congrFun (congrFun bitsMSB_eq 32) _,
    ← take_bitsMSB _ _ (by omega), List.drop_eq_getElem_cons hd, List.flatMap_cons,
    List.append_assoc]
  rfl

theorem need_enough (bs : BS) (n : Nat) (h : n ≤ bs.live) : need bs n = (true, bs) := by
  simp [need, h]

theorem need_fail (bs : BS) (n : Nat) (h : bs.live < n)
    (hd : bs.data = bs.words.length) : need bs n = (false, bs) := by
  have : ¬ n ≤ bs.live := by omega
  simp [need, this, hd]

/-- The block consumed: what `MORE` leaves behind. -/
def consumed (bs : BS) : BS :=
  { live := 0, buff := 0, data := bs.words.length, words := bs.words }

theorem dump_live (bs : BS) (hc : Consistent bs) :
    dump bs bs.live = { bs with live := 0, buff := 0 } := by
  obtain ⟨c1, -, -, -, -⟩ := dump_spec bs bs.live hc (Nat.le_refl _)
  have h := c1.2.2.1
  rw [show (dump bs bs.live).live = 0 from Nat.sub_self _, Nat.mod_eq_of_lt c1.2.1] at h
  have h' : (bs.buff <<< bs.live) % 2 ^ 64 = 0 := h
  unfold dump
  rw [h', Nat.sub_self]

theorem consume_spec (bs : BS) (hc : Consistent bs) : consume bs = consumed bs := by
  unfold consume
  rw [dump_live bs hc]
  rfl

theorem drop_rem (bs : BS) (hc : Consistent bs) (m : Nat) :
    (rem bs).drop (bs.live + 32 * m) = (bs.words.drop (bs.data + m)).flatMap (bitsMSB 32) := by
  have h1 := hc.1
  have h := List.drop_length_add_append (l₁ := bufBits bs)
    (l₂ := (bs.words.drop bs.data).flatMap (bitsMSB 32)) (32 * m)
  rw [length_bufBits bs (by omega)] at h
  rw [rem_eq, h, ListAux.drop_flatMap_const _ 32 (length_bitsMSB 32), List.drop_drop]

theorem skipPhase_spec (bs : BS) (skip : Nat) (hc : Consistent bs) :
    Consistent (skipPhase bs skip) ∧
      rem (skipPhase bs skip) = (rem bs).drop (effStart bs skip) ∧
      (skipPhase bs skip).words = bs.words := by
  unfold skipPhase effStart
  by_cases hs : skip > bs.live
  · rw [if_pos hs, if_pos hs, dump_live bs hc]
    dsimp only
    generalize ((skip - bs.live + 31) % 2 ^ 32) / 32 = k
    have h4 := hc.2.2.2.1
    -- both branches set data to data + min k (len - data)
    have key : ∀ d', d' = bs.data + min k (bs.words.length - bs.data) →
        Consistent { live := 0, buff := 0, data := d', words := bs.words } ∧
        rem { live := 0, buff := 0, data := d', words := bs.words } =
          (rem bs).drop (bs.live + 32 * min k (bs.words.length - bs.data)) := by
      intro d' hd'
      refine ⟨⟨Nat.zero_le _, Nat.two_pow_pos 64, Nat.zero_mod _, ?_, hc.2.2.2.2⟩, ?_⟩
      · show d' ≤ bs.words.length
        omega
      · rw [drop_rem bs hc, ← hd']
        rfl
    split <;> exact and_assoc.mp ⟨key _ (by omega), rfl⟩
  · rw [if_neg hs, if_neg hs]
    exact ⟨hc, rfl, rfl⟩

end LbzVerif.Lemmas.ScanBits
