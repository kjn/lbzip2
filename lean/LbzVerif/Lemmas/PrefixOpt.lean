/-
  Lemmas.PrefixOpt — meaning of the length-limited dynamic programme.

  `optN L h m gs` is the recursion the tables of `Spec.Prefix.optSorted`
  memoise (`Lemmas.PrefixOptTable`): at depth `d = L - h`, with `m` open nodes
  and the frequencies `gs` (sorted descending) still to place.  A value `some c`
  is the cost of an actual length list with `d ≤ ℓ ≤ L` and `Σ 2^(L-ℓ) = m·2^h`
  (`optN_attained`), and EVERY such list, monotone or not, costs at least that
  (`optN_le`: the exchange step `swapFront` is inside the induction).
  `sortDesc_perm` and `cost_perm` carry this from `sortDesc f` to `f`.
-/
import LbzVerif.Spec.Prefix
import LbzVerif.Lemmas.PrefixCanon
import LbzVerif.Lemmas.SortBy

namespace LbzVerif.Lemmas.PrefixOpt
open LbzVerif.Spec.Prefix
open LbzVerif.Spec.Ibwt (insertBy isort)

/-- One level: `below` is the value function of the next depth. -/
def optRow (d : Nat) (below : Nat → List Nat → Option Nat) : Nat → List Nat → Option Nat
  | 0, [] => some 0
  | 0, _ :: _ => none
  | _ + 1, [] => none
  | m + 1, g :: gs => omin (oadd (g * d) (optRow d below m gs)) (below (2 * (m + 1)) (g :: gs))

/-- `optN L h m gs`: least cost of placing the symbols `gs` (frequencies, largest first) on `m`
open nodes at depth `L - h`; at each step the next symbol takes one node as a leaf, or all open
nodes split (`optRow`).  At `h = 0` (depth `L`) nothing lies below, hence the base `none`. -/
def optN (L : Nat) : Nat → Nat → List Nat → Option Nat
  | 0 => optRow L (fun _ _ => none)
  | h + 1 => optRow (L - (h + 1)) (optN L h)

/-- Kraft sum in units of `2 ^ -L`: a complete code with lengths `≤ L` has `kraftL L = 2 ^ L`. -/
def kraftL (L : Nat) (ls : List Nat) : Nat := (ls.map (fun l => 2 ^ (L - l))).sum

theorem omin_le_left (a : Nat) (y : Option Nat) : ∃ c, omin (some a) y = some c ∧ c ≤ a := by
  cases y with
  | none => exact ⟨a, rfl, Nat.le_refl _⟩
  | some b => exact ⟨min a b, rfl, Nat.min_le_left _ _⟩

theorem omin_le_right (x : Option Nat) (b : Nat) : ∃ c, omin x (some b) = some c ∧ c ≤ b := by
  cases x with
  | none => exact ⟨b, rfl, Nat.le_refl _⟩
  | some a => exact ⟨min a b, rfl, Nat.min_le_right _ _⟩

theorem omin_eq_some (x y : Option Nat) (c : Nat) (h : omin x y = some c) :
    x = some c ∨ y = some c := by
  cases x with
  | none => right; simpa [omin] using h
  | some a =>
    cases y with
    | none => left; simpa [omin] using h
    | some b =>
      simp only [omin, Option.some.injEq] at h
      by_cases hab : a ≤ b
      · left; rw [Nat.min_eq_left hab] at h; rw [h]
      · right; rw [Nat.min_eq_right (by omega)] at h; rw [h]

theorem oadd_eq_some (k : Nat) (x : Option Nat) (c : Nat) (h : oadd k x = some c) :
    ∃ c', x = some c' ∧ c = k + c' := by
  cases x with
  | none => simp [oadd] at h
  | some a => exact ⟨a, rfl, by simpa [oadd, eq_comm] using h⟩

theorem cost_cons (g : Nat) (gs : List Nat) (l : Nat) (ls : List Nat) :
    cost (g :: gs) (l :: ls) = g * l + cost gs ls := by
  simp [cost]

theorem kraftL_cons (L l : Nat) (ls : List Nat) :
    kraftL L (l :: ls) = 2 ^ (L - l) + kraftL L ls := by
  simp [kraftL]

theorem succ_mul_two_pow (m h : Nat) (hpos : 0 < h) :
    (m + 1) * 2 ^ h = 2 * (m + 1) * 2 ^ (h - 1) := by
  obtain ⟨h', rfl⟩ : ∃ h', h = h' + 1 := ⟨h - 1, by omega⟩
  rw [Nat.add_sub_cancel, Nat.pow_succ, Nat.mul_comm 2 (m + 1), Nat.mul_assoc,
    Nat.mul_comm 2 (2 ^ h')]

theorem optRow_attained (L d h : Nat) (hd : d + h = L) (below : Nat → List Nat → Option Nat)
    (hb : ∀ m gs c, below m gs = some c → 0 < h ∧ ∃ ls : List Nat, ls.length = gs.length ∧
      (∀ l ∈ ls, d + 1 ≤ l ∧ l ≤ L) ∧ kraftL L ls = m * 2 ^ (h - 1) ∧ cost gs ls = c) :
    ∀ gs m c, optRow d below m gs = some c → ∃ ls : List Nat, ls.length = gs.length ∧
      (∀ l ∈ ls, d ≤ l ∧ l ≤ L) ∧ kraftL L ls = m * 2 ^ h ∧ cost gs ls = c := by
  intro gs
  induction gs with
  | nil =>
    intro m c hc
    cases m with
    | zero =>
      simp only [optRow, Option.some.injEq] at hc
      exact ⟨[], rfl, by simp, by simp [kraftL], by simp [cost, hc]⟩
    | succ m => simp [optRow] at hc
  | cons g t ih =>
    intro m c hc
    cases m with
    | zero => simp [optRow] at hc
    | succ m =>
      simp only [optRow] at hc
      rcases omin_eq_some _ _ _ hc with h1 | h2
      · obtain ⟨c', hc', hcc⟩ := oadd_eq_some _ _ _ h1
        obtain ⟨ls, hl, hr, hk, hcost⟩ := ih m c' hc'
        refine ⟨d :: ls, by simp [hl], ?_, ?_, ?_⟩
        · intro l hl'
          rcases List.mem_cons.mp hl' with e | e
          · subst e; omega
          · exact hr l e
        · rw [kraftL_cons, hk]
          have : L - d = h := by omega
          rw [this, Nat.succ_mul]; omega
        · rw [cost_cons, hcost, hcc]
      · obtain ⟨hpos, ls, hl, hr, hk, hcost⟩ := hb _ _ _ h2
        refine ⟨ls, hl, ?_, ?_, hcost⟩
        · intro l hl'; have := hr l hl'; omega
        · rw [hk, succ_mul_two_pow m h hpos]

theorem optN_attained (L : Nat) : ∀ h, h ≤ L → ∀ m gs c, optN L h m gs = some c →
    ∃ ls : List Nat, ls.length = gs.length ∧ (∀ l ∈ ls, L - h ≤ l ∧ l ≤ L) ∧
      kraftL L ls = m * 2 ^ h ∧ cost gs ls = c := by
  intro h
  induction h with
  | zero =>
    intro _ m gs c hc
    have := optRow_attained L L 0 (by omega) (fun _ _ => none) (by intro m gs c hc; simp at hc)
      gs m c hc
    simpa using this
  | succ h ih =>
    intro hle m gs c hc
    have := optRow_attained L (L - (h + 1)) (h + 1) (by omega) (optN L h)
      (by
        intro m gs c hc
        obtain ⟨ls, hl, hr, hk, hcost⟩ := ih (by omega) m gs c hc
        refine ⟨by omega, ls, hl, ?_, by simpa using hk, hcost⟩
        intro l hl'; have := hr l hl'; omega)
      gs m c hc
    exact this

theorem exch (g0 g1 l0 d : Nat) (hg : g1 ≤ g0) (hl : d ≤ l0) :
    g0 * d + g1 * l0 ≤ g0 * l0 + g1 * d := by
  obtain ⟨a, rfl⟩ : ∃ a, g0 = g1 + a := ⟨g0 - g1, by omega⟩
  obtain ⟨b, rfl⟩ : ∃ b, l0 = d + b := ⟨l0 - d, by omega⟩
  simp only [Nat.add_mul, Nat.mul_add]
  omega

/-- Bring a length `d` (present somewhere in `l0 :: ls`, and not larger than
`l0`) to the front, handing `l0` to the symbol that had it; frequencies in `gs`
do not exceed `g0`, so the cost does not go up. -/
theorem swapFront (L d g0 l0 : Nat) (hl : d ≤ l0) :
    ∀ (ls gs : List Nat), gs.length = ls.length → (∀ g ∈ gs, g ≤ g0) → d ∈ l0 :: ls →
    ∃ ls2 : List Nat, ls2.length = ls.length ∧
      kraftL L ls2 + 2 ^ (L - d) = kraftL L ls + 2 ^ (L - l0) ∧
      (∀ l ∈ ls2, l = l0 ∨ l ∈ ls) ∧
      g0 * d + cost gs ls2 ≤ g0 * l0 + cost gs ls := by
  intro ls
  induction ls with
  | nil =>
    intro gs _ _ hm
    obtain rfl : d = l0 := by simpa using hm
    exact ⟨[], rfl, rfl, by simp, Nat.le_refl _⟩
  | cons l1 lt ih =>
    intro gs hlen hg hm
    obtain ⟨g1, gt, rfl⟩ := List.exists_cons_of_length_eq_add_one (by simpa using hlen)
    have hlen' : gt.length = lt.length := by simpa using hlen
    by_cases h1 : l1 = d
    · subst h1
      refine ⟨l0 :: lt, by simp, ?_, ?_, ?_⟩
      · simp only [kraftL_cons]; omega
      · intro l hl'
        rcases List.mem_cons.mp hl' with e | e
        · exact Or.inl e
        · exact Or.inr (List.mem_cons_of_mem _ e)
      · simp only [cost_cons]
        have := exch g0 g1 l0 l1 (hg g1 (List.mem_cons_self ..)) hl
        omega
    · have hm' : d ∈ l0 :: lt := by
        simp only [List.mem_cons] at hm ⊢
        rcases hm with e | e | e
        · exact Or.inl e
        · exact absurd e.symm h1
        · exact Or.inr e
      obtain ⟨ls2, h2l, h2k, h2m, h2c⟩ :=
        ih gt hlen' (fun g hg' => hg g (List.mem_cons_of_mem _ hg')) hm'
      refine ⟨l1 :: ls2, by simp [h2l], ?_, ?_, ?_⟩
      · simp only [kraftL_cons]; omega
      · intro l hl'
        rcases List.mem_cons.mp hl' with e | e
        · exact Or.inr (e ▸ List.mem_cons_self ..)
        · rcases h2m l e with e' | e'
          · exact Or.inl e'
          · exact Or.inr (List.mem_cons_of_mem _ e')
      · simp only [cost_cons]; omega

theorem kraftL_pos_of_ne_nil (L : Nat) (ls : List Nat) (h : ls ≠ []) : 0 < kraftL L ls := by
  cases ls with
  | nil => exact absurd rfl h
  | cons l t => rw [kraftL_cons]; have := Nat.two_pow_pos (L - l); omega

theorem optRow_le (L d h : Nat) (hd : d + h = L) (below : Nat → List Nat → Option Nat)
    (hb : 0 < h → ∀ m gs ls, List.Pairwise (· ≥ ·) gs → ls.length = gs.length →
      (∀ l ∈ ls, d + 1 ≤ l ∧ l ≤ L) → kraftL L ls = m * 2 ^ (h - 1) →
      ∃ c, below m gs = some c ∧ c ≤ cost gs ls) :
    ∀ gs m ls, List.Pairwise (· ≥ ·) gs → ls.length = gs.length →
      (∀ l ∈ ls, d ≤ l ∧ l ≤ L) → kraftL L ls = m * 2 ^ h →
      ∃ c, optRow d below m gs = some c ∧ c ≤ cost gs ls := by
  intro gs
  induction gs with
  | nil =>
    intro m ls _ hlen _ hk
    have : ls = [] := List.length_eq_zero_iff.mp (by simpa using hlen)
    subst this
    have h2 := Nat.two_pow_pos h
    have hm : m = 0 := by
      cases m with
      | zero => rfl
      | succ m =>
        simp only [kraftL, List.map_nil, List.sum_nil, Nat.succ_mul] at hk
        omega
    subst hm
    exact ⟨0, rfl, Nat.zero_le _⟩
  | cons g t ih =>
    intro m ls hs hlen hr hk
    obtain ⟨l0, lt, rfl⟩ := List.exists_cons_of_length_eq_add_one (by simpa using hlen)
    have hlen' : lt.length = t.length := by simpa using hlen
    have hs' := List.pairwise_cons.mp hs
    have h2 := Nat.two_pow_pos h
    cases m with
    | zero =>
      have := kraftL_pos_of_ne_nil L (l0 :: lt) (by simp)
      simp only [Nat.zero_mul] at hk
      omega
    | succ m =>
      have hLd : L - d = h := by omega
      by_cases hex : d ∈ l0 :: lt
      · -- some symbol sits at depth d: move that length to the front
        have hl0 := hr l0 (List.mem_cons_self ..)
        obtain ⟨ls2, h2l, h2k, h2m, h2c⟩ :=
          swapFront L d g l0 hl0.1 lt t hlen'.symm (fun g' hg' => hs'.1 g' hg') hex
        have hk2 : kraftL L ls2 = m * 2 ^ h := by
          rw [kraftL_cons] at hk
          rw [hLd] at h2k
          rw [Nat.succ_mul] at hk
          omega
        have hr2 : ∀ l ∈ ls2, d ≤ l ∧ l ≤ L := by
          intro l hl
          rcases h2m l hl with e | e
          · subst e; exact hl0
          · exact hr l (List.mem_cons_of_mem _ e)
        obtain ⟨c', hc', hcle⟩ := ih m ls2 hs'.2 (by omega) hr2 hk2
        simp only [optRow, hc', oadd]
        obtain ⟨c, hc, hcle2⟩ := omin_le_left (g * d + c') (below (2 * (m + 1)) (g :: t))
        refine ⟨c, hc, ?_⟩
        rw [cost_cons]
        omega
      · -- nobody at depth d: everything is deeper, descend
        have hdeep : ∀ l ∈ l0 :: lt, d + 1 ≤ l ∧ l ≤ L := by
          intro l hl
          have := hr l hl
          have : l ≠ d := fun e => hex (e ▸ hl)
          omega
        have hpos : 0 < h := by
          have := hdeep l0 (List.mem_cons_self ..)
          omega
        have hk' : kraftL L (l0 :: lt) = (2 * (m + 1)) * 2 ^ (h - 1) := by
          rw [hk, succ_mul_two_pow m h hpos]
        obtain ⟨c', hc', hcle⟩ := hb hpos (2 * (m + 1)) (g :: t) (l0 :: lt) hs hlen hdeep hk'
        simp only [optRow, hc']
        obtain ⟨c, hc, hcle2⟩ := omin_le_right (oadd (g * d) (optRow d below m t)) c'
        exact ⟨c, hc, by omega⟩

theorem optN_le (L : Nat) : ∀ h, h ≤ L → ∀ m gs ls, List.Pairwise (· ≥ ·) gs →
    ls.length = gs.length → (∀ l ∈ ls, L - h ≤ l ∧ l ≤ L) → kraftL L ls = m * 2 ^ h →
    ∃ c, optN L h m gs = some c ∧ c ≤ cost gs ls := by
  intro h
  induction h with
  | zero =>
    intro _ m gs ls hs hl hr hk
    exact optRow_le L L 0 (by omega) (fun _ _ => none) (by intro h; omega) gs m ls hs hl
      (by simpa using hr) hk
  | succ h ih =>
    intro hle m gs ls hs hl hr hk
    exact optRow_le L (L - (h + 1)) (h + 1) (by omega) (optN L h)
      (by
        intro _ m gs ls hs hl hr hk
        exact ih (by omega) m gs ls hs hl (by intro l hl'; have := hr l hl'; omega)
          (by simpa using hk))
      gs m ls hs hl hr hk

theorem insertDesc_eq (x : Nat) (ys : List Nat) :
    insertDesc x ys = insertBy (fun a b => decide (b < a)) x ys := by
  induction ys with
  | nil => rfl
  | cons y t ih => simp only [insertDesc, insertBy, decide_eq_true_eq, ih]

theorem sortDesc_eq (f : List Nat) : sortDesc f = isort (fun a b => decide (b < a)) f := by
  induction f with
  | nil => rfl
  | cons x t ih => rw [sortDesc, isort, insertDesc_eq, ih]

theorem sortDesc_perm (f : List Nat) : (sortDesc f).Perm f := by
  rw [sortDesc_eq]; exact SortBy.isort_perm _ f

theorem sortDesc_sorted (f : List Nat) : List.Pairwise (· ≥ ·) (sortDesc f) := by
  rw [sortDesc_eq]
  apply SortBy.isort_sorted (R := (· ≥ ·)) (fun a b c hab hbc => Nat.le_trans hbc hab)
  · intro x _ y _ h
    exact Nat.le_of_lt (of_decide_eq_true h)
  · intro x _ y _ h
    exact Nat.le_of_not_lt (of_decide_eq_false h)

theorem cost_perm {f g : List Nat} (h : f.Perm g) : ∀ lens : List Nat, lens.length = f.length →
    ∃ ls : List Nat, ls.Perm lens ∧ cost g ls = cost f lens := by
  induction h with
  | nil => intro lens _; exact ⟨lens, .refl _, rfl⟩
  | cons x _ ih =>
    intro lens hl
    obtain ⟨l0, lt, rfl⟩ := List.exists_cons_of_length_eq_add_one hl
    obtain ⟨ls, hs, hc⟩ := ih lt (by simpa using hl)
    exact ⟨l0 :: ls, hs.cons l0, by rw [cost_cons, cost_cons, hc]⟩
  | swap x y t =>
    intro lens hl
    obtain ⟨l0, lt, rfl⟩ := List.exists_cons_of_length_eq_add_one hl
    obtain ⟨l1, lt, rfl⟩ := List.exists_cons_of_length_eq_add_one (l := lt) (by simpa using hl)
    exact ⟨l1 :: l0 :: lt, .swap .., by simp only [cost_cons]; omega⟩
  | trans h1 _ ih1 ih2 =>
    intro lens hl
    obtain ⟨ls1, hs1, hc1⟩ := ih1 lens hl
    obtain ⟨ls2, hs2, hc2⟩ := ih2 ls1 (by rw [hs1.length_eq, hl, h1.length_eq])
    exact ⟨ls2, hs2.trans hs1, hc2.trans hc1⟩

theorem kraftL_perm (L : Nat) {a b : List Nat} (h : a.Perm b) : kraftL L a = kraftL L b :=
  (h.map _).sum_nat

theorem kraft20_eq (L : Nat) (hL : L ≤ 20) (ls : List Nat) (h : ∀ l ∈ ls, l ≤ L) :
    kraft20 ls = 2 ^ (20 - L) * kraftL L ls := by
  unfold kraft20 kraftL
  rw [← ListSum.sum_map_mul_left]
  congr 1
  apply List.map_congr_left
  intro l hl
  have := h l hl
  exact (PrefixCanon.two_pow_mul (by omega)).symm

theorem completeWithin_iff (L : Nat) (hL : L ≤ 20) (ls : List Nat) :
    CompleteWithin L ls ↔ (kraftL L ls = 2 ^ L ∧ ∀ l ∈ ls, 1 ≤ l ∧ l ≤ L) := by
  have e20 : (2 : Nat) ^ 20 = 2 ^ (20 - L) * 2 ^ L := by
    rw [← Nat.pow_add]; congr 1; omega
  have hp := Nat.two_pow_pos (20 - L)
  constructor
  · rintro ⟨⟨hk, hr⟩, hle⟩
    rw [kraft20_eq L hL ls hle, e20] at hk
    exact ⟨Nat.eq_of_mul_eq_mul_left hp hk, fun l hl => ⟨(hr l hl).1, hle l hl⟩⟩
  · rintro ⟨hk, hr⟩
    have hle : ∀ l ∈ ls, l ≤ L := fun l hl => (hr l hl).2
    refine ⟨⟨?_, fun l hl => ⟨(hr l hl).1, by have := hle l hl; omega⟩⟩, hle⟩
    rw [kraft20_eq L hL ls hle, hk, e20]

end LbzVerif.Lemmas.PrefixOpt
