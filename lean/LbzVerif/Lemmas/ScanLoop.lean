/-
  Lemmas.ScanLoop — the control flow of `scan()` (bit loop, word loop with
  back-up-and-rescan, `goto again`) computes `findAcc` on the remaining bits.
-/
import LbzVerif.Lemmas.ScanAuto

namespace LbzVerif.Lemmas.ScanLoop

open LbzVerif.Model.Scan LbzVerif.Spec.Scan LbzVerif.Lemmas.ScanBits
  LbzVerif.Lemmas.ScanAuto LbzVerif.Lemmas.ScanTabs

/-- What must come out when the automaton accepts after `k` bits of `rem bs`
(`fa = some k`) or never (`fa = none`). -/
def Outcome (bs : BS) (fa : Option Nat) (r : Res × BS) : Prop :=
  match fa with
  | some k =>
    if k + 32 ≤ (rem bs).length then
      r.1 = .ok ∧ Consistent r.2 ∧ r.2.words = bs.words ∧
        rem r.2 = (rem bs).drop (k + 32)
    else r = (.more, consumed bs)
  | none => r = (.more, consumed bs)

theorem Outcome_shift (bs bs2 : BS) (pre : List Bool) (fa : Option Nat) (r : Res × BS)
    (hrem : rem bs = pre ++ rem bs2) (hw : bs2.words = bs.words)
    (h : Outcome bs2 fa r) : Outcome bs (fa.map (· + pre.length)) r := by
  have hcons : consumed bs2 = consumed bs := by simp [consumed, hw]
  cases fa with
  | none => exact h.trans (congrArg (Prod.mk Res.more) hcons)
  | some k =>
    unfold Outcome at *
    simp only [Option.map_some] at *
    have hlen : (rem bs).length = pre.length + (rem bs2).length := by
      rw [hrem, List.length_append]
    by_cases hk : k + 32 ≤ (rem bs2).length
    · rw [if_pos hk] at h
      rw [if_pos (by omega)]
      obtain ⟨h1, h2, h3, h4⟩ := h
      refine ⟨h1, h2, by rw [h3, hw], ?_⟩
      rw [h4, hrem, show k + pre.length + 32 = pre.length + (k + 32) by omega,
        List.drop_length_add_append]
    · rw [if_neg hk] at h
      rw [if_neg (by omega), h, hcons]

/-- The code after `state == ACCEPT` in the bit loop. -/
def finish (bs1 : BS) : Res × BS :=
  if (need bs1 32).1 then (.ok, dump (need bs1 32).2 32)
  else (.more, consume (need bs1 32).2)

theorem finish_spec (bs1 : BS) (hc : Consistent bs1) :
    Outcome bs1 (some 0) (finish bs1) := by
  unfold Outcome finish
  simp only [Nat.zero_add]
  have hlen := length_rem bs1 hc
  by_cases h32 : 32 ≤ bs1.live
  · rw [need_enough bs1 32 h32]
    obtain ⟨d1, d2, d3⟩ := dump_rem bs1 32 hc h32
    rw [if_pos (by omega)]
    simp only [if_true]
    exact ⟨trivial, d1, d3, d2⟩
  · have hl : bs1.live < 32 := by omega
    by_cases hd : bs1.data < bs1.words.length
    · obtain ⟨l1, l2, l3, l4, -, l6⟩ := load_spec bs1 32 hc hl hl hd
      obtain ⟨d1, d2, d3⟩ := dump_rem (need bs1 32).2 32 l2 (by omega)
      rw [if_pos (by omega), l1]
      simp only [if_true]
      refine ⟨trivial, d1, by rw [d3, l6], by rw [d2, l3]⟩
    · have hd' : bs1.data = bs1.words.length := by have := hc.2.2.2.1; omega
      rw [need_fail bs1 32 hl hd']
      have : ¬ 32 ≤ (rem bs1).length := by rw [hlen, hd']; omega
      rw [if_neg this]
      simp only [Bool.false_eq_true, if_false]
      rw [consume_spec bs1 hc]

theorem bitLoop_succ (n st : Nat) (bs : BS) :
    bitLoop (n + 1) st bs =
      if mini st (bs.buff >>> 63 != 0) = accept then .inl (finish (dump bs 1))
      else bitLoop n (mini st (bs.buff >>> 63 != 0)) (dump bs 1) := by
  conv => lhs; unfold bitLoop
  simp only [finish]
  split
  · rcases hnd : need (dump bs 1) 32 with ⟨okb, bs2⟩
    cases okb <;> simp
  · rfl

theorem bitLoop_spec (n st : Nat) (bs : BS) (hc : Consistent bs)
    (hn : bs.live = n) (hst : st < 48) :
    match findAcc st (bufBits bs) with
    | none => bitLoop n st bs =
        .inr (run st (bufBits bs), { bs with live := 0, buff := 0 })
    | some k => ∃ r, bitLoop n st bs = .inl r ∧ Outcome bs (some k) r := by
  induction n generalizing st bs with
  | zero =>
    have hz := buff_zero bs hc hn
    cases bs with
    | mk l b d w =>
      simp only at hn hz
      subst hn hz
      exact rfl
  | succ m ih =>
    have hl : 0 < bs.live := by omega
    obtain ⟨c1, -, c3, -, c5⟩ := dump_spec bs 1 hc hl
    have hcons := bufBits_cons bs hc hl
    have hrem := rem_cons bs hc hl
    rw [hcons, bitLoop_succ]
    simp only [findAcc]
    by_cases hacc : mini st (bs.buff >>> 63 != 0) = accept
    · simp only [hacc, if_true]
      refine ⟨_, rfl, ?_⟩
      exact Outcome_shift bs (dump bs 1) [bs.buff >>> 63 != 0] (some 0) _ hrem c5
        (finish_spec _ c1)
    · simp only [hacc, if_false]
      have hlt : mini st (bs.buff >>> 63 != 0) < 48 := by
        have := mini_le st hst (bs.buff >>> 63 != 0)
        rw [accept_eq] at hacc; omega
      have ih' := ih _ (dump bs 1) c1 (by rw [c3]; omega) hlt
      cases hf : findAcc (mini st (bs.buff >>> 63 != 0)) (bufBits (dump bs 1)) with
      | none =>
        rw [hf] at ih'
        simp only [Option.map_none]
        rw [ih']
        simp only [run, List.foldl_cons]
        rfl
      | some k =>
        rw [hf] at ih'
        simp only [Option.map_some]
        obtain ⟨r, hr1, hr2⟩ := ih'
        refine ⟨r, hr1, ?_⟩
        exact Outcome_shift bs (dump bs 1) [bs.buff >>> 63 != 0] (some k) r hrem c5 hr2

theorem wordLoop_spec (st data : Nat) (ws : List Nat) (hst : st < 48)
    (hws : ∀ w ∈ ws, w < 2 ^ 32) :
    match wordLoop st data ws with
    | .inl d => d = data + ws.length ∧ findAcc st (ws.flatMap (bitsMSB 32)) = none
    | .inr (bt, d) => ∃ pre w post, ws = pre ++ w :: post ∧ d = data + pre.length ∧
        bt < 48 ∧ findAcc st (pre.flatMap (bitsMSB 32)) = none ∧
        bt = run st (pre.flatMap (bitsMSB 32)) := by
  induction ws generalizing st data with
  | nil => simp [wordLoop, findAcc]
  | cons w t ih =>
    have hw : w < 2 ^ 32 := hws w (by simp)
    have ht : ∀ x ∈ t, x < 2 ^ 32 := fun x hx => hws x (by simp [hx])
    have hstep := wordStep_spec st w hst hw
    unfold wordLoop
    simp only
    by_cases hs : (findAcc st (bitsMSB 32 w)).isSome
    · rw [if_pos hs] at hstep
      rw [hstep, accept_eq]
      simp only [if_true]
      exact ⟨[], w, t, rfl, rfl, hst, by simp [findAcc], by simp [run]⟩
    · rw [if_neg hs] at hstep
      have hnone : findAcc st (bitsMSB 32 w) = none := Option.not_isSome_iff_eq_none.mp hs
      have hlt := run_lt st _ hst hnone
      rw [hstep, accept_eq]
      have hne : ¬ run st (bitsMSB 32 w) = 48 := by omega
      simp only [hne, if_false]
      have ih' := ih (run st (bitsMSB 32 w)) (data + 1) hlt ht
      cases hwl : wordLoop (run st (bitsMSB 32 w)) (data + 1) t with
      | inl d =>
        rw [hwl] at ih'
        simp only at ih' ⊢
        obtain ⟨i1, i2⟩ := ih'
        refine ⟨by rw [i1]; simp; omega, ?_⟩
        rw [List.flatMap_cons, findAcc_append_none hnone, i2]
        rfl
      | inr p =>
        obtain ⟨bt, d⟩ := p
        rw [hwl] at ih'
        simp only at ih' ⊢
        obtain ⟨pre, w', post, e1, e2, e3, e4, e5⟩ := ih'
        refine ⟨w :: pre, w', post, by rw [e1]; rfl, by rw [e2]; simp; omega, e3, ?_, ?_⟩
        · rw [List.flatMap_cons, findAcc_append_none hnone, e4]
          rfl
        · rw [List.flatMap_cons, run_append, e5]

theorem again_spec (f st : Nat) (bs : BS) (hc : Consistent bs) (hst : st < 48)
    (hf : bs.words.length - bs.data < f) :
    Outcome bs (findAcc st (rem bs)) (again f st bs) := by
  induction f generalizing st bs with
  | zero => omega
  | succ f ih =>
    have hdata : bs.data ≤ bs.words.length := hc.2.2.2.1
    have hb := bitLoop_spec bs.live st bs hc rfl hst
    unfold again
    cases hfa : findAcc st (bufBits bs) with
    | some k =>
      rw [hfa] at hb
      obtain ⟨r, hr1, hr2⟩ := hb
      rw [hr1, rem_eq, findAcc_append, hfa]
      exact hr2
    | none =>
      rw [hfa] at hb
      simp only at hb ⊢
      rw [hb]
      simp only
      have hst1 : run st (bufBits bs) < 48 := run_lt st _ hst hfa
      have hws : ∀ w ∈ bs.words.drop bs.data, w < 2 ^ 32 :=
        fun w hw => hc.2.2.2.2 w (List.mem_of_mem_drop hw)
      have hw := wordLoop_spec (run st (bufBits bs)) bs.data (bs.words.drop bs.data)
        hst1 hws
      cases hwl : wordLoop (run st (bufBits bs)) bs.data (bs.words.drop bs.data) with
      | inl d =>
        rw [hwl] at hw
        simp only at hw ⊢
        obtain ⟨w1, w2⟩ := hw
        rw [rem_eq, findAcc_append_none hfa, w2]
        simp only [Option.map_none, Outcome]
        have : d = bs.words.length := by rw [w1]; simp; omega
        rw [this]
        rfl
      | inr p =>
        obtain ⟨bt, d⟩ := p
        rw [hwl] at hw
        simp only at hw ⊢
        obtain ⟨pre, w, post, e1, e2, e3, e4, e5⟩ := hw
        -- the state in which `bits_need(bs, 1)` is called
        let bsd : BS := { live := 0, buff := 0, data := d, words := bs.words }
        have hlenws : (bs.words.drop bs.data).length = pre.length + 1 + post.length := by
          rw [e1]; simp; omega
        have hdlt : d < bs.words.length := by
          simp at hlenws; omega
        have hcd : Consistent bsd := by
          refine ⟨?_, ?_, ?_, Nat.le_of_lt hdlt, hc.2.2.2.2⟩ <;> simp [bsd]
        obtain ⟨-, l2, l3, -, l5, l6⟩ := load_spec bsd 1 hcd
          (by show 0 < 1; decide) (by show 0 < 32; decide) hdlt
        have hdrop : bs.words.drop d = w :: post := by
          rw [e2, ← List.drop_drop, e1]
          simp
        have hremd : rem bsd = bitsMSB 32 w ++ post.flatMap (bitsMSB 32) := by
          rw [rem_eq]
          have : bufBits bsd = [] := by simp [bufBits, bsd]
          rw [this]
          show [] ++ (bs.words.drop d).flatMap (bitsMSB 32) = _
          rw [hdrop, List.flatMap_cons]; rfl
        have ih' := ih bt (need bsd 1).2 l2 e3 (by
          rw [l5, l6]
          show bs.words.length - (d + 1) < f
          omega)
        -- nothing is found in the buffered bits and the words before `w`
        have hrem : rem bs = (bufBits bs ++ pre.flatMap (bitsMSB 32)) ++ rem (need bsd 1).2 := by
          rw [l3, hremd, rem_eq, e1, List.flatMap_append, List.flatMap_cons, List.append_assoc]
        have hnone : findAcc st (bufBits bs ++ pre.flatMap (bitsMSB 32)) = none := by
          rw [findAcc_append_none hfa, e4]
          rfl
        rw [hrem, findAcc_append_none hnone, run_append, ← e5]
        exact Outcome_shift bs _ _ _ _ hrem l6 ih'

theorem scan_spec (bs : BS) (skip : Nat) (hc : Consistent bs) :
    Outcome (skipPhase bs skip) (findAcc 0 ((rem bs).drop (effStart bs skip)))
      (scan bs skip) := by
  obtain ⟨s1, s2, -⟩ := skipPhase_spec bs skip hc
  rw [← s2]
  unfold scan
  exact again_spec _ 0 _ s1 (by decide) (by omega)

end LbzVerif.Lemmas.ScanLoop
