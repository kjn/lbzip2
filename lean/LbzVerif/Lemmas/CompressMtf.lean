/-
  Lemmas.CompressMtf — facts about the alphabet (`usedOf`) and the MTF symbol
  stream (`mtfvOf`) of `Model.Compress.encodeBlock`: the used bytes are the
  bytes of the block in increasing order; the reference MTF/zero-run encoder
  emits at most one symbol per byte plus EOB, every symbol before EOB is below
  EOB, and EOB is last.
-/
import LbzVerif.Model.Compress
import LbzVerif.Lemmas.MtfSpec
import LbzVerif.Lemmas.MtfEnc
import LbzVerif.Lemmas.ListAux

namespace LbzVerif.Lemmas.CompressMtf
open LbzVerif LbzVerif.Model.Compress LbzVerif.Model.Transmit LbzVerif.Spec.Mtf
open LbzVerif.Lemmas.MtfEnc (sel mem_sel sel_sorted sel_length_le)

theorem cmapOf_length (rb : List UInt8) : (cmapOf rb).length = 256 := by
  simp [cmapOf]

theorem cmapOf_getD (rb : List UInt8) (v : Nat) (hv : v < 256) :
    (cmapOf rb).getD v false = rb.contains (UInt8.ofNat v) := by
  simp [cmapOf, List.getD_eq_getElem?_getD, List.getElem?_map, List.getElem?_range hv]

theorem usedBytes_eq_sel (cmap : List Bool) :
    usedBytes cmap = sel (fun v => cmap.getD v false) 0 256 := by
  rw [usedBytes, sel, List.range_eq_range']

theorem usedOf_eq_sel (rb : List UInt8) :
    usedOf rb = sel (fun v => rb.contains (UInt8.ofNat v)) 0 256 := by
  rw [usedOf, usedBytes_eq_sel]
  unfold sel
  apply ListAux.filterMap_congr'
  intro v hv
  simp only [cmapOf_getD rb v (List.mem_range'_1.mp hv).2]

theorem usedOf_sorted (rb : List UInt8) : (usedOf rb).Pairwise (· < ·) :=
  usedOf_eq_sel rb ▸ sel_sorted _ (Nat.le_refl _)

theorem mem_usedOf (rb : List UInt8) (x : UInt8) : x ∈ usedOf rb ↔ x ∈ rb := by
  have := x.toNat_lt
  rw [usedOf_eq_sel, mem_sel (Nat.le_refl _)]
  simp only [UInt8.ofNat_toNat, List.contains_iff_mem, Nat.zero_le, true_and, Nat.zero_add]
  exact ⟨fun h => h.2, fun h => ⟨by omega, h⟩⟩

theorem usedOf_length_le (rb : List UInt8) : (usedOf rb).length ≤ 256 :=
  usedOf_eq_sel rb ▸ sel_length_le _ 0 256

theorem usedOf_ne (rb : List UInt8) (h : rb ≠ []) : usedOf rb ≠ [] := by
  cases rb with
  | nil => exact absurd rfl h
  | cons a t =>
    intro he
    have : a ∈ usedOf (a :: t) := (mem_usedOf _ a).mpr (List.mem_cons_self ..)
    rw [he] at this
    cases this

theorem runDigits_length_le (n : Nat) : (runDigits n).length ≤ n := by
  induction n using Nat.strongRecOn with
  | ind n ih =>
    by_cases h0 : n = 0
    · subst h0; rw [Lemmas.MtfSpec.runDigits_zero]; simp
    · by_cases h1 : n % 2 = 1
      · rw [Lemmas.MtfSpec.runDigits_odd n h0 h1]
        have := ih ((n - 1) / 2) (by omega)
        simp only [List.length_cons]; omega
      · rw [Lemmas.MtfSpec.runDigits_even n h0 h1]
        have := ih ((n - 2) / 2) (by omega)
        simp only [List.length_cons]; omega

theorem mtfEncode_length (l block : List UInt8) : (mtfEncode l block).length = block.length := by
  induction block generalizing l with
  | nil => rfl
  | cons b bs ih => simp [mtfEncode, ih]

theorem zrle_length_le (k : Nat) (ps : List Nat) : (zrle k ps).length ≤ k + ps.length := by
  induction ps generalizing k with
  | nil => simpa [zrle] using runDigits_length_le k
  | cons p ps ih =>
    cases p with
    | zero =>
      have := ih (k + 1)
      simp only [zrle, List.length_cons]; omega
    | succ p =>
      have := ih 0
      have := runDigits_length_le k
      simp only [zrle, List.length_append, List.length_cons]; omega

/-- Under the BWT contract's second clause the model of `do_mtf` stays inside
    its arrays and emits the reference encoding. -/
theorem mtfvOf_eq (rb L : List UInt8) (hL : ∀ x ∈ L, x ∈ rb) :
    mtfvOf rb L = mtfRle2 (usedOf rb) L := by
  unfold mtfvOf
  rw [Lemmas.MtfEnc.doMtf_spec (usedOf rb) L (usedOf_sorted rb)
    (fun x hx => (mem_usedOf rb x).mpr (hL x hx))]
  rfl

theorem mtfRle2_split (used L : List UInt8) :
    mtfRle2 used L = zrle 0 (mtfEncode used L) ++ [used.length + 1] := rfl

theorem mtfRle2_dropLast (used L : List UInt8) :
    (mtfRle2 used L).dropLast = zrle 0 (mtfEncode used L) := by
  rw [mtfRle2_split, List.dropLast_concat]

theorem mtfRle2_getLastD (used L : List UInt8) : (mtfRle2 used L).getLastD 0 = used.length + 1 := by
  rw [mtfRle2_split, List.getLastD_eq_getLast?, List.getLast?_concat]
  rfl

theorem mtfRle2_ne (used L : List UInt8) : mtfRle2 used L ≠ [] := by
  rw [mtfRle2_split]; simp

theorem mtfRle2_length_le (used L : List UInt8) : (mtfRle2 used L).length ≤ L.length + 1 := by
  have := zrle_length_le 0 (mtfEncode used L)
  rw [mtfEncode_length] at this
  rw [mtfRle2_split, List.length_append]
  simp only [List.length_cons, List.length_nil]
  omega

theorem mtfRle2_syms_le (used L : List UInt8) (hu : used ≠ []) (hL : ∀ x ∈ L, x ∈ used) :
    ∀ s ∈ zrle 0 (mtfEncode used L), s ≤ used.length := by
  exact Lemmas.MtfSpec.zrle_le used.length (List.length_pos_iff.mpr hu) 0 _
    (Lemmas.MtfSpec.mtfEncode_lt L used hL)

end LbzVerif.Lemmas.CompressMtf
