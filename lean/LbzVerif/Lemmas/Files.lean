/-
  Lemmas.Files — `Model.Files` seen from outside: the frame of every step (no path but the
  operand's two is touched), and a call that ends the process is the whole step
  (`step_of_exec_ended`).  The invariant of the interrupted run is in Props/C16.lean.
-/
import LbzVerif.Model.Files

namespace LbzVerif.Model.Files

variable {sc : Scn}

@[simp] theorem set_same (fs : FS) (p : Path) (v : Option File) : (fs.set p v) p = v := by
  simp [FS.set]

theorem set_ne (fs : FS) {p q : Path} (v : Option File) (h : q ≠ p) :
    (fs.set p v) q = fs q := by
  simp [FS.set, h]

@[simp] theorem updOut_instat (c : Cfg) (g : File → File) :
    (updOut sc c g).instat = c.instat := by
  unfold updOut
  split <;> rfl

@[simp] theorem updOut_warned (c : Cfg) (g : File → File) :
    (updOut sc c g).warned = c.warned := by
  unfold updOut
  split <;> rfl

theorem updOut_out {c : Cfg} {g : File → File} {f : File}
    (h : (updOut sc c g).fs sc.outP = some f) : ∃ f0, c.fs sc.outP = some f0 ∧ f = g f0 := by
  unfold updOut at h
  split at h
  next f0 hf0 =>
    simp only [set_same] at h
    cases h
    exact ⟨f0, hf0, rfl⟩
  next hn =>
    rw [hn] at h
    cases h

theorem cleanup_frame {c : Cfg} (inj : Inj) {q : Path} (h2 : q ≠ sc.outP) :
    (cleanup sc c inj).fs q = c.fs q := by
  unfold cleanup
  split
  · split
    · rfl
    · exact set_ne _ _ h2
  · rfl

theorem updOut_frame {c : Cfg} (g : File → File) {q : Path} (h2 : q ≠ sc.outP) :
    (updOut sc c g).fs q = c.fs q := by
  unfold updOut
  split
  · exact set_ne _ _ h2
  · rfl

theorem exec_frame {c : Cfg} (inj : Inj) {q : Path} (h1 : q ≠ sc.inP) (h2 : q ≠ sc.outP) :
    (exec sc c inj).fs q = c.fs q := by
  unfold exec
  repeat' split
  all_goals
    simp only [skip, warn, fatal, haltSignal, cleanup_frame inj h2, updOut_frame _ h2,
      set_ne _ _ h1, set_ne _ _ h2]
  -- fchown: the setuid/setgid warning is a conditional under the projection
  split <;> simp only [updOut_frame _ h2]

theorem arrive_fs (c : Cfg) (sg : Sig) : (arrive c sg).fs = c.fs := by
  cases sg with
  | kill => rfl
  | int | term =>
    simp only [arrive]
    split <;> rfl

theorem before_fs (c : Cfg) (inj : Inj) : (before c inj).fs = c.fs := by
  unfold before
  split
  · exact arrive_fs _ _
  · rfl

theorem after_fs (c1 c2 : Cfg) (inj : Inj) : (after c1 c2 inj).fs = c2.fs := by
  unfold after
  split
  · split
    · rfl
    · exact arrive_fs _ _
  · split
    · rfl
    · exact arrive_fs _ _
  · rfl

theorem step_frame {c : Cfg} (inj : Inj) {q : Path} (h1 : q ≠ sc.inP) (h2 : q ≠ sc.outP) :
    (step sc c inj).fs q = c.fs q := by
  unfold step
  split
  · rfl
  · split
    · rw [before_fs]
    · rw [after_fs, exec_frame inj h1 h2, before_fs]

theorem step_of_exec_ended {c c' : Cfg} {inj : Inj} (hne : c.isEnded = false)
    (hsb : inj.sigBefore = none) (hex : exec sc c inj = c') (hen : c'.isEnded = true) :
    step sc c inj = c' := by
  have hb : before c inj = c := by simp [before, hsb]
  unfold step
  rw [if_neg (by simp [hne]), hb, if_neg (by simp [hne]), hex]
  unfold after
  split
  · rw [if_pos hen]
  · rw [if_pos hen]
  · rfl

end LbzVerif.Model.Files
