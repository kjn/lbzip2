/-
  Lemmas.BwtInverseKey — tools for the proof that the inverse BWT of the format
  inverts the rotation-sort BWT (Lemmas.BwtInverseLF, Lemmas.BwtInverseNaive).
  `key` reads a byte string as a base-256 numeral: on strings of EQUAL length
  the numeric order of the keys is the lexicographic order (`lexLe_iff_key`)
  and `key` is injective (`key_inj`), which turns every order argument about
  rotations (`rotl`, `rotr`) into linear arithmetic.
-/
import LbzVerif.Model.Ibwt
import LbzVerif.Lemmas.ListAux

namespace LbzVerif.Lemmas.BwtInverse

/-- a byte string as a base-256 numeral, most significant byte first -/
def key (xs : List UInt8) : Nat := xs.foldl (fun a b => a * 256 + b.toNat) 0

theorem foldl_key (xs : List UInt8) : ∀ a : Nat,
    xs.foldl (fun a b => a * 256 + b.toNat) a = a * 256 ^ xs.length + key xs := by
  induction xs with
  | nil => intro a; simp [key]
  | cons x xs ih =>
    intro a
    simp only [List.foldl_cons, List.length_cons, key]
    rw [ih, ih (0 * 256 + x.toNat), Nat.pow_succ]
    generalize 256 ^ xs.length = P
    generalize key xs = k
    grind

theorem key_nil : key [] = 0 := rfl

theorem key_cons (x : UInt8) (xs : List UInt8) :
    key (x :: xs) = x.toNat * 256 ^ xs.length + key xs := by
  have := foldl_key xs (0 * 256 + x.toNat)
  simp only [Nat.zero_mul, Nat.zero_add] at this
  simpa [key] using this

theorem key_snoc (xs : List UInt8) (c : UInt8) : key (xs ++ [c]) = key xs * 256 + c.toNat := by
  simp [key, List.foldl_append]

theorem mul_add_lt (x y P k : Nat) (h : x < y) (hk : k < P) : x * P + k < y * P := by
  have h1 : (x + 1) * P ≤ y * P := Nat.mul_le_mul_right P h
  rw [Nat.succ_mul] at h1
  omega

theorem digit_le (x y P k1 k2 : Nat) (h1 : k1 < P) (h2 : k2 < P) :
    x * P + k1 ≤ y * P + k2 ↔ x < y ∨ (x = y ∧ k1 ≤ k2) := by
  rcases Nat.lt_trichotomy x y with h | h | h
  · have := mul_add_lt _ _ _ _ h h1
    omega
  · subst h
    omega
  · have := mul_add_lt _ _ _ _ h h2
    omega

theorem key_lt (xs : List UInt8) : key xs < 256 ^ xs.length := by
  induction xs with
  | nil => simp [key]
  | cons x xs ih =>
    rw [key_cons, List.length_cons, Nat.pow_succ, Nat.mul_comm (256 ^ xs.length) 256]
    exact mul_add_lt _ _ _ _ x.toNat_lt ih

theorem key_inj : ∀ (xs ys : List UInt8), xs.length = ys.length → key xs = key ys → xs = ys := by
  intro xs
  induction xs with
  | nil =>
    intro ys hl _
    cases ys with
    | nil => rfl
    | cons _ _ => simp at hl
  | cons x xs ih =>
    intro ys hl hk
    cases ys with
    | nil => simp at hl
    | cons y ys =>
      have hl' : xs.length = ys.length := by simpa using hl
      rw [key_cons, key_cons, ← hl'] at hk
      have b1 := key_lt xs
      have b2 := key_lt ys
      rw [← hl'] at b2
      have h1 := (digit_le _ _ _ _ _ b1 b2).mp (Nat.le_of_eq hk)
      have h2 := (digit_le _ _ _ _ _ b2 b1).mp (Nat.le_of_eq hk.symm)
      rw [UInt8.toNat_inj.mp (by omega : x.toNat = y.toNat), ih ys hl' (by omega)]

theorem lexLe_iff_key : ∀ (xs ys : List UInt8), xs.length = ys.length →
    (Spec.Ibwt.lexLe xs ys = true ↔ key xs ≤ key ys) := by
  intro xs
  induction xs with
  | nil => intro ys _; simp [Spec.Ibwt.lexLe, key]
  | cons x xs ih =>
    intro ys hl
    cases ys with
    | nil => simp at hl
    | cons y ys =>
      have hl' : xs.length = ys.length := by simpa using hl
      have b2 := key_lt ys
      rw [← hl'] at b2
      rw [key_cons, key_cons, ← hl', digit_le _ _ _ _ _ (key_lt xs) b2, ← ih ys hl',
        ← UInt8.lt_iff_toNat_lt, UInt8.toNat_inj, Spec.Ibwt.lexLe]
      by_cases h1 : x < y
      · simp [h1]
      · rw [if_neg h1]
        by_cases h2 : y < x
        · have hne : x ≠ y := fun h => h1 (h ▸ h2)
          simp [h1, h2, hne]
        · have : x = y := UInt8.le_antisymm (UInt8.not_lt.mp h2) (UInt8.not_lt.mp h1)
          simp [this]

/-- Rotation by one: `rotl` moves the first byte to the end (the next rotation of the text),
`rotr` the last byte to the front. -/
def rotl : List UInt8 → List UInt8
  | [] => []
  | c :: xs => xs ++ [c]

def rotr (r : List UInt8) : List UInt8 := r.getLastD 0 :: r.dropLast

theorem rotr_snoc (xs : List UInt8) (c : UInt8) : rotr (xs ++ [c]) = c :: xs := by
  simp [rotr, List.getLastD_eq_getLast?]

theorem rotl_rotr (r : List UInt8) (h : r ≠ []) : rotl (rotr r) = r := by
  simp only [rotr, rotl]
  exact (ListAux.eq_dropLast_append_getLastD 0 h).symm

theorem rotr_rotl (r : List UInt8) : r ≠ [] → rotr (rotl r) = r := by
  intro h
  cases r with
  | nil => exact absurd rfl h
  | cons c xs => simp only [rotl, rotr_snoc]

theorem rotl_length (r : List UInt8) : (rotl r).length = r.length := by
  cases r <;> simp [rotl]

theorem rotr_length (r : List UInt8) (h : r ≠ []) : (rotr r).length = r.length := by
  have := congrArg List.length (ListAux.eq_dropLast_append_getLastD (0 : UInt8) h)
  simp only [rotr, List.length_cons, List.length_append, List.length_nil] at this ⊢
  omega

theorem rotl_ne (r : List UInt8) (h : r ≠ []) : rotl r ≠ [] := by
  intro h0
  have := rotl_length r
  rw [h0] at this
  exact h (List.eq_nil_of_length_eq_zero this.symm)

theorem getLastD_rotl (c : UInt8) (xs : List UInt8) : (rotl (c :: xs)).getLastD 0 = c := by
  simp [rotl, List.getLastD_eq_getLast?]

end LbzVerif.Lemmas.BwtInverse
