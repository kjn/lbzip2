/-
  Lemmas.Fail — `Model.Fail` seen from outside: how `St.get`/`St.set` act on the
  fields, and `stepSub`/`stepMain` as relations (`SubStep`, `MainStep`) with one
  constructor per enabled transition, so that no proof unfolds the step
  functions or enumerates the three sub-threads.
-/
import LbzVerif.Model.Fail

namespace LbzVerif.Model.Fail

theorem mainBailoutEnd_cases (a b : Bool) :
    (mainBailoutEnd a b = .died SIGPIPE ∧ a = true) ∨
    (mainBailoutEnd a b = .died SIGXFSZ ∧ b = true) ∨ mainBailoutEnd a b = .exit 1 := by
  cases a <;> cases b <;> simp [mainBailoutEnd]

theorem mainBailoutEnd_ne_exit0 (a b : Bool) : mainBailoutEnd a b ≠ .exit 0 := by
  cases a <;> cases b <;> simp [mainBailoutEnd]

theorem Tid.forall_iff {P : Tid → Prop} : (∀ u, P u) ↔ P .p ∧ P .r ∧ P .w :=
  ⟨fun h => ⟨h _, h _, h _⟩, fun ⟨hp, hr, hw⟩ u => by cases u <;> assumption⟩

theorem Tid.exists_iff {P : Tid → Prop} : (∃ u, P u) ↔ P .p ∨ P .r ∨ P .w :=
  ⟨fun ⟨u, h⟩ => by cases u <;> simp [h],
   fun h => by rcases h with h | h | h <;> exact ⟨_, h⟩⟩

namespace St

@[simp] theorem get_set_same (s : St) (t : Tid) (x : Sub) : (s.set t x).get t = x := by
  cases t <;> rfl

theorem get_set_ne (s : St) {t u : Tid} (x : Sub) (h : u ≠ t) : (s.set t x).get u = s.get u := by
  cases t <;> cases u <;> simp [set, get] at h ⊢

@[simp] theorem get_mk (s : St) (m : Main) (l u1 u2 pi xf se wf : Bool) (u : Tid) :
    St.get ⟨m, s.p, s.r, s.w, l, u1, u2, pi, xf, se, wf⟩ u = s.get u := by
  cases u <;> rfl

@[simp] theorem set_frame (s : St) (t : Tid) (x : Sub) :
    (s.set t x).main = s.main ∧ (s.set t x).lock = s.lock ∧ (s.set t x).usr1 = s.usr1 ∧
    (s.set t x).usr2 = s.usr2 ∧ (s.set t x).pipe = s.pipe ∧ (s.set t x).xfsz = s.xfsz ∧
    (s.set t x).stderr = s.stderr ∧ (s.set t x).wfail = s.wfail := by
  cases t <;> exact ⟨rfl, rfl, rfl, rfl, rfl, rfl, rfl, rfl⟩

theorem weight_set (s : St) (t : Tid) (x : Sub) :
    (s.set t x).weight + (s.get t).weight = s.weight + x.weight := by
  cases t <;> simp only [weight, set, get] <;> omega

@[simp] theorem weight_mk (s : St) (l u1 u2 pi xf se wf : Bool) :
    St.weight ⟨s.main, s.p, s.r, s.w, l, u1, u2, pi, xf, se, wf⟩ = s.weight := rfl

end St

/-- Sub-threads run only while main is in `halt` or has just left it. -/
theorem alive_main {s : St} (h : s.subsAlive = true) :
    (∀ e, s.main ≠ .done e) ∧ ∀ l, s.main ≠ .pre l := by
  cases hm : s.main <;> simp [St.subsAlive, hm] at h ⊢

inductive SubStep (d : Disp) (s : St) : Tid → St → Prop
  | io {t : Tid} {io : Io} {l : List Io} : s.get t = .run (io :: l) → io.err = none →
      SubStep d s t (s.set t (.run l))
  | ioFail {t : Tid} {io : Io} {l : List Io} {e : Errno} : s.get t = .run (io :: l) →
      io.err = some e →
      SubStep d s t { s.set t (.failed e (genSignal d io.rw e)) with
                      wfail := s.wfail || (io.rw == .write) }
  | finP : s.get .p = .run [] → s.r = .finished → s.w = .finished →
      SubStep d s .p { s.set .p .finished with usr2 := true }
  | fin {t : Tid} : t ≠ .p → s.get t = .run [] → SubStep d s t (s.set t .finished)
  | lock {t : Tid} {e : Errno} {sg : Option Signo} : s.get t = .failed e sg → s.lock = false →
      SubStep d s t { s.set t (.locked e sg) with lock := true }
  | log {t : Tid} {e : Errno} {sg : Option Signo} : s.get t = .locked e sg →
      SubStep d s t { s.set t (.logged sg) with stderr := s.stderr || !silent e }
  | promote {t : Tid} {sg : Option Signo} : s.get t = .logged sg →
      SubStep d s t { s.set t .promoted with
                      pipe := s.pipe || (sg == some SIGPIPE),
                      xfsz := s.xfsz || (sg == some SIGXFSZ) }
  | raise {t : Tid} : s.get t = .promoted → SubStep d s t { s.set t .raised with usr1 := true }
  | exit {t : Tid} : s.get t = .raised → SubStep d s t (s.set t .exited)

theorem stepSub_eq_some {d : Disp} {s s' : St} {t : Tid} (h : stepSub d s t = some s') :
    s.subsAlive = true ∧ SubStep d s t s' := by
  unfold stepSub at h
  split at h
  · cases h
  next ha =>
  refine ⟨by simpa using ha, ?_⟩
  split at h
  next io l hx =>
    split at h
    next he =>
      cases h
      exact .io hx he
    next e he =>
      cases h
      exact .ioFail hx he
  next hx =>
    split at h
    · split at h
      next hg =>
        cases h
        simp only [Bool.and_eq_true, beq_iff_eq] at hg
        exact .finP hx hg.1 hg.2
      · cases h
    next hne =>
      cases h
      exact .fin (fun ht => hne ht) hx
  next e sg hx =>
    split at h
    · cases h
    next hl =>
      cases h
      exact .lock hx (by simpa using hl)
  next e sg hx =>
    cases h
    exact .log hx
  next sg hx =>
    cases h
    exact .promote hx
  next hx =>
    cases h
    exact .raise hx
  next hx =>
    cases h
    exact .exit hx
  · cases h
  · cases h

theorem stepSub_eq_none {d : Disp} {s : St} {t : Tid} (ha : s.subsAlive = true)
    (h : stepSub d s t = none) :
    s.get t = .exited ∨ s.get t = .finished ∨ (∃ e sg, s.get t = .failed e sg ∧ s.lock = true) ∨
    (t = .p ∧ s.get t = .run [] ∧ ¬ (s.r = .finished ∧ s.w = .finished)) := by
  simp only [stepSub, ha, Bool.not_true, Bool.false_eq_true, if_false] at h
  cases hx : s.get t with
  | exited => exact .inl rfl
  | finished => exact .inr (.inl rfl)
  | failed e sg => exact .inr (.inr (.inl ⟨e, sg, rfl, by simpa [hx] using h⟩))
  | run l =>
    rw [hx] at h
    cases l with
    | cons io l => cases he : io.err <;> simp [he] at h
    | nil =>
      cases t <;> simp at h ⊢
      exact h
  | _ => simp [hx] at h

namespace SubStep

variable {d : Disp} {s s' : St} {t : Tid}

theorem main (h : SubStep d s t s') : s'.main = s.main := by
  cases h <;> simp

theorem get_ne (h : SubStep d s t s') {u : Tid} (hu : u ≠ t) : s'.get u = s.get u := by
  cases h <;> simp [St.get_set_ne _ _ hu]

theorem forall_get {Q : Sub → Prop} (h : SubStep d s t s') (hq : ∀ u, Q (s.get u))
    (ht : Q (s'.get t)) (u : Tid) : Q (s'.get u) := by
  by_cases hut : u = t
  · exact hut ▸ ht
  · exact (h.get_ne hut).symm ▸ hq u

theorem exists_get {P : Sub → Bool} (h : SubStep d s t s') (hp : ∃ u, P (s.get u) = true)
    (ht : P (s.get t) = true → P (s'.get t) = true) : ∃ u, P (s'.get u) = true := by
  obtain ⟨u, hu⟩ := hp
  by_cases hut : u = t
  · exact ⟨t, ht (hut ▸ hu)⟩
  · exact ⟨u, (h.get_ne hut).symm ▸ hu⟩

theorem exists_get_inv {P : Sub → Bool} (h : SubStep d s t s') (hp : ∃ u, P (s'.get u) = true) :
    P (s'.get t) = true ∨ ∃ u, P (s.get u) = true := by
  obtain ⟨u, hu⟩ := hp
  by_cases hut : u = t
  · exact .inl (hut ▸ hu)
  · exact .inr ⟨u, h.get_ne hut ▸ hu⟩

theorem weight_lt (h : SubStep d s t s') : s'.weight < s.weight := by
  have frame : s'.weight + (s.get t).weight = s.weight + (s'.get t).weight := by
    cases h <;> simp only [St.weight_mk, St.get_mk, St.get_set_same] <;> exact St.weight_set _ _ _
  have dec : (s'.get t).weight < (s.get t).weight := by
    cases h <;> simp [*, Sub.weight] <;> omega
  omega

end SubStep

inductive MainStep (d : Disp) (s : St) : St → Prop
  | io {io : Io} {l : List Io} : s.main = .pre (io :: l) → io.err = none →
      MainStep d s { s with main := .pre l }
  | ioFail {io : Io} {l : List Io} {e : Errno} : s.main = .pre (io :: l) → io.err = some e →
      MainStep d s { s with
        stderr := s.stderr || !silent e,
        wfail := s.wfail || (io.rw == .write),
        main := .done (mainBailoutEnd (s.pipe || (genSignal d io.rw e == some SIGPIPE))
                                      (s.xfsz || (genSignal d io.rw e == some SIGXFSZ))) }
  | suspend : s.main = .pre [] → MainStep d s { s with main := .susp }
  | bail : s.main = .susp → s.usr1 = true →
      MainStep d s { s with main := .done (mainBailoutEnd s.pipe s.xfsz) }
  | wake : s.main = .susp → s.usr1 = false → s.usr2 = true →
      MainStep d s { s with main := .post, usr2 := false }
  | late : s.main = .post → s.usr1 = true → MainStep d s { s with main := .done (.died SIGUSR1) }
  | ok : s.main = .post → s.usr1 = false → MainStep d s { s with main := .done (.exit 0) }

theorem MainStep.frame {d : Disp} {s s' : St} (h : MainStep d s s') :
    (∀ u, s'.get u = s.get u) ∧ s'.usr1 = s.usr1 ∧ s'.lock = s.lock ∧ s'.pipe = s.pipe ∧
    s'.xfsz = s.xfsz := by
  cases h <;> exact ⟨fun _ => St.get_mk .., rfl, rfl, rfl, rfl⟩

theorem stepMain_eq_some {d : Disp} {s s' : St} (h : stepMain d s = some s') : MainStep d s s' := by
  unfold stepMain at h
  split at h
  next io l hm =>
    split at h
    next he =>
      cases h
      exact .io hm he
    next e he =>
      cases h
      exact .ioFail hm he
  next hm =>
    cases h
    exact .suspend hm
  next hm =>
    split at h
    next hu =>
      cases h
      exact .bail hm hu
    next hu =>
      split at h
      next hu2 =>
        cases h
        exact .wake hm (by simpa using hu) hu2
      · cases h
  next hm =>
    split at h
    next hu =>
      cases h
      exact .late hm hu
    next hu =>
      cases h
      exact .ok hm (by simpa using hu)
  · cases h

theorem MainStep.not_done {d : Disp} {s s' : St} (h : MainStep d s s') (e : Ending) :
    s.main ≠ .done e := by
  cases h <;> simp [*]

theorem MainStep.weight_lt {d : Disp} {s s' : St} (h : MainStep d s s') :
    s'.weight < s.weight := by
  cases h <;> simp only [St.weight, Main.weight, *, List.length_cons] <;> omega

theorem step_eq_some {d : Disp} {s s' : St} {t : Thr} (h : step d s t = some s') :
    MainStep d s s' ∨ ∃ u, s.subsAlive = true ∧ SubStep d s u s' := by
  cases t with
  | main => exact .inl (stepMain_eq_some h)
  | p => exact .inr ⟨.p, stepSub_eq_some h⟩
  | r => exact .inr ⟨.r, stepSub_eq_some h⟩
  | w => exact .inr ⟨.w, stepSub_eq_some h⟩

theorem stepMain_eq_none {d : Disp} {s : St} (h : stepMain d s = none) :
    (s.main = .susp ∧ s.usr1 = false ∧ s.usr2 = false) ∨ ∃ e, s.main = .done e := by
  unfold stepMain at h
  split at h
  · split at h <;> cases h
  · cases h
  next hm =>
    split at h
    · cases h
    next hu =>
      split at h
      · cases h
      next hu2 => exact .inl ⟨hm, by simpa using hu, by simpa using hu2⟩
  · split at h <;> cases h
  next e hm => exact .inr ⟨e, hm⟩

end LbzVerif.Model.Fail
