/-
  Lemmas.GroupPure — `groupsRef` (decode one symbol, act on it, interleaved;
  `Lemmas/GroupDefs.lean`) is `Spec.Bzip2.decodeGroups` (decode everything
  first) followed by folding `symStep` over the renumbered symbols.
  Everything here is pure (lists of bits, no bit buffer).
-/
import LbzVerif.Lemmas.GroupDefs
import LbzVerif.Lemmas.Delta
import LbzVerif.Lemmas.ListSum

namespace LbzVerif.Lemmas.GroupPure
open LbzVerif.Basic LbzVerif.Model.Retrieve LbzVerif.Lemmas.GroupDefs
open LbzVerif.Model.MtfDec (RunSt)
open LbzVerif.Spec.Bzip2 (Reject Code decodeSym decodeGroup decodeGroups mkCode decodeRank)

/-- The tables of a block with `N` byte values in use (`alpha_size = N + 2`: RUNA, RUNB, the MTF
positions 1 … `N - 1`, EOB): each gives every symbol a length of the format. -/
structure TabsOk (tabs : List (List Nat)) (N : Nat) : Prop where
  n1 : 1 ≤ N
  n256 : N ≤ 256
  each : ∀ l ∈ tabs, Lemmas.Delta.LensOk (N + 2) l

/-- The MTF list `M` of table numbers (`rs->mtf[]` in the group loop) names tables only. -/
def MOk (M : List Nat) (tabs : List (List Nat)) : Prop := ∀ t ∈ M, t < tabs.length
def JsOk (js M : List Nat) : Prop := ∀ j ∈ js, j < M.length

theorem mtf_isSome (M : List Nat) (j : Nat) (hj : j < M.length) :
    Spec.Bzip2.moveToFront M j = some (M[j], M[j] :: M.eraseIdx j) := by
  unfold Spec.Bzip2.moveToFront
  rw [List.getElem?_eq_getElem hj]

theorem mtf_some (M : List Nat) (j t : Nat) (M' : List Nat)
    (h : Spec.Bzip2.moveToFront M j = some (t, M')) :
    j < M.length ∧ t ∈ M ∧ M'.length = M.length ∧ ∀ x ∈ M', x ∈ M := by
  have hj : j < M.length := by
    apply Classical.byContradiction
    intro hn
    rw [Spec.Bzip2.moveToFront, List.getElem?_eq_none (by omega)] at h
    cases h
  rw [mtf_isSome M j hj] at h
  cases h
  refine ⟨hj, List.getElem_mem hj, by rw [List.length_cons, List.length_eraseIdx_of_lt hj]; omega, ?_⟩
  intro y hy
  rcases List.mem_cons.mp hy with rfl | hy
  · exact List.getElem_mem hj
  · exact List.mem_of_mem_eraseIdx hy

/-- What the group loop needs of its pure state: the tables `tabs` (at most `MAX_TREES`, as the
header delivers them), the MTF list `M` of table numbers, the selector codes `js` still to use. -/
structure GWf (tabs : List (List Nat)) (N : Nat) (js M : List Nat) : Prop where
  tok : TabsOk tabs N
  tl : tabs.length ≤ Gen.MAX_TREES
  m : MOk M tabs
  js : JsOk js M

theorem MOk_step (M : List Nat) (T : List (List Nat)) (j t : Nat) (M' : List Nat)
    (h : Spec.Bzip2.moveToFront M j = some (t, M')) (hM : MOk M T) : t < T.length ∧ MOk M' T := by
  obtain ⟨_, ht, _, hsub⟩ := mtf_some M j t M' h
  exact ⟨hM t ht, fun x hx => hM x (hsub x hx)⟩

theorem JsOk_step (M : List Nat) (j t : Nat) (M' : List Nat) (js : List Nat)
    (h : Spec.Bzip2.moveToFront M j = some (t, M')) (hJ : JsOk (j :: js) M) : JsOk js M' := by
  obtain ⟨_, _, hl, _⟩ := mtf_some M j t M' h
  intro x hx
  rw [hl]
  exact hJ x (List.mem_cons_of_mem _ hx)

theorem GWf.step {tabs : List (List Nat)} {N j t : Nat} {js M M' : List Nat} (h : GWf tabs N (j :: js) M)
    (hm : Spec.Bzip2.moveToFront M j = some (t, M')) : t < tabs.length ∧ GWf tabs N js M' := by
  obtain ⟨ht, hM'⟩ := MOk_step M tabs j t M' hm h.m
  exact ⟨ht, h.tok, h.tl, hM', JsOk_step M j t M' js hm h.js⟩

theorem GWf.take {tabs : List (List Nat)} {N : Nat} {js M : List Nat} (h : GWf tabs N js M) (k : Nat) :
    GWf tabs N (js.take k) M :=
  ⟨h.tok, h.tl, h.m, fun j hj => h.js j (List.mem_of_mem_take hj)⟩

theorem unMtfSelectors_eq (M js : List Nat) (acc : Array Nat) :
    Spec.Bzip2.unMtfSelectors M js acc = (unmtfL M js).map (fun ts => acc ++ ts.toArray) := by
  induction js generalizing M acc with
  | nil => simp [Spec.Bzip2.unMtfSelectors, unmtfL]
  | cons j js ih =>
    unfold Spec.Bzip2.unMtfSelectors unmtfL
    cases hm : Spec.Bzip2.moveToFront M j with
    | none => simp
    | some p =>
      obtain ⟨t, M'⟩ := p
      simp only [ih]
      cases unmtfL M' js <;> simp

theorem unmtfL_isSome (M js : List Nat) (h : JsOk js M) :
    ∃ ts, unmtfL M js = some ts ∧ ts.length = js.length := by
  induction js generalizing M with
  | nil => exact ⟨[], rfl, rfl⟩
  | cons j js ih =>
    have hj : j < M.length := h j (List.mem_cons_self ..)
    have hm := mtf_isSome M j hj
    obtain ⟨ts, hts, hl⟩ := ih _ (JsOk_step M j _ _ js hm h)
    refine ⟨M[j] :: ts, ?_, by simp [hl]⟩
    unfold unmtfL
    rw [hm]
    simp only [hts]

theorem unmtfL_cons (M : List Nat) (j : Nat) (js ts : List Nat) (t : Nat) (M' : List Nat)
    (hm : Spec.Bzip2.moveToFront M j = some (t, M')) (h : unmtfL M (j :: js) = some ts) :
    ∃ ts', ts = t :: ts' ∧ unmtfL M' js = some ts' := by
  unfold unmtfL at h
  rw [hm] at h
  simp only [] at h
  cases hu : unmtfL M' js with
  | none => rw [hu] at h; cases h
  | some ts' =>
    rw [hu] at h
    cases h
    exact ⟨ts', rfl, rfl⟩

theorem unmtfL_append (M a b ts : List Nat) (h : unmtfL M (a ++ b) = some ts) :
    ∃ ta tb, ts = ta ++ tb ∧ unmtfL M a = some ta ∧ ta.length = a.length := by
  induction a generalizing M ts with
  | nil => exact ⟨[], ts, rfl, rfl, rfl⟩
  | cons j a ih =>
    cases hm : Spec.Bzip2.moveToFront M j with
    | none => rw [List.cons_append, unmtfL, hm] at h; cases h
    | some p =>
      obtain ⟨t, M'⟩ := p
      obtain ⟨ts', rfl, h'⟩ := unmtfL_cons M j (a ++ b) ts t M' hm h
      obtain ⟨ta, tb, h1, h2, h3⟩ := ih M' ts' h'
      exact ⟨t :: ta, tb, by rw [h1]; rfl, by simp only [unmtfL, hm, h2], by simp [h3]⟩

theorem codes_get (tabs : List (List Nat)) (t : Nat) (ht : t < tabs.length) :
    ((tabs.map Spec.Bzip2.mkCode).toArray)[t]? = some (Spec.Bzip2.mkCode (tabs.getD t [])) := by
  simp [List.getD_eq_getElem?_getD, List.getElem?_eq_getElem ht]

theorem kraftSum_eq (l : List Nat) : Spec.Bzip2.kraftSum l = Spec.Prefix.kraft20 l := by
  unfold Spec.Bzip2.kraftSum Spec.Prefix.kraft20
  rw [ListSum.foldl_add_sum (fun x => 2 ^ (Spec.Bzip2.maxLen - x)) l 0, Nat.zero_add]
  rfl

theorem complete_iff (l : List Nat) (h : ∀ x ∈ l, 1 ≤ x ∧ x ≤ 20) :
    (Spec.Bzip2.mkCode l).complete = true ↔ Spec.Prefix.Complete l := by
  simp only [Spec.Bzip2.mkCode, Spec.Bzip2.kraftComplete, kraftSum_eq, Spec.Prefix.Complete,
    Spec.Bzip2.maxLen, beq_iff_eq]
  exact ⟨fun hk => ⟨hk, h⟩, fun hc => hc.1⟩

def shiftPos (pos : Nat) : Except Reject (Nat × Nat × Bits) → Except Reject (Nat × Nat × Bits)
  | .ok (s, p, r) => .ok (s, pos + p, r)
  | .error e => .error e

theorem decodeRank_pos (counts : List Nat) (code first index pos q : Nat) (bits : Bits) :
    decodeRank counts code first index (pos + q) bits =
      shiftPos pos (decodeRank counts code first index q bits) := by
  induction counts generalizing code first index q bits with
  | nil => simp [decodeRank, shiftPos]
  | cons c cs ih =>
    cases bits with
    | nil => simp [decodeRank, shiftPos]
    | cons b bs =>
      simp only [decodeRank]
      split
      · simp [shiftPos, Nat.add_assoc]
      · rw [Nat.add_assoc, ih]

theorem decodeSym_pos (c : Code) (pos : Nat) (bits : Bits) :
    Spec.Bzip2.decodeSym c pos bits =
      match Spec.Bzip2.decodeSym c 0 bits with
      | .ok (s, p, r) => .ok (s, pos + p, r)
      | .error e => .error e := by
  unfold Spec.Bzip2.decodeSym
  have h := decodeRank_pos c.counts 0 0 0 pos 0 bits
  rw [Nat.add_zero] at h
  rw [h]
  cases decodeRank c.counts 0 0 0 0 bits with
  | error e => rfl
  | ok x =>
    obtain ⟨r, p, rest⟩ := x
    simp only [shiftPos]
    cases c.perm[r]? <;> rfl

theorem decodeSym_lt (l : List Nat) (pos : Nat) (bits : Bits) (s p : Nat) (r : Bits)
    (h : Spec.Bzip2.decodeSym (mkCode l) pos bits = .ok (s, p, r)) : s < l.length := by
  unfold Spec.Bzip2.decodeSym at h
  split at h
  · cases h
  · rename_i rk p1 b1 _
    split at h
    · cases h
    · rename_i s' hs
      cases h
      have hmem : s ∈ (mkCode l).perm.toList := by
        have := Array.mem_of_getElem? hs
        exact Array.mem_toList_iff.mpr this
      simp only [Spec.Bzip2.mkCode, List.mem_flatMap, List.mem_filter, List.mem_range] at hmem
      obtain ⟨_, _, hlt, _⟩ := hmem
      exact hlt

theorem renumber_eq_zero (N s : Nat) (hN : 1 ≤ N) (hs : s < N + 2) :
    Model.Canon.renumber (N + 2) s = 0 ↔ s = N + 1 := by
  unfold Model.Canon.renumber
  split
  · omega
  · split
    · omega
    · split <;> omega

theorem symStep_eob (rs : RunSt) (x : Nat) : symStep rs x = .eob ↔ x = 0 := by
  refine ⟨fun h => Classical.byContradiction fun hx => ?_, fun h => by rw [symStep, if_pos h]⟩
  rw [symStep, if_neg hx] at h
  split at h
  · split at h <;> cases h
  · split at h
    · cases h
    · simp only at h
      split at h <;> cases h

theorem symFold_cons_eq (rs : RunSt) (x : Nat) (xs : List Nat) :
    symFold rs (x :: xs) = match symStep rs x with
      | .cont rs1 => symFold rs1 xs
      | _ => none := by
  rw [symFold]
  cases symStep rs x <;> rfl

theorem symFold_append_eq (rs : RunSt) (a b : List Nat) :
    symFold rs (a ++ b) = (symFold rs a).bind fun rs1 => symFold rs1 b := by
  induction a generalizing rs with
  | nil => rfl
  | cons x a ih =>
    rw [List.cons_append, symFold_cons_eq, symFold_cons_eq]
    cases symStep rs x with
    | cont rs1 => exact ih rs1
    | eob => rfl
    | stop r => rfl

/-- `decodeGroup` without position and accumulator: the symbols in front of the
end of the group, whether that end is an EOB, the bits consumed, the rest. -/
def groupSyms (c : Code) (eob : Nat) : Nat → Bits → Except Reject (Bool × List Nat × Nat × Bits)
  | 0, B => .ok (false, [], 0, B)
  | k + 1, B =>
    match decodeSym c 0 B with
    | .error e => .error e
    | .ok (s, p, B1) =>
      if s == eob then .ok (true, [], p, B1)
      else
        match groupSyms c eob k B1 with
        | .error e => .error e
        | .ok (f, ss, q, B') => .ok (f, s :: ss, p + q, B')

theorem decodeGroup_eq (c : Code) (eob : Nat) : ∀ (k pos : Nat) (B : Bits) (acc : Array Nat),
    decodeGroup c eob k pos B acc =
      (groupSyms c eob k B).map fun (f, ss, q, B') => (f, pos + q, B', acc ++ ss.toArray) := by
  intro k
  induction k with
  | zero => intro pos B acc; simp [decodeGroup, groupSyms, Except.map]
  | succ k ih =>
    intro pos B acc
    rw [decodeGroup, groupSyms, decodeSym_pos]
    cases decodeSym c 0 B with
    | error e => rfl
    | ok x =>
      obtain ⟨s, p, B1⟩ := x
      simp only
      split
      · simp [Except.map]
      · rw [ih]
        cases groupSyms c eob k B1 <;> simp [Except.map, Nat.add_assoc]

theorem groupSyms_ok (lens : List Nat) (N : Nat) (hlen : lens.length = N + 2)
    (k : Nat) (B : Bits) (f : Bool) (ss : List Nat) (q : Nat) (B' : Bits)
    (h : groupSyms (mkCode lens) (N + 1) k B = .ok (f, ss, q, B')) :
    (∀ s ∈ ss, s < N + 1) ∧ ss.length ≤ k ∧ (f = false → ss.length = k) := by
  fun_induction groupSyms (mkCode lens) (N + 1) k B generalizing f ss q with
  | case1 B => cases h; simp
  | case2 k B e hd => cases h
  | case3 k B s p B1 hd he => cases h; simp
  | case4 k B s p B1 hd he e hg ih => cases h
  | case5 k B s p B1 hd he f1 ss1 q1 B2 hg ih =>
    cases h
    obtain ⟨h1, h2, h3⟩ := ih _ _ _ hg
    have hs : s < N + 2 := hlen ▸ decodeSym_lt lens 0 B s p B1 hd
    have : s ≠ N + 1 := by simpa using he
    refine ⟨?_, by simp; omega, fun hf => by simp [h3 hf]⟩
    intro y hy
    rcases List.mem_cons.mp hy with rfl | hy
    · omega
    · exact h1 y hy

/-- The regular end of a group: was it the EOB, the run state, the unread bits. -/
def regG : GOut → Option (Bool × RunSt × Bits)
  | .top rs B => some (false, rs, B)
  | .eob rs B => some (true, rs, B)
  | _ => none

/-- Decode first, act afterwards: the symbol actions folded over what `groupSyms` read. -/
def foldG (N : Nat) (rs : RunSt) : Except Reject (Bool × List Nat × Nat × Bits) → Option (Bool × RunSt × Bits)
  | .ok (f, ss, _, B') => (symFold rs (ss.map (Model.Canon.renumber (N + 2)))).map fun rs' => (f, rs', B')
  | .error _ => none

theorem groupRef_eq (lens : List Nat) (N : Nat) (hlen : lens.length = N + 2) (hN : 1 ≤ N) :
    ∀ (k : Nat) (rs : RunSt) (B : Bits),
      regG (groupRef lens k rs B) = foldG N rs (groupSyms (mkCode lens) (N + 1) k B) := by
  intro k
  induction k with
  | zero => intro rs B; rfl
  | succ k ih =>
    intro rs B
    rw [groupRef, groupSyms]
    cases hd : decodeSym (mkCode lens) 0 B with
    | error e => rfl
    | ok x =>
      obtain ⟨s, p, B1⟩ := x
      have hs : s < N + 2 := hlen ▸ decodeSym_lt lens 0 B s p B1 hd
      simp only [hlen]
      by_cases he : s = N + 1
      · rw [(symStep_eob _ _).mpr ((renumber_eq_zero N s hN hs).mpr he), if_pos (by simpa using he)]
        rfl
      · rw [if_neg (by simpa using he)]
        have hne : symStep rs (Model.Canon.renumber (N + 2) s) ≠ .eob := fun h =>
          he ((renumber_eq_zero N s hN hs).mp ((symStep_eob _ _).mp h))
        have hih := ih
        cases hg : groupSyms (mkCode lens) (N + 1) k B1 with
        | error e => cases hst : symStep rs (Model.Canon.renumber (N + 2) s) with
          | eob => exact absurd hst hne
          | stop r => rfl
          | cont rs1 => simp only [hih rs1 B1, hg]; rfl
        | ok y =>
          obtain ⟨f, ss, q, B'⟩ := y
          simp only [foldG, List.map_cons, symFold_cons_eq]
          cases hst : symStep rs (Model.Canon.renumber (N + 2) s) with
          | eob => exact absurd hst hne
          | stop r => rfl
          | cont rs1 => simp only [hih rs1 B1, hg, foldG]

/-- `decodeGroups` without group count, position and accumulator: the number of
groups, their symbols, the bits consumed, the rest. -/
def groupsSyms (codes : Array Code) (eob : Nat) :
    List Nat → Bits → Except Reject (Nat × List Nat × Nat × Bits)
  | [], _ => .error .missingEob
  | t :: ts, B =>
    match codes[t]? with
    | none => .error .badSelector
    | some c =>
      if !c.complete then .error .tableNotComplete
      else
        match groupSyms c eob Gen.GROUP_SIZE B with
        | .error e => .error e
        | .ok (true, ss, q, B') => .ok (1, ss, q, B')
        | .ok (false, ss, q, B') =>
          match groupsSyms codes eob ts B' with
          | .error e => .error e
          | .ok (n, syms, q', B'') => .ok (n + 1, ss ++ syms, q + q', B'')

theorem hgs : Spec.Bzip2.groupSize = Gen.GROUP_SIZE := rfl

theorem decodeGroups_eq (codes : Array Code) (eob : Nat) :
    ∀ (ts : List Nat) (nU pos : Nat) (B : Bits) (acc : Array Nat),
      decodeGroups codes eob ts nU pos B acc =
        (groupsSyms codes eob ts B).map fun (n, syms, q, B') =>
          (nU + n, pos + q, B', acc ++ syms.toArray) := by
  intro ts
  induction ts with
  | nil => intro nU pos B acc; rfl
  | cons t ts ih =>
    intro nU pos B acc
    rw [decodeGroups, groupsSyms]
    cases codes[t]? with
    | none => rfl
    | some c =>
      simp only
      split
      · rfl
      · rw [hgs, decodeGroup_eq]
        cases groupSyms c eob Gen.GROUP_SIZE B with
        | error e => rfl
        | ok x =>
          obtain ⟨f, ss, q, B1⟩ := x
          cases f with
          | true => simp [Except.map]
          | false =>
            simp only [Except.map]
            rw [ih]
            cases groupsSyms codes eob ts B1 <;> simp [Except.map, Nat.add_assoc, Nat.add_comm 1]

theorem tab_ok (tabs : List (List Nat)) (N : Nat) (hT : TabsOk tabs N) (t : Nat)
    (ht : t < tabs.length) : Lemmas.Delta.LensOk (N + 2) (tabs.getD t []) := by
  have : tabs.getD t [] = tabs[t] := by
    simp [List.getD_eq_getElem?_getD, List.getElem?_eq_getElem ht]
  rw [this]
  exact hT.each _ (List.getElem_mem ht)

theorem groupsSyms_ok (tabs : List (List Nat)) (N : Nat) (hT : TabsOk tabs N) :
    ∀ (ts : List Nat) (B : Bits) (n : Nat) (syms : List Nat) (q : Nat) (B' : Bits),
      groupsSyms ((tabs.map mkCode).toArray) (N + 1) ts B = .ok (n, syms, q, B') →
      (∀ s ∈ syms, s < N + 1) ∧ 1 ≤ n ∧ n ≤ ts.length ∧ Gen.GROUP_SIZE * (n - 1) ≤ syms.length := by
  intro ts
  induction ts with
  | nil => intro B n syms q B' h; cases h
  | cons t ts ih =>
    intro B n syms q B' h
    rw [groupsSyms] at h
    by_cases ht : t < tabs.length
    · rw [codes_get tabs t ht] at h
      simp only at h
      split at h
      · cases h
      have hgo := fun f ss q1 B1 => groupSyms_ok _ N (tab_ok tabs N hT t ht).1 Gen.GROUP_SIZE B f ss q1 B1
      cases hg : groupSyms (mkCode (tabs.getD t [])) (N + 1) Gen.GROUP_SIZE B with
      | error e => rw [hg] at h; cases h
      | ok x =>
        obtain ⟨f, ss, q1, B1⟩ := x
        rw [hg] at h
        cases f with
        | true => cases h; exact ⟨(hgo _ _ _ _ hg).1, Nat.le_refl 1, by simp, by simp⟩
        | false =>
          simp only at h
          cases hgs : groupsSyms ((tabs.map mkCode).toArray) (N + 1) ts B1 with
          | error e => rw [hgs] at h; cases h
          | ok y =>
            obtain ⟨n2, syms2, q2, B2⟩ := y
            rw [hgs] at h
            cases h
            obtain ⟨s1, _, s3⟩ := hgo _ _ _ _ hg
            obtain ⟨g1, g2, g3, g4⟩ := ih B1 _ _ _ _ hgs
            refine ⟨fun y hy => (List.mem_append.mp hy).elim (s1 y) (g1 y), by omega, by simp; omega, ?_⟩
            rw [List.length_append, s3 rfl, Nat.add_sub_cancel]
            have h50 : Gen.GROUP_SIZE = 50 := rfl
            rw [h50] at g4 ⊢
            omega
    · rw [show ((tabs.map mkCode).toArray)[t]? = none by simp; omega] at h
      cases h

/-- The regular end of the loop: the run state and the unread bits at the EOB. -/
def regGs : GsOut → Option (RunSt × Bits)
  | .ok rs B => some (rs, B)
  | _ => none

theorem regGs_eq_some {o : GsOut} {rs : RunSt} {B : Bits} : regGs o = some (rs, B) ↔ o = .ok rs B := by
  cases o <;> simp [regGs]

/-- The symbol actions folded over what `groupsSyms` read, if it needed at most `k` groups. -/
def foldGs (N k : Nat) (rs : RunSt) : Except Reject (Nat × List Nat × Nat × Bits) → Option (RunSt × Bits)
  | .ok (n, syms, _, B') =>
    if n ≤ k then (symFold rs (syms.map (Model.Canon.renumber (N + 2)))).map fun rs' => (rs', B') else none
  | .error _ => none

theorem foldGs_eq_some {N k : Nat} {rs rs' : RunSt} {B' : Bits}
    {r : Except Reject (Nat × List Nat × Nat × Bits)} :
    foldGs N k rs r = some (rs', B') ↔ ∃ n syms q, n ≤ k ∧ r = .ok (n, syms, q, B') ∧
      symFold rs (syms.map (Model.Canon.renumber (N + 2))) = some rs' := by
  rcases r with e | ⟨n, syms, q, B1⟩
  · exact ⟨nofun, fun ⟨_, _, _, _, h, _⟩ => nomatch h⟩
  · simp only [foldGs]
    by_cases hn : n ≤ k
    · rw [if_pos hn]
      constructor
      · intro h
        obtain ⟨rs1, hf, e⟩ := Option.map_eq_some_iff.1 h
        cases e
        exact ⟨n, syms, q, hn, rfl, hf⟩
      · rintro ⟨_, _, _, _, e, hf⟩
        cases e
        rw [hf]
        rfl
    · rw [if_neg hn]
      exact ⟨nofun, fun ⟨_, _, _, hk, e, _⟩ => by cases e; exact absurd hk hn⟩

/-- What `groupsRef` makes of the outcome of a group, `f` being the loop over the groups to come. -/
def afterGroup (f : RunSt → Bits → GsOut) : GOut → GsOut
  | .top rs' B' => f rs' B'
  | .eob rs' B' => .ok rs' B'
  | .stop r => .stop r
  | .trunc => .trunc

theorem after_reg (f : RunSt → Bits → GsOut) (o : GOut) :
    regGs (afterGroup f o) =
      (regG o).bind fun x => if x.1 then some x.2 else regGs (f x.2.1 x.2.2) := by
  cases o <;> rfl

/-- **The group loop, decode-and-act interleaved, ends regularly exactly as decoding everything
first and acting afterwards does** (surplus selectors ignored, at most `k` used). -/
theorem groupsRef_eq (tabs : List (List Nat)) (N : Nat) (hT : TabsOk tabs N) :
    ∀ (js M ts : List Nat) (k : Nat) (rs : RunSt) (B : Bits),
      MOk M tabs → unmtfL M js = some ts →
      regGs (groupsRef tabs (js.take k) M rs B) =
        foldGs N k rs (groupsSyms ((tabs.map mkCode).toArray) (N + 1) ts B) := by
  intro js
  induction js with
  | nil =>
    intro M ts k rs B _ hts
    cases hts
    rw [List.take_nil]
    rfl
  | cons j js ih =>
    intro M ts k rs B hM hts
    cases hm : Spec.Bzip2.moveToFront M j with
    | none => rw [unmtfL, hm] at hts; cases hts
    | some p =>
      obtain ⟨t, M'⟩ := p
      obtain ⟨ts', rfl, hts'⟩ := unmtfL_cons M j js ts t M' hm hts
      obtain ⟨ht, hM'⟩ := MOk_step M tabs j t M' hm hM
      obtain ⟨hlen, hrange⟩ := tab_ok tabs N hT t ht
      cases k with
      | zero =>
        rw [List.take_zero, groupsRef]
        cases hg : groupsSyms ((tabs.map mkCode).toArray) (N + 1) (t :: ts') B with
        | error e => rfl
        | ok y =>
          obtain ⟨n, syms, q, B'⟩ := y
          have := (groupsSyms_ok tabs N hT _ _ _ _ _ _ hg).2.1
          exact (if_neg (by omega)).symm
      | succ k =>
        rw [List.take_succ_cons, groupsRef, hm, groupsSyms, codes_get tabs t ht]
        simp only
        cases hcomp : (mkCode (tabs.getD t [])).complete with
        | false =>
          rw [if_neg fun hC => by rw [(complete_iff _ hrange).mpr hC] at hcomp; cases hcomp]
          rfl
        | true =>
          rw [if_pos ((complete_iff _ hrange).mp hcomp)]
          refine (after_reg _ _).trans ?_
          rw [groupRef_eq (tabs.getD t []) N hlen hT.n1]
          simp only [Bool.not_true, Bool.false_eq_true, if_false]
          -- decode the group, act on it, go on: the same on both sides, case by case
          rcases groupSyms (mkCode (tabs.getD t [])) (N + 1) Gen.GROUP_SIZE B with e | ⟨f, ss, q, B1⟩
          · rfl
          cases f with
          | true =>
            simp only [foldG, foldGs, if_pos (Nat.le_add_left 1 k)]
            cases symFold rs (ss.map (Model.Canon.renumber (N + 2))) <;> rfl
          | false =>
            have hih := fun rs1 => ih M' ts' k rs1 B1 hM' hts'
            simp only [foldG]
            cases hq : groupsSyms ((tabs.map mkCode).toArray) (N + 1) ts' B1 with
            | error e =>
              rw [hq] at hih
              cases hf : symFold rs (ss.map (Model.Canon.renumber (N + 2))) with
              | none => rfl
              | some rs1 => exact hih rs1
            | ok y =>
              obtain ⟨n, syms, q', B2⟩ := y
              rw [hq] at hih
              simp only [foldGs, List.map_append, symFold_append_eq, Nat.add_le_add_iff_right]
              cases symFold rs (ss.map (Model.Canon.renumber (N + 2))) with
              | none => split <;> rfl
              | some rs1 => exact hih rs1

example : TabsOk [[1, 2, 2], [2, 1, 2]] 1 :=
  ⟨by decide, by decide, by unfold Lemmas.Delta.LensOk; decide⟩
example : MOk [0, 1] [[1, 2, 2], [2, 1, 2]] := by unfold MOk; decide
example : JsOk [1, 1, 0] [0, 1] := by unfold JsOk; decide
example : unmtfL [0, 1] [1, 1, 0] = some [1, 0, 0] := by decide
example : (Spec.Bzip2.mkCode [1, 2, 2]).complete = true ∧ Spec.Prefix.Complete [1, 2, 2] :=
  ⟨by decide, by decide⟩

end LbzVerif.Lemmas.GroupPure
