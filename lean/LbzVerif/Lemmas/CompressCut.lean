/-
  Lemmas.CompressCut — the block list of `Model.Compress.cutBlocks` (every block
  non-empty, its run-length encoding within the capacity, the blocks
  concatenate to the input), and `assemble` over it as a `fileOf` of `BlockOK`
  items (Lemmas.CompressFile).
-/
import LbzVerif.Model.Compress
import LbzVerif.Lemmas.CompressBlock
import LbzVerif.Lemmas.CompressFile
import LbzVerif.Lemmas.CompressSimple
import LbzVerif.Lemmas.SchedC.Canon
import LbzVerif.Lemmas.Rle1Len

namespace LbzVerif.Lemmas.CompressCut
open LbzVerif LbzVerif.Model.Compress
open LbzVerif.Lemmas.CompressFile LbzVerif.Lemmas.CompressBits LbzVerif.Lemmas.CompressBlock
open LbzVerif.Spec LbzVerif.Lemmas.Rle1Len

theorem blocks_mem (cap fuel : Nat) : ∀ (xs : List UInt8), ∀ b ∈ blocks cap fuel xs,
    b ≠ [] ∧ rleLen b ≤ cap := by
  induction fuel with
  | zero =>
    intro xs b hb
    simp [blocks] at hb
  | succ fuel ih =>
    intro xs b hb
    simp only [blocks] at hb
    split at hb
    · cases hb
    · rename_i hne
      split at hb
      · cases hb
      · rename_i hk
        rcases List.mem_cons.mp hb with rfl | hb
        · refine ⟨?_, pack_fits cap xs⟩
          intro h0
          have hl := congrArg List.length h0
          have hle := pack_le_length cap xs
          simp only [List.length_take, List.length_nil] at hl
          omega
        · exact ih _ b hb

theorem blocksOf_mem (cap : Nat) (xs : List UInt8) : ∀ b ∈ blocksOf cap xs,
    b ≠ [] ∧ rleLen b ≤ cap :=
  blocks_mem cap xs.length xs

theorem cutBlocks_mem (cap granul : Nat) (seq : Bool) (input : List UInt8) :
    ∀ b ∈ cutBlocks cap granul seq input, b ≠ [] ∧ (rle1 b).length ≤ cap := by
  intro b hb
  unfold cutBlocks at hb
  cases seq with
  | true => exact blocksOf_mem cap input b (by simpa using hb)
  | false =>
    simp only [Bool.false_eq_true, if_false, List.mem_flatMap] at hb
    obtain ⟨ib, _, hb⟩ := hb
    exact blocksOf_mem cap ib.data b hb

theorem simpleChoice_ok_cut (cap granul : Nat) (seq : Bool) (input : List UInt8) :
    ∀ b ∈ cutBlocks cap granul seq input, ChoicesOK (rle1 b) (simpleChoice (rle1 b)) :=
  fun b hb => Lemmas.CompressSimple.simpleChoice_ok_rle b (cutBlocks_mem cap granul seq input b hb).1

theorem cutBlocks_nil (cap granul : Nat) (seq : Bool) : cutBlocks cap granul seq [] = [] := by
  unfold cutBlocks
  cases seq
  · simp [Model.SchedC.cutChunks]
  · rfl

theorem cutBlocks_fit {cap n : Nat} (hcl : cap ≤ n) (granul : Nat) (seq : Bool)
    (input : List UInt8) : ∀ b ∈ cutBlocks cap granul seq input, b ≠ [] ∧ (rle1 b).length ≤ n :=
  fun b hb => ⟨(cutBlocks_mem cap granul seq input b hb).1,
    Nat.le_trans (cutBlocks_mem cap granul seq input b hb).2 hcl⟩

theorem cutBlocks_flatten (cap granul : Nat) (hcap : 1 ≤ cap) (hg : 0 < granul) (seq : Bool)
    (input : List UInt8) : (cutBlocks cap granul seq input).flatten = input := by
  unfold cutBlocks
  cases seq with
  | true => simpa using blocksOf_flatten cap hcap input
  | false =>
    simp only [Bool.false_eq_true, if_false]
    have : (List.flatten ∘ fun ib : Model.SchedC.IBlk UInt8 => blocksOf cap ib.data) = (·.data) :=
      funext fun ib => blocksOf_flatten cap hcap ib.data
    rw [List.flatMap_def, List.flatten_flatten, List.map_map, this,
      Model.SchedC.cutChunks_flatten granul hg]

def itemsOf (choose : List UInt8 → Choice) (blocks : List (List UInt8)) : List Item :=
  blocks.map (fun b => ⟨compressBlock choose b, b, (rle1 b).length⟩)

theorem plainOf_itemsOf (choose : List UInt8 → Choice) (blocks : List (List UInt8)) :
    plainOf (itemsOf choose blocks) = blocks.flatten := by
  unfold plainOf itemsOf
  rw [List.flatMap_map]
  exact List.flatMap_id'

theorem assemble_eq_fileOf (level : Nat) (choose : List UInt8 → Choice)
    (blocks : List (List UInt8)) :
    assemble level choose (blocks.map blockIn) =
      fileOf level (itemsOf choose blocks) (ccOf 0 (itemsOf choose blocks)).toNat := by
  unfold assemble fileOf
  congr 1
  · congr 1
    unfold itemsOf
    rw [List.flatMap_map, List.flatMap_map]
    rfl
  · congr 1
    unfold combinedCrc
    rw [List.map_map]
    refine (combinedCrc_eq _ 0).trans (congrArg _ ?_)
    unfold ccOf itemsOf
    rw [List.foldl_map, List.foldl_map]
    rfl

theorem blockOK_compressBlock (level : Nat) (h9 : level ≤ 9) (choose : List UInt8 → Choice)
    (b : List UInt8) (hne : b ≠ []) (hfit : (rle1 b).length ≤ level * 100000)
    (hok : ChoicesOK (rle1 b) (choose (rle1 b))) :
    BlockOK level ⟨compressBlock choose b, b, (rle1 b).length⟩ :=
  ⟨encodeBlock_wf (rle1 b) _ _ (by simp only [Gen.MAX_BLOCK_SIZE]; omega) hok,
   encodeBlock_coded _ _ _ (rle1_ne_nil hne) hok,
   fun start => decodeBlock_expected b (choose (rle1 b)) level start hne hfit hok⟩

theorem itemsOf_ok (level : Nat) (h9 : level ≤ 9) (choose : List UInt8 → Choice)
    (blocks : List (List UInt8))
    (hb : ∀ b ∈ blocks, b ≠ [] ∧ (rle1 b).length ≤ level * 100000)
    (hch : ∀ b ∈ blocks, ChoicesOK (rle1 b) (choose (rle1 b))) :
    ∀ it ∈ itemsOf choose blocks, BlockOK level it := by
  intro it hit
  obtain ⟨b, hbm, rfl⟩ := List.mem_map.mp hit
  exact blockOK_compressBlock level h9 choose b (hb b hbm).1 (hb b hbm).2 (hch b hbm)

/-- **The file walk over a block list**: ANY list of non-empty blocks within the level's capacity
    (no cutter) and any choice function satisfying the contract on them. -/
theorem walk_blocks (strict : Bool) (level : Nat) (h1 : 1 ≤ level) (h9 : level ≤ 9)
    (choose : List UInt8 → Choice) (blocks : List (List UInt8))
    (hb : ∀ b ∈ blocks, b ≠ [] ∧ (rle1 b).length ≤ level * 100000)
    (hch : ∀ b ∈ blocks, ChoicesOK (rle1 b) (choose (rle1 b))) :
    Bzip2.walkFile strict (assemble level choose (blocks.map blockIn)) =
      .ok { out := blocks.flatten.toArray,
            streams := if strict then
                #[{ level := level, startBit := 0,
                    endBit := 8 * (assemble level choose (blocks.map blockIn)).length,
                    storedCrc := (ccOf 0 (itemsOf choose blocks)).toNat,
                    blocks := reportsOf level 32 (itemsOf choose blocks) }]
              else #[] } := by
  rw [assemble_eq_fileOf, walkFile_fileOf strict level h1 h9 _ (itemsOf_ok level h9 choose blocks
    hb hch) _ rfl, plainOf_itemsOf]

end LbzVerif.Lemmas.CompressCut
