/-
  Lemmas.Lts — termination of a labelled transition system `step : S → L → Option S`
  by a measure into a well-founded order, up to a set of labels (`spur`) along
  which the measure need not decrease: every infinite run takes such labels
  infinitely often.  The schedulers instantiate `spur` with the spurious
  wake-ups, or with nothing.
-/

namespace LbzVerif.Lemmas.Lts

theorem no_descending_chain {β : Type} {r : β → β → Prop} (wf : WellFounded r)
    (g : Nat → β) : ¬ ∀ i, r (g (i + 1)) (g i) := by
  intro hg
  have key : ∀ x, ∀ i, g i = x → False := by
    intro x
    induction x using wf.induction with
    | _ x ih =>
      intro i hi
      exact ih (g (i + 1)) (hi ▸ hg i) (i + 1) rfl
  exact key (g 0) 0 rfl

variable {S L β : Type} {step : S → L → Option S} {Inv : S → Prop}

theorem inv_seq (hinv : ∀ ⦃s l s'⦄, Inv s → step s l = some s' → Inv s') (f : Nat → S)
    (ℓ : Nat → L) (h0 : Inv (f 0)) (hstep : ∀ i, step (f i) (ℓ i) = some (f (i + 1))) :
    ∀ i, Inv (f i)
  | 0 => h0
  | i + 1 => hinv (inv_seq hinv f ℓ h0 hstep i) (hstep i)

/-- were the labels from `N` on all outside `spur`, the measures of `f N, f (N+1), …`
    would descend for ever -/
theorem spurious_infinitely_often {spur : L → Bool} {μ : S → β} {r : β → β → Prop}
    (wf : WellFounded r) (hinv : ∀ ⦃s l s'⦄, Inv s → step s l = some s' → Inv s')
    (hdec : ∀ ⦃s l s'⦄, Inv s → spur l = false → step s l = some s' → r (μ s') (μ s))
    (f : Nat → S) (ℓ : Nat → L) (h0 : Inv (f 0))
    (hstep : ∀ i, step (f i) (ℓ i) = some (f (i + 1))) : ∀ N, ∃ i, N ≤ i ∧ spur (ℓ i) = true := by
  intro N
  apply Classical.byContradiction
  intro hno
  have hns : ∀ i, N ≤ i → spur (ℓ i) = false := fun i hi =>
    Bool.eq_false_iff.2 fun hh => hno ⟨i, hi, hh⟩
  apply no_descending_chain wf (fun i => μ (f (N + i)))
  intro i
  exact hdec (inv_seq hinv f ℓ h0 hstep (N + i)) (hns (N + i) (Nat.le_add_right N i))
    (hstep (N + i))

/-- the case where every label has to pay -/
theorem no_infinite_run {μ : S → β} {r : β → β → Prop} (wf : WellFounded r)
    (hinv : ∀ ⦃s l s'⦄, Inv s → step s l = some s' → Inv s')
    (hdec : ∀ ⦃s l s'⦄, Inv s → step s l = some s' → r (μ s') (μ s))
    (f : Nat → S) (ℓ : Nat → L) (h0 : Inv (f 0)) :
    ¬ ∀ i, step (f i) (ℓ i) = some (f (i + 1)) := fun hstep =>
  have ⟨_, _, h⟩ := spurious_infinitely_often (spur := fun _ => false) wf hinv
    (fun _ _ _ hi _ hs => hdec hi hs) f ℓ h0 hstep 0
  Bool.noConfusion h

end LbzVerif.Lemmas.Lts
