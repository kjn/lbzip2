/-
  Lemmas.CollectCanon — a one-loop reference machine `canon` (one persistent
  state `(block, rle)`, one byte per iteration, no distinction between "inside a
  call" and "resumed from a previous call"; a byte is taken exactly when the
  block, closed after it, still fits), and the proof that every label of
  `Model.collect` (in-call path and `finish_run` path) computes `canon`.
-/
import LbzVerif.Model.Collect

namespace LbzVerif.Lemmas.CollectCanon
open LbzVerif.Model

/-- `finish` on the two fields it reads. -/
def close (blk : List UInt8) : Rle → List UInt8
  | .run n _ => if n ≥ 4 then blk ++ [UInt8.ofNat (n - 4)] else blk
  | _ => blk

/-- The persistent state after one more byte, no capacity involved. -/
def push (blk : List UInt8) (rle : Rle) (x : UInt8) : List UInt8 × Rle :=
  match rle with
  | .run r c =>
    if x = c then
      if r < 4 then (blk ++ [c], .run (r + 1) c)
      else if r + 1 = MAX_RUN_LENGTH then (blk ++ [UInt8.ofNat (MAX_RUN_LENGTH - 4)], .idle)
      else (blk, .run (r + 1) c)
    else (close blk (.run r c) ++ [x], .run 1 x)
  | _ => (blk ++ [x], .run 1 x)

def canon (cap : Nat) (blk : List UInt8) (rle : Rle) (crc : UInt32) : List UInt8 → Res
  | [] => if blk.length ≥ cap then done cap blk .full crc [] else done cap blk rle crc []
  | x :: p =>
    if rle ≠ .full ∧ (close (push blk rle x).1 (push blk rle x).2).length ≤ cap then
      canon cap (push blk rle x).1 (push blk rle x).2 (crcStep crc x) p
    else done cap (close blk rle) .full crc (x :: p)

/-- The C capacity tests compare with `qMax = cap - 1`; `canon` compares with `cap`. -/
theorem gt_pred {cap : Nat} (hcap : 1 ≤ cap) (n : Nat) : (n > cap - 1) = (n ≥ cap) :=
  propext ⟨fun h => by omega, fun h => by omega⟩

theorem ge_pred (cap n : Nat) : (n ≥ cap - 1) = (n + 1 ≥ cap) :=
  propext ⟨fun h => by omega, fun h => by omega⟩

theorem canon_idle (cap : Nat) (blk : List UInt8) (crc : UInt32) (x : UInt8) (p : List UInt8) :
    canon cap blk .idle crc (x :: p) =
      if blk.length ≥ cap then done cap blk .full crc (x :: p)
      else canon cap (blk ++ [x]) (.run 1 x) (crcStep crc x) p := by
  simp only [canon, push, close]
  by_cases h : blk.length ≥ cap <;> simp [h] <;> omega

theorem canon_short {r : Nat} (h : r < 4) (cap : Nat) (blk : List UInt8) (c : UInt8)
    (crc : UInt32) (x : UInt8) (p : List UInt8) :
    canon cap blk (.run r c) crc (x :: p) =
      if blk.length ≥ cap then done cap blk .full crc (x :: p)
      else if x = c then
        if r = 3 ∧ blk.length + 1 ≥ cap then done cap blk .full crc (x :: p)
        else canon cap (blk ++ [c]) (.run (r + 1) c) (crcStep crc x) p
      else canon cap (blk ++ [x]) (.run 1 x) (crcStep crc x) p := by
  have h4 : ¬ r ≥ 4 := by omega
  simp only [canon, push, close, h, h4, if_true, if_false, ne_eq, reduceCtorEq, not_false_eq_true,
    true_and]
  by_cases hx : x = c
  · simp only [hx, if_true]
    by_cases h3 : r = 3
    · simp [h3]; by_cases hf : blk.length ≥ cap <;> by_cases hf1 : cap ≤ blk.length + 1 <;>
        simp [hf, hf1] <;> omega
    · have : ¬ r + 1 ≥ 4 := by omega
      simp [h3, this]; by_cases hf : blk.length ≥ cap <;> simp [hf] <;> omega
  · simp [hx]; by_cases hf : blk.length ≥ cap <;> simp [hf] <;> omega

theorem canon_long {r : Nat} (h : 4 ≤ r) {cap : Nat} {blk : List UInt8}
    (hroom : blk.length + 1 ≤ cap) (c : UInt8) (crc : UInt32) (x : UInt8) (p : List UInt8) :
    canon cap blk (.run r c) crc (x :: p) =
      if x = c then
        if r + 1 = MAX_RUN_LENGTH then
          canon cap (blk ++ [UInt8.ofNat (MAX_RUN_LENGTH - 4)]) .idle (crcStep crc x) p
        else canon cap blk (.run (r + 1) c) (crcStep crc x) p
      else
        if blk.length + 1 ≥ cap then done cap (blk ++ [UInt8.ofNat (r - 4)]) .full crc (x :: p)
        else canon cap (blk ++ [UInt8.ofNat (r - 4)] ++ [x]) (.run 1 x) (crcStep crc x) p := by
  have h4 : ¬ r < 4 := by omega
  simp only [canon, push, close, h4, if_false, ge_iff_le, h, if_true, ne_eq, reduceCtorEq,
    not_false_eq_true, true_and]
  by_cases hx : x = c
  · by_cases hmax : r + 1 = MAX_RUN_LENGTH
    · simp [hx, hmax, hroom]
    · simp [hx, hmax, hroom, show 4 ≤ r + 1 by omega]
  · by_cases hf : cap ≤ blk.length + 1 <;> simp [hx, hf] <;> omega

theorem main_eq_canon (cap : Nat) (hcap : 1 ≤ cap) : ∀ p : List UInt8,
    (∀ q crc, state0 cap q crc p = canon cap q .idle crc p) ∧
    (∀ ch q crc, state1 cap ch q crc p = canon cap (q ++ [ch]) (.run 1 ch) crc p) ∧
    (∀ ch q crc, state2 cap ch q crc p = canon cap (q ++ [ch]) (.run 2 ch) crc p) ∧
    (∀ ch q crc, state3 cap ch q crc p = canon cap (q ++ [ch]) (.run 3 ch) crc p) ∧
    (∀ ch r q crc, 4 ≤ r → r < MAX_RUN_LENGTH → q.length + 1 ≤ cap →
        state4 cap ch r q crc p = canon cap q (.run r ch) crc p) := by
  intro p
  induction p with
  | nil =>
    refine ⟨?_, ?_, ?_, ?_, ?_⟩
    · intro q crc
      simp only [state0, canon, gt_pred hcap]
    · intro ch q crc
      simp only [state1, canon, gt_pred hcap]
    · intro ch q crc
      simp only [state2, canon, gt_pred hcap]
    · intro ch q crc
      simp only [state3, canon, gt_pred hcap, ge_pred cap, peekIs, Bool.false_eq_true, or_false]
      by_cases hfull : (q ++ [ch]).length ≥ cap
      · simp only [hfull, Nat.le_succ_of_le hfull, and_self, if_true]
      · simp only [hfull, and_false, if_false]
    · intro ch r q crc h4 hr hq
      have : ¬ q.length ≥ cap := by omega
      simp only [state4, canon, this, if_false]
  | cons x p ih =>
    obtain ⟨ih0, ih1, ih2, ih3, ih4⟩ := ih
    refine ⟨?_, ?_, ?_, ?_, ?_⟩
    · intro q crc
      simp only [state0, canon_idle, gt_pred hcap, ih1]
    · intro ch q crc
      simp only [state1, canon_short (show 1 < 4 by decide), gt_pred hcap, ih1, ih2,
        beq_iff_eq, Nat.reduceEqDiff, false_and, if_false]
      by_cases hx : x = ch
      · subst hx; simp only [if_true]
      · simp only [hx, if_false]
    · intro ch q crc
      simp only [state2, canon_short (show 2 < 4 by decide), gt_pred hcap, ih1, ih3,
        bne_iff_ne, ne_eq, Nat.reduceEqDiff, false_and, if_false]
      by_cases hx : x = ch
      · subst hx; simp only [not_true_eq_false, if_true, if_false]
      · simp only [hx, not_false_eq_true, if_true, if_false]
    · intro ch q crc
      simp only [state3, canon_short (show 3 < 4 by decide), gt_pred hcap, ge_pred cap, peekIs,
        ih1, bne_iff_ne, ne_eq, beq_iff_eq, true_and]
      by_cases hfull : (q ++ [ch]).length ≥ cap
      · simp only [hfull, Nat.le_succ_of_le hfull, true_or, and_self, if_true]
      · by_cases hx : x = ch
        · subst hx
          by_cases h1 : (q ++ [x]).length + 1 ≥ cap
          · simp only [hfull, h1, or_true, and_self, if_true, if_false]
          · simp only [hfull, h1, false_and, if_false, not_true_eq_false, if_true]
            refine ih4 x 4 _ _ (Nat.le_refl 4) (by decide) ?_
            simp only [List.length_append, List.length_singleton] at h1 ⊢
            omega
        · simp only [hfull, hx, or_self, and_false, if_false, not_false_eq_true, if_true]
    · intro ch r q crc h4 hr hq
      have hn : ¬ q.length ≥ cap := by omega
      simp only [state4, canon_long h4 hq, bne_iff_ne, ne_eq, ih0, ih1]
      by_cases hx : x = ch
      · subst hx
        by_cases hr1 : r + 1 = MAX_RUN_LENGTH
        · simp only [hr1, Nat.lt_irrefl, not_true_eq_false, if_false, if_true]
        · have hlt : r + 1 < MAX_RUN_LENGTH := by omega
          simp only [hr1, hlt, not_true_eq_false, if_false, if_true]
          exact ih4 x (r + 1) q _ (by omega) hlt hq
      · by_cases hfit : q.length + 1 ≥ cap
        · have : ¬ (q ++ [UInt8.ofNat (r - 4)]).length ≤ cap - 1 := by
            simp only [List.length_append, List.length_singleton]; omega
          simp only [hx, hfit, this, not_false_eq_true, if_true, if_false]
        · have : (q ++ [UInt8.ofNat (r - 4)]).length ≤ cap - 1 := by
            simp only [List.length_append, List.length_singleton]; omega
          simp only [hx, hfit, this, not_false_eq_true, if_true, if_false]

theorem state0_eq_canon (cap : Nat) (hcap : 1 ≤ cap) (q : List UInt8) (crc : UInt32)
    (p : List UInt8) : state0 cap q crc p = canon cap q .idle crc p :=
  (main_eq_canon cap hcap p).1 q crc

theorem finishLong_eq_canon (cap : Nat) (hcap : 1 ≤ cap) (ch : UInt8) (p : List UInt8) :
    ∀ (r : Nat) (q : List UInt8) (crc : UInt32), 4 ≤ r → q.length + 1 ≤ cap →
      finishLong cap ch r q crc p = canon cap q (.run r ch) crc p := by
  induction p with
  | nil =>
    intro r q crc h4 hq
    have : ¬ q.length ≥ cap := by omega
    simp only [finishLong, canon, this, if_false]
  | cons x p ih =>
    intro r q crc h4 hq
    simp only [finishLong, canon_long h4 hq, bne_iff_ne, ne_eq, beq_iff_eq,
      state0_eq_canon cap hcap]
    by_cases hx : x = ch
    · subst hx
      by_cases hr1 : r + 1 = MAX_RUN_LENGTH
      · simp only [hr1, not_true_eq_false, if_false, if_true]
      · simp only [hr1, not_true_eq_false, if_false]
        exact ih (r + 1) q _ (by omega) hq
    · simp only [hx, not_false_eq_true, if_true, if_false, canon_idle,
        List.length_append, List.length_singleton]

theorem finishRun_eq_canon (cap : Nat) (hcap : 1 ≤ cap) (ch : UInt8) (p : List UInt8) :
    ∀ (r : Nat) (q : List UInt8) (crc : UInt32), 1 ≤ r → (4 ≤ r → q.length + 1 ≤ cap) →
      finishRun cap ch r q crc p = canon cap q (.run r ch) crc p := by
  induction p with
  | nil =>
    intro r q crc h1 hq
    simp only [finishRun, canon, gt_pred hcap, ge_pred cap, peekIs, Bool.false_eq_true, and_false,
      or_false]
    by_cases hfull : q.length ≥ cap
    · simp only [hfull, Nat.le_succ_of_le hfull, and_self, if_true]
    · simp only [hfull, and_false, if_false]
  | cons x p ih =>
    intro r q crc h1 hq
    simp only [finishRun, gt_pred hcap, ge_pred cap, peekIs, beq_iff_eq, bne_iff_ne, ne_eq]
    by_cases hr4 : 4 ≤ r
    · have hfull : ¬ q.length ≥ cap := by have := hq hr4; omega
      have hr3 : ¬ r = 3 := by omega
      simp only [hfull, hr3, false_and, or_self, and_false, if_false, ge_iff_le, hr4, if_true]
      exact finishLong_eq_canon cap hcap ch (x :: p) r q crc hr4 (hq hr4)
    · have hlt : r < 4 := by omega
      simp only [canon_short hlt, state0_eq_canon cap hcap, canon_idle]
      by_cases hfull : q.length ≥ cap
      · simp only [hfull, Nat.le_succ_of_le hfull, true_or, and_self, if_true]
      · simp only [hfull, false_or, ge_iff_le, hr4, if_false]
        by_cases hx : x = ch
        · subst hx
          by_cases hstop : r = 3 ∧ q.length + 1 ≥ cap
          · simp only [hstop.1, hstop.2, and_self, if_true]
          · have : ¬ (q.length + 1 ≥ cap ∧ r = 3 ∧ True) := fun h => hstop ⟨h.2.1, h.1⟩
            simp only [this, hstop, not_true_eq_false, if_false, if_true]
            refine ih (r + 1) _ _ (by omega) ?_
            intro h4
            have : ¬ q.length + 1 ≥ cap := fun hc => hstop ⟨by omega, hc⟩
            simp only [List.length_append, List.length_singleton]
            omega
        · simp only [hx, and_false, not_false_eq_true, if_false, if_true]

end LbzVerif.Lemmas.CollectCanon
