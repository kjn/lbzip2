/-
  Lemmas.Reorder — `Gen.reorderStatus` (the status `do_reorder` gives a block) in closed form, and
  when it is OK / MORE.
-/
import LbzVerif.Gen.Consts
import LbzVerif.Gen.SchedD

namespace LbzVerif.Gen

/-- `do_reorder`'s test for MORE changes nothing: it does not appear. -/
theorem reorderStatus_eq (blkSz bs100k status crc hdrCrc : Nat) :
    reorderStatus blkSz bs100k status crc hdrCrc =
      if blkSz > bs100k * 100000 then ERR_OVERFLOW
      else if status = RV_OK ∧ crc ≠ hdrCrc then ERR_BLKCRC else status := by
  unfold reorderStatus ERR_OVERFLOW ERR_BLKCRC RV_OK
  by_cases h : blkSz > bs100k * 100000
  · simp [h]
  · by_cases h1 : status = 1
    · simp [h, h1]
    · simp [h, h1]

/-- the size test of a block still in progress (status MORE) -/
theorem reorderStatus_more (n l crc : Nat) :
    reorderStatus n l RV_MORE 0 crc = RV_MORE ↔ n ≤ l * 100000 := by
  rw [reorderStatus_eq]
  unfold RV_MORE RV_OK ERR_OVERFLOW ERR_BLKCRC
  split <;> simp <;> omega

theorem reorderStatus_ok (n l st crc hdr : Nat) :
    reorderStatus n l st crc hdr = RV_OK ↔ n ≤ l * 100000 ∧ st = 0 ∧ crc = hdr := by
  rw [reorderStatus_eq]
  unfold RV_OK ERR_OVERFLOW ERR_BLKCRC
  split
  · simp; omega
  · split <;> simp_all <;> omega

end LbzVerif.Gen
