/-
  Lemmas.GroupDefs — the GROUP PHASE of `retrieve()` written over bit LISTS,
  interleaved exactly as the machine interleaves it (decode one symbol with the
  reference decoder `Spec.Bzip2.decodeSym`, act on it with `symStep`), without
  bit buffer, words, `NEED`, suspension.

  `Lemmas/GroupMachine.lean` shows that the slow branch of `Model.Retrieve`
  computes `groupsRef`; `Lemmas/GroupPure.lean` shows that `groupsRef` is
  `Spec.Bzip2.decodeGroups` followed by the symbol loop.
-/
import LbzVerif.Model.Retrieve
import LbzVerif.Spec.Bzip2
import LbzVerif.Spec.Prefix
import LbzVerif.Lemmas.TreeCode

namespace LbzVerif.Lemmas.GroupDefs
open LbzVerif LbzVerif.Model.Retrieve
open LbzVerif.Model.MtfDec (RunSt)
open LbzVerif.Lemmas.RetrieveTables (treeCode)

/-- How one group ends. -/
inductive GOut
  | top (rs : RunSt) (B : List Bool)     -- 50 symbols, no EOB
  | eob (rs : RunSt) (B : List Bool)     -- EOB decoded (`rs` = state before `eobFinish`)
  | stop (r : Halt)                      -- a symbol action ended the call
  | trunc                                -- the bits ran out

/-- One group of at most `k` symbols coded with the (complete) table `lens`. -/
def groupRef (lens : List Nat) : Nat → RunSt → List Bool → GOut
  | 0, rs, B => .top rs B
  | k + 1, rs, B =>
    match Spec.Bzip2.decodeSym (Spec.Bzip2.mkCode lens) 0 B with
    | .error _ => .trunc
    | .ok (i, _, B') =>
      match symStep rs (Model.Canon.renumber lens.length i) with
      | .eob => .eob rs B'
      | .stop r => .stop r
      | .cont rs' => groupRef lens k rs' B'

/-- How the group loop ends. -/
inductive GsOut
  | ok (rs : RunSt) (B : List Bool)      -- EOB reached
  | stop (r : Halt)
  | trunc

/-- The group loop: `js` the selector MTF indices still to use, `M` the MTF list
of table numbers, `tabs` the length lists of the tables. -/
def groupsRef (tabs : List (List Nat)) : List Nat → List Nat → RunSt → List Bool → GsOut
  | [], _, _, _ => .stop (.err Gen.ERR_UNTERM)
  | j :: js, M, rs, B =>
    match Spec.Bzip2.moveToFront M j with
    | none => .stop .ub
    | some (t, M') =>
      if Spec.Prefix.Complete (tabs.getD t []) then
        match groupRef (tabs.getD t []) Gen.GROUP_SIZE rs B with
        | .top rs' B' => groupsRef tabs js M' rs' B'
        | .eob rs' B' => .ok rs' B'
        | .stop r => .stop r
        | .trunc => .trunc
      else .stop (.err (treeCode t (tabs.getD t [])))

/-- All symbol actions continue. -/
def symFold : RunSt → List Nat → Option RunSt
  | rs, [] => some rs
  | rs, s :: ss =>
    match symStep rs s with
    | .cont rs' => symFold rs' ss
    | _ => none

/-- Undo the MTF coding of selectors, on lists (`Spec.Bzip2.unMtfSelectors`
without its accumulator). -/
def unmtfL : List Nat → List Nat → Option (List Nat)
  | _, [] => some []
  | M, j :: js =>
    match Spec.Bzip2.moveToFront M j with
    | none => none
    | some (t, M') =>
      match unmtfL M' js with
      | none => none
      | some ts => some (t :: ts)

end LbzVerif.Lemmas.GroupDefs
