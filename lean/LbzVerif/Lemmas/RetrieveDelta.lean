/-
  Lemmas.RetrieveDelta — the delta loop of `Model.Retrieve` (one 6-bit window
  per step, `NEED(S_DELTA_TAG)` between the windows) against the bit-by-bit
  reference `Spec.Delta.syms`: the first instance of `Sim` (Lemmas/RetrieveSim).
-/
import LbzVerif.Lemmas.RetrieveValues
import LbzVerif.Lemmas.RetrieveSim

namespace LbzVerif.Lemmas.RetrieveDelta
open LbzVerif.Model.Retrieve LbzVerif.Lemmas.RetrieveBits LbzVerif.Lemmas.RetrieveValues
open LbzVerif.Lemmas.RetrieveSplit LbzVerif.Lemmas.RetrieveEqns LbzVerif.Lemmas.RetrieveSim

/-- Everything but the bit buffer, `pc`, and the delta-loop variables
(`j`, `code_len`) is the same. -/
structure SameRest (a b : St) : Prop where
  rand : b.rand = a.rand
  bwtIdx : b.bwtIdx = a.bwtIdx
  big : b.big = a.big
  small : b.small = a.small
  alphaSize : b.alphaSize = a.alphaSize
  t : b.t = a.t
  g : b.g = a.g
  numTrees : b.numTrees = a.numTrees
  numSel : b.numSel = a.numSel
  selector : b.selector = a.selector
  mtf : b.mtf = a.mtf
  trees : b.trees = a.trees
  cmap : b.cmap = a.cmap
  run : b.run = a.run

theorem sameRest_update (a : St) (pc : Pc) (v w j clCur : Nat) (clAcc : List Nat) :
    SameRest a { a with pc := pc, v := v, w := w, j := j, clCur := clCur, clAcc := clAcc } :=
  ⟨rfl, rfl, rfl, rfl, rfl, rfl, rfl, rfl, rfl, rfl, rfl, rfl, rfl, rfl⟩

theorem sameRest_refl (a : St) : SameRest a a := sameRest_update a a.pc a.v a.w a.j a.clCur a.clAcc

theorem sameRest_trans {a b c : St} (h1 : SameRest a b) (h2 : SameRest b c) : SameRest a c :=
  ⟨h2.rand.trans h1.rand, h2.bwtIdx.trans h1.bwtIdx, h2.big.trans h1.big, h2.small.trans h1.small,
   h2.alphaSize.trans h1.alphaSize, h2.t.trans h1.t, h2.g.trans h1.g, h2.numTrees.trans h1.numTrees,
   h2.numSel.trans h1.numSel, h2.selector.trans h1.selector, h2.mtf.trans h1.mtf,
   h2.trees.trans h1.trees, h2.cmap.trans h1.cmap, h2.run.trans h1.run⟩

/-- The delta loop has run to its end from `st`: all `alpha_size` lengths of
the current table are recorded, `lens'` of them in front of `acc0`. -/
structure LoopDone (st st' : St) (acc0 lens' : List Nat) : Prop where
  pc : st'.pc = .deltaTag
  j : st'.j = st.alphaSize
  acc : st'.clAcc = lens'.reverse ++ acc0
  rest : SameRest st st'

theorem LoopDone.from {st st0 s : St} {a a0 l l0 : List Nat} (h : LoopDone st0 s a0 l) (hr : SameRest st st0)
    (hacc : l.reverse ++ a0 = l0.reverse ++ a) : LoopDone st s a l0 :=
  ⟨h.pc, h.j.trans hr.alphaSize, h.acc.trans hacc, sameRest_trans hr h.rest⟩

def LoopSim (o : Out) (st : St) (ws : List Nat) : Prop :=
  Sim (fun _ => toTop) o (Spec.Delta.syms (st.alphaSize - st.j) st.clCur (bitsOf st ws)) Prod.snd
    (fun p s => LoopDone st s st.clAcc p.1)

/-- One window taken inside a step (buffer fill `w ≥ 6`), given the rest of the
loop from the next `NEED(S_DELTA_TAG)`. -/
theorem delta_window (st : St) (ws : List Nat) (h6 : 6 ≤ st.w)
    (inv : BufInv st.v st.w) (hj : st.j < st.alphaSize)
    (K : ∀ s : St, s.w < st.w → s.pc = .deltaTag → BufInv s.v s.w → s.j ≤ s.alphaSize →
      LoopSim (toTop s ws) s ws) :
    LoopSim (afterStep ws (deltaWindow st)) st ws := by
  unfold LoopSim
  obtain ⟨n, hn⟩ : ∃ n, st.alphaSize - st.j = n + 1 := ⟨st.alphaSize - st.j - 1, by omega⟩
  rw [hn]
  have hB : 6 ≤ (bitsOf st ws).length := Nat.le_trans h6 (bitsOf_length_ge st ws)
  obtain ⟨hl1, hl6⟩ := Lemmas.Delta.tL_bounds (bitsOf st ws)
  rw [Lemmas.Delta.syms_window, deltaWindow_eq st ws h6 inv]
  have hB' : ¬ (bitsOf st ws).length < Model.Delta.tL (Model.Delta.peek6 (bitsOf st ws)) := by omega
  cases hs : Model.Delta.stepLen st.clCur (Model.Delta.peek6 (bitsOf st ws)) with
  | none =>
    exact Sim.reject _ _ _ rfl
  | some c' =>
    have hd := fun s => @bitsOf_dump st _ ws (show Model.Delta.tL (Model.Delta.peek6 (bitsOf st ws)) ≤ st.w by omega) inv s
    by_cases hl : Model.Delta.tL (Model.Delta.peek6 (bitsOf st ws)) ≠ 6
    · -- the symbol is finished
      dsimp only
      rw [if_neg hB', if_pos hl, if_pos hl]
      obtain ⟨hbits, inv'⟩ := hd { st with
        v := dumpV st.v _, w := st.w - _, j := st.j + 1, clAcc := c' :: st.clAcc, clCur := c', pc := .deltaTag } rfl rfl
      have hk := K _ (by show st.w - _ < st.w; omega) rfl inv' (by show st.j + 1 ≤ st.alphaSize; omega)
      unfold LoopSim at hk
      rw [hbits, show st.alphaSize - (st.j + 1) = n by omega] at hk
      exact Sim.map (hk.mono fun p s hd => hd.from (sameRest_update st _ _ _ _ _ _) (by simp))
    · -- three steps without terminator: same symbol, next window
      have hl' : Model.Delta.tL (Model.Delta.peek6 (bitsOf st ws)) = 6 := by omega
      dsimp only
      rw [if_neg hB', if_neg hl, if_neg hl]
      obtain ⟨hbits, inv'⟩ := hd { st with v := dumpV st.v _, w := st.w - _, clCur := c', pc := .deltaTag } rfl rfl
      have hk := K _ (by show st.w - _ < st.w; omega) rfl inv' (by show st.j ≤ st.alphaSize; omega)
      unfold LoopSim at hk
      rw [hbits, hn] at hk
      exact hk.mono fun p s hd => hd.from (sameRest_update st _ _ _ _ _ _) rfl

/-- The suspendable delta loop is the bit-by-bit reference: from any state at
`NEED(S_DELTA_TAG)` (in particular a resumed one) the run does what `Spec.Delta.syms` says of
the remaining `alpha_size - j` lengths, in the sense of `Sim`.  Where the reference rejects (a
value leaves 1…20, or the bits end) the machine answers ERR_DELTA or runs out of words. -/
theorem delta_loop (st : St) (ws : List Nat) : st.pc = .deltaTag → BufInv st.v st.w →
    st.j ≤ st.alphaSize → LoopSim (toTop st ws) st ws := by
  generalize hw : st.w = w
  induction w, ws using need_sites_ind generalizing st with
  | _ w ws ih =>
  subst hw
  intro hpc inv hj
  by_cases hfin : st.j = st.alphaSize
  · unfold LoopSim
    rw [show st.alphaSize - st.j = 0 by omega]
    exact Sim.done st ws rfl ⟨hpc, hfin, rfl, sameRest_refl st⟩ rfl inv
  · refine Sim.need (by rw [hpc]; decide) inv (fun p hp => (Lemmas.Delta.syms_some (lens := p.1) (r := p.2) hp).2.2)
      fun v1 w1 ws1 hw1 inv1 hb1 hm1 => ?_
    rw [← hb1, step_deltaTag { st with v := v1, w := w1 } hpc]
    unfold stepDeltaTag
    rw [if_pos (show st.j < st.alphaSize by omega)]
    exact (delta_window { st with v := v1, w := w1 } ws1 (by show 6 ≤ w1; omega) inv1
      (by show st.j < st.alphaSize; omega)
      fun s hlt => ih s.w ws1 (by have : s.w < w1 := hlt; omega) s rfl).mono
      fun p s' hd => hd.from (sameRest_update st _ _ _ _ _ _) rfl

theorem delta_window_loop (st : St) (ws : List Nat) (h6 : 6 ≤ st.w)
    (inv : BufInv st.v st.w) (hj : st.j < st.alphaSize) :
    LoopSim (afterStep ws (deltaWindow st)) st ws :=
  delta_window st ws h6 inv hj fun s _ => delta_loop s ws

end LbzVerif.Lemmas.RetrieveDelta
