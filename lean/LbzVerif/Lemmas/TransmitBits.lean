/-
  Lemmas.TransmitBits — bit-level facts used to read back what `transmit()`
  wrote: fields written with `send`, the value of a bit list, the bitmap.
-/
import LbzVerif.Model.Transmit
import LbzVerif.Lemmas.SpecBasic
import LbzVerif.Lemmas.TransmitLen

namespace LbzVerif.Lemmas.TransmitBits
open LbzVerif LbzVerif.Basic LbzVerif.Model.Canon LbzVerif.Model.Transmit
open LbzVerif.Lemmas.TransmitLen LbzVerif.Lemmas.ListAux

theorem takeNat_send (n v : Nat) (rest : Bits) (hv : v < 2 ^ n) :
    takeNat n (send n v ++ rest) = some (v, rest) := by
  unfold send
  rw [takeNat_natToBits, Nat.mod_eq_of_lt hv]

theorem word16 (f : Nat → Bool) : bitsToNat ((List.range 16).map f) < 2 ^ 16 ∧
    ∀ j < 16, (bitsToNat ((List.range 16).map f)).testBit (15 - j) = f j := by
  refine ⟨by simpa using bitsToNat_lt ((List.range 16).map f), fun j hj => ?_⟩
  have := testBit_bitsToNat ((List.range 16).map f) j (by simpa using hj)
  simpa using this

theorem packRow_word (cmap : List Bool) (i : Nat) : packRow cmap i < 2 ^ 16 ∧
    ∀ j < 16, (packRow cmap i).testBit (15 - j) = cmap.getD (16 * i + j) false :=
  word16 _

theorem bigWord_word (cmap : List Bool) : bigWord cmap < 2 ^ 16 ∧
    ∀ i < 16, (bigWord cmap).testBit (15 - i) = (packRow cmap i != 0) :=
  word16 _

/-- The byte values of row `i` marked in `cmap`. -/
def usedRow (cmap : List Bool) (i : Nat) : List UInt8 :=
  (List.range 16).filterMap fun j =>
    if cmap.getD (16 * i + j) false then some (UInt8.ofNat (16 * i + j)) else none

theorem usedOfRow_packRow (cmap : List Bool) (i : Nat) :
    Spec.Bzip2.usedOfRow i (packRow cmap i) = usedRow cmap i := by
  unfold Spec.Bzip2.usedOfRow usedRow
  apply filterMap_congr'
  intro j hj
  rw [(packRow_word cmap i).2 j (List.mem_range.mp hj)]

theorem usedRow_of_zero (cmap : List Bool) (i : Nat) (h : (packRow cmap i != 0) = false) :
    usedRow cmap i = [] := by
  rw [packRow_ne_zero] at h
  unfold usedRow
  rw [List.filterMap_eq_nil_iff]
  intro j hj
  rw [Bool.eq_false_iff.mpr (List.any_eq_false.mp h j hj)]
  rfl

/-- One row of "Transmit character map". -/
def rowBits (cmap : List Bool) (i : Nat) : Bits :=
  if packRow cmap i != 0 then send 16 (packRow cmap i) else []

theorem readBitmapRows_rows (cmap : List Bool) (rows : List Nat) (hr : ∀ i ∈ rows, i < 16)
    (pos : Nat) (rest : Bits) :
    Spec.Bzip2.readBitmapRows (bigWord cmap) rows pos (rows.flatMap (rowBits cmap) ++ rest) =
      some (rows.flatMap (usedRow cmap), pos + (rows.flatMap (rowBits cmap)).length, rest) := by
  induction rows generalizing pos with
  | nil => simp [Spec.Bzip2.readBitmapRows]
  | cons i rows ih =>
    have hi := hr i (List.mem_cons_self ..)
    have ih' := fun p => ih (fun x hx => hr x (List.mem_cons_of_mem _ hx)) p
    simp only [Spec.Bzip2.readBitmapRows, (bigWord_word cmap).2 i hi, List.flatMap_cons,
      List.append_assoc, List.length_append]
    cases hz : (packRow cmap i != 0)
    · simp only [Bool.false_eq_true, if_false, rowBits, hz, List.nil_append, List.length_nil,
        Nat.zero_add]
      rw [ih', usedRow_of_zero cmap i hz]
      simp
    · simp only [if_true, rowBits, hz]
      rw [takeNat_send 16 _ _ (packRow_word cmap i).1]
      simp only [ih', usedOfRow_packRow, send_length]
      simp [Nat.add_assoc]

theorem range_mul (n : Nat) : ∀ m, List.range (m * n) =
    (List.range m).flatMap (fun i => (List.range n).map (fun j => n * i + j))
  | 0 => by simp
  | m + 1 => by
    rw [Nat.succ_mul, List.range_add, range_mul n m, List.range_succ, List.flatMap_append,
      List.flatMap_singleton, Nat.mul_comm m n]

theorem range256 : List.range 256 =
    (List.range 16).flatMap (fun i => (List.range 16).map (fun j => 16 * i + j)) := range_mul 16 16

theorem usedBytes_eq (cmap : List Bool) :
    usedBytes cmap = (List.range 16).flatMap (usedRow cmap) := by
  unfold usedBytes
  rw [range256, List.filterMap_flatMap]
  apply flatMap_congr'
  intro i _
  rw [List.filterMap_map]
  rfl

end LbzVerif.Lemmas.TransmitBits
