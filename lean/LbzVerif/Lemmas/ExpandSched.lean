/-
  Lemmas.ExpandSched — the abstract input functions of the decompression scheduler model
  (`Model.SchedD.Cfg.parseAt` / `retrieveFrom`) instantiated with the functions underlying
  `Model.Expand.expandFile` (`cfgOf`; `render` gives the bytes of a sink record), and
  `seqRun_expandRest`: the scheduler's sequential reference `seqRun (cfgOf …)` succeeds with
  records `recs` iff `expandRest` answers `ok (recs.flatMap render)`.
  Position unit: one BIT of the zero-padded input after the 4-byte header; the position of a
  cursor `c` is `T - c.size`, `T = 32 · #words`.
-/
import LbzVerif.Lemmas.SchedD.Basic
import LbzVerif.Lemmas.ExpandStep
import LbzVerif.Lemmas.ExpandBlock
import LbzVerif.Lemmas.ExpandLocal

namespace LbzVerif.Lemmas.ExpandSched
open LbzVerif.Model.Expand LbzVerif.Lemmas.RetrieveBits LbzVerif.Lemmas.ExpandBits
open LbzVerif.Lemmas.ExpandStep LbzVerif.Model.SchedD LbzVerif.Lemmas.SchedD

inductive PhaseRes where
  /-- OK: the parser state, the bitstream after the 32-bit block CRC, the fuel left -/
  | hdr (p : Gen.ParseSt) (c : Cur) (f : Nat)
  /-- FINISH with `garbage` -/
  | fin (g : Nat) (c : Cur)
  | err (code : Nat) (c : Cur)
  | fuel

/-- The iterations of `go` up to the parser's answer. -/
def parsePhase : Nat → Gen.ParseSt → Cur → PhaseRes
  | 0, _, _ => .fuel
  | f + 1, p, c =>
    match need16 c with
    | none =>
      if (Gen.parseAtEof p).2 = Gen.RV_FINISH then .fin (Gen.parseAtEof p).1.garbage c
      else .err (Gen.parseAtEof p).2 c
    | some c1 =>
      let r := Gen.parseStep { p with align := false } (c1.v >>> 48)
      let c3 := if r.1.align then alignC (dumpC c1 16) else dumpC c1 16
      match r.2 with
      | none => parsePhase f r.1 c3
      | some rv =>
        if rv = Gen.RV_OK then .hdr r.1 c3 f
        else if rv = Gen.RV_FINISH then .fin r.1.garbage c3
        else .err rv c3

/-- What `go` does with the parser's answer. -/
def goOf (m : Nat) (acc : List UInt8) : PhaseRes → Except Err (List UInt8)
  | .hdr p' c3 f' =>
    match blockAt p'.hdBs100k p'.hdCrc c3 with
    | .error e => .error e
    | .ok (out, c4) => go m f' p' c4 (acc ++ out)
  | .fin g c3 => finishCheck m g c3 acc
  | .err code _ => .error (failCode code)
  | .fuel => .error .fuel

theorem go_phase (m : Nat) : ∀ (f : Nat) (p : Gen.ParseSt) (c : Cur) (acc : List UInt8),
    go m f p c acc = goOf m acc (parsePhase f p c) := by
  intro f
  induction f with
  | zero => intro p c acc; rfl
  | succ f ih =>
    intro p c acc
    rw [go_succ, parsePhase]
    cases need16 c with
    | none =>
      simp only [atEof]
      split <;> rfl
    | some c1 =>
      simp only [after]
      generalize Gen.parseStep { p with align := false } (c1.v >>> 48) = r
      obtain ⟨r1, r2⟩ := r
      cases r2 with
      | none => exact ih _ _ _
      | some rv =>
        simp only
        split
        · rfl
        · split <;> rfl

theorem step_cur (c c1 : Cur) (inv : BufInv c.v c.w) (hn : need16 c = some c1) (al : Bool) :
    BufInv (if al then alignC (dumpC c1 16) else dumpC c1 16).v
      (if al then alignC (dumpC c1 16) else dumpC c1 16).w ∧
    (if al then alignC (dumpC c1 16) else dumpC c1 16).size + 16 ≤ c.size ∧
    (if al then alignC (dumpC c1 16) else dumpC c1 16).w ≤ 48 := by
  have hr := read16 c inv
  rw [hn] at hr
  obtain ⟨h16, _, a2, a3, a4⟩ := hr
  have hs : (dumpC c1 16).size + 16 = c.size := by
    have := congrArg List.length a2
    rw [List.length_drop, bitsC_length] at this
    rw [bitsC_length] at this h16
    omega
  cases al with
  | false => exact ⟨a3, by simp only [Bool.false_eq_true, if_false]; omega, a4⟩
  | true =>
    simp only [if_true]
    obtain ⟨b1, b2, b3⟩ := align_bits (dumpC c1 16) a3
    refine ⟨b2, ?_, by omega⟩
    have := congrArg List.length b1
    rw [List.length_drop, bitsC_length, bitsC_length] at this
    omega

theorem parsePhase_hdr : ∀ (f : Nat) (p : Gen.ParseSt) (c : Cur) (p' : Gen.ParseSt) (c3 : Cur)
    (f' : Nat), BufInv c.v c.w → parsePhase f p c = .hdr p' c3 f' →
    f' < f ∧ BufInv c3.v c3.w ∧ c3.size + 16 ≤ c.size ∧ c3.w ≤ 48 := by
  intro f
  induction f with
  | zero => intro p c p' c3 f' _ h; cases h
  | succ f ih =>
    intro p c p' c3 f' inv h
    rw [parsePhase] at h
    cases hn : need16 c with
    | none =>
      rw [hn] at h
      simp only at h
      split at h <;> cases h
    | some c1 =>
      rw [hn] at h
      simp only at h
      generalize Gen.parseStep { p with align := false } (c1.v >>> 48) = r at h
      obtain ⟨r1, r2⟩ := r
      obtain ⟨s1, s2, s3⟩ := step_cur c c1 inv hn r1.align
      cases r2 with
      | none =>
        obtain ⟨t0, t1, t2, t3⟩ := ih _ _ _ _ _ s1 h
        exact ⟨by omega, t1, by omega, t3⟩
      | some rv =>
        simp only at h
        split at h
        · cases h; exact ⟨Nat.lt_succ_self _, s1, s2, s3⟩
        · split at h <;> cases h

def retrOk (c : Cur) : Bool :=
  match (Model.Retrieve.retrieve (Model.Retrieve.St.start c.v c.w) c.ws true).status with
  | .ok => true
  | _ => false

def endCur (c : Cur) : Cur :=
  ⟨(Model.Retrieve.retrieve (Model.Retrieve.St.start c.v c.w) c.ws true).st.v,
   (Model.Retrieve.retrieve (Model.Retrieve.St.start c.v c.w) c.ws true).st.w,
   (Model.Retrieve.retrieve (Model.Retrieve.St.start c.v c.w) c.ws true).rest⟩

/-- `Lemmas.ExpandBlock.blockAt_size` with `<`, which the clamp in `rres` needs: through
    `Props.C05.Block.retrieve_sound`, the oracle's `parseBlock` reads at least one bit after the
    CRC. -/
theorem retrOk_strict (c : Cur) (inv : BufInv c.v c.w) (hw : c.w ≤ 63) (h : retrOk c = true) :
    BufInv (endCur c).v (endCur c).w ∧ (endCur c).size < c.size := by
  have hok : (Lemmas.ExpandBlock.retrAt c).status = .ok := by
    unfold Lemmas.ExpandBlock.retrAt
    unfold retrOk at h
    split at h
    · assumption
    · cases h
  obtain ⟨i, _⟩ := Lemmas.ExpandBlock.retrieve_ok_cur c inv hok
  refine ⟨i, ?_⟩
  have h32 : Basic.takeNat 32 (List.replicate 32 false ++ bitsC c) =
      some (Basic.bitsToNat (List.replicate 32 false),
        bitsOf (Model.Retrieve.St.start c.v c.w) c.ws) := by
    have := Basic.takeNat_append (List.replicate 32 false) (bitsC c)
    rw [List.length_replicate] at this
    exact this
  obtain ⟨b, _, hp, _⟩ := Props.C05.Block.retrieve_sound c.v c.w c.ws true inv hw hok 0 0 _ _ h32
  obtain ⟨_, _, hs⟩ := Lemmas.ExpandLocal.parseBlock_crc _ _ _ _ _ hp
  have e1 : bitsOf (Lemmas.ExpandBlock.retrAt c).st (Lemmas.ExpandBlock.retrAt c).rest =
      bitsC (endCur c) := rfl
  rw [e1, bitsC_length, List.length_append, List.length_replicate, bitsC_length] at hs
  omega

theorem blockAt_ok_end (l crc : Nat) (c c4 : Cur) (out : List UInt8)
    (h : blockAt l crc c = .ok (out, c4)) : retrOk c = true ∧ c4 = endCur c := by
  obtain ⟨hok, _, _, _, _, rfl⟩ := (Lemmas.ExpandBlock.blockAt_ok_iff l crc c c4 out).mp h
  refine ⟨?_, rfl⟩
  unfold retrOk
  rw [hok]

/-- the ERR_EOF zero-padding test of the FINISH path passes -/
def finOk (m g : Nat) (c : Cur) : Bool :=
  match finishCheck m g c [] with
  | .ok _ => true
  | .error _ => false

theorem finishCheck_finOk (m g : Nat) (c : Cur) (acc : List UInt8) :
    finishCheck m g c acc = if finOk m g c then .ok acc else .error (.data Gen.ERR_EOF) := by
  have key : ∀ (P : Prop) [Decidable P],
      (if P then (.error (.data Gen.ERR_EOF) : Except Err (List UInt8)) else .ok acc) =
      if (match (if P then (.error (.data Gen.ERR_EOF) : Except Err (List UInt8)) else .ok []) with
          | .ok _ => true
          | .error _ => false) = true
      then .ok acc else .error (.data Gen.ERR_EOF) := by
    intro P _
    by_cases h : P <;> simp [h]
  unfold finOk finishCheck
  exact key _

/-- The parse phase of the sequential run that starts at position `q` (with the fuel and the
    parser state `go` has there), searched from `(f, p, c)` on; `k` bounds the number of blocks
    walked over (`f ≤ k` suffices: every parse phase uses up fuel). -/
def startLookupK (T q : Nat) : Nat → Nat → Gen.ParseSt → Cur → Option (Nat × Gen.ParseSt × Cur)
  | 0, f, p, c => if T - c.size = q then some (f, p, c) else none
  | k + 1, f, p, c =>
    if T - c.size = q then some (f, p, c)
    else
      match parsePhase f p c with
      | .hdr p' c3 f' =>
        match blockAt p'.hdBs100k p'.hdCrc c3 with
        | .ok (_, c4) => startLookupK T q k f' p' c4
        | .error _ => none
      | _ => none

/-- The block of the sequential run whose data starts at position `b`: the parser state that
    holds its header and its bitstream. -/
def blockLookupK (T b : Nat) : Nat → Nat → Gen.ParseSt → Cur → Option (Gen.ParseSt × Cur)
  | 0, _, _, _ => none
  | k + 1, f, p, c =>
    match parsePhase f p c with
    | .hdr p' c3 f' =>
      if T - c3.size = b then some (p', c3)
      else
        match blockAt p'.hdBs100k p'.hdCrc c3 with
        | .ok (_, c4) => blockLookupK T b k f' p' c4
        | .error _ => none
    | _ => none

theorem startLookupK_self (T q k f : Nat) (p : Gen.ParseSt) (c : Cur) (h : T - c.size = q) :
    startLookupK T q k f p c = some (f, p, c) := by
  cases k <;> simp only [startLookupK, if_pos h]

theorem startLookupK_step (T q k f : Nat) (p : Gen.ParseSt) (c : Cur) (h : T - c.size ≠ q)
    (p' : Gen.ParseSt) (c3 : Cur) (f' : Nat) (hp : parsePhase f p c = .hdr p' c3 f')
    (out : List UInt8) (c4 : Cur) (hb : blockAt p'.hdBs100k p'.hdCrc c3 = .ok (out, c4)) :
    startLookupK T q (k + 1) f p c = startLookupK T q k f' p' c4 := by
  simp only [startLookupK, if_neg h, hp, hb]

theorem blockLookupK_self (T b k f : Nat) (p : Gen.ParseSt) (c : Cur)
    (p' : Gen.ParseSt) (c3 : Cur) (f' : Nat) (hp : parsePhase f p c = .hdr p' c3 f')
    (h : T - c3.size = b) : blockLookupK T b (k + 1) f p c = some (p', c3) := by
  simp only [blockLookupK, hp, if_pos h]

theorem blockLookupK_step (T b k f : Nat) (p : Gen.ParseSt) (c : Cur)
    (p' : Gen.ParseSt) (c3 : Cur) (f' : Nat) (hp : parsePhase f p c = .hdr p' c3 f')
    (h : T - c3.size ≠ b)
    (out : List UInt8) (c4 : Cur) (hb : blockAt p'.hdBs100k p'.hdCrc c3 = .ok (out, c4)) :
    blockLookupK T b (k + 1) f p c = blockLookupK T b k f' p' c4 := by
  simp only [blockLookupK, hp, if_neg h, hb]

/-- what `parse()` does at the parse start found by the lookup (`.err q`: no parse of the
    sequential run starts at `q`) -/
def classify (m T q : Nat) : Option (Nat × Gen.ParseSt × Cur) → PRes
  | none => .err q
  | some (f, p, c) =>
    match parsePhase f p c with
    | .hdr _ c3 _ => .hdr (T - c3.size)
    | .fin g c3 => .finish (T - c3.size) (finOk m g c3)
    | .err _ c3 => .err (T - c3.size)
    | .fuel => .err q

def isOk {ε α : Type} : Except ε α → Bool
  | .ok _ => true
  | .error _ => false

/-- what retrieve / decode / emit / the tests of `do_reorder` do for the block found by the
    lookup (one output buffer) -/
def rOf (T b : Nat) : Option (Gen.ParseSt × Cur) → RRes
  | none => { ok := false, e := b, nb := 1, fin := false }
  | some (p', c3) =>
    { ok := retrOk c3, e := T - (endCur c3).size, nb := 1,
      fin := isOk (blockAt p'.hdBs100k p'.hdCrc c3) }

def renOf : Option (Gen.ParseSt × Cur) → List UInt8
  | none => []
  | some (p', c3) =>
    match blockAt p'.hdBs100k p'.hdCrc c3 with
    | .ok (out, _) => out
    | .error _ => []

/-- The scheduler model's configuration for the file whose header announced level `bs100k`
    and whose remaining bytes are `rest`. -/
def cfgOf (bs100k : Nat) (rest : List UInt8) (n W totalIn totalOut : Nat) (ultra : Bool)
    (cand : List Nat) : Cfg :=
  { n := n, W := W, T := 32 * (toWords (padded rest)).length,
    totalIn := totalIn, totalOut := totalOut, ultra := ultra, cand := cand,
    parseAt := fun q =>
      classify (missingOf rest.length) (32 * (toWords (padded rest)).length) q
        (startLookupK (32 * (toWords (padded rest)).length) q
          (32 * (toWords (padded rest)).length + 1) (32 * (toWords (padded rest)).length + 1)
          (Gen.parserInit bs100k false) ⟨0, 0, toWords (padded rest)⟩),
    retrieveFrom := fun b =>
      rOf (32 * (toWords (padded rest)).length) b
        (blockLookupK (32 * (toWords (padded rest)).length) b
          (32 * (toWords (padded rest)).length + 1) (32 * (toWords (padded rest)).length + 1)
          (Gen.parserInit bs100k false) ⟨0, 0, toWords (padded rest)⟩) }

/-- The bytes of a sink record: `(b, 0)` is the one buffer of the block whose data starts at
    position `b`. -/
def render (bs100k : Nat) (rest : List UInt8) (r : Nat × Nat) : List UInt8 :=
  if r.2 = 0 then
    renOf (blockLookupK (32 * (toWords (padded rest)).length) r.1
      (32 * (toWords (padded rest)).length + 1) (32 * (toWords (padded rest)).length + 1)
      (Gen.parserInit bs100k false) ⟨0, 0, toWords (padded rest)⟩)
  else []

theorem blockOut_bad (cfg : Cfg) (b : Nat) (h : (cfg.retrieveFrom b).fin = false) :
    (blockOut cfg b 0).2 = false := by
  have hf : (rres cfg b).fin = false := by
    unfold rres
    simp only
    split
    · exact h
    · rfl
  unfold blockOut
  simp only [hf, Bool.false_eq_true, if_false]
  split <;> rfl

/-- The clamp in `pres` is idle on a parser answer computed from a cursor: a header lies behind
    the parse start and inside the input. -/
theorem pres_classify (cfg : Cfg) (m f : Nat) (p : Gen.ParseSt) (c : Cur) (inv : BufInv c.v c.w)
    (hT : c.size ≤ cfg.T)
    (h : cfg.parseAt (cfg.T - c.size) = classify m cfg.T (cfg.T - c.size) (some (f, p, c))) :
    pres cfg (cfg.T - c.size) = classify m cfg.T (cfg.T - c.size) (some (f, p, c)) := by
  unfold pres
  rw [h]
  cases hph : parsePhase f p c with
  | hdr p' c3 f' =>
    obtain ⟨_, _, s3, _⟩ := parsePhase_hdr f p c p' c3 f' inv hph
    simp only [classify, hph]
    rw [if_pos ⟨by omega, by omega⟩]
  | fin g c3 => simp only [classify, hph]
  | err code c3 => simp only [classify, hph]
  | fuel => simp only [classify, hph]

/-- If `cfg.parseAt`, `cfg.retrieveFrom` and `ren` agree, from the position of `c` on, with the
    chain of parse phases and blocks that `go` walks from `(f, p, c)`, then the sequential
    reference started at the position of `c` succeeds iff `go` does, and `go`'s output is `acc`
    followed by the rendered sink records. -/
theorem seq_go (cfg : Cfg) (m : Nat) (ren : Nat × Nat → List UInt8) :
    ∀ (F k f : Nat) (p : Gen.ParseSt) (c : Cur) (acc : List UInt8),
      f ≤ k → BufInv c.v c.w → c.size ≤ cfg.T → c.size < F →
      (∀ q, cfg.T - c.size ≤ q →
        cfg.parseAt q = classify m cfg.T q (startLookupK cfg.T q k f p c)) →
      (∀ b, cfg.T - c.size < b →
        cfg.retrieveFrom b = rOf cfg.T b (blockLookupK cfg.T b k f p c)) →
      (∀ b, cfg.T - c.size < b → ren (b, 0) = renOf (blockLookupK cfg.T b k f p c)) →
      ((seqFrom cfg F (cfg.T - c.size)).2 = true →
        go m f p c acc = .ok (acc ++ (seqFrom cfg F (cfg.T - c.size)).1.flatMap ren)) ∧
      ((seqFrom cfg F (cfg.T - c.size)).2 = false → ∃ e, go m f p c acc = .error e) := by
  intro F
  induction F with
  | zero => intro k f p c acc _ _ _ h; omega
  | succ F ih =>
    intro k f p c acc hk inv hT hF HP HR HN
    have hpres := HP (cfg.T - c.size) (Nat.le_refl _)
    rw [startLookupK_self _ _ _ _ _ _ rfl] at hpres
    replace hpres := pres_classify cfg m f p c inv hT hpres
    rw [go_phase]
    cases hph : parsePhase f p c with
    | fuel =>
      simp only [classify, hph] at hpres
      rw [seqFrom_err hpres]
      exact ⟨fun h => (by simp at h), fun _ => ⟨_, rfl⟩⟩
    | err code c3 =>
      simp only [classify, hph] at hpres
      rw [seqFrom_err hpres]
      exact ⟨fun h => (by simp at h), fun _ => ⟨_, rfl⟩⟩
    | fin g c3 =>
      simp only [classify, hph] at hpres
      rw [seqFrom_finish hpres]
      simp only [goOf]
      rw [finishCheck_finOk]
      constructor
      · intro h
        rw [if_pos h, List.flatMap_nil, List.append_nil]
      · intro h
        rw [h]
        exact ⟨_, rfl⟩
    | hdr p' c3 f' =>
      obtain ⟨hf', i3, s3, w3⟩ := parsePhase_hdr f p c p' c3 f' inv hph
      obtain ⟨k', rfl⟩ : ∃ k', k = k' + 1 := ⟨k - 1, by omega⟩
      simp only [classify, hph] at hpres
      rw [seqFrom_hdr hpres]
      have hR0 := HR (cfg.T - c3.size) (by omega)
      rw [blockLookupK_self _ _ _ _ _ _ _ _ _ hph rfl] at hR0
      have hN0 := HN (cfg.T - c3.size) (by omega)
      rw [blockLookupK_self _ _ _ _ _ _ _ _ _ hph rfl] at hN0
      simp only [goOf]
      cases hb : blockAt p'.hdBs100k p'.hdCrc c3 with
      | error e =>
        have h1 : (cfg.retrieveFrom (cfg.T - c3.size)).fin = false := by
          rw [hR0]
          simp only [rOf, hb, isOk]
        have h2 := blockOut_bad cfg _ h1
        rw [if_neg (by rw [h2]; exact Bool.false_ne_true)]
        exact ⟨fun h => (by rw [h2] at h; cases h), fun _ => ⟨e, rfl⟩⟩
      | ok oc =>
        obtain ⟨out, c4⟩ := oc
        obtain ⟨hro, rfl⟩ := blockAt_ok_end _ _ _ _ _ hb
        obtain ⟨i4, s4⟩ := retrOk_strict c3 i3 (by omega) hro
        have hrr : rres cfg (cfg.T - c3.size) =
            { ok := true, e := cfg.T - (endCur c3).size, nb := 1, fin := true } := by
          unfold rres
          rw [hR0]
          simp only [rOf, hro, hb, isOk]
          rw [if_pos ⟨trivial, by omega, by omega⟩]
          rfl
        have hbo : blockOut cfg (cfg.T - c3.size) 0 = ([(cfg.T - c3.size, 0)], true) := by
          unfold blockOut
          rw [hrr]
          rfl
        rw [hbo, hrr]
        simp only [if_true]
        have hren : ren (cfg.T - c3.size, 0) = out := by
          rw [hN0]
          simp only [renOf, hb]
        have IH := ih k' f' p' (endCur c3) (acc ++ out) (by omega) i4 (by omega) (by omega)
          (by
            intro q hq
            rw [HP q (by omega), startLookupK_step _ _ _ _ _ _ (by omega) _ _ _ hph _ _ hb])
          (by
            intro b hq
            rw [HR b (by omega), blockLookupK_step _ _ _ _ _ _ _ _ _ hph (by omega) _ _ hb])
          (by
            intro b hq
            rw [HN b (by omega), blockLookupK_step _ _ _ _ _ _ _ _ _ hph (by omega) _ _ hb])
        constructor
        · intro h
          rw [IH.1 h, List.singleton_append, List.flatMap_cons, hren, List.append_assoc]
        · intro h
          exact IH.2 h

theorem seqRun_expandRest (bs100k : Nat) (rest : List UInt8) (n W totalIn totalOut : Nat)
    (ultra : Bool) (cand : List Nat) :
    ((seqRun (cfgOf bs100k rest n W totalIn totalOut ultra cand)).2 = true →
      expandRest bs100k rest =
        .ok ((seqRun (cfgOf bs100k rest n W totalIn totalOut ultra cand)).1.flatMap
          (render bs100k rest))) ∧
    ((seqRun (cfgOf bs100k rest n W totalIn totalOut ultra cand)).2 = false →
      ∃ e, expandRest bs100k rest = .error e) := by
  have hsz : (⟨0, 0, toWords (padded rest)⟩ : Cur).size =
      (cfgOf bs100k rest n W totalIn totalOut ultra cand).T := by
    simp only [Cur.size, cfgOf, Nat.zero_add]
  have h := seq_go (cfgOf bs100k rest n W totalIn totalOut ultra cand) (missingOf rest.length)
    (render bs100k rest) ((cfgOf bs100k rest n W totalIn totalOut ultra cand).T + 1)
    (32 * (toWords (padded rest)).length + 1) (32 * (toWords (padded rest)).length + 1)
    (Gen.parserInit bs100k false) ⟨0, 0, toWords (padded rest)⟩ [] (Nat.le_refl _) bufInv_start
    (by rw [hsz]; exact Nat.le_refl _) (by rw [hsz]; omega)
    (fun q _ => rfl) (fun b _ => rfl)
    (fun b _ => by simp only [render, if_true]; rfl)
  rw [hsz, Nat.sub_self] at h
  simp only [List.nil_append] at h
  exact h

end LbzVerif.Lemmas.ExpandSched
