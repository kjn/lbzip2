/-
  Lemmas.Delta — the windowed delta reader (`Model.Delta`) against the bit-by-bit
  reference (`Spec.Delta`).  `sym_eq_applyW`: the reference on a bit list is its
  outcome `symW n` on a window of `2n` bits, applied to the list.  `symW_summ`: a
  window acts on any start value through its summary `summ` (how far it dips below
  and rises above it, where it ends, how many bits it takes).  `table_summ`: `LO`,
  `HI`, `R`, `L` hold the summaries of the 64 windows — the finite core, by
  evaluation.  Hence `core` (one window), `syms_window` (the reference unfolds as the
  windowed loop does), `table_eq`.
-/
import LbzVerif.Spec.Delta
import LbzVerif.Model.Delta

namespace LbzVerif.Lemmas.Delta

open LbzVerif.Spec.Delta (inRange sym syms)
open LbzVerif.Model.Delta (win peek6 tL stepLen loop Res)

/-- Outcome of (at most) `n` reference steps on a window. -/
inductive WOut
  | reject
  | done (c l : Nat)
  | cont (c l : Nat)
  deriving DecidableEq, Repr

def WOut.shift2 : WOut → WOut
  | .reject => .reject
  | .done c l => .done c (l + 2)
  | .cont c l => .cont c (l + 2)

/-- The reference on a window: range test before every bit, at most `n`
two-bit steps. -/
def symW : Nat → Nat → List Bool → WOut
  | 0, c, _ => if inRange c then .cont c 0 else .reject
  | n + 1, c, w =>
    if inRange c then
      match w with
      | false :: _ => .done c 1
      | true :: false :: r => (symW n (c + 1) r).shift2
      | true :: true :: r => (symW n (c - 1) r).shift2
      | _ => .reject
    else .reject

/-- A window outcome applied to the real bit list. -/
def applyW (o : WOut) (bits : List Bool) : Option (Nat × List Bool) :=
  match o with
  | .reject => none
  | .done c l => if l ≤ bits.length then some (c, bits.drop l) else none
  | .cont c l => if l ≤ bits.length then sym c (bits.drop l) else none

theorem sym_not_inRange (c : Nat) (bits : List Bool) (h : inRange c = false) :
    sym c bits = none := by
  match bits with
  | [] => simp [sym]
  | false :: r => simp [sym, h]
  | [true] => simp [sym]
  | true :: false :: r => simp [sym, h]
  | true :: true :: r => simp [sym, h]

theorem applyW_shift2_cons (o : WOut) (a b : Bool) (r : List Bool) :
    applyW o.shift2 (a :: b :: r) = applyW o r := by
  cases o <;> simp [WOut.shift2, applyW]

theorem applyW_shift2_short (o : WOut) (bits : List Bool) (h : bits.length < 2) :
    applyW o.shift2 bits = none := by
  cases o <;> simp [WOut.shift2, applyW] <;> omega

theorem sym_eq_applyW (n : Nat) : ∀ (c : Nat) (bits : List Bool),
    sym c bits = applyW (symW n c (win (2 * n) bits)) bits := by
  induction n with
  | zero =>
    intro c bits
    cases h : inRange c
    · simp [symW, h, applyW, sym_not_inRange c bits h]
    · simp [symW, h, applyW]
  | succ n ih =>
    intro c bits
    have e : 2 * (n + 1) = 2 * n + 1 + 1 := by omega
    cases h : inRange c
    · simp [symW, h, applyW, sym_not_inRange c bits h]
    · rw [e]
      match bits with
      | [] => simp [win, symW, h, applyW, sym]
      | [false] => simp [win, symW, h, applyW, sym]
      | false :: b :: r => simp [win, symW, h, applyW, sym]
      | [true] =>
        simp only [win, symW, h, if_true]
        rw [applyW_shift2_short _ _ (by simp)]
        simp [sym]
      | true :: false :: r =>
        simp only [win, symW, h, if_true, sym]
        rw [applyW_shift2_cons]
        exact ih (c + 1) r
      | true :: true :: r =>
        simp only [win, symW, h, if_true, sym]
        rw [applyW_shift2_cons]
        exact ih (c - 1) r

/-- What `retrieve()` does with window value `k` at current length `c`. -/
def winModel (c k : Nat) : WOut :=
  match stepLen c k with
  | none => .reject
  | some c' => if tL k ≠ 6 then .done c' (tL k) else .cont c' 6

/-- What a run of at most `n` two-bit steps does to any start value `c`: it is accepted iff
`1 + lo ≤ c` and `c + hi ≤ 20` (`lo`, `hi` = deepest excursion below / above `c`), then ends at
`c + net - n` after `len` bits, with the terminator seen (`fin`) or not.  The bias `n` on `net`
is that of the table `R` (`code_len[j] += R[k]; code_len[j] -= 3`). -/
structure Summ where
  lo : Nat
  hi : Nat
  net : Nat
  len : Nat
  fin : Bool
  deriving DecidableEq

/-- The summary of at most `n` steps on a window; `none` when the window ends inside a step. -/
def summ : Nat → List Bool → Option Summ
  | 0, _ => some ⟨0, 0, 0, 0, false⟩
  | n + 1, false :: _ => some ⟨0, 0, n + 1, 1, true⟩
  | n + 1, true :: false :: r =>
    (summ n r).map fun s => ⟨s.lo - 1, s.hi + 1, s.net + 2, s.len + 2, s.fin⟩
  | n + 1, true :: true :: r =>
    (summ n r).map fun s => ⟨s.lo + 1, s.hi - 1, s.net, s.len + 2, s.fin⟩
  | _ + 1, _ => none

def Summ.out (n : Nat) (s : Summ) (c : Nat) : WOut :=
  if 1 + s.lo ≤ c ∧ c + s.hi ≤ 20 then
    if s.fin then .done (c + s.net - n) s.len else .cont (c + s.net - n) s.len
  else .reject

theorem inRange_iff (c : Nat) : inRange c = true ↔ 1 ≤ c ∧ c ≤ 20 := by
  unfold inRange Spec.Delta.minLen Spec.Delta.maxLen
  rw [Bool.and_eq_true, decide_eq_true_iff, decide_eq_true_iff]

theorem Summ.out_step (n : Nat) (s s' : Summ) (c c' : Nat)
    (hacc : 1 + s'.lo ≤ c ∧ c + s'.hi ≤ 20 ↔
      (1 ≤ c ∧ c ≤ 20) ∧ 1 + s.lo ≤ c' ∧ c' + s.hi ≤ 20)
    (hnet : 1 ≤ c → c' + s.net - n = c + s'.net - (n + 1))
    (hlen : s'.len = s.len + 2) (hfin : s'.fin = s.fin) :
    (if inRange c then (s.out n c').shift2 else .reject) = s'.out (n + 1) c := by
  unfold Summ.out
  rw [hlen, hfin]
  by_cases h : 1 + s'.lo ≤ c ∧ c + s'.hi ≤ 20
  · obtain ⟨hr, ha⟩ := hacc.mp h
    rw [if_pos ((inRange_iff c).mpr hr), if_pos ha, if_pos h, hnet hr.1]
    cases s.fin <;> rfl
  · rw [if_neg h]
    by_cases hr : inRange c = true
    · rw [if_pos hr, if_neg (fun ha => h (hacc.mpr ⟨(inRange_iff c).mp hr, ha⟩))]
      rfl
    · rw [if_neg hr]

theorem symW_summ : ∀ (n c : Nat) (w : List Bool),
    symW n c w = match summ n w with
      | none => .reject
      | some s => s.out n c := by
  intro n
  induction n with
  | zero =>
    intro c w
    simp only [symW, summ, Summ.out, inRange_iff]
    rfl
  | succ n ih =>
    intro c w
    match w with
    | [] => simp [symW, summ]
    | [true] => simp [symW, summ]
    | false :: _ =>
      simp only [symW, summ, Summ.out, inRange_iff]
      rw [Nat.add_sub_cancel]
      rfl
    | true :: false :: r =>
      simp only [symW, summ, ih (c + 1) r]
      cases summ n r with
      | none => simp [WOut.shift2]
      | some s =>
        refine s.out_step n _ c (c + 1) ?_ ?_ rfl rfl
        · dsimp only
          omega
        · dsimp only
          omega
    | true :: true :: r =>
      simp only [symW, summ, ih (c - 1) r]
      cases summ n r with
      | none => simp [WOut.shift2]
      | some s =>
        refine s.out_step n _ c (c - 1) ?_ ?_ rfl rfl
        · dsimp only
          omega
        · dsimp only
          omega

/-- The tables `LO`, `HI`, `R`, `L` hold the summaries of the 64 windows; the `uint8_t`
update neither wraps below 0 (on an accepted `c ≥ 1 + LO[k]`) nor above 255; every window
consumes a bit, and no more than the six it has. -/
theorem table_summ : ∀ b1 b2 b3 b4 b5 b6 : Bool,
    let k := Model.Delta.toNum [b1, b2, b3, b4, b5, b6]
    summ 3 [b1, b2, b3, b4, b5, b6] =
        some ⟨Model.Delta.tLO k, Model.Delta.tHI k, Model.Delta.tR k, tL k, decide (tL k ≠ 6)⟩ ∧
      3 ≤ Model.Delta.tR k + Model.Delta.tLO k ∧ Model.Delta.tR k ≤ 6 ∧ 1 ≤ tL k ∧ tL k ≤ 6 := by
  decide +kernel

theorem stepLen_eq (c k : Nat) : stepLen c k =
    if c < 1 + Model.Delta.tLO k ∨ c + Model.Delta.tHI k > 20 then none
    else some (((c + Model.Delta.tR k) % 256 + 256 - 3) % 256) := rfl

/-- **Finite core.**  For every 6-bit window and every value of `code_len[j]` the table-driven
step is the reference run for at most three steps: same verdict (so no intermediate value leaves
1…20), same new length, same number of bits, terminator found or not. -/
theorem core (c : Nat) (b1 b2 b3 b4 b5 b6 : Bool) :
    winModel c (Model.Delta.toNum [b1, b2, b3, b4, b5, b6]) =
      symW 3 c [b1, b2, b3, b4, b5, b6] := by
  obtain ⟨hs, hlo, hR, _⟩ := table_summ b1 b2 b3 b4 b5 b6
  rw [symW_summ, hs, winModel, stepLen_eq]
  generalize Model.Delta.toNum [b1, b2, b3, b4, b5, b6] = k at hlo hR ⊢
  unfold Summ.out
  simp only [decide_eq_true_eq]
  by_cases h : 1 + Model.Delta.tLO k ≤ c ∧ c + Model.Delta.tHI k ≤ 20
  · rw [if_neg (by omega), if_pos h,
      show ((c + Model.Delta.tR k) % 256 + 256 - 3) % 256 = c + Model.Delta.tR k - 3 by omega]
    dsimp only
    by_cases h6 : tL k ≠ 6
    · rw [if_pos h6, if_pos h6]
    · rw [if_neg h6, if_neg h6, Decidable.not_not.mp h6]
  · rw [if_pos (by omega), if_neg h]

theorem win_length (n : Nat) : ∀ bits, (win n bits).length = n := by
  induction n with
  | zero => intro bits; simp [win]
  | succ n ih =>
    intro bits
    cases bits <;> simp [win, ih]

theorem win6_cases (bits : List Bool) :
    ∃ b1 b2 b3 b4 b5 b6, win 6 bits = [b1, b2, b3, b4, b5, b6] := by
  have h := win_length 6 bits
  match hw : win 6 bits, h with
  | [b1, b2, b3, b4, b5, b6], _ => exact ⟨b1, b2, b3, b4, b5, b6, rfl⟩

theorem sym_eq_winModel (c : Nat) (bits : List Bool) :
    sym c bits = applyW (winModel c (peek6 bits)) bits := by
  obtain ⟨b1, b2, b3, b4, b5, b6, hw⟩ := win6_cases bits
  have h := sym_eq_applyW 3 c bits
  rw [show 2 * 3 = 6 from rfl, hw, ← core c] at h
  rw [h, peek6, hw]

theorem tL_bounds (bits : List Bool) : 1 ≤ tL (peek6 bits) ∧ tL (peek6 bits) ≤ 6 := by
  obtain ⟨b1, b2, b3, b4, b5, b6, hw⟩ := win6_cases bits
  rw [peek6, hw]
  exact (table_summ b1 b2 b3 b4 b5 b6).2.2.2

/-- **The reference unfolds as the windowed loop does**: one window rejects, or finishes a
symbol (`L[k] ≠ 6`), or takes three steps of the same symbol.  Whatever runs that loop — the
list model below, the suspendable machine — equals `syms` by an induction of its own. -/
theorem syms_window (n c : Nat) (bits : List Bool) :
    syms (n + 1) c bits =
      match stepLen c (peek6 bits) with
      | none => none
      | some c' =>
        if bits.length < tL (peek6 bits) then none
        else if tL (peek6 bits) ≠ 6 then
          (syms n c' (bits.drop (tL (peek6 bits)))).map fun q => (c' :: q.1, q.2)
        else syms (n + 1) c' (bits.drop (tL (peek6 bits))) := by
  rw [syms, sym_eq_winModel c bits, winModel]
  cases stepLen c (peek6 bits) with
  | none => rfl
  | some c' =>
    dsimp only
    by_cases hlen : bits.length < tL (peek6 bits)
    · rw [if_pos hlen]
      by_cases h6 : tL (peek6 bits) ≠ 6
      · rw [if_pos h6, applyW, if_neg (Nat.not_le.2 hlen)]
      · rw [if_neg h6, applyW, if_neg (Nat.not_le.2 (Decidable.not_not.1 h6 ▸ hlen))]
    · rw [if_neg hlen]
      by_cases h6 : tL (peek6 bits) ≠ 6
      · rw [if_pos h6, if_pos h6, applyW, if_pos (Nat.not_lt.1 hlen)]
        dsimp only
        cases syms n c' (bits.drop (tL (peek6 bits))) <;> rfl
      · rw [if_neg h6, if_neg h6, applyW, syms]
        rw [Decidable.not_not.1 h6] at hlen ⊢
        rw [if_pos (Nat.not_lt.1 hlen)]

def toOpt : Res → Option (List Nat × List Bool)
  | .ok lens rest => some (lens, rest)
  | .errDelta => none
  | .errEof => none

theorem loop_eq : ∀ (fuel todo c : Nat) (acc : List Nat) (bits : List Bool),
    bits.length < fuel →
    toOpt (loop fuel todo c acc bits) =
      (syms todo c bits).map (fun p => (acc.reverse ++ p.1, p.2)) := by
  intro fuel
  induction fuel with
  | zero => intro _ _ _ _ h; omega
  | succ fuel ih =>
    intro todo c acc bits hf
    cases todo with
    | zero => simp [loop, syms, toOpt]
    | succ t =>
      have hl := (tL_bounds bits).1
      rw [loop, if_neg (Nat.add_one_ne_zero t), syms_window]
      dsimp only
      cases stepLen c (peek6 bits) with
      | none => rfl
      | some c' =>
        dsimp only
        by_cases hlen : bits.length < tL (peek6 bits)
        · rw [if_pos hlen, if_pos hlen]; rfl
        · have hd : (bits.drop (tL (peek6 bits))).length < fuel := by rw [List.length_drop]; omega
          rw [if_neg hlen, if_neg hlen]
          by_cases h6 : tL (peek6 bits) ≠ 6
          · rw [if_pos h6, if_pos h6, Nat.add_sub_cancel, ih _ _ _ _ hd, Option.map_map]
            congr 1
            funext q
            simp
          · rw [if_neg h6, if_neg h6]
            exact ih _ _ _ _ hd

theorem syms_not_inRange (n c : Nat) (bits : List Bool) (h : inRange c = false) :
    syms (n + 1) c bits = none := by
  simp [syms, sym_not_inRange c bits h]

theorem table_eq (n : Nat) (hn : 0 < n) (bits : List Bool) :
    toOpt (Model.Delta.table n bits) = Spec.Delta.table n bits := by
  unfold Model.Delta.table Spec.Delta.table Spec.Delta.takeNum
  by_cases h5 : bits.length < 5
  · have : ¬ (5 ≤ bits.length) := by omega
    simp [h5, this, toOpt]
  · have h5' : 5 ≤ bits.length := by omega
    simp only [h5, if_false, h5', if_true]
    have := loop_eq (bits.length + 1) n (Model.Delta.toNum (bits.take 5)) []
      (bits.drop 5) (by simp; omega)
    rw [this]
    have e : Spec.Delta.toNum (bits.take 5) = Model.Delta.toNum (bits.take 5) := rfl
    rw [e]
    cases hr : inRange (Model.Delta.toNum (bits.take 5))
    · obtain ⟨m, rfl⟩ : ∃ m, n = m + 1 := ⟨n - 1, by omega⟩
      simp [syms_not_inRange m _ _ hr]
    · simp only [if_true, List.reverse_nil, List.nil_append]
      cases syms n (Model.Delta.toNum (bits.take 5)) (bits.drop 5) with
      | none => simp
      | some p => simp

theorem toOpt_eq_some {r : Res} {lens : List Nat} {rest : List Bool} :
    toOpt r = some (lens, rest) ↔ r = .ok lens rest := by
  cases r <;> simp [toOpt]

theorem sym_some {c c' : Nat} {bits r : List Bool} (h : sym c bits = some (c', r)) :
    inRange c' = true ∧ r.length < bits.length := by
  fun_induction sym c bits with
  | case2 c t hr =>
    cases h
    exact ⟨hr, Nat.lt_succ_self _⟩
  | case5 c t hr ih | case7 c t hr ih =>
    have := ih h
    exact ⟨this.1, by simp only [List.length_cons]; omega⟩
  | case1 | case3 | case4 | case6 | case8 => cases h

theorem syms_some : ∀ {n c : Nat} {bits : List Bool} {lens : List Nat} {r : List Bool},
    syms n c bits = some (lens, r) →
    lens.length = n ∧ (∀ l ∈ lens, inRange l = true) ∧ r.length ≤ bits.length
  | 0, _, _, _, _, h => by
    cases h
    exact ⟨rfl, nofun, Nat.le_refl _⟩
  | n + 1, c, bits, lens, r, h => by
    rw [syms] at h
    split at h
    · cases h
    · rename_i c1 r1 hs
      split at h
      · cases h
      · rename_i ls r2 hss
        cases h
        have h1 := sym_some hs
        have h2 := syms_some hss
        exact ⟨congrArg (· + 1) h2.1, List.forall_mem_cons.2 ⟨h1.1, h2.2.1⟩, by omega⟩

/-- What a list of `alpha` code lengths read by the reference satisfies. -/
def LensOk (alpha : Nat) (l : List Nat) : Prop := l.length = alpha ∧ ∀ x ∈ l, 1 ≤ x ∧ x ≤ 20

theorem table_some {n : Nat} {bits : List Bool} {p : List Nat × List Bool}
    (h : Spec.Delta.table n bits = some p) : LensOk n p.1 ∧ p.2.length ≤ bits.length := by
  unfold Spec.Delta.table Spec.Delta.takeNum at h
  split at h
  · cases h
  · rename_i c r1 hh
    split at hh
    · cases hh
      split at h
      · obtain ⟨h1, h2, h3⟩ := syms_some h
        rw [List.length_drop] at h3
        exact ⟨⟨h1, fun l hl => (inRange_iff l).1 (h2 l hl)⟩, by omega⟩
      · cases h
    · cases hh

end LbzVerif.Lemmas.Delta
