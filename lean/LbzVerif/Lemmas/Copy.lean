/-
  Lemmas.Copy — the copy pipeline of Model.Copy: the invariant `Inv` (bytes, input slots and
  `out_slots` are conserved; SIGUSR2 is raised once, at the end), `step` as the relation `Step`,
  the termination measure `cost`, and progress.
-/
import LbzVerif.Lemmas.Sniff

namespace LbzVerif.Lemmas.Copy

open LbzVerif.Gen LbzVerif.Model.Copy

/-- the source holds an input slot: from its `in_slots--` until it gives the buffer back
(`source_release_buffer`) or on (`sink_write_buffer`) -/
def srcHeld : Src → Nat
  | .reading _ _ | .got _ _ | .pushing _ _ => 1
  | _ => 0
/-- what `xread` has stored in the source's buffer -/
def srcBytes : Src → List UInt8
  | .reading b _ | .got b _ | .pushing b _ => b
  | _ => []
/-- the source has done `out_slots--` for its block and not yet queued it -/
def srcOutst : Src → Nat
  | .pushing _ _ => 1
  | _ => 0
/-- the sink still has the input slot of the block it writes (`source_release_buffer` comes
after `xwrite`) -/
def snkHeld : Snk → Nat
  | .writing _ | .release => 1
  | _ => 0
/-- what `xwrite` has still to write of that block -/
def snkBytes : Snk → List UInt8
  | .writing r => r
  | _ => []
/-- the sink has a block whose `out_slots++` is still to come -/
def snkOutst : Snk → Nat
  | .idle => 0
  | _ => 1

theorem snkOutst_eq_zero {k : Snk} : snkOutst k = 0 ↔ k = .idle := by
  cases k <;> simp [snkOutst]

/-- Blocks whose `out_slots--` has happened and whose `out_slots++` has not. -/
def outstanding (s : St) : Nat := srcOutst s.src + s.queue.length + snkOutst s.snk

/-- The data in flight, in stream order. -/
def bytesOf (s : St) : List UInt8 :=
  s.out ++ snkBytes s.snk ++ s.queue.flatten ++ srcBytes s.src ++ s.inp

/-- The input slots, free or held by a thread or a queued block. -/
def slotsOf (s : St) : Nat := s.inSlots + srcHeld s.src + s.queue.length + snkHeld s.snk

/-- The source's buffer and `vacant` add up to `in_granul`, a block that is passed on is not
empty, and `xread` comes back short (`vacant > 0`) only when the input is exhausted. -/
def chunkOk (s : St) : Prop :=
  match s.src with
  | .reading b v => b.length + v = copyGranul ∧ 0 < v
  | .got b v => b.length + v = copyGranul ∧ (0 < v → s.inp = [])
  | .pushing b v => b.length + v = copyGranul ∧ 0 < b.length ∧ (0 < v → s.inp = [])
  | .setEof => s.inp = []
  | .done => s.inp = []
  | .wait => True

structure Core (total : List UInt8) (s : St) : Prop where
  /-- nothing lost, nothing reordered: written ++ in flight ++ unread = the input (`bytesOf`) -/
  bytes : s.out ++ snkBytes s.snk ++ s.queue.flatten ++ srcBytes s.src ++ s.inp = total
  /-- `in_slots` + the slots held = the 2 that `copy()` starts with (`slotsOf`) -/
  slots : s.inSlots + srcHeld s.src + s.queue.length + snkHeld s.snk = copyInSlots
  /-- `out_slots` = `total_out_slots` − outstanding, as an `unsigned` (it wraps below zero) -/
  outs : s.outSlots = (copyOutSlots + u32 - outstanding s) % u32
  chunk : chunkOk s
  /-- `eof` is set by the source's last section and by nothing else -/
  eofI : s.eof = true ↔ s.src = .done

/-- `copy_terminate()` has raised SIGUSR2 exactly once if `eof && out_slots == total_out_slots`
has been seen at a `sched_unlock`, and not at all before. -/
def UsrOk (s : St) : Prop :=
  s.usr2 = if s.eof = true ∧ outstanding s = 0 then 1 else 0

def Inv (total : List UInt8) (s : St) : Prop := Core total s ∧ UsrOk s

theorem inv_init (hdr inp : List UInt8) : Inv (hdr ++ inp) (init hdr inp) := by
  refine ⟨⟨?_, ?_, ?_, ?_, ?_⟩, ?_⟩ <;> simp [init, snkBytes, srcBytes, srcHeld, snkHeld, outstanding,
    srcOutst, snkOutst, chunkOk, UsrOk, copyOutSlots, u32]

theorem srcOutst_le (k : Src) : srcOutst k ≤ srcHeld k := by
  cases k <;> simp [srcOutst, srcHeld]

/-- The sink has given its input slot back before it executes `out_slots++`. -/
theorem snkOutst_le (k : Snk) : snkOutst k ≤ snkHeld k + 1 := by
  cases k <;> simp [snkOutst, snkHeld]

theorem outstanding_le {total : List UInt8} {s : St} (hc : Core total s) : outstanding s ≤ 3 := by
  have hs := hc.slots
  have := srcOutst_le s.src
  have := snkOutst_le s.snk
  simp only [outstanding, copyInSlots] at hs ⊢
  omega

theorem outSlots_full {total : List UInt8} {s : St} (hc : Core total s) :
    (s.outSlots == copyTotalOutSlots) = decide (outstanding s = 0) := by
  have hk := outstanding_le hc
  rw [hc.outs]
  generalize outstanding s = k at hk
  match k, hk with
  | 0, _ | 1, _ | 2, _ | 3, _ => rfl

theorem unlock_inv {total : List UInt8} {s : St} (hc : Core total s) (hu : s.usr2 = 0) :
    Inv total (unlock s) := by
  have hz : (s.eof && s.outSlots == copyTotalOutSlots) ↔ s.eof ∧ outstanding s = 0 := by
    rw [outSlots_full hc, Bool.and_eq_true, decide_eq_true_eq]
  unfold unlock
  split
  next h =>
    exact ⟨⟨hc.bytes, hc.slots, hc.outs, hc.chunk, hc.eofI⟩,
      (congrArg (· + 1) hu).trans (if_pos (hz.1 h)).symm⟩
  next h => exact ⟨hc, hu.trans (if_neg (mt hz.2 h)).symm⟩

theorem usr2_zero {s : St} (hu : UsrOk s) (h : s.eof = false ∨ 0 < outstanding s) : s.usr2 = 0 := by
  unfold UsrOk at hu
  rw [hu, if_neg]
  rintro ⟨he, ho⟩
  rcases h with h | h
  · exact Bool.false_ne_true (h.symm.trans he)
  · omega

theorem eof_false_of_src {total : List UInt8} {s : St} (hc : Core total s) (h : s.src ≠ .done) :
    s.eof = false :=
  Bool.eq_false_iff.2 fun he => h (hc.eofI.1 he)

/-- `step` as a relation, one constructor per branch; of the size of a `read(2)` only the bounds
of `readSize_le` are kept. -/
inductive Step (s : St) : Label → St → Prop
  | srcTake : s.src = .wait → 0 < s.inSlots →
      Step s .srcTake { s with inSlots := s.inSlots - 1, src := .reading [] copyGranul }
  | srcReadEof {hint : Nat} {buf : List UInt8} {vacant : Nat} : s.src = .reading buf vacant →
      readSize hint vacant s.inp.length = 0 → Step s (.srcRead hint) { s with src := .got buf vacant }
  | srcRead {hint : Nat} {buf : List UInt8} {vacant rd : Nat} : s.src = .reading buf vacant →
      rd ≤ vacant → rd ≤ s.inp.length → rd ≠ 0 →
      Step s (.srcRead hint)
        { s with
          inp := s.inp.drop rd,
          src :=
            if vacant - rd = 0 then .got (buf ++ s.inp.take rd) 0
            else .reading (buf ++ s.inp.take rd) (vacant - rd) }
  | srcFree {buf : List UInt8} {vacant : Nat} : s.src = .got buf vacant → buf.length = 0 →
      Step s .srcDispatch
        { s with inSlots := s.inSlots + 1, src := if 0 < vacant then .setEof else .wait }
  | srcDispatch {buf : List UInt8} {vacant : Nat} : s.src = .got buf vacant → buf.length ≠ 0 →
      Step s .srcDispatch (unlock { s with outSlots := dec32 s.outSlots, src := .pushing buf vacant })
  | srcPush {buf : List UInt8} {vacant : Nat} : s.src = .pushing buf vacant →
      Step s .srcPush
        { s with queue := s.queue ++ [buf], src := if 0 < vacant then .setEof else .wait }
  | srcEof : s.src = .setEof → Step s .srcEof (unlock { s with eof := true, src := .done })
  | snkShift {b : List UInt8} {q : List (List UInt8)} : s.snk = .idle → s.queue = b :: q →
      Step s .snkShift
        { s with queue := q, snk := if b.length = 0 then .release else .writing b }
  | snkWrite {hint : Nat} {rest : List UInt8} {wr : Nat} : s.snk = .writing rest →
      wr = min (max hint 1) rest.length →
      Step s (.snkWrite hint)
        { s with
          out := s.out ++ rest.take wr,
          snk := if (rest.drop wr).length = 0 then .release else .writing (rest.drop wr) }
  | snkRelease : s.snk = .release →
      Step s .snkRelease { s with inSlots := s.inSlots + 1, snk := .inc }
  | snkInc : s.snk = .inc →
      Step s .snkInc (unlock { s with outSlots := inc32 s.outSlots, snk := .idle })

theorem step_eq_some {s s' : St} {l : Label} (h : step s l = some s') : Step s l s' := by
  cases l <;> simp only [step] at h <;> split at h <;> try contradiction
  next hsrc =>
    split at h <;> try contradiction
    cases h
    exact .srcTake hsrc ‹_›
  next hsrc =>
    split at h <;> cases h
    · exact .srcReadEof hsrc ‹_›
    · exact .srcRead hsrc (readSize_le ..).1 (readSize_le ..).2 ‹_›
  next hsrc =>
    split at h <;> cases h
    · exact .srcFree hsrc ‹_›
    · exact .srcDispatch hsrc ‹_›
  next hsrc =>
    cases h
    exact .srcPush hsrc
  next hsrc =>
    cases h
    exact .srcEof hsrc
  next hsnk hq =>
    cases h
    exact .snkShift hsnk hq
  next hsnk =>
    cases h
    exact .snkWrite hsnk rfl
  next hsnk =>
    cases h
    exact .snkRelease hsnk
  next hsnk =>
    cases h
    exact .snkInc hsnk

theorem Inv.congr {total : List UInt8} {s s' : St} (hi : Inv total s)
    (ho : s'.outSlots = s.outSlots) (he : s'.eof = s.eof) (h2 : s'.usr2 = s.usr2)
    (hb : bytesOf s' = bytesOf s) (hs : slotsOf s' = slotsOf s)
    (hout : outstanding s' = outstanding s) (hch : chunkOk s')
    (hd : s'.src = .done ↔ s.src = .done) : Inv total s' :=
  ⟨⟨hb.trans hi.1.bytes, hs.trans hi.1.slots, by rw [ho, hout]; exact hi.1.outs, hch,
      by rw [he, hd]; exact hi.1.eofI⟩,
    by unfold UsrOk; rw [h2, he, hout]; exact hi.2⟩

/-- `out_slots--` and `out_slots++` keep `out_slots` in step with the number of outstanding
blocks, through the wrap-around.  The number `k` of outstanding blocks is bounded
(`outstanding_le`), so its few values are evaluated. -/
theorem dec32_outs {x k k' : Nat} (hk : k ≤ 3) (hx : x = (copyOutSlots + u32 - k) % u32)
    (h : k' = k + 1) : dec32 x = (copyOutSlots + u32 - k') % u32 := by
  subst hx h
  match k, hk with
  | 0, _ | 1, _ | 2, _ | 3, _ => rfl

theorem inc32_outs {x k k' : Nat} (hk : k ≤ 3) (hx : x = (copyOutSlots + u32 - k) % u32)
    (h : k = k' + 1) : inc32 x = (copyOutSlots + u32 - k') % u32 := by
  subst hx h
  match k', hk with
  | 0, _ | 1, _ | 2, _ => rfl

theorem inv_step {total : List UInt8} {s s' : St} {l : Label}
    (hi : Inv total s) (h : step s l = some s') : Inv total s' := by
  have hch := hi.1.chunk
  cases step_eq_some h with
  | srcTake hsrc hpos =>
    exact hi.congr rfl rfl rfl (by simp only [bytesOf, srcBytes, hsrc])
      (by simp only [slotsOf, srcHeld, hsrc]; omega) (by simp only [outstanding, srcOutst, hsrc])
      (And.intro (Nat.zero_add _) (by decide)) (by simp only [hsrc, reduceCtorEq])
  | @srcReadEof hint buf vacant hsrc hrd =>
    simp only [chunkOk, hsrc] at hch
    have hz : s.inp.length = 0 := (readSize_eq_zero hint vacant _ (by omega)).1 hrd
    exact hi.congr rfl rfl rfl (by simp only [bytesOf, srcBytes, hsrc])
      (by simp only [slotsOf, srcHeld, hsrc]) (by simp only [outstanding, srcOutst, hsrc])
      ⟨hch.1, fun _ => List.eq_nil_of_length_eq_zero hz⟩ (by simp only [hsrc, reduceCtorEq])
  | @srcRead hint buf vacant rd hsrc hrv hri hne =>
    simp only [chunkOk, hsrc] at hch
    have hlen : (s.inp.take rd).length = rd := List.length_take_of_le hri
    refine hi.congr rfl rfl rfl ?_ ?_ ?_ ?_ ?_
    · split <;> simp only [bytesOf, srcBytes, hsrc, List.append_assoc, List.take_append_drop]
    · split <;> simp only [slotsOf, srcHeld, hsrc]
    · split <;> simp only [outstanding, srcOutst, hsrc]
    · split <;> simp only [chunkOk, List.length_append, hlen]
      · exact ⟨by omega, fun h => absurd h (by omega)⟩
      · omega
    · split <;> simp only [hsrc, reduceCtorEq]
  | @srcFree buf vacant hsrc hb0 =>
    simp only [chunkOk, copyGranul, hsrc] at hch
    have hv : 0 < vacant := by omega
    rw [if_pos hv]
    exact hi.congr rfl rfl rfl
      (by simp only [bytesOf, srcBytes, hsrc, List.eq_nil_of_length_eq_zero hb0])
      (by simp only [slotsOf, srcHeld, hsrc]) (by simp only [outstanding, srcOutst, hsrc])
      (hch.2 hv) (by simp only [hsrc, reduceCtorEq])
  | @srcDispatch buf vacant hsrc hb0 =>
    simp only [chunkOk, hsrc] at hch
    have ⟨hb, hs, ho, _, he⟩ := hi.1
    simp only [hsrc, srcBytes, srcHeld] at hb hs he
    refine unlock_inv ⟨hb, hs, dec32_outs (outstanding_le hi.1) ho ?_, ⟨hch.1, by omega, hch.2⟩, ?_⟩
      (usr2_zero (s := s) hi.2 (.inl (eof_false_of_src hi.1 (by rw [hsrc]; nofun))))
    · simp only [outstanding, srcOutst, hsrc]
      omega
    · simp only [he, reduceCtorEq]
  | @srcPush buf vacant hsrc =>
    simp only [chunkOk, hsrc] at hch
    refine hi.congr rfl rfl rfl ?_ ?_ ?_ ?_ ?_
    · split <;> simp only [bytesOf, srcBytes, hsrc, List.flatten_append, List.flatten_cons,
        List.flatten_nil, List.append_nil, List.append_assoc]
    · split <;> simp only [slotsOf, srcHeld, hsrc, List.length_append, List.length_cons,
        List.length_nil] <;> omega
    · split <;> simp only [outstanding, srcOutst, hsrc, List.length_append, List.length_cons,
        List.length_nil] <;> omega
    · split
      · exact hch.2.2 ‹_›
      · trivial
    · split <;> simp only [hsrc, reduceCtorEq]
  | srcEof hsrc =>
    simp only [chunkOk, hsrc] at hch
    have ⟨hb, hs, ho, _, _⟩ := hi.1
    simp only [outstanding, hsrc, srcBytes, srcHeld, srcOutst] at hb hs ho
    exact unlock_inv ⟨hb, hs, ho, hch, iff_of_true rfl rfl⟩
      (usr2_zero (s := s) hi.2 (.inl (eof_false_of_src hi.1 (by rw [hsrc]; nofun))))
  | @snkShift b q hsnk hq =>
    refine hi.congr rfl rfl rfl ?_ ?_ ?_ hch .rfl
    · split
      next hb0 =>
        simp only [bytesOf, snkBytes, hsnk, hq, List.eq_nil_of_length_eq_zero hb0,
          List.flatten_cons, List.nil_append]
      · simp only [bytesOf, snkBytes, hsnk, hq, List.flatten_cons, List.append_nil,
          List.append_assoc]
    · split <;> simp only [slotsOf, snkHeld, hsnk, hq, List.length_cons] <;> omega
    · split <;> simp only [outstanding, snkOutst, hsnk, hq, List.length_cons] <;> omega
  | @snkWrite hint rest wr hsnk _ =>
    refine hi.congr rfl rfl rfl ?_ ?_ ?_ hch .rfl
    · split
      next hd0 =>
        rw [List.length_drop] at hd0
        simp only [bytesOf, snkBytes, hsnk, List.take_of_length_le (Nat.le_of_sub_eq_zero hd0),
          List.append_nil]
      · simp only [bytesOf, snkBytes, hsnk, List.append_assoc s.out, List.take_append_drop]
    · split <;> simp only [slotsOf, snkHeld, hsnk]
    · split <;> simp only [outstanding, snkOutst, hsnk]
  | snkRelease hsnk =>
    exact hi.congr rfl rfl rfl (by simp only [bytesOf, snkBytes, hsnk])
      (by simp only [slotsOf, snkHeld, hsnk]; omega) (by simp only [outstanding, snkOutst, hsnk])
      hch .rfl
  | snkInc hsnk =>
    have ⟨hb, hs, ho, _, he⟩ := hi.1
    simp only [hsnk, snkBytes, snkHeld] at hb hs
    have hout : outstanding s = srcOutst s.src + s.queue.length + 0 + 1 := by
      simp only [outstanding, snkOutst, hsnk]
    exact unlock_inv ⟨hb, hs, inc32_outs (outstanding_le hi.1) ho hout, hch, he⟩
      (usr2_zero (s := s) hi.2 (.inr (by omega)))

def srcW : Src → Nat
  | .wait => 5 | .reading _ _ => 4 | .got _ _ => 3 | .pushing _ _ => 2 | .setEof => 1 | .done => 0
def snkW : Snk → Nat
  | .writing _ => 3 | .release => 2 | .inc => 1 | .idle => 0

/-- Termination measure: every byte weighs less as it moves from the input
towards the output, every queue entry and every program counter position has a
weight; each step of either thread lowers the total. -/
def cost (s : St) : Nat :=
  30 * s.inp.length + 20 * (srcBytes s.src).length + 5 * s.queue.flatten.length +
    4 * s.queue.length + 3 * (snkBytes s.snk).length + srcW s.src + snkW s.snk

theorem cost_unlock (s : St) : cost (unlock s) = cost s := by
  unfold unlock
  split <;> rfl

theorem cost_lt_of_src {s s' : St} (hq : s'.queue = s.queue) (hk : s'.snk = s.snk)
    (h : 30 * s'.inp.length + 20 * (srcBytes s'.src).length + srcW s'.src <
      30 * s.inp.length + 20 * (srcBytes s.src).length + srcW s.src) : cost s' < cost s := by
  unfold cost
  rw [hq, hk]
  omega

theorem cost_step {total : List UInt8} {s s' : St} {l : Label}
    (hi : Inv total s) (h : step s l = some s') : cost s' < cost s := by
  have hch := hi.1.chunk
  cases step_eq_some h with
  | srcTake hsrc _ | srcReadEof hsrc _ =>
    exact cost_lt_of_src rfl rfl (by simp only [hsrc, srcBytes, srcW]; omega)
  | @srcRead hint buf vacant rd hsrc hrv hri hne =>
    have hlen : (s.inp.take rd).length = rd := List.length_take_of_le hri
    refine cost_lt_of_src rfl rfl ?_
    split <;> simp only [hsrc, srcBytes, srcW, List.length_append, List.length_drop, hlen] <;> omega
  | @srcFree buf vacant hsrc hb0 =>
    simp only [chunkOk, copyGranul, hsrc] at hch
    have hv : 0 < vacant := by omega
    refine cost_lt_of_src rfl rfl ?_
    simp only [hv, if_true, hsrc, srcBytes, srcW, hb0, List.length_nil]
    omega
  | srcDispatch hsrc _ | srcEof hsrc =>
    rw [cost_unlock]
    exact cost_lt_of_src rfl rfl (by simp only [hsrc, srcBytes, srcW]; omega)
  | @srcPush buf vacant hsrc =>
    simp only [chunkOk, hsrc] at hch
    split <;> simp only [cost, srcBytes, srcW, hsrc, List.flatten_append, List.flatten_cons,
      List.flatten_nil, List.append_nil, List.length_append, List.length_cons, List.length_nil] <;>
      omega
  | @snkShift b q hsnk hq =>
    split <;> simp only [cost, snkBytes, snkW, hsnk, hq, List.flatten_cons, List.length_append,
      List.length_cons, List.length_nil] <;> omega
  | @snkWrite hint rest wr hsnk hwr =>
    split
    · simp only [cost, snkBytes, snkW, hsnk, List.length_nil]
      omega
    next hne =>
      simp only [List.length_drop] at hne
      simp only [cost, snkBytes, snkW, hsnk, List.length_drop]
      omega
  | snkRelease hsnk =>
    simp only [cost, snkBytes, snkW, hsnk]
    omega
  | snkInc hsnk =>
    rw [cost_unlock]
    simp only [cost, snkBytes, snkW, hsnk]
    omega

theorem terminal_iff {s : St} :
    terminal s = true ↔ s.src = .done ∧ s.snk = .idle ∧ s.queue = [] := by
  simp only [terminal, Bool.and_eq_true, beq_iff_eq, List.isEmpty_iff, and_assoc]

theorem Inv.usr2_eq {total : List UInt8} {s : St} (hi : Inv total s) :
    s.usr2 = if terminal s = true then 1 else 0 := by
  have hiff : (s.eof = true ∧ outstanding s = 0) ↔ terminal s = true := by
    rw [terminal_iff, hi.1.eofI]
    constructor
    · rintro ⟨hsrc, ho⟩
      simp only [outstanding] at ho
      exact ⟨hsrc, snkOutst_eq_zero.mp (by omega), List.eq_nil_of_length_eq_zero (by omega)⟩
    · rintro ⟨hsrc, hsnk, hq⟩
      exact ⟨hsrc, by simp [outstanding, srcOutst, snkOutst, hsrc, hsnk, hq]⟩
  have hu := hi.2
  unfold UsrOk at hu
  rw [hu]
  simp only [hiff]

theorem snk_progress {s : St} (h : s.snk = .idle → s.queue ≠ []) : ∃ l s', step s l = some s' := by
  obtain ⟨inp, inS, outS, eof, q, src, snk, out, usr2⟩ := s
  cases snk with
  | writing r => exact ⟨.snkWrite 0, _, rfl⟩
  | release => exact ⟨.snkRelease, _, rfl⟩
  | inc => exact ⟨.snkInc, _, rfl⟩
  | idle =>
    cases q with
    | nil => exact absurd rfl (h rfl)
    | cons b q' => exact ⟨.snkShift, _, rfl⟩

theorem progress {total : List UInt8} {s : St} (hi : Inv total s) (hnt : terminal s = false) :
    ∃ l s', step s l = some s' := by
  cases hsrc : s.src with
  | reading b v => exact ⟨.srcRead 0, by simp only [step, hsrc]; split <;> exact ⟨_, rfl⟩⟩
  | got b v => exact ⟨.srcDispatch, by simp only [step, hsrc]; split <;> exact ⟨_, rfl⟩⟩
  | pushing b v => exact ⟨.srcPush, by simp [step, hsrc]⟩
  | setEof => exact ⟨.srcEof, by simp [step, hsrc]⟩
  | wait =>
    by_cases hin : 0 < s.inSlots
    · exact ⟨.srcTake, by simp [step, hsrc, hin]⟩
    · -- both input slots are out, none with the source: the sink has something to do
      refine snk_progress fun hk hq => ?_
      have hs := hi.1.slots
      simp only [copyInSlots, hsrc, hk, hq, srcHeld, snkHeld, List.length_nil] at hs
      omega
  | done =>
    exact snk_progress fun hk hq =>
      absurd (terminal_iff.mpr ⟨hsrc, hk, hq⟩) (Bool.eq_false_iff.mp hnt)

def runLabels : List Label → St → Option St
  | [], s => some s
  | l :: ls, s => (step s l).bind (runLabels ls)

theorem Reach.head {s0 s1 s : St} {l : Label} (h : step s0 l = some s1) (hr : Reach s1 s) :
    Reach s0 s := by
  induction hr with
  | refl => exact .step l .refl h
  | step l' _ hs ih => exact .step l' ih hs

theorem reach_of_labels : ∀ (ls : List Label) {s0 s : St}, runLabels ls s0 = some s → Reach s0 s
  | [], s0, s, h => by
    cases h
    exact .refl
  | l :: ls, s0, s, h => by
    simp only [runLabels] at h
    cases hs : step s0 l with
    | none =>
      rw [hs] at h
      cases h
    | some s1 =>
      rw [hs] at h
      exact Reach.head hs (reach_of_labels ls h)

end LbzVerif.Lemmas.Copy
