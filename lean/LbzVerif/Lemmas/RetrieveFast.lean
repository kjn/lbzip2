/-
  Lemmas.RetrieveFast — the fast branch of the group loop of `retrieve()`
  (`fastLoop`: `NEED_FAST`, locals, tree pointer computed once) against the
  slow branch (`stepPrefix` under `NEED(S_PREFIX)`), for `Model.Retrieve`.
  With `20·n + 12 ≤ 32·|words| + live bits` (true at the top of a group when
  ≥ 32 words remain) `NEED_FAST` never finds the segment exhausted, and the
  slow branch, fed the same words, ends the group in the same way; hence the
  retriever with the fast branch equals the retriever without it on every input.
-/
import LbzVerif.Lemmas.RetrieveSim
import LbzVerif.Lemmas.DeltaFastpath

namespace LbzVerif.Lemmas.RetrieveFast
open LbzVerif LbzVerif.Model.Retrieve LbzVerif.Lemmas.RetrieveSplit LbzVerif.Lemmas.RetrieveCall
open LbzVerif.Lemmas.RetrieveEqns LbzVerif.Lemmas.RetrieveSim
open LbzVerif.Model.MtfDec (RunSt)
open LbzVerif.Model

/-- The slow branch's state at `NEED(S_PREFIX)` for symbol `j` of the group
entered from `st1` (the state after tree selection). -/
def slowSt (st1 : St) (j v w : Nat) (rs : RunSt) : St :=
  { st1 with pc := .prefix, j := j, v := v, w := w, run := rs }

/-- What the fast branch makes of the result of its loop (text of `fastGroup`). -/
def wrapFast (st1 : St) : FastRes → Out
  | .next v w ws' rs =>
    .top { st1 with v := v, w := w, run := rs, j := 0, g := st1.g + 1, pc := .prefix } ws'
  | .eob v w ws' rs =>
    ofStep (eobFinish { st1 with v := v, w := w, run := { rs with shift := st1.run.shift } }) ws'
  | .stop r ws' => .halt r St.blank ws'

theorem fastGroup_eq (st1 : St) (T : Canon.Tree) (hT : st1.trees.getD st1.t none = some T)
    (ws : List Nat) :
    fastGroup st1 ws = wrapFast st1 (fastLoop T Gen.GROUP_SIZE st1.v st1.w ws st1.run) := by
  unfold fastGroup
  rw [hT]
  simp only
  cases fastLoop T Gen.GROUP_SIZE st1.v st1.w ws st1.run <;> rfl

theorem lookup_len_le (T : Canon.Tree) (v s k : Nat) (h : Canon.lookup T v = some (s, k)) :
    k ≤ 20 := by
  have hsw : Canon.SW = 10 := rfl
  have hml : Canon.MAXL = 20 := rfl
  unfold Canon.lookup at h
  simp only at h
  split at h
  · rename_i hk
    simp only [Option.some.injEq, Prod.mk.injEq] at h
    omega
  · split at h
    · cases h
    · rename_i hk
      split at h
      · simp only [Option.some.injEq, Prod.mk.injEq] at h
        omega
      · cases h

/-- `eobFinish` looks only at the position, `rand`, `bwt_idx` and the run
state except `shift`. -/
theorem eobFinish_congr (a b : St) (hv : a.v = b.v) (hw : a.w = b.w) (hr : a.rand = b.rand)
    (hi : a.bwtIdx = b.bwtIdx) (h1 : a.run.run = b.run.run) (h2 : a.run.n = b.run.n)
    (h3 : a.run.runChar = b.run.runChar) (h4 : a.run.out = b.run.out)
    (h5 : a.run.ftab = b.run.ftab) : eobFinish a = eobFinish b := by
  unfold eobFinish St.final MtfDec.flush
  simp only [hv, hw, hr, hi, h1, h2, h3, h4, h5]

theorem ofStep_eobFinish (st : St) (ws : List Nat) :
    ofStep (eobFinish st) ws = match eobFinish st with
      | .done r s => .halt r s ws
      | _ => .halt .ub St.blank ws := by
  obtain ⟨r, s', he⟩ := eobFinish_done st
  rw [he]
  rfl

/-! Both branches do the same with one symbol once `NEED` / `NEED_FAST` is through: look the code up,
`DUMP` its `k` bits, act on the symbol.  They differ in the values they go on with. -/

def symBody {α : Type} (T : Canon.Tree) (v w : Nat) (rs : RunSt)
    (ub : α) (eob : Nat → α) (stop : Halt → α) (cont : Nat → RunSt → α) : α :=
  match Canon.lookup T v with
  | none => ub
  | some (s, k) =>
    if k = 0 ∨ w < k then ub
    else
      match symStep rs s with
      | .eob => eob k
      | .stop r => stop r
      | .cont rs' => cont k rs'

theorem symBody_rel {α β : Type} {R : α → β → Prop} (T : Canon.Tree) (v w : Nat) (rs : RunSt)
    {ub : α} {eob : Nat → α} {stop : Halt → α} {cont : Nat → RunSt → α}
    {ub' : β} {eob' : Nat → β} {stop' : Halt → β} {cont' : Nat → RunSt → β}
    (hub : R ub ub') (heob : ∀ k, k ≤ 20 → R (eob k) (eob' k))
    (hstop : ∀ r, r ≠ .overread → R (stop r) (stop' r))
    (hcont : ∀ k rs', k ≤ 20 → R (cont k rs') (cont' k rs')) :
    R (symBody T v w rs ub eob stop cont) (symBody T v w rs ub' eob' stop' cont') := by
  unfold symBody
  cases hl : Canon.lookup T v with
  | none => exact hub
  | some p =>
    obtain ⟨s, k⟩ := p
    have hk20 := lookup_len_le T v s k hl
    dsimp only
    by_cases hk : k = 0 ∨ w < k
    · rw [if_pos hk, if_pos hk]
      exact hub
    · rw [if_neg hk, if_neg hk]
      cases hsym : symStep rs s with
      | eob => exact heob k hk20
      | stop r => exact hstop r (symStep_stop_ne rs s r hsym).2
      | cont rs' => exact hcont k rs' hk20

theorem symBody_induct {α : Type} {P : α → Prop} (T : Canon.Tree) (v w : Nat) (rs : RunSt)
    {ub : α} {eob : Nat → α} {stop : Halt → α} {cont : Nat → RunSt → α}
    (hub : P ub) (heob : ∀ k, k ≤ 20 → P (eob k))
    (hstop : ∀ r, r ≠ .overread → P (stop r))
    (hcont : ∀ k rs', k ≤ 20 → P (cont k rs')) :
    P (symBody T v w rs ub eob stop cont) :=
  symBody_rel (R := fun a (_ : α) => P a) (ub' := ub) (eob' := eob) (stop' := stop) (cont' := cont)
    T v w rs hub heob hstop hcont

theorem stepPrefix_slowSt (st1 : St) (T : Canon.Tree) (hT : st1.trees.getD st1.t none = some T)
    (j v w : Nat) (rs : RunSt) :
    stepPrefix (slowSt st1 j v w rs) =
      symBody T v w rs ubS (fun k => eobFinish (slowSt st1 j (dumpV v k) (w - k) rs))
        (fun r => .done r St.blank) (fun k rs' => nextSym (slowSt st1 j (dumpV v k) (w - k) rs')) := by
  unfold stepPrefix dump symBody
  simp only [slowSt, hT]
  cases Canon.lookup T v with
  | none => rfl
  | some p =>
    obtain ⟨s, k⟩ := p
    simp only
    by_cases hk : k = 0 ∨ w < k
    · simp only [hk, if_true]
    · simp only [hk, if_false]
      cases symStep rs s <;> rfl

theorem slow_body (st1 : St) (T : Canon.Tree) (hT : st1.trees.getD st1.t none = some T)
    (j v w : Nat) (ws : List Nat) (rs : RunSt) (hw : 32 ≤ w) :
    toTop (slowSt st1 j v w rs) ws =
      symBody T v w rs (.halt .ub St.blank ws)
        (fun k => ofStep (eobFinish (slowSt st1 j (dumpV v k) (w - k) rs)) ws) (fun r => .halt r St.blank ws)
        (fun k rs' =>
          if j + 1 < Gen.GROUP_SIZE then toTop (slowSt st1 (j + 1) (dumpV v k) (w - k) rs') ws
          else .top { slowSt st1 0 (dumpV v k) (w - k) rs' with g := st1.g + 1 } ws) := by
  rw [toTop_step _ _ (by exact hw), step_prefix _ rfl, stepPrefix_slowSt st1 T hT]
  refine symBody_rel (R := fun x o => afterStep ws x = o) T v w rs rfl (fun k _ => ?_) (fun _ _ => rfl)
    (fun k rs' _ => ?_)
  · obtain ⟨r, s', he⟩ := eobFinish_done (slowSt st1 j (dumpV v k) (w - k) rs)
    rw [he]
    rfl
  · unfold nextSym
    by_cases hj : j + 1 < Gen.GROUP_SIZE
    · rw [if_pos (by exact hj), if_pos hj]
      rfl
    · rw [if_neg (by exact hj), if_neg hj]
      rfl

/-- The body of the fast loop after `NEED_FAST`, `n` symbols to follow. -/
def fastBody (T : Canon.Tree) (n v w : Nat) (ws : List Nat) (rs : RunSt) : FastRes :=
  symBody T v w rs (.stop .ub ws) (fun k => .eob (dumpV v k) (w - k) ws rs) (fun r => .stop r ws)
    (fun k rs' => fastLoop T n (dumpV v k) (w - k) ws rs')

theorem fastLoop_need {P : FastRes → Prop} (T : Canon.Tree) (n v w : Nat) (ws : List Nat) (rs : RunSt)
    (hover : w < 32 → ws = [] → P (.stop .overread []))
    (hrefill : ∀ x ws', w < 32 → ws = x :: ws' → P (fastBody T n (refillV v w x) (w + 32) ws' rs))
    (hfull : 32 ≤ w → P (fastBody T n v w ws rs)) : P (fastLoop T (n + 1) v w ws rs) := by
  rw [fastLoop]
  unfold needFast
  by_cases hw : w < 32
  · rw [if_pos hw]
    cases ws with
    | nil => exact hover hw rfl
    | cons x ws' => exact hrefill x ws' hw rfl
  · rw [if_neg hw]
    exact hfull (by omega)

/-- **The fast branch never reads at `limit`**: with `20·n + 12` bits at hand (live bits +
whole words) for the `n` symbols still to decode, `NEED_FAST` always finds a word. -/
theorem fastLoop_no_overread (T : Canon.Tree) : ∀ (n v w : Nat) (ws : List Nat) (rs : RunSt),
    20 * n + 12 ≤ 32 * ws.length + w → ∀ rest, fastLoop T n v w ws rs ≠ .stop .overread rest := by
  intro n
  induction n with
  | zero => intro v w ws rs _ rest h; simp [fastLoop] at h
  | succ n ih =>
    intro v w ws rs hb rest
    have body : ∀ (v1 w1 : Nat) (ws1 : List Nat), 20 * (n + 1) + 12 ≤ 32 * ws1.length + w1 →
        fastBody T n v1 w1 ws1 rs ≠ .stop .overread rest := fun v1 w1 ws1 hb1 =>
      symBody_induct (P := fun f => f ≠ FastRes.stop .overread rest) T v1 w1 rs nofun (fun _ _ => nofun)
        (fun r hr h => hr (by injection h)) (fun k rs' _ => ih _ _ ws1 _ (by omega) rest)
    refine fastLoop_need (P := fun f => f ≠ FastRes.stop .overread rest) T n v w ws rs
      (fun hw hws => ?_) (fun x ws' hw hws => ?_) (fun hw => body v w ws hb)
    · subst hws
      simp only [List.length_nil] at hb
      omega
    · subst hws
      simp only [List.length_cons] at hb
      exact body _ _ ws' (by omega)

/-- One step of `slow_eq_fast`: `hnext` is the claim for the rest of the group. -/
theorem slow_eq_fast_step (st1 : St) (T : Canon.Tree) (hT : st1.trees.getD st1.t none = some T)
    (n j : Nat)
    (hnext : ∀ (v w : Nat) (ws : List Nat) (rs : RunSt), 20 * n + 12 ≤ 32 * ws.length + w →
      (if j + 1 < Gen.GROUP_SIZE then toTop (slowSt st1 (j + 1) v w rs) ws
        else .top { slowSt st1 0 v w rs with g := st1.g + 1 } ws) = wrapFast st1 (fastLoop T n v w ws rs))
    (v w : Nat) (ws : List Nat) (rs : RunSt) (hb : 20 * (n + 1) + 12 ≤ 32 * ws.length + w) :
    toTop (slowSt st1 j v w rs) ws = wrapFast st1 (fastLoop T (n + 1) v w ws rs) := by
  have body : ∀ (v1 w1 : Nat) (ws1 : List Nat), 32 ≤ w1 → 20 * (n + 1) + 12 ≤ 32 * ws1.length + w1 →
      toTop (slowSt st1 j v1 w1 rs) ws1 = wrapFast st1 (fastBody T n v1 w1 ws1 rs) := by
    intro v1 w1 ws1 hw1 hb1
    rw [slow_body st1 T hT j v1 w1 ws1 rs hw1]
    exact symBody_rel (R := fun o f => o = wrapFast st1 f) T v1 w1 rs rfl
      (fun k _ => congrArg (ofStep · ws1) (eobFinish_congr _ _ rfl rfl rfl rfl rfl rfl rfl rfl rfl))
      (fun _ _ => rfl) (fun k rs' _ => hnext _ _ ws1 rs' (by omega))
  refine fastLoop_need (P := fun f => toTop (slowSt st1 j v w rs) ws = wrapFast st1 f) T n v w ws rs
    (fun hw hws => ?_) (fun x ws' hw hws => ?_) (fun hw => body v w ws hw hb)
  · subst hws
    simp only [List.length_nil] at hb
    omega
  · subst hws
    simp only [List.length_cons] at hb
    rw [toTop_at_need _ hw (normPc_of_ne_init _ (fun h => Pc.noConfusion h))]
    exact body (refillV v w x) (w + 32) ws' (by omega) (by omega)

theorem slow_eq_fast (st1 : St) (T : Canon.Tree) (hT : st1.trees.getD st1.t none = some T) :
    ∀ (n j v w : Nat) (ws : List Nat) (rs : RunSt), j + (n + 1) = Gen.GROUP_SIZE →
      20 * (n + 1) + 12 ≤ 32 * ws.length + w →
      toTop (slowSt st1 j v w rs) ws = wrapFast st1 (fastLoop T (n + 1) v w ws rs) := by
  intro n
  induction n with
  | zero =>
    intro j v w ws rs hj hb
    refine slow_eq_fast_step st1 T hT 0 j (fun v2 w2 ws2 rs2 _ => ?_) v w ws rs hb
    rw [if_neg (by omega)]
    rfl
  | succ n ih =>
    intro j v w ws rs hj hb
    refine slow_eq_fast_step st1 T hT (n + 1) j (fun v2 w2 ws2 rs2 hb2 => ?_) v w ws rs hb
    rw [if_pos (by omega)]
    exact ih (j + 1) v2 w2 ws2 rs2 (by omega) hb2

open LbzVerif.Lemmas.DeltaFastpath (refills) in
/-- The outcome `f` of a fast loop of at most `n` symbols, entered with `w` live bits on the words
`ws`, has taken the words `taken` off the front of `ws`, `refills w lens` of them for the code
lengths `lens` it dumped (a 0 stands for a lookup that ended the loop before its `DUMP`). -/
def FastWords (n w : Nat) (ws : List Nat) (f : FastRes) : Prop :=
  ∃ (lens taken : List Nat), lens.length ≤ n ∧ (∀ k ∈ lens, k ≤ 20) ∧
    taken.length = refills w lens ∧
    match f with
    | .next _ _ ws' _ => ws = taken ++ ws'
    | .eob _ _ ws' _ => ws = taken ++ ws'
    | .stop r ws' => r = .overread ∨ ws = taken ++ ws'

open LbzVerif.Lemmas.DeltaFastpath (refills) in
/-- The accounting of `Props.C08.fastpath_refills` is the accounting of the model. -/
theorem fastLoop_words (T : Canon.Tree) : ∀ (n v w : Nat) (ws : List Nat) (rs : RunSt),
    FastWords n w ws (fastLoop T n v w ws rs) := by
  intro n
  induction n with
  | zero =>
    intro v w ws rs
    exact ⟨[], [], by simp, by simp, by simp [refills], by simp [fastLoop]⟩
  | succ n ih =>
    intro v w ws rs
    -- one symbol, after NEED_FAST has produced (v1, w1, ws1) from `pre ++ ws1`
    have body : ∀ (v1 w1 : Nat) (pre ws1 : List Nat), ws = pre ++ ws1 →
        (∀ k ks, refills w (k :: ks) = pre.length + refills (w1 - k) ks) →
        FastWords (n + 1) w ws (fastBody T n v1 w1 ws1 rs) := by
      intro v1 w1 pre ws1 hws href
      have one : ∀ k, k ≤ 20 → ∃ (lens taken : List Nat), lens.length ≤ n + 1 ∧
          (∀ k ∈ lens, k ≤ 20) ∧ taken.length = refills w lens ∧ ws = taken ++ ws1 := by
        intro k hk
        refine ⟨[k], pre, by simp, by simpa using hk, ?_, hws⟩
        rw [href]
        simp [refills]
      refine symBody_induct (P := FastWords (n + 1) w ws) T v1 w1 rs
        ?_ (fun k hk20 => one k hk20) (fun r _ => ?_) (fun k rs' hk20 => ?_)
      · obtain ⟨lens, taken, a, b, c, d⟩ := one 0 (by omega)
        exact ⟨lens, taken, a, b, c, Or.inr d⟩
      · obtain ⟨lens, taken, a, b, c, d⟩ := one 0 (by omega)
        exact ⟨lens, taken, a, b, c, Or.inr d⟩
      · obtain ⟨lens, taken, a, b, c, d⟩ := ih (dumpV v1 k) (w1 - k) ws1 rs'
        refine ⟨k :: lens, pre ++ taken, by simp; omega, ?_, ?_, ?_⟩
        · intro x hx
          cases List.mem_cons.mp hx with
          | inl h => rw [h]; exact hk20
          | inr h => exact b x h
        · rw [href, List.length_append, c]
        · cases hf : fastLoop T n (dumpV v1 k) (w1 - k) ws1 rs' with
          | next a1 a2 ws' a4 =>
            rw [hf] at d
            simp only at d ⊢
            rw [hws, d, List.append_assoc]
          | eob a1 a2 ws' a4 =>
            rw [hf] at d
            simp only at d ⊢
            rw [hws, d, List.append_assoc]
          | stop r ws' =>
            rw [hf] at d
            simp only at d ⊢
            cases d with
            | inl h => exact Or.inl h
            | inr h => exact Or.inr (by rw [hws, h, List.append_assoc])
    refine fastLoop_need (P := FastWords (n + 1) w ws) T n v w ws rs
      (fun hw hws => ?_) (fun x ws' hw hws => ?_) (fun hw => ?_)
    · exact ⟨[], [], by simp, by simp, by simp [refills], Or.inl rfl⟩
    · refine body (refillV v w x) (w + 32) [x] ws' hws fun k ks => ?_
      rw [refills, if_pos hw]
      simp
    · refine body v w [] ws rfl fun k ks => ?_
      rw [refills, if_neg (by omega)]
      simp

theorem group_fast_eq_slow (st1 : St) (ws : List Nat) (h : Gen.fastWords ≤ ws.length) :
    fastGroup st1 ws = toTop { st1 with pc := .prefix, j := 0 } ws := by
  have hfw : Gen.fastWords = 32 := rfl
  have hst : ({ st1 with pc := Pc.prefix, j := 0 } : St) = slowSt st1 0 st1.v st1.w st1.run := rfl
  rw [hst]
  cases hT : st1.trees.getD st1.t none with
  | some T =>
    rw [fastGroup_eq st1 T hT]
    exact (slow_eq_fast st1 T hT 49 0 _ _ ws _ rfl (by omega)).symm
  | none =>
    have hub : ∀ (v w : Nat) (ws1 : List Nat), 32 ≤ w →
        toTop (slowSt st1 0 v w st1.run) ws1 = .halt .ub St.blank ws1 := by
      intro v w ws1 hw
      rw [toTop_step _ _ (by exact hw), step_prefix _ rfl]
      unfold stepPrefix
      have hT' : (slowSt st1 0 v w st1.run).trees.getD (slowSt st1 0 v w st1.run).t none = none := hT
      rw [hT']
      rfl
    unfold fastGroup
    rw [hT]
    simp only
    unfold needFast
    by_cases hw : st1.w < 32
    · rw [if_pos hw]
      cases ws with
      | nil => simp only [List.length_nil] at h; omega
      | cons x ws' =>
        simp only
        rw [toTop_at_need (slowSt st1 0 st1.v st1.w st1.run) hw (normPc_of_ne_init _ (fun h => Pc.noConfusion h))]
        exact (hub _ _ ws' (by show 32 ≤ st1.w + 32; omega)).symm
    · rw [if_neg hw]
      exact (hub _ _ ws (by omega)).symm

theorem groups_fast_eq_slow : ∀ (n : Nat) (st : St) (ws : List Nat),
    groups true n st ws = groups false n st ws := by
  intro n
  induction n with
  | zero => intro st ws; rfl
  | succ n ih =>
    intro st ws
    rw [groups, groups]
    cases selectTree st with
    | error e => rfl
    | ok st1 =>
      simp only [Bool.false_eq_true, false_and, if_false, true_and]
      by_cases hlen : Gen.fastWords ≤ ws.length
      · rw [if_pos hlen, group_fast_eq_slow st1 ws hlen]
        cases toTop { st1 with pc := Pc.prefix, j := 0 } ws with
        | halt r s rest => rfl
        | susp s => rfl
        | top st2 ws2 => exact ih st2 ws2
      · rw [if_neg hlen]
        cases toTop { st1 with pc := Pc.prefix, j := 0 } ws with
        | halt r s rest => rfl
        | susp s => rfl
        | top st2 ws2 => exact ih st2 ws2

theorem run_fast_eq_slow (st : St) (ws : List Nat) : run true st ws = run false st ws := by
  unfold run
  cases toTop st ws with
  | halt r s rest => rfl
  | susp s => rfl
  | top st1 rest => exact groups_fast_eq_slow _ st1 rest

end LbzVerif.Lemmas.RetrieveFast
