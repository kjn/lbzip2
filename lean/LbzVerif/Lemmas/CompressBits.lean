/-
  Lemmas.CompressBits — the bit view of what `Model.Compress.assemble` writes:
  bytes ↔ bits for byte-aligned bit strings, the header / trailer / block-magic
  fields as the reference parser reads them, the bytes of one block, and the
  link between lbzip2's `combine_crc` (raw CRC registers) and the format's
  combined CRC (stored CRCs).
-/
import LbzVerif.Model.Compress
import LbzVerif.Lemmas.SpecBasic
import LbzVerif.Lemmas.TransmitBits

namespace LbzVerif.Lemmas.CompressBits
open LbzVerif LbzVerif.Basic LbzVerif.Model.Compress LbzVerif.Model.Transmit
open LbzVerif.Lemmas.TransmitLen LbzVerif.Lemmas.TransmitBits

theorem byteToBits_ofBits (l : Bits) (h : l.length = 8) :
    byteToBits (UInt8.ofNat (bitsToNat l)) = l := by
  rw [byteToBits_ofNat, ← h, natToBits_bitsToNat]

theorem bytesToBits_bitsToBytes (bits : Bits) (h : bits.length % 8 = 0) :
    bytesToBits (bitsToBytes bits) = bits := by
  fun_induction bitsToBytes bits with
  | case1 => exact bytesToBits_nil
  | case2 b7 b6 b5 b4 b3 b2 b1 b0 rest ih =>
    rw [bytesToBits_cons, byteToBits_ofBits _ rfl, ih (by simp only [List.length_cons] at h; omega)]
    rfl
  | case3 short h1 h2 =>
    exfalso
    match short, h1, h2 with
    | [], h1, _ => exact h1 rfl
    | [_], _, _ => simp at h
    | [_, _], _, _ => simp at h
    | [_, _, _], _, _ => simp at h
    | [_, _, _, _], _, _ => simp at h
    | [_, _, _, _, _], _, _ => simp at h
    | [_, _, _, _, _, _], _, _ => simp at h
    | [_, _, _, _, _, _, _], _, _ => simp at h
    | b7 :: b6 :: b5 :: b4 :: b3 :: b2 :: b1 :: b0 :: rest, _, h2 =>
      exact h2 b7 b6 b5 b4 b3 b2 b1 b0 rest rfl

theorem bytesToBits_take (l : List UInt8) (k : Nat) :
    bytesToBits (l.take k) = (bytesToBits l).take (8 * k) := by
  induction l generalizing k with
  | nil => simp [bytesToBits_nil]
  | cons b t ih =>
    cases k with
    | zero => simp [bytesToBits_nil]
    | succ k =>
      have h8 : 8 * (k + 1) - 8 = 8 * k := by omega
      rw [List.take_succ_cons, bytesToBits_cons, bytesToBits_cons, ih,
        List.take_append, byteToBits_length, h8,
        List.take_of_length_le (l := byteToBits b) (by rw [byteToBits_length]; omega)]

/-- The bytes of a block in the file are exactly the bits `transmit()` wrote
    (the zero padding of the last 32-bit word is not written). -/
theorem blockBytes_bits (b : EncBlock) (hw : WF b) :
    bytesToBits (blockBytes b) = transmitBits b := by
  have hlen : (transmitBits b).length = cost b := transmitBits_length hw
  have hmod := cost_mod8 b
  have hexp : 8 * outExpectLen b = (transmitBits b).length := by
    unfold outExpectLen
    rw [Nat.shiftRight_eq_div_pow, hlen]
    omega
  unfold blockBytes transmitBytes
  simp only []
  rw [bytesToBits_take, bytesToBits_bitsToBytes _ (by
    rw [List.length_append, List.length_replicate]; omega)]
  rw [hexp, List.take_left']
  rfl

theorem blockBytes_length (b : EncBlock) (hw : WF b) : 8 * (blockBytes b).length = cost b := by
  have := congrArg List.length (blockBytes_bits b hw)
  rw [bytesToBits_length, transmitBits_length hw] at this
  exact this

theorem transmitBits_magic (b : EncBlock) :
    transmitBits b = natToBits 48 Spec.Bzip2.blockMagic ++ bodyBits b := by
  have hlow : natToBits 24 (Gen.encBlockMagic % 2 ^ 24) = natToBits 24 Gen.encBlockMagic :=
    natToBits_congr _ _ _ fun i hi => by
      rw [Nat.testBit_mod_two_pow, decide_eq_true hi, Bool.true_and]
  have hm : natToBits 48 Spec.Bzip2.blockMagic =
      send 24 (Gen.encBlockMagic >>> 24) ++ send 24 (Gen.encBlockMagic % 2 ^ 24) := by
    rw [send, send, hlow]
    exact natToBits_split 24 24 _
  rw [hm, bodyBits_eq]
  unfold transmitBits headerBits
  simp only [List.append_assoc]

theorem takeNat_magic (b : EncBlock) (rest : Bits) :
    takeNat 48 (transmitBits b ++ rest) = some (Spec.Bzip2.blockMagic, bodyBits b ++ rest) := by
  rw [transmitBits_magic, List.append_assoc, takeNat_natToBits]
  rfl

theorem be32_bits (v : Nat) : bytesToBits (be32 v) = natToBits 32 v := by
  simp only [be32, bytesToBits_cons, bytesToBits_nil, byteToBits_ofNat, natToBits_word,
    List.append_nil]

theorem headerBytes_be32 (level : Nat) (h : level < 10) :
    headerBytes level = be32 (0x425A6830 + level) :=
  match level, h with
  | 0, _ | 1, _ | 2, _ | 3, _ | 4, _ | 5, _ | 6, _ | 7, _ | 8, _ | 9, _ => rfl

theorem header_take (level : Nat) (h9 : level ≤ 9) (rest : List UInt8) :
    takeNat 32 (bytesToBits (headerBytes level ++ rest)) =
      some (0x425A6830 + level, bytesToBits rest) := by
  rw [bytesToBits_append, headerBytes_be32 level (by omega), be32_bits, takeNat_natToBits]
  rw [Nat.mod_eq_of_lt (by omega)]

theorem headerLevel_header (level : Nat) (h1 : 1 ≤ level) (h9 : level ≤ 9) :
    Spec.Bzip2.headerLevel (0x425A6830 + level) = some level := by
  unfold Spec.Bzip2.headerLevel
  rw [if_pos (by omega), Nat.add_sub_cancel_left]

theorem trailerBytes_bits (cc : Nat) :
    bytesToBits (trailerBytes cc) = natToBits 48 Spec.Bzip2.eosMagic ++ natToBits 32 cc := by
  unfold trailerBytes
  rw [bytesToBits_append]
  have hm : bytesToBits (Gen.streamTrailerMagic.map UInt8.ofNat) =
      natToBits 48 Spec.Bzip2.eosMagic := by
    -- evaluated as a `flatMap`: the array accumulator of `bytesToBits` is slow in the kernel
    rw [bytesToBits_eq]
    rfl
  have hbe : Gen.trailerCrcBigEndian = true := rfl
  rw [hm, hbe, if_pos rfl, be32_bits]

theorem trailerBytes_length (cc : Nat) : (trailerBytes cc).length = 10 := by
  have := congrArg List.length (trailerBytes_bits cc)
  rw [bytesToBits_length, List.length_append, natToBits_length, natToBits_length] at this
  omega

theorem headerBytes_length (level : Nat) : (headerBytes level).length = 4 := rfl

theorem or_eq_xor_rotl (x : Nat) (hx : x < 2 ^ 32) :
    ((x <<< 1) % 2 ^ 32) ||| (x >>> 31) = ((x <<< 1) % 2 ^ 32) ^^^ (x >>> 31) := by
  apply Nat.eq_of_testBit_eq
  intro i
  rw [Nat.testBit_or, Nat.testBit_xor]
  cases i with
  | zero =>
    have : ((x <<< 1) % 2 ^ 32).testBit 0 = false := by
      rw [Nat.testBit_mod_two_pow, Nat.testBit_shiftLeft]
      simp
    rw [this]
    simp
  | succ i =>
    have hlt : x >>> 31 < 2 ^ (i + 1) := by
      rw [Nat.shiftRight_eq_div_pow]
      have : x / 2 ^ 31 < 2 := by omega
      have : 2 ≤ 2 ^ (i + 1) := by
        have := Nat.pow_le_pow_right (by decide : 1 ≤ 2) (by omega : 1 ≤ i + 1)
        simpa using this
      omega
    rw [Nat.testBit_lt_two_pow hlt]
    simp

theorem uint32_not_toNat (x : UInt32) : (~~~ x).toNat = x.toNat ^^^ 0xFFFFFFFF := by
  have h2 : (0xFFFFFFFF : UInt32) = -1 := by decide
  rw [← UInt32.xor_neg_one, ← h2, UInt32.toNat_xor]
  rfl

/-- One step of `combined_crc = combine_crc(combined_crc, wblk->crc)` with the
    raw register `c`: the format's `combine` with the stored CRC `~c`. -/
theorem combineCrc_eq (cc c : UInt32) :
    Gen.combineCrc cc.toNat c.toNat = (Basic.combine cc (~~~ c)).toNat := by
  unfold Gen.combineCrc Basic.combine
  rw [UInt32.toNat_xor, UInt32.toNat_or, UInt32.toNat_shiftLeft, UInt32.toNat_shiftRight]
  have h1 : (1 : UInt32).toNat % 32 = 1 := by decide
  have h31 : (31 : UInt32).toNat % 32 = 31 := by decide
  rw [h1, h31, uint32_not_toNat, or_eq_xor_rotl _ cc.toNat_lt, Nat.xor_assoc]

/-- the stored CRC of a block, as the parser reads it, is the complement of the register -/
theorem ofNat_stored (c : UInt32) : UInt32.ofNat (c.toNat ^^^ 0xFFFFFFFF) = ~~~ c := by
  apply UInt32.toNat_inj.mp
  rw [uint32_not_toNat, UInt32.toNat_ofNat']
  exact Nat.mod_eq_of_lt (Nat.xor_lt_two_pow c.toNat_lt (by decide))

theorem combinedCrc_eq (crcs : List UInt32) (cc : UInt32) :
    crcs.foldl (fun a c => Gen.combineCrc a c.toNat) cc.toNat =
      (crcs.foldl (fun a c => Basic.combine a (UInt32.ofNat (c.toNat ^^^ 0xFFFFFFFF))) cc).toNat := by
  induction crcs generalizing cc with
  | nil => rfl
  | cons c t ih =>
    simp only [List.foldl_cons]
    rw [combineCrc_eq, ofNat_stored, ih]

theorem combinedCrc_lt (crcs : List UInt32) : combinedCrc crcs < 2 ^ 32 := by
  unfold combinedCrc
  have := combinedCrc_eq crcs 0
  simp only [UInt32.toNat_zero] at this
  rw [this]
  exact UInt32.toNat_lt _

end LbzVerif.Lemmas.CompressBits
