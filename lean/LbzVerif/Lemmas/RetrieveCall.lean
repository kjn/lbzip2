/-
  Lemmas.RetrieveCall — what a call of `Model.Retrieve` keeps and what it moves, without looking
  at what it reads.  One step (`Does`): the buffer afterwards is the buffer before with `k` bits
  dumped, `k ≥ 1` if the step goes on; in the group phase (`Grp`) `pc`, `num_selectors`, `rand`,
  `bwt_idx` stay and the group number moves by 0 or 1.  `Came` puts the two together for a
  configuration a run has come to.  Sequential reading, the position saved at MORE, the block
  handed over with OK and suspension / resumption are read off from how `toTop`, the group loop
  and a call can end in these terms.
  From here to GroupFinal everything speaks of `run false`, the call without the fast branch entered
  at a `NEED` site; `retrieve` is brought to it by `Props.C09.Retrieve.retrieve_eq_run` /
  `retrieve_init`, the fast branch by `RetrieveFast.run_fast_eq_slow`.
-/
import LbzVerif.Lemmas.RetrieveBits

namespace LbzVerif.Lemmas.RetrieveCall
open LbzVerif LbzVerif.Model.Retrieve LbzVerif.Lemmas.RetrieveEqns LbzVerif.Lemmas.RetrieveSplit
open LbzVerif.Lemmas.RetrieveBits

/-- Buffer `(v', w')` is buffer `(v, w)` with `k` bits dumped.  `le` and `w_eq` are what the code does
to `w`; what the bits are is known only of a legal buffer (`bits`), so that the walk over the step
functions needs no hypothesis. -/
structure Drop (v w v' w' k : Nat) : Prop where
  le : k ≤ w
  w_eq : w' = w - k
  bits : BufInv v w → BufInv v' w' ∧ bufBits v' w' = (bufBits v w).drop k

theorem Drop.refl (v w : Nat) : Drop v w v w 0 := ⟨Nat.zero_le _, rfl, fun i => ⟨i, by simp⟩⟩

theorem Drop.trans {v w v1 w1 v2 w2 k1 k2 : Nat} (h1 : Drop v w v1 w1 k1) (h2 : Drop v1 w1 v2 w2 k2) :
    Drop v w v2 w2 (k1 + k2) := by
  have a := h1.le; have b := h2.le; have c := h1.w_eq; have d := h2.w_eq
  refine ⟨by omega, by omega, fun i => ?_⟩
  obtain ⟨i1, e1⟩ := h1.bits i
  obtain ⟨i2, e2⟩ := h2.bits i1
  exact ⟨i2, by rw [e2, e1, List.drop_drop]⟩

theorem Drop.w_le {v w v' w' k : Nat} (h : Drop v w v' w' k) : w' ≤ w := by
  have := h.w_eq; omega

theorem Drop.dump {st st' : St} {k : Nat} (h : dump st k = some st') :
    1 ≤ k ∧ Drop st.v st.w st'.v st'.w k := by
  obtain ⟨h1, hk, rfl⟩ := dump_eq_some st st' k h
  exact ⟨h1, hk, rfl, fun i => (dump_bits st.v st.w k hk i).symm⟩

theorem Drop.take {st st' : St} {k x : Nat} (h : take st k = some (x, st')) :
    1 ≤ k ∧ Drop st.v st.w st'.v st'.w k :=
  Drop.dump (take_eq_some st st' k x h).2

theorem Drop.sufC {st st' : St} {k : Nat} (h : Drop st.v st.w st'.v st'.w k) (ws : List Nat)
    (inv : BufInv st.v st.w) : SufC st ws st' ws := by
  obtain ⟨i, e⟩ := h.bits inv
  refine ⟨i, k, ?_⟩
  unfold bitsOf
  rw [List.drop_append_of_le_length (by rw [bufBits_length]; exact h.le), e]

/-- The block handed over with OK is not empty and contains its primary index. -/
def BlockOk (s : St) : Prop := 1 ≤ s.run.n ∧ s.bwtIdx < s.run.n

/-- What a step from a buffer `(v, w)` can do: go on at the next `NEED` having dumped at least
one bit; arrive at the top of the group loop; hand over a block; or end the call with an error. -/
inductive Does (v w : Nat) : Step → Prop
  | cont {s : St} {k : Nat} : 1 ≤ k → Drop v w s.v s.w k → Does v w (.cont s)
  | top {s : St} {k : Nat} : Drop v w s.v s.w k → Does v w (.top s)
  | ok {s : St} {k : Nat} : Drop v w s.v s.w k → BlockOk s → Does v w (.done .ok s)
  | other {r : Halt} {s : St} : r ≠ .ok → Does v w (.done r s)

theorem Does.after {v w v1 w1 k : Nat} {x : Step} (h1 : Drop v w v1 w1 k) (h2 : Does v1 w1 x) :
    Does v w x := by
  cases h2 with
  | cont hk h => exact .cont (Nat.le_trans hk (Nat.le_add_left _ _)) (h1.trans h)
  | top h => exact .top (h1.trans h)
  | ok h hb => exact .ok (h1.trans h) hb
  | other h => exact .other h

theorem does_errS (v w c : Nat) : Does v w (errS c) := .other nofun
theorem does_ubS (v w : Nat) : Does v w ubS := .other nofun

theorem does_eobFinish (st : St) : Does st.v st.w (eobFinish st) :=
  eobFinish_cases (P := Does st.v st.w) st (does_errS _ _) fun hne hlt =>
    .ok (Drop.refl _ _) ⟨Nat.pos_of_ne_zero hne, hlt⟩

theorem does_stepPrefix (st : St) : Does st.v st.w (stepPrefix st) :=
  stepPrefix_cases (P := Does st.v st.w) st (does_ubS _ _)
    (fun st1 k hd => Does.after (Drop.dump hd).2 (does_eobFinish st1))
    (fun _ hr => .other hr)
    (fun st1 k rs hd => by
      obtain ⟨h1, hs⟩ := Drop.dump hd
      unfold nextSym
      split
      · exact .cont h1 hs
      · exact .top hs)

theorem does_deltaWindow (st : St) : Does st.v st.w (deltaWindow st) := by
  unfold deltaWindow
  simp only
  split
  · exact does_errS _ _ _
  · split
    · exact does_ubS _ _
    · rename_i st2 hd
      by_cases hl : Model.Delta.tL (peek st 6) ≠ 6
      · rw [if_pos hl] at hd
        obtain ⟨h1, h⟩ := Drop.dump hd
        exact .cont h1 h
      · rw [if_neg hl] at hd
        obtain ⟨h1, h⟩ := Drop.dump hd
        exact .cont h1 h

theorem does_groupsInit (st : St) : Does st.v st.w (groupsInit st) := by
  obtain ⟨_, h⟩ | ⟨rs, _, h⟩ := groupsInit_cases st
  · rw [h]
    exact does_ubS _ _
  · rw [h]
    exact .top (Drop.refl _ _)

theorem does_tableStart (st : St) : Does st.v st.w (tableStart st) := by
  unfold tableStart
  split
  · split
    · exact does_ubS _ _
    · rename_i c st1 ht
      show Does st.v st.w (if (0 : Nat) < st1.alphaSize
        then deltaWindow { st1 with j := 0, clCur := c, clAcc := [] } else ubS)
      split
      · exact Does.after (Drop.take ht).2 (does_deltaWindow { st1 with j := 0, clCur := c, clAcc := [] })
      · exact does_ubS _ _
  · exact does_groupsInit st

theorem does_selLoop (st : St) : Does st.v st.w (selLoop st) := by
  unfold selLoop
  split
  · simp only
    split
    · exact does_errS _ _ _
    · split
      · exact does_ubS _ _
      · rename_i st1 hd
        obtain ⟨h1, h⟩ := Drop.dump hd
        exact .cont h1 h
  · exact does_tableStart { st with t := 0 }

theorem does_afterBitmap (st : St) : Does st.v st.w (afterBitmap st) := by
  unfold afterBitmap
  split
  · exact does_errS _ _ _
  · simp only
    split
    · exact does_ubS _ _
    · rename_i nt st1 h1
      split
      · exact does_errS _ _ _
      · split
        · exact does_ubS _ _
        · rename_i ns st2 h2
          split
          · exact does_errS _ _ _
          · exact Does.after ((Drop.take h1).2.trans (Drop.take h2).2)
              (does_selLoop { st2 with numTrees := nt, numSel := ns, j := 0, selector := #[] })

theorem does_bitmapOuter : ∀ (n : Nat) (st : St), Does st.v st.w (bitmapOuter n st) := by
  intro n
  induction n with
  | zero =>
    intro st
    unfold bitmapOuter
    exact does_afterBitmap st
  | succ n ih =>
    intro st
    unfold bitmapOuter
    split
    · split
      · exact does_ubS _ _
      · rename_i s st1 ht
        obtain ⟨h1, h⟩ := Drop.take ht
        exact .cont h1 h
    · exact ih (rowBody st)

theorem does_step (st : St) : Does st.v st.w (step st) := by
  have bwt : Does st.v st.w (stepBwtIdx st) := by
    unfold stepBwtIdx
    split
    · exact does_ubS _ _
    · rename_i r st1 h1
      split
      · exact does_ubS _ _
      · rename_i i st2 h2
        exact .cont (Nat.le_trans (Drop.take h1).1 (Nat.le_add_right _ _))
          ((Drop.take h1).2.trans (Drop.take h2).2)
  unfold step
  split
  · exact bwt
  · exact bwt
  · unfold stepBitmapBig
    split
    · exact does_ubS _ _
    · rename_i b st1 ht
      exact Does.after (Drop.take ht).2
        (does_bitmapOuter 16 { st1 with big := b, small := 0, alphaSize := 0, j := 0, cmap := List.replicate 256 0 })
  · unfold stepBitmapSmall
    exact does_bitmapOuter _ (rowBody st)
  · unfold stepSelectorMtf
    exact does_selLoop { st with j := st.j + 1 }
  · unfold stepDeltaTag
    split
    · exact does_deltaWindow st
    · exact does_tableStart (finishTable st)
  · exact does_stepPrefix st

/-- Every step that goes on has dumped a bit, whatever the state: the test `st'.w < st.w` of
`drain` never fails (its fuel: `RetrieveSim.drain_fuel`). -/
theorem step_cont_lt {st s : St} (h : step st = .cont s) : s.w < st.w := by
  have hd := does_step st
  rw [h] at hd
  cases hd with
  | cont hk hdr => have := hdr.le; have := hdr.w_eq; omega

def SameId (a b : St) : Prop := b.rand = a.rand ∧ b.bwtIdx = a.bwtIdx

theorem sameId_trans {a b c : St} (h1 : SameId a b) (h2 : SameId b c) : SameId a c :=
  ⟨h2.1.trans h1.1, h2.2.trans h1.2⟩

def Grp (st s : St) (dg : Nat) : Prop :=
  s.pc = .prefix ∧ s.numSel = st.numSel ∧ s.g = st.g + dg ∧ SameId st s

theorem step_grp (st : St) (hpc : st.pc = .prefix) :
    match step st with
    | .cont s => Grp st s 0
    | .top s => Grp st s 1
    | .done r s => r = .ok → SameId st s := by
  rw [step_prefix st hpc]
  refine stepPrefix_cases
    (P := fun x => match x with
      | .cont s => Grp st s 0
      | .top s => Grp st s 1
      | .done r s => r = .ok → SameId st s)
    st nofun (fun st1 k hd => ?_) (fun r hr h => absurd h hr) (fun st1 k rs hd => ?_)
  · obtain ⟨_, _, rfl⟩ := dump_eq_some st st1 k hd
    exact eobFinish_cases
      (P := fun x => match x with
        | .cont s => Grp st s 0
        | .top s => Grp st s 1
        | .done r s => r = .ok → SameId st s)
      _ (fun _ => nofun) (fun _ _ _ => ⟨rfl, rfl⟩)
  · obtain ⟨_, _, e⟩ := dump_eq_some st st1 k hd
    unfold nextSym
    by_cases hj : ({ st1 with run := rs } : St).j + 1 < Gen.GROUP_SIZE
    · rw [if_pos hj]
      subst e
      exact ⟨hpc, rfl, rfl, rfl, rfl⟩
    · rw [if_neg hj]
      subst e
      exact ⟨hpc, rfl, rfl, rfl, rfl⟩

/-- The run has come from configuration `(st, ws)` to `(s, ws')`.  `w63`: `NEED` refills only
below 32 and a step only dumps; the table lookup of the group phase needs the 0 in the lowest
bit. -/
structure Came (st : St) (ws : List Nat) (s : St) (ws' : List Nat) (dg : Nat) : Prop where
  bits : BufInv st.v st.w → SufC st ws s ws'
  w63 : st.w ≤ 63 → s.w ≤ 63
  grp : st.pc = .prefix → Grp st s dg

theorem Came.refl (st : St) (ws : List Nat) : Came st ws st ws 0 :=
  ⟨sufC_refl st ws, id, fun h => ⟨h, rfl, rfl, rfl, rfl⟩⟩

theorem Came.trans {a b c : St} {wa wb wc : List Nat} {d1 d2 : Nat} (h1 : Came a wa b wb d1)
    (h2 : Came b wb c wc d2) : Came a wa c wc (d1 + d2) :=
  ⟨fun i => sufC_trans (h1.bits i) (h2.bits (h1.bits i).1), fun h => h2.w63 (h1.w63 h), fun h => by
    obtain ⟨p1, n1, g1, i1⟩ := h1.grp h
    obtain ⟨p2, n2, g2, i2⟩ := h2.grp p1
    exact ⟨p2, n2.trans n1, by omega, sameId_trans i1 i2⟩⟩

inductive OutDoes (st : St) (ws : List Nat) : Out → Prop
  | susp {s : St} : Came st ws s [] 0 → s.w < 32 → normPc s = s → OutDoes st ws (.susp s)
  | top {s : St} {rest : List Nat} : Came st ws s rest 1 → OutDoes st ws (.top s rest)
  | ok {s : St} {rest : List Nat} : (BufInv st.v st.w → SufC st ws s rest) → BlockOk s →
      (st.pc = .prefix → SameId st s) → OutDoes st ws (.halt .ok s rest)
  | other {r : Halt} {s : St} {rest : List Nat} : r ≠ .ok → OutDoes st ws (.halt r s rest)

theorem step_came (s : St) (ws : List Nat) :
    match step s with
    | .cont s' => Came s ws s' ws 0
    | .top s' => Came s ws s' ws 1
    | .done r s' => OutDoes s ws (.halt r s' ws) := by
  have hd := does_step s
  have hg := step_grp s
  cases hs : step s with
  | cont s' =>
    rw [hs] at hd hg
    cases hd with
    | cont _ h => exact ⟨h.sufC ws, fun x => Nat.le_trans h.w_le x, hg⟩
  | top s' =>
    rw [hs] at hd hg
    cases hd with
    | top h => exact ⟨h.sufC ws, fun x => Nat.le_trans h.w_le x, hg⟩
  | done r s' =>
    rw [hs] at hd hg
    cases hd with
    | ok h hb => exact .ok (h.sufC ws) hb fun x => hg x rfl
    | other hne => exact .other hne

theorem came_normPc {st s : St} {ws ws' : List Nat} (h : Came st ws s ws' 0) :
    Came st ws (normPc s) ws' 0 := by
  unfold normPc
  split
  · rename_i hinit
    exact ⟨h.bits, h.w63, fun x => by
      rw [(h.grp x).1] at hinit
      cases hinit⟩
  · exact h

theorem drain_does (st : St) (ws ws' : List Nat) : ∀ (f : Nat) (s : St), Came st ws s ws' 0 →
    match drain f s with
    | .need s' => Came st ws s' ws' 0 ∧ s'.w < 32 ∧ normPc s' = s'
    | .top s' => Came st ws s' ws' 1
    | .done r s' => OutDoes st ws (.halt r s' ws') := by
  intro f
  induction f with
  | zero => intro s _; exact .other nofun
  | succ f ih =>
    intro s hI
    unfold drain
    by_cases hw : s.w < 32
    · rw [if_pos hw]
      exact ⟨came_normPc hI, by rw [(normPc_vw s).2]; exact hw, normPc_idem s⟩
    · rw [if_neg hw]
      have h := step_came s ws'
      cases hs : step s with
      | cont s' =>
        rw [hs] at h
        by_cases hlt : s'.w < s.w
        · simp only [if_pos hlt]
          exact ih s' (hI.trans h)
        · simp only [if_neg hlt]
          exact .other nofun
      | top s' =>
        rw [hs] at h
        exact hI.trans h
      | done r s' =>
        rw [hs] at h
        cases h with
        | ok hb hk hid =>
          exact .ok (fun i => sufC_trans (hI.bits i) (hb (hI.bits i).1)) hk
            fun p => sameId_trans (hI.grp p).2.2.2 (hid (hI.grp p).1)
        | other hne => exact .other hne

theorem toTop_does_from (st : St) (ws : List Nat) : ∀ (ws' : List Nat) (s : St), Came st ws s ws' 0 →
    OutDoes st ws (toTop s ws') := by
  intro ws'
  induction ws' with
  | nil =>
    intro s hI
    have h := drain_does st ws [] (s.w + 1) s hI
    rw [toTop_eq]
    cases hd : drain (s.w + 1) s with
    | done r s' => rw [hd] at h; exact h
    | top s' => rw [hd] at h; exact .top h
    | need s' => rw [hd] at h; exact .susp h.1 h.2.1 h.2.2
  | cons x ws' ih =>
    intro s hI
    have h := drain_does st ws (x :: ws') (s.w + 1) s hI
    rw [toTop_eq]
    cases hd : drain (s.w + 1) s with
    | done r s' => rw [hd] at h; exact h
    | top s' => rw [hd] at h; exact .top h
    | need s' =>
      rw [hd] at h
      -- the refill: 32 more bits in a buffer that held fewer than 32
      refine ih _ (Came.trans h.1 (d2 := 0)
        ⟨fun i => sufC_refill _ x ws' h.2.1 i, fun _ => ?_, fun p => ⟨p, rfl, rfl, rfl, rfl⟩⟩)
      show s'.w + 32 ≤ 63
      have := h.2.1
      omega

theorem toTop_does (st : St) (ws : List Nat) : OutDoes st ws (toTop st ws) :=
  toTop_does_from st ws ws st (Came.refl st ws)

inductive RunDoes (st : St) (ws : List Nat) : RunOut → Prop
  | susp {s : St} : (BufInv st.v st.w → SufC st ws s []) → s.w < 32 → normPc s = s →
      RunDoes st ws (.susp s)
  | ok {s : St} {rest : List Nat} : (BufInv st.v st.w → SufC st ws s rest) → BlockOk s →
      RunDoes st ws (.halt .ok s rest)
  | other {r : Halt} {s : St} {rest : List Nat} : r ≠ .ok → RunDoes st ws (.halt r s rest)

theorem groups_does_from (st : St) (ws : List Nat) : ∀ (n : Nat) (s : St) (ws' : List Nat),
    (BufInv st.v st.w → SufC st ws s ws') → SameId st s →
    RunDoes st ws (groups false n s ws') ∧
      ∀ s' rest, groups false n s ws' = .halt .ok s' rest → SameId st s' := by
  intro n
  induction n with
  | zero => intro s ws' _ _; exact ⟨.other nofun, nofun⟩
  | succ n ih =>
    intro s ws' hJ hJid
    rw [groups]
    cases hsel : selectTree s with
    | error e =>
      have hne := selectTree_error s e hsel
      exact ⟨.other hne, fun s' rest e' => by injection e' with e1; exact absurd e1 hne⟩
    | ok s1 =>
      have e := selectTree_ok s s1 hsel
      have hv : s1.v = s.v := by rw [e]; rfl
      have hw : s1.w = s.w := by rw [e]; rfl
      have hri : SameId s s1 := by rw [e]; exact ⟨rfl, rfl⟩
      have hd := toTop_does ({ s1 with pc := .prefix, j := 0 } : St) ws'
      have hb : ∀ s2 ws2, (BufInv s1.v s1.w → SufC ({ s1 with pc := .prefix, j := 0 } : St) ws' s2 ws2) →
          BufInv st.v st.w → SufC st ws s2 ws2 := fun s2 ws2 h i =>
        sufC_trans (hJ i) ((h (by rw [hv, hw]; exact (hJ i).1)).src hv hw)
      have hid : ∀ s2, SameId ({ s1 with pc := .prefix, j := 0 } : St) s2 → SameId st s2 := fun s2 h =>
        sameId_trans hJid (sameId_trans hri h)
      simp only [Bool.false_eq_true, false_and, if_false]
      generalize toTop _ ws' = o at hd
      cases hd with
      | susp h hw hn => exact ⟨.susp (hb _ _ h.bits) hw hn, nofun⟩
      | top h => exact ih _ _ (hb _ _ h.bits) (hid _ (h.grp rfl).2.2.2)
      | ok h hk hi =>
        exact ⟨.ok (hb _ _ h) hk, fun s' rest' e' => by
          injection e' with _ e2 _
          exact e2 ▸ hid _ (hi rfl)⟩
      | other hr => exact ⟨.other hr, fun s' rest' e' => by injection e' with e1; exact absurd e1 hr⟩

theorem groups_does (st : St) (ws : List Nat) (n : Nat) : RunDoes st ws (groups false n st ws) :=
  (groups_does_from st ws n st ws (sufC_refl st ws) ⟨rfl, rfl⟩).1

/-- The group phase never touches `rand` / `bwt_idx`. -/
theorem groups_id (n : Nat) (st : St) (ws : List Nat) (s : St) (rest : List Nat)
    (h : groups false n st ws = .halt .ok s rest) : SameId st s :=
  (groups_does_from st ws n st ws (sufC_refl st ws) ⟨rfl, rfl⟩).2 s rest h

theorem run_does (st : St) (ws : List Nat) : RunDoes st ws (run false st ws) := by
  unfold run
  have hd := toTop_does st ws
  generalize toTop st ws = o at hd
  cases hd with
  | susp h hw hn => exact .susp h.bits hw hn
  | ok h hk _ => exact .ok h hk
  | other hr => exact .other hr
  | @top s1 ws1 h =>
    have hg := groups_does s1 ws1 (s1.numSel - s1.g)
    show RunDoes st ws (groups false (s1.numSel - s1.g) s1 ws1)
    generalize groups false (s1.numSel - s1.g) s1 ws1 = o at hg
    cases hg with
    | susp h2 hw hn => exact .susp (fun i => sufC_trans (h.bits i) (h2 (h.bits i).1)) hw hn
    | ok h2 hk => exact .ok (fun i => sufC_trans (h.bits i) (h2 (h.bits i).1)) hk
    | other hr => exact .other hr

/-- The buffer never holds 64 live bits after the first `NEED`. -/
theorem toTop_w63 (ws : List Nat) (st : St) (hw : st.w ≤ 63) (s : St) (rest : List Nat)
    (h : toTop st ws = .top s rest) : s.w ≤ 63 := by
  have hd := toTop_does st ws
  rw [h] at hd
  cases hd with
  | top hc => exact hc.w63 hw

theorem groups_ok (n : Nat) (st : St) (ws : List Nat) (s : St) (rest : List Nat)
    (h : groups false n st ws = .halt .ok s rest) : BlockOk s := by
  have hd := groups_does st ws n
  rw [h] at hd
  cases hd with
  | ok _ hk => exact hk
  | other hne => exact absurd rfl hne

theorem run_ok (st : St) (ws : List Nat) (s : St) (rest : List Nat)
    (h : run false st ws = .halt .ok s rest) : BlockOk s := by
  have hd := run_does st ws
  rw [h] at hd
  cases hd with
  | ok _ hk => exact hk
  | other hne => exact absurd rfl hne

theorem run_susp (st : St) (ws : List Nat) (st' : St) (h : run false st ws = .susp st') :
    st'.w < 32 ∧ normPc st' = st' := by
  have hd := run_does st ws
  rw [h] at hd
  cases hd with
  | susp _ hw hn => exact ⟨hw, hn⟩

def addRestR : RunOut → List Nat → RunOut
  | .halt r st rest, b => .halt r st (rest ++ b)
  | .susp st, _ => .susp st

theorem groups_append : ∀ (n : Nat) (st : St) (a b : List Nat), st.numSel - st.g = n →
    groups false n st (a ++ b) = match groups false n st a with
      | .susp st' => run false st' b
      | o => addRestR o b := by
  intro n
  induction n with
  | zero => intro st a b _; simp [groups, addRestR]
  | succ n ih =>
    intro st a b hn
    rw [groups, groups]
    cases hsel : selectTree st with
    | error e => simp [addRestR]
    | ok st1 =>
      obtain ⟨f1, f2⟩ := selectTree_fields st st1 hsel
      simp only [Bool.false_eq_true, false_and, if_false]
      have hda := toTop_does ({ st1 with pc := Pc.prefix, j := 0 } : St) a
      rw [toTop_append a b]
      cases ht : toTop { st1 with pc := Pc.prefix, j := 0 } a with
      | halt r s rest => simp [addRest, addRestR]
      | top st2 ws2 =>
        rw [ht] at hda
        cases hda with
        | top h =>
          obtain ⟨_, q2, q3, _⟩ := h.grp rfl
          simp only [addRest]
          apply ih
          simp only at q2 q3
          omega
      | susp s' =>
        rw [ht] at hda
        cases hda with
        | susp h _ _ =>
          obtain ⟨p1, p2, p3, _⟩ := h.grp rfl
          simp only
          unfold run
          have hdb := toTop_does s' b
          cases ht2 : toTop s' b with
          | halt r s rest => rfl
          | susp s2 => rfl
          | top st2 ws2 =>
            rw [ht2] at hdb
            cases hdb with
            | top h2 =>
              obtain ⟨_, q2, q3, _⟩ := h2.grp p1
              simp only at p2 p3
              have : st2.numSel - st2.g = n := by omega
              simp only [this]

theorem run_append (st : St) (a b : List Nat) :
    run false st (a ++ b) = match run false st a with
      | .susp st' => run false st' b
      | o => addRestR o b := by
  unfold run
  rw [toTop_append a b]
  cases ht : toTop st a with
  | halt r s rest => simp [addRest, addRestR]
  | susp s' => simp only
  | top st1 rest =>
    simp only [addRest]
    exact groups_append _ st1 rest b rfl

end LbzVerif.Lemmas.RetrieveCall
