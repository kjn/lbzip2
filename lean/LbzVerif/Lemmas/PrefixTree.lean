/-
  Lemmas.PrefixTree — facts about the parts of `Model.Canon.makeTree` (decode.c make_tree):
  its 64-bit Kraft accumulation `kraftSum` equals `Spec.Prefix.kraft20` (hence its `verdict`),
  and `base[21]` is the sentinel `UINT64_MAX`.
-/
import LbzVerif.Spec.Prefix
import LbzVerif.Model.Canon
import LbzVerif.Lemmas.PrefixRank

namespace LbzVerif.Lemmas.PrefixTree
open LbzVerif.Spec.Prefix LbzVerif.Model.Canon
open LbzVerif.Lemmas.TransmitSym

theorem cnt_eq (lens : List Nat) (d : Nat) : cnt lens d = cntL lens d := rfl

theorem sum_cnt_eq_kraft (lens : List Nat) (hr : ∀ l ∈ lens, 1 ≤ l ∧ l ≤ 20) :
    ((List.range 20).map (fun j => cnt lens (j + 1) * 2 ^ (20 - (j + 1)))).sum = kraft20 lens := by
  have h := W_add width lens 20 1
  rw [W_one width lens (cntL_zero lens fun x hx => (hr x hx).1), Nat.zero_add,
    W_top width lens _ fun x hx => by have := (hr x hx).2; omega] at h
  rw [kraft20, h, ← ListAux.range_succ_map, List.map_map]
  rfl

theorem kraft20_le (lens : List Nat) : kraft20 lens ≤ lens.length * 2 ^ 20 := by
  induction lens with
  | nil => simp [kraft20]
  | cons l t ih =>
    simp only [kraft20, List.map_cons, List.sum_cons, List.length_cons] at ih ⊢
    have : width l ≤ 2 ^ 20 := Nat.pow_le_pow_right (by decide) (by omega)
    rw [Nat.succ_mul]; omega

/-- The 64-bit accumulation of make_tree is the Kraft sum (no wrap-around for
an alphabet of at most 258 symbols). -/
theorem kraftSum_eq (lens : List Nat) (hr : ∀ l ∈ lens, 1 ≤ l ∧ l ≤ 20)
    (hn : lens.length ≤ 258) : kraftSum lens = kraft20 lens := by
  unfold kraftSum
  rw [ListSum.foldl_add_mod]
  have hne : ¬ (List.map (fun j => cnt lens (j + 1) <<< (MAXL - (j + 1)) % M64) (List.range MAXL)) = [] := by
    simp [MAXL, Gen.MAX_CODE_LENGTH]
  rw [if_neg hne, Nat.zero_add, ListSum.sum_map_mod]
  have e : (fun j => cnt lens (j + 1) <<< (MAXL - (j + 1)))
      = (fun j => cnt lens (j + 1) * 2 ^ (20 - (j + 1))) := by
    funext j
    rw [Nat.shiftLeft_eq]
    rfl
  rw [e]
  have h20 : MAXL = 20 := rfl
  rw [h20, sum_cnt_eq_kraft lens hr]
  apply Nat.mod_eq_of_lt
  have := kraft20_le lens
  have : lens.length * 2 ^ 20 ≤ 258 * 2 ^ 20 := Nat.mul_le_mul_right _ hn
  have : (258 : Nat) * 2 ^ 20 < M64 := by decide
  omega

theorem verdict_eq (lens : List Nat) (hr : ∀ l ∈ lens, 1 ≤ l ∧ l ≤ 20) (hn : lens.length ≤ 258) :
    verdict lens = if kraft20 lens = 2 ^ 20 then .ok
      else if kraft20 lens < 2 ^ 20 then .incomplete else .oversubscribed := by
  have hM : (1 : Nat) <<< MAXL = 2 ^ 20 := by rw [Nat.one_shiftLeft]; rfl
  unfold verdict
  simp only [kraftSum_eq lens hr hn, hM]

theorem verdict_ok_iff (lens : List Nat) (hr : ∀ l ∈ lens, 1 ≤ l ∧ l ≤ 20) (hn : lens.length ≤ 258) :
    verdict lens = .ok ↔ Complete lens := by
  rw [verdict_eq lens hr hn]
  constructor
  · intro h
    refine ⟨?_, hr⟩
    apply Classical.byContradiction
    intro hne
    rw [if_neg hne] at h
    split at h <;> cases h
  · intro h
    rw [if_pos h.1]

theorem sentinel_getD_above (lens : List Nat) : ∀ (k : Nat) (B : List Nat) (j : Nat), k < j →
    (sentinel lens k B).getD j 0 = B.getD j 0 := by
  intro k
  induction k with
  | zero => intro B j _; rfl
  | succ k ih =>
    intro B j hj
    unfold sentinel
    split
    · rw [ih _ j (by omega), ListAux.getD_set_ne _ _ _ _ _ (by omega)]
    · rfl

theorem ljLoop_length (lens : List Nat) : ∀ n k s, (ljLoop lens n k s).length = n := by
  intro n
  induction n with
  | zero => intro k s; rfl
  | succ n ih => intro k s; simp [ljLoop, ih]

theorem base21 (lens : List Nat) : (mkBase lens).getD 21 0 = M64 - 1 := by
  unfold mkBase
  have h20 : MAXL = 20 := rfl
  simp only [h20]
  rw [sentinel_getD_above lens 20 _ 21 (by omega)]
  simp [List.getD_eq_getElem?_getD, ljLoop_length]

end LbzVerif.Lemmas.PrefixTree
