/-
  Lemmas.ScanTabs — the finite facts about the two generated scanner tables and
  the pattern, by kernel evaluation.  `mini_dfa` (96 entries) is compared with
  the KMP transition entry by entry.  For `big_dfa` (49 x 256) a row is walked
  down the binary tree of eight-bit strings, one `mini_dfa` step per node (511
  per row instead of 2048) and one shift per right branch; `rowOK_spec` says
  what the walk establishes, for any step function.
-/
import LbzVerif.Lemmas.ScanLps
import LbzVerif.Lemmas.ScanBits

namespace LbzVerif.Lemmas.ScanTabs

open LbzVerif.Model.Scan LbzVerif.Spec.Scan LbzVerif.Lemmas.ScanBits

theorem mini_eq_delta : ∀ s < 48, ∀ b : Bool, mini s b = δ s b := by
  decide +kernel

theorem mini_le : ∀ s < 48, ∀ b : Bool, mini s b ≤ 48 := by
  intro s hs b
  rw [mini_eq_delta s hs b]
  exact ScanLps.lpsFrom_le P _ 48

theorem accept_eq : accept = 48 := by decide

theorem P_length : P.length = 48 := by decide

/-- `r`, read as `2^k` six-bit entries from the low end, lists the states
reached from `s` by absorbing `mini_dfa` steps on the `k`-bit strings, in the
order of the numbers they spell, most significant bit first: the lower half
belongs to the successor of `s` on 0, the upper half to the successor on 1. -/
def rowOK : Nat → Nat → Nat → Bool
  | 0, s, r => r &&& 63 == s
  | k + 1, s, r => rowOK k (miniAbs s false) r && rowOK k (miniAbs s true) (r >>> (6 * 2 ^ k))

theorem rowOK_spec (k s r c : Nat) (h : rowOK k s r = true) (hc : c < 2 ^ k) :
    (r >>> (6 * c)) &&& 63 = (bitsMSB k c).foldl miniAbs s := by
  induction k generalizing s r c with
  | zero =>
    have : c = 0 := by simpa using hc
    subst this
    exact eq_of_beq h
  | succ k ih =>
    rw [rowOK, Bool.and_eq_true] at h
    rw [bitsMSB, List.foldl_cons]
    rcases Nat.lt_or_ge c (2 ^ k) with hlt | hge
    · rw [Nat.testBit_lt_two_pow hlt]
      exact ih _ _ _ h.1 hlt
    · obtain ⟨d, rfl⟩ := Nat.exists_eq_add_of_le hge
      have hd : d < 2 ^ k := by rw [Nat.pow_succ] at hc; omega
      rw [Nat.testBit_two_pow_add_eq, Nat.testBit_lt_two_pow hd,
        bitsMSB_congr k _ d (fun j hj => Nat.testBit_two_pow_add_gt hj d), Nat.mul_add,
        Nat.shiftRight_add]
      exact ih _ _ _ h.2 hd

theorem rows : ∀ s < 49, rowOK 8 s (Gen.bigRows.getD s 0) = true := by decide +kernel

theorem big_rows : ∀ s < 49, ∀ c < 256,
    big s c = (bitsMSB 8 c).foldl miniAbs s :=
  fun s hs c hc => rowOK_spec 8 s _ c (rows s hs) hc

end LbzVerif.Lemmas.ScanTabs
