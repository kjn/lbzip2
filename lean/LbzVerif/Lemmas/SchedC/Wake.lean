/-
  Lemmas.SchedC.Wake — the wake-up discipline of `sched_cond`:

  * `WakeInv.noLost` (no lost wake-up): whenever `sched_mutex` is free and a
    task is ready or the process has finished, some worker has a wake-up
    pending (`ready`) or nobody is in `xwait`;
  * `WakeInv.exitFin`: a worker exits only when `can_terminate()` holds, and after the first
    exit (`xbroadcast`) nobody waits any more (`core_fin_view`: once it holds, no section that can
    still run changes what the guards read, so it stays);
  * `WakeInv.noBad`: `do_collect_seq` never meets `wblk == NULL && iblk == NULL`
    (`assert(iblk != NULL)`).
-/
import LbzVerif.Lemmas.SchedC.Restore
import LbzVerif.Lemmas.ListAux

namespace LbzVerif.Model.SchedC
open LbzVerif.Lemmas.ListAux (mem_set_self mem_set_of_ne)

variable {α σ : Type}

theorem mem_wake {ws ws' : List (WPhase α σ)} (h : Wake ws ws') {p : WPhase α σ} (hp : p ∈ ws') :
    p = .ready ∨ p ∈ ws := by
  rcases h with rfl | ⟨k, _, rfl⟩
  · exact .inr hp
  · rcases List.mem_or_eq_of_mem_set hp with h | h
    · exact .inr h
    · exact .inl h

theorem lockFree_false_of_mem {s : State α σ} (h : WPhase.atHead ∈ s.ws) : lockFree s = false := by
  cases hl : lockFree s with
  | false => rfl
  | true =>
    have := List.all_eq_true.mp hl _ h
    simp [WPhase.isAtHead] at this

theorem lockFree_set {s : State α σ} {i : Nat} {p q : WPhase α σ} (_h : s.ws[i]? = some q)
    (hp : p.isAtHead = false) (hl : lockFree s = true) :
    (s.ws.set i p).all (fun p => !p.isAtHead) = true := by
  apply List.all_eq_true.mpr
  intro r hr
  rcases List.mem_or_eq_of_mem_set hr with hm | rfl
  · exact List.all_eq_true.mp hl r hm
  · simp [hp]

theorem broadcast_no_waiting (ws : List (WPhase α σ)) : ∀ p ∈ broadcast ws, p.isWaiting = false := by
  intro p hp
  simp only [broadcast, List.mem_map] at hp
  obtain ⟨q, _, rfl⟩ := hp
  cases hq : q.isWaiting with
  | true => simp [WPhase.isWaiting]
  | false => simpa using hq

theorem mem_broadcast_exited {ws : List (WPhase α σ)} (h : WPhase.exited ∈ ws) :
    WPhase.exited ∈ broadcast ws := by
  simp only [broadcast, List.mem_map]
  exact ⟨.exited, h, by simp [WPhase.isWaiting]⟩

/-- when `can_terminate()` holds only the sections of workers outside tasks can happen (a woken
    worker takes the mutex, one at the loop head exits, a spurious wake-up), and none changes what
    the guards read. -/
theorem core_fin_view {c : Cfg} {cd : Codec α σ} {s t : State α σ} {sp : Bool} {k : EndKind}
    (cons : Conserved c s) (sel : SelInv c s) (rdi : ReaderInv s) (hf : finished c s = true)
    (h : Core c cd s sp k t) : view c t = view c s := by
  have r := restores_of_finished cons sel rdi hf
  have nounit : ∀ {i : Nat} {p : WPhase α σ}, s.ws[i]? = some p → p.units = 0 :=
    fun h => r.idle _ (List.mem_of_getElem? h)
  cases h with
  | rTake hr hi | rDeliver hr hi | rEmpty hr hi | rEof hr =>
    rw [r.rd] at hr
    cases hr
  | wTake b q hw hq =>
    rw [r.outputQ] at hq
    cases hq
  | wDone b hw =>
    rw [r.wr] at hw
    cases hw
  | idle h => cases h <;> rfl
  | runCollect i ib q hw hn hq hwu | runCollectSeq i hw hn hg | runTransmit i w q hw hn hq hos
    | runReorder i w q hw hn hq =>
    rw [r.nextTask] at hn
    cases hn
  -- a worker inside a task holds a work unit
  | _ => exact absurd (nounit ‹_›) (by simp [WPhase.units])

theorem ends_view {c : Cfg} {k : EndKind} {t s' : State α σ} (h : Ends c k t s') :
    view c s' = view c t := by
  cases h <;> rfl

structure WakeInv (c : Cfg) (s : State α σ) : Prop where
  noLost : lockFree s = true → (s.nextTask.isSome = true ∨ finished c s = true) →
    WPhase.ready ∈ s.ws ∨ ∀ p ∈ s.ws, p.isWaiting = false
  exitFin : WPhase.exited ∈ s.ws → finished c s = true ∧ ∀ p ∈ s.ws, p.isWaiting = false
  noBad : NoBadS1 s

theorem wake_init (c : Cfg) (input : List α) : WakeInv c (init (σ := σ) c input) := by
  refine ⟨fun _ _ => .inr (init_forall c input rfl), ?_, init_forall c input nofun⟩
  intro h
  have := init_ready c input _ h
  cases this

section
variable {c : Cfg} {cd : Codec α σ} {s t s' : State α σ} {sp : Bool} {k : EndKind}

/-- the clauses that do not involve the signal survive a `Wake` -/
theorem wake_keep {ws ws' : List (WPhase α σ)} (hw : Wake ws ws') :
    (WPhase.exited ∈ ws' → WPhase.exited ∈ ws) ∧
    ((∀ p ∈ ws, p.isWaiting = false) → ∀ p ∈ ws', p.isWaiting = false) ∧
    ((∀ p ∈ ws, p ≠ .s1 none none) → ∀ p ∈ ws', p ≠ .s1 none none) := by
  refine ⟨?_, fun h => forall_wake hw rfl h, fun h => forall_wake hw nofun h⟩
  intro h
  rcases mem_wake hw h with h' | h'
  · cases h'
  · exact h'

/-- what `Core` does to the worker list, as far as the wake-up discipline is
    concerned -/
inductive WsEff (c : Cfg) (k : EndKind) (s t : State α σ) : Prop where
  /-- reader / writer sections: workers untouched -/
  | same : t.ws = s.ws → WsEff c k s t
  /-- worker `i` moves from `q` to `p` (not `exited`, not `waiting`, not the bad
      phase); `p = atHead` or the lock state is unchanged (`q` not at head) -/
  | move (i : Nat) (p q : WPhase α σ) : s.ws[i]? = some q → t.ws = s.ws.set i p →
      p ≠ .exited → p.isWaiting = false → p ≠ .s1 none none →
      (p = .atHead ∨ (p.isAtHead = false ∧ q ≠ .ready ∧ (k = .plain → q.isAtHead = false))) →
      WsEff c k s t
  /-- `xwait` -/
  | wait (i : Nat) : t.ws = s.ws.set i .waiting →
      s.nextTask = none → finished c s = false → WsEff c k s t
  /-- exit + `xbroadcast` -/
  | exit (i : Nat) : t.ws = broadcast (s.ws.set i .exited) →
      finished c s = true → WsEff c k s t

def WPhase.Idle : WPhase α σ → Prop
  | .ready | .waiting | .atHead | .exited => True
  | _ => False

/-- worker `i` goes on inside a task, or enters one from the loop head under
    `sched_unlock` -/
theorem WsEff.task {i : Nat} {p q : WPhase α σ} (hw : s.ws[i]? = some q)
    (ht : t.ws = s.ws.set i p) (hp : ¬ p.Idle) (hbad : p ≠ .s1 none none) (hq : q ≠ .ready)
    (hk : k = .plain → q.isAtHead = false) : WsEff c k s t := by
  refine .move i p q hw ht ?_ ?_ hbad (.inr ⟨?_, hq, hk⟩)
  · intro e
    exact hp (e ▸ trivial)
  · cases p <;> first | rfl | exact absurd trivial hp
  · cases p <;> first | rfl | exact absurd trivial hp

theorem core_wsEff (sel : SelInv c s) (h : Core c cd s sp k t) : WsEff c k s t := by
  cases h with
  | rTake hr hi | rDeliver hr hi | rEmpty hr hi | rEof hr | wTake b q hw hq
    | wDone b hw | runReorder i w q hw hn hq =>
    exact .same rfl
  | c2Enq i w hw | t1Enq i w hw | s2Part i w hw =>
    exact .move i .atHead _ hw rfl nofun rfl nofun (.inl rfl)
  | idle h =>
    cases h with
    | acquire i hw => exact .move i .atHead _ hw rfl nofun rfl nofun (.inl rfl)
    | spurious i hw =>
      exact .move i .ready _ hw rfl nofun rfl nofun (.inr ⟨rfl, nofun, fun _ => rfl⟩)
    | runWait i hw hn hf => exact .wait i rfl hn hf
    | runExit i hw hn hf => exact .exit i rfl hf
  | runCollect i ib q hw hn hq hwu | s1Requeue i wo ib hw hl | s1Flush i w hw
    | s2Full i w hw =>
    exact .task hw rfl id nofun nofun nofun
  | runCollectSeq i hw hn hg =>
    -- `assert(iblk != NULL)`: the guard gave a queued in_blk or an unfinished block
    obtain ⟨_, _, hrdy, _⟩ := ready_collectSeq sel hn
    refine .task hw rfl id ?_ nofun nofun
    intro h
    simp only [WPhase.s1.injEq] at h
    obtain ⟨h1, h2⟩ := h
    rcases hrdy with h' | h'
    · cases hq : s.collQ with
      | nil => exact h' hq
      | cons a l =>
        rw [hq] at h2
        cases h2
    · rw [h1] at h'
      cases h'.2
  | runTransmit i w q hw hn hq hos | c1Requeue i ib hw hl =>
    exact .task hw rfl id nofun nofun nofun
  | c1Release i ib hw hl | s1Release i wo ib hw hl =>
    exact .task hw rfl id nofun nofun (fun _ => rfl)

theorem wake_core_ends (inv : WakeInv c s) (cons : Conserved c s) (sel : SelInv c s)
    (rdi : ReaderInv s) (hc : Core c cd s sp k t) (he : Ends c k t s') : WakeInv c s' := by
  have eff := core_wsEff sel hc
  have hview : view c s' = view c t := ends_view he
  have hfin' : finished c s' = finished c t := by simp only [finished, hview]
  -- `noBad` and `exitFin` for `t`, the state before the epilogue
  have tNoBad : ∀ p ∈ t.ws, p ≠ .s1 none none := by
    cases eff with
    | same h =>
      rw [h]
      exact inv.noBad
    | move i p q hq ht h1 h2 h3 h4 =>
      rw [ht]
      exact forall_set inv.noBad i h3
    | wait i ht hn hf =>
      rw [ht]
      exact forall_set inv.noBad i nofun
    | exit i ht hf =>
      rw [ht]
      exact forall_broadcast nofun (forall_set inv.noBad i nofun)
  have finT : finished c s = true → finished c t = true := by
    intro hf
    have hv := core_fin_view cons sel rdi hf hc
    simp only [finished, hv] at hf ⊢
    exact hf
  have tExit : WPhase.exited ∈ t.ws → finished c t = true ∧ ∀ p ∈ t.ws, p.isWaiting = false := by
    intro hex
    cases eff with
    | same h =>
      rw [h] at hex ⊢
      obtain ⟨hf, hnw⟩ := inv.exitFin hex
      exact ⟨finT hf, hnw⟩
    | move i p q hq ht h1 h2 h3 h4 =>
      rw [ht] at hex ⊢
      obtain ⟨hf, hnw⟩ := inv.exitFin ((List.mem_or_eq_of_mem_set hex).resolve_right (fun e => h1 e.symm))
      exact ⟨finT hf, forall_set hnw i h2⟩
    | wait i ht hn hf =>
      rw [ht] at hex
      rw [(inv.exitFin ((List.mem_or_eq_of_mem_set hex).resolve_right nofun)).1] at hf
      cases hf
    | exit i ht hf =>
      rw [ht]
      exact ⟨finT hf, broadcast_no_waiting _⟩
  -- and through the epilogue
  have hwk : Wake t.ws s'.ws := by
    cases he with
    | unlock hw => exact hw.wake
    | resel | plain => exact .inl rfl
  obtain ⟨k1, k2, k3⟩ := wake_keep hwk
  refine ⟨?_, ?_, k3 tNoBad⟩
  · -- no lost wake-up
    intro hl hprem
    cases he with
    | unlock hw =>
      have hp : ((selectTask (view c t)).isSome || finished c t) = true :=
        Bool.or_eq_true_iff.mpr (hprem.imp id hfin'.symm.trans)
      unfold SigWake at hw
      rw [if_pos hp] at hw
      rcases hw with ⟨hnw, rfl⟩ | ⟨j, hj, rfl⟩
      · exact .inr hnw
      · exact .inl (mem_set_self _ hj)
    | resel =>
      exfalso
      have hat : WPhase.atHead ∈ t.ws := by
        cases hc with
        | runReorder i w q hw hn hq => exact List.mem_of_getElem? hw
        | c2Enq i w hw | t1Enq i w hw | s2Part i w hw => exact mem_set_self _ hw
      have : lockFree (reselect c t) = false := lockFree_false_of_mem (s := reselect c t) hat
      rw [this] at hl
      cases hl
    | plain =>
      obtain ⟨hv, hnt⟩ := core_plain_view hc
      have hfs : finished c t = finished c s := by simp only [finished, hv]
      cases eff with
      | same h =>
        have hl' : lockFree s = true := by
          simp only [lockFree, h] at hl ⊢
          exact hl
        rw [hnt, hfs] at hprem
        rw [h]
        exact inv.noLost hl' hprem
      | move i p q hq ht h1 h2 h3 h4 =>
        rcases h4 with rfl | ⟨hpa, hqr, hqa⟩
        · have : lockFree t = false :=
            lockFree_false_of_mem (by rw [ht]; exact mem_set_self _ hq)
          rw [this] at hl
          cases hl
        · have hl' : lockFree s = true := by
            apply List.all_eq_true.mpr
            intro r hr
            by_cases e : r = q
            · subst e
              simp [hqa rfl]
            · have : r ∈ t.ws := by
                rw [ht]
                exact mem_set_of_ne p hq hr e
              exact List.all_eq_true.mp hl r this
          rw [hnt, hfs] at hprem
          rcases inv.noLost hl' hprem with h | h
          · left
            rw [ht]
            exact mem_set_of_ne p hq h (fun e => hqr e.symm)
          · right
            rw [ht]
            exact forall_set h i h2
      | wait i ht hn hf =>
        rw [hnt, hn, hfs, hf] at hprem
        rcases hprem with h | h <;> cases h
      | exit i ht hf =>
        right
        rw [ht]
        exact broadcast_no_waiting _
  · intro hex
    obtain ⟨a, b⟩ := tExit (k1 hex)
    exact ⟨by rw [hfin']; exact a, k2 b⟩

end

theorem wake_reach {c : Cfg} {cd : Codec α σ} {input : List α} {s : State α σ}
    (h : Reach c cd input s) : WakeInv c s := by
  induction h with
  | init => exact wake_init c input
  | step l hr hs ih =>
    obtain ⟨sp, k, t, hc, he, _⟩ := step_inv hs
    have i1 := inv1_reach hr
    exact wake_core_ends ih i1.cons i1.sel (reader_reach hr) hc he

/-- when every thread has gone (what `primary_thread` sees after the joins; at
    least one worker), a worker has exited, which it does only when
    `can_terminate()` holds -/
theorem finished_of_isFinal {c : Cfg} {cd : Codec α σ} {input : List α} {s : State α σ}
    (hn : 1 ≤ c.n) (h : Reach c cd input s) (hfin : isFinal s = true) : finished c s = true := by
  have hall : s.ws.all (·.isExited) = true := by
    simp only [isFinal, Bool.and_eq_true] at hfin
    exact hfin.1.1.1
  have hlen := (inv1_reach h).cons.nWorkers
  cases hws : s.ws with
  | nil =>
    rw [hws] at hlen
    simp at hlen
    omega
  | cons p l =>
    have hp : p.isExited = true := List.all_eq_true.mp hall p (hws ▸ List.mem_cons_self)
    have : p = .exited := by cases p <;> simp [WPhase.isExited] at hp ⊢
    exact ((wake_reach h).exitFin (by rw [hws, this]; exact List.mem_cons_self)).1

end LbzVerif.Model.SchedC
