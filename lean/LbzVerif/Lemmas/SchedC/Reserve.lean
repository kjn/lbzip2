/-
  Lemmas.SchedC.Reserve — the reserve behind TRANSM_THRESH (both modes):
      `out_slots` + (buffers on their way to the writer) + (slot holders whose
      block is at or before `order`)  ≥  min(TRANSM_THRESH, total_out_slots);
    a block that is not the next one to be written takes an output slot only
    when more than TRANSM_THRESH are free.
-/
import LbzVerif.Lemmas.SchedC.Wake
import LbzVerif.Lemmas.SchedC.Order

namespace LbzVerif.Model.SchedC
open LbzVerif.Gen

variable {α σ : Type}

def atOrBefore (o : Pos) (w : WBlk σ) : Bool := !(o.lt w.pos)

/-- 1 for a transmitting worker whose block is at or before `o` -/
def t1Ind (o : Pos) : WPhase α σ → Nat
  | .t1 w => if atOrBefore o w then 1 else 0
  | _ => 0

/-- output slots that will come back without needing another slot -/
def slotsDue (s : State α σ) : Nat :=
  s.outputQ.length + optCount s.wr + wsum (t1Ind s.order) s.ws +
    s.reordQ.countP (atOrBefore s.order)

def Reserve (c : Cfg) (s : State α σ) : Prop :=
  min TRANSM_THRESH c.totalOut ≤ s.outSlots + slotsDue s

theorem atOrBefore_mono {o o' : Pos} (h : o.lt o' = true) (w : WBlk σ)
    (hw : atOrBefore o w = true) : atOrBefore o' w = true := by
  simp only [atOrBefore, Bool.not_eq_true'] at hw ⊢
  cases h' : o'.lt w.pos with
  | false => rfl
  | true =>
    have := Pos.lt_trans h h'
    rw [hw] at this
    cases this

theorem t1Ind_mono {o o' : Pos} (h : o.lt o' = true) (p : WPhase α σ) :
    t1Ind o p ≤ t1Ind o' p := by
  cases p with
  | t1 w =>
    simp only [t1Ind]
    cases hw : atOrBefore o w with
    | false => simp
    | true => simp [atOrBefore_mono h w hw]
  | _ => simp [t1Ind]

theorem reserve_init (c : Cfg) (input : List α) : Reserve c (init (σ := σ) c input) := by
  simp only [Reserve, init, initWith, reselect, slotsDue]
  omega

theorem Reserve.of_eq {c : Cfg} {s t : State α σ} (inv : Reserve c s)
    (ho : t.outSlots = s.outSlots) (hq : t.outputQ = s.outputQ) (hwr : t.wr = s.wr)
    (hord : t.order = s.order) (hr : t.reordQ = s.reordQ)
    (hw : wsum (t1Ind s.order) t.ws = wsum (t1Ind s.order) s.ws) : Reserve c t := by
  simp only [Reserve, slotsDue] at inv ⊢
  rw [ho, hq, hwr, hord, hr, hw]
  exact inv

theorem reserve_same {c : Cfg} {s t : State α σ} (h : Same s t) (inv : Reserve c s) :
    Reserve c t := by
  have e := h.wsum_eq (f := t1Ind s.order) (fun p => by cases p <;> rfl)
  rw [h.data]
  exact inv.of_eq rfl rfl rfl rfl rfl e

theorem reserve_core {c : Cfg} {cd : Codec α σ} {s t : State α σ} {sp : Bool} {k : EndKind}
    (h : Core c cd s sp k t) (inv : Reserve c s) (sel : SelInv c s) (oi : OrderInv s) :
    Reserve c t := by
  cases h with
  | rTake hr hi | rDeliver hr hi | rEmpty hr hi | rEof hr => exact inv
  | wTake b q hw hq =>
    simp only [Reserve, slotsDue, hw, hq, optCount, List.length_cons] at inv ⊢
    omega
  | wDone b hw =>
    simp only [Reserve, slotsDue, hw, optCount] at inv ⊢
    omega
  | idle h => exact reserve_same (.ofIdle h) inv
  | runTransmit i w q hw hn hq hos =>
    -- a block that is not at `order` takes a slot only above the threshold
    have e := wsum_set (t1Ind s.order) s.ws i (.t1 w) _ hw
    simp only [t1Ind] at e
    simp only [Reserve, slotsDue, setW] at inv ⊢
    cases hb : atOrBefore s.order w with
    | true =>
      simp only [hb, if_true] at e
      omega
    | false =>
      simp only [hb, Bool.false_eq_true, if_false] at e
      rcases ready_transmit sel hn hq with h | ⟨_, h⟩
      · omega
      · simp only [atOrBefore, h, Pos.lt_irrefl, Bool.not_false] at hb
        cases hb
  | runReorder i w q hw hn hq =>
    have hpos := ready_reorder sel hn hq
    have hok : s.order.lt w.next = true := by
      have := oi.qR w (hq ▸ List.mem_cons_self)
      rw [← hpos]
      exact this
    have hwb : atOrBefore s.order w = true := by
      simp only [atOrBefore, ← hpos, Pos.lt_irrefl, Bool.not_false]
    have m1 := wsum_mono (t1Ind_mono (α := α) (σ := σ) hok) s.ws
    have m2 : q.countP (atOrBefore s.order) ≤ q.countP (atOrBefore w.next) :=
      List.countP_mono_left (fun x _ hx => atOrBefore_mono hok x hx)
    simp only [Reserve, slotsDue] at inv ⊢
    simp only [hq, List.countP_cons, hwb, if_true] at inv
    simp only [List.length_append, List.length_cons, List.length_nil]
    omega
  | t1Enq i w hw =>
    have e := wsum_set (t1Ind s.order) s.ws i .atHead _ hw
    simp only [t1Ind] at e
    simp only [Reserve, slotsDue, setW, countP_insW] at inv ⊢
    omega
  -- the other sections move a worker between phases that hold no output slot
  | _ =>
    refine inv.of_eq rfl rfl rfl rfl rfl (wsum_set_same ‹_› ?_)
    rfl

theorem reserve_reach {c : Cfg} {cd : Codec α σ} {input : List α} {s : State α σ}
    (h : Reach c cd input s) : Reserve c s :=
  reach_ind (reserve_init c input)
    (fun hr ih hc => reserve_core hc ih (inv1_reach hr).sel (order_reach hr)) reserve_same h

end LbzVerif.Model.SchedC
