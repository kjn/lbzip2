/-
  Lemmas.SchedC.XIO — `xread` fills a chunk completely whatever the
  fragmentation of `read()`; hence the reader's chunk list is the canonical cut.
-/
import LbzVerif.Lemmas.SchedC.Canon

namespace LbzVerif.Model.SchedC

variable {α : Type}

theorem xread_eq (src : List α) (vacant : Nat) (frags : List Nat) :
    xread src vacant frags = (src.take vacant, src.drop vacant) := by
  induction frags generalizing src vacant with
  | nil => rfl
  | cons f fs ih =>
    simp only [xread]
    split
    · next h => subst h; simp
    · split
      · next h => subst h; simp
      · next hv hs =>
        have hr1 : min (max 1 f) (min vacant src.length) ≤ vacant := by omega
        rw [ih]
        generalize min (max 1 f) (min vacant src.length) = r at *
        have hv' : vacant = r + (vacant - r) := by omega
        refine Prod.ext ?_ ?_
        · show src.take r ++ (src.drop r).take (vacant - r) = src.take vacant
          conv => rhs; rw [hv']
          exact (List.take_add).symm
        · show (src.drop r).drop (vacant - r) = src.drop vacant
          rw [List.drop_drop]
          congr 1
          omega

theorem readChunks_eq (g : Nat) (hg : 0 < g) (frags : Nat → List Nat) (fuel id : Nat)
    (src : List α) (hf : src.length < fuel) :
    readChunks g frags fuel id src = cutChunks g id src := by
  induction fuel generalizing id src with
  | zero => omega
  | succ fuel ih =>
    simp only [readChunks, xread_eq]
    by_cases hs : src = []
    · subst hs
      simp [cutChunks_nil]
    · have htk : src.take g ≠ [] := fun h0 =>
        (List.take_eq_nil_iff.mp h0).elim (Nat.ne_of_gt hg) hs
      rw [if_neg htk, cutChunks_cons g id src hs hg]
      split
      · next hlt =>
        have : src.drop g = [] := by
          simp only [List.length_take] at hlt
          apply List.drop_eq_nil_of_le
          omega
        rw [this, cutChunks_nil]
      · next hlt =>
        have hpos : 0 < src.length := List.length_pos_iff.mpr hs
        rw [ih]
        simp only [List.length_drop]
        omega

end LbzVerif.Model.SchedC
