/-
  Lemmas.SchedC.Reader — the reader-side invariant: `eof` is set exactly when the reader
  thread (`source_thread_proc`) has finished, which it does only after the input is exhausted.
-/
import LbzVerif.Lemmas.SchedC.StepRel

namespace LbzVerif.Model.SchedC

variable {α σ : Type}

structure ReaderInv (s : State α σ) : Prop where
  eofDone : s.eof = true → s.rd = .done
  doneEof : s.rd = .done → s.eof = true
  noInput : s.rd = .eofPending ∨ s.rd = .done → s.input = []

theorem reader_init (c : Cfg) (input : List α) : ReaderInv (init (σ := σ) c input) :=
  ⟨nofun, nofun, nofun⟩

theorem ReaderInv.of_eq {s t : State α σ} (inv : ReaderInv s) (he : t.eof = s.eof)
    (hr : t.rd = s.rd) (hi : t.input = s.input) : ReaderInv t :=
  ⟨fun h => hr.trans (inv.eofDone (he ▸ h)), fun h => he.trans (inv.doneEof (hr ▸ h)),
    fun h => hi.trans (inv.noInput (hr ▸ h))⟩

theorem reader_same {s t : State α σ} (h : Same s t) (inv : ReaderInv s) : ReaderInv t := by
  rw [h.data]
  exact inv.of_eq rfl rfl rfl

theorem reader_core {c : Cfg} {cd : Codec α σ} {s t : State α σ} {sp : Bool} {k : EndKind}
    (h : Core c cd s sp k t) (inv : ReaderInv s) : ReaderInv t := by
  obtain ⟨i1, i3, i2⟩ := inv
  -- while the reader is at work `eof` is not set
  have noEof : ∀ {r : RPhase}, s.rd = r → r ≠ .done → ¬ s.eof = true :=
    fun hr hne h => hne (hr ▸ i1 h)
  cases h with
  | rTake hr hi =>
    refine ⟨fun h => absurd h (noEof hr nofun), nofun, fun h => ?_⟩
    simp at h
  | rDeliver hr hi =>
    refine ⟨fun h => absurd h (noEof hr nofun), fun h => ?_, fun h => ?_⟩
    · have h' : (if (s.input.take c.inGranul).length < c.inGranul then RPhase.eofPending
        else RPhase.idle) = .done := h
      split at h' <;> cases h'
    show s.input.drop c.inGranul = []
    by_cases hlt : (s.input.take c.inGranul).length < c.inGranul
    · simp only [List.length_take] at hlt
      apply List.drop_eq_nil_of_le
      omega
    · have h' : (if (s.input.take c.inGranul).length < c.inGranul then RPhase.eofPending
          else RPhase.idle) = .eofPending ∨ (if (s.input.take c.inGranul).length < c.inGranul
          then RPhase.eofPending else RPhase.idle) = .done := h
      rw [if_neg hlt] at h'
      rcases h' with h' | h' <;> cases h'
  | rEmpty hr hi => exact ⟨fun h => absurd h (noEof hr nofun), nofun, fun _ => hi⟩
  | rEof hr => exact ⟨fun _ => rfl, fun _ => rfl, fun _ => i2 (.inl hr)⟩
  -- the writer's and the workers' sections do not touch what the reader owns
  | idle h => exact reader_same (.ofIdle h) ⟨i1, i3, i2⟩
  | _ => exact ⟨i1, i3, i2⟩

theorem reader_reach {c : Cfg} {cd : Codec α σ} {input : List α} {s : State α σ}
    (h : Reach c cd input s) : ReaderInv s :=
  reach_ind (reader_init c input)
    (fun _ ih hc => reader_core hc ih) reader_same h

end LbzVerif.Model.SchedC
