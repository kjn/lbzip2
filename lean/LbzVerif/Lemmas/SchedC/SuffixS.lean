/-
  Lemmas.SchedC.SuffixS — SEQUENTIAL mode: the blocks `do_collect_seq` has
  still to make (from the pending encoder, the in_blk being collected,
  `coll_q` and the unread input), AS A LIST, are always a suffix of the
  canonical block list `seqBlocks none (cutChunks …)`; finishing a block
  removes the head of that suffix and hands it to the worker.  The prefix is,
  as a multiset, the finished blocks: handed over, queued or carried by a
  worker.  Hence every block already made precedes every block still to be
  made, and at termination everything was handed over.
-/
import LbzVerif.Lemmas.SchedC.ShapeS
import LbzVerif.Lemmas.SchedC.OutputN

namespace LbzVerif.Model.SchedC

variable {α σ : Type}

/-- in_blks still to be collected, in collection order -/
def pendQ (c : Cfg) (s : State α σ) : List (IBlk α) := s.collQ ++ future c s

/-- blocks the free token stands for -/
def remT (cd : Codec α σ) (Q : List (IBlk α)) : Bool → Option (WBlk σ) → List (WBlk σ)
  | true, unf => seqBlocks cd unf Q
  | false, _ => []

/-- delivering a chunk moves it from the unread input to the end of `coll_q`:
    the pending in_blks stay what they are -/
theorem pendQ_deliver {c : Cfg} {s : State α σ} (sh : ShapeS s) (hi : s.input ≠ [])
    (hg : 0 < c.inGranul) :
    insI ⟨⟨s.nextId, 0⟩, s.input.take c.inGranul⟩ s.collQ ++
      cutChunks c.inGranul (s.nextId + 1) (s.input.drop c.inGranul) = pendQ c s := by
  rw [sh.deliver_last, pendQ, future, cutChunks_cons _ _ _ hi hg]
  simp

/-- blocks the token holder still stands for -/
def remTok (cd : Codec α σ) (Q : List (IBlk α)) : WPhase α σ → List (WBlk σ)
  | .s1 wo (some ib) => seqBlocks cd wo (ib :: Q)
  | .s1 wo none => wo.toList
  | .s2 w true => w :: seqBlocks cd none Q
  | .s2 w false => seqBlocks cd (some w) Q
  | _ => []

/-- blocks the workers still stand for (only the holder of `collect_token` contributes) -/
def Rw (cd : Codec α σ) (Q : List (IBlk α)) (ws : List (WPhase α σ)) : List (WBlk σ) :=
  ws.flatMap (remTok cd Q)

/-- the blocks still to be made, in order -/
def Rl (c : Cfg) (cd : Codec α σ) (s : State α σ) : List (WBlk σ) :=
  Rw cd (pendQ c s) s.ws ++ remT cd (pendQ c s) s.collectToken s.unfinished

theorem remTok_tok0 (cd : Codec α σ) (Q : List (IBlk α)) {p : WPhase α σ} (h : p.tok = 0) :
    remTok cd Q p = [] := by
  cases p <;> simp [WPhase.tok] at h <;> rfl

theorem Rw_tok0 (cd : Codec α σ) (Q : List (IBlk α)) {ws : List (WPhase α σ)}
    (h : ∀ r ∈ ws, r.tok = 0) : Rw cd Q ws = [] :=
  List.flatMap_eq_nil_iff.mpr (fun r hr => remTok_tok0 cd Q (h r hr))

theorem flatMap_set {β γ : Type} (f : β → List γ) {l : List β} {i : Nat} {q : β}
    (h : l[i]? = some q) :
    ∃ A B, l.flatMap f = A ++ f q ++ B ∧ ∀ p, (l.set i p).flatMap f = A ++ f p ++ B := by
  induction l generalizing i with
  | nil => simp at h
  | cons a l ih =>
    cases i with
    | zero =>
      simp only [List.getElem?_cons_zero, Option.some.injEq] at h
      subst h
      exact ⟨[], l.flatMap f, rfl, fun p => rfl⟩
    | succ j =>
      obtain ⟨A, B, e1, e2⟩ := ih (i := j) h
      refine ⟨f a ++ A, B, ?_, fun p => ?_⟩
      · simp only [List.flatMap_cons, e1, List.append_assoc]
      · simp only [List.set_cons_succ, List.flatMap_cons, e2 p, List.append_assoc]

theorem Rw_set_same (cd : Codec α σ) (Q : List (IBlk α)) {ws : List (WPhase α σ)} {i : Nat}
    {q : WPhase α σ} (p : WPhase α σ) (h : ws[i]? = some q) (hq : q.tok = 0) (hp : p.tok = 0) :
    Rw cd Q (ws.set i p) = Rw cd Q ws := by
  obtain ⟨A, B, e1, e2⟩ := flatMap_set (remTok cd Q) h
  rw [Rw, Rw, e1, e2 p, remTok_tok0 cd Q hq, remTok_tok0 cd Q hp]

theorem Rw_holder (cd : Codec α σ) (Q : List (IBlk α)) {ws : List (WPhase α σ)} {i : Nat}
    {q : WPhase α σ} (h : ws[i]? = some q) (hz : ∀ r ∈ ws.set i .ready, r.tok = 0) :
    Rw cd Q ws = remTok cd Q q ∧ ∀ p, Rw cd Q (ws.set i p) = remTok cd Q p := by
  obtain ⟨A, B, e1, e2⟩ := flatMap_set (remTok cd Q) h
  have e0 := Rw_tok0 cd Q hz
  rw [Rw, e2 .ready] at e0
  obtain ⟨hA, hB⟩ : A = [] ∧ B = [] := by simpa [remTok] using e0
  subst hA hB
  simp only [Rw, e1, e2, List.nil_append, List.append_nil, implies_true, and_self]

open Classical

/-- how often `x` occurs among the finished blocks, wherever they are -/
noncomputable def made (x : WBlk σ) (s : State α σ) : Nat :=
  s.handed.count x + s.transQ.count x + s.reordQ.count x + wsum (fun p => p.carried.count x) s.ws

theorem made_move {s t : State α σ} {i : Nat} {q p : WPhase α σ} (hw : s.ws[i]? = some q)
    (hws : t.ws = s.ws.set i p) (x : WBlk σ) (d : Nat)
    (h : t.handed.count x + t.transQ.count x + t.reordQ.count x + p.carried.count x =
      s.handed.count x + s.transQ.count x + s.reordQ.count x + q.carried.count x + d) :
    made x t = made x s + d := by
  have e := wsum_set (fun p => p.carried.count x) s.ws i p q hw
  simp only [made, hws]
  omega

theorem rl_move {c : Cfg} {cd : Codec α σ} {s t : State α σ} {i : Nat} {q : WPhase α σ}
    (p : WPhase α σ) (hw : s.ws[i]? = some q) (hq : q.tok = 0) (hp : p.tok = 0)
    (e1 : t.ws = s.ws.set i p) (e2 : pendQ c t = pendQ c s)
    (e3 : t.collectToken = s.collectToken) (e4 : t.unfinished = s.unfinished) :
    Rl c cd t = Rl c cd s := by
  simp only [Rl, e1, e2, e3, e4, Rw_set_same cd _ p hw hq hp]

/-- a section leaves alone both the blocks still to be made and those made, or
    moves the head of the former to the latter -/
def FlightStep (c : Cfg) (cd : Codec α σ) (s t : State α σ) : Prop :=
  (Rl c cd t = Rl c cd s ∧ ∀ x, made x t = made x s) ∨
  ∃ w, Rl c cd s = w :: Rl c cd t ∧ ∀ x, made x t = made x s + [w].count x

theorem Same.rw_eq {s t : State α σ} (h : Same s t) (cd : Codec α σ) (Q : List (IBlk α)) :
    Rw cd Q t.ws = Rw cd Q s.ws := by
  have hs : ∀ p : WPhase α σ, remTok cd Q p.strip = remTok cd Q p := fun p => by cases p <;> rfl
  have e : ∀ ws : List (WPhase α σ), Rw cd Q ws = Rw cd Q (ws.map WPhase.strip) := fun ws => by
    simp only [Rw, List.flatMap_map, hs]
  rw [e, h.ws, ← e]

theorem same_flight {c : Cfg} {cd : Codec α σ} {s t : State α σ} (h : Same s t) :
    Rl c cd t = Rl c cd s ∧ ∀ x, made x t = made x s := by
  have hw := h.rw_eq cd
  have hm := fun x => h.wsum_eq (f := fun p => p.carried.count x) (fun p => by cases p <;> rfl)
  rw [h.data]
  exact ⟨by simp only [Rl, pendQ, future, hw], fun x => by simp only [made, hm]⟩

section
variable {c : Cfg} {cd : Codec α σ} {s t : State α σ} {sp : Bool} {k : EndKind}

theorem core_flightStep (ok : cd.OK) (hu : c.ultra = true) (hg : 0 < c.inGranul)
    (h : Core c cd s sp k t) (sh : ShapeS s) (cons : Conserved c s) (sel : SelInv c s)
    (rdi : ReaderInv s) : FlightStep c cd s t := by
  cases h with
  | rTake hr hi | rEmpty hr hi | rEof hr | wTake b q hw hq | wDone b hw =>
    exact .inl ⟨rfl, fun _ => rfl⟩
  | rDeliver hr hi =>
    refine .inl ⟨?_, fun _ => rfl⟩
    have hQ := pendQ_deliver sh hi hg
    simp only [Rl, pendQ, future] at hQ ⊢
    rw [hQ]
  | runReorder i w q hw hn hq =>
    refine .inl ⟨rfl, fun x => ?_⟩
    simp only [made, hq, List.count_append, List.count_cons, List.count_nil]
    omega
  | idle h => exact .inl (same_flight (.ofIdle h))
  | runCollect i ib q hw hn hq hwu => exact absurd (ready_collect sel hn).1 (by simp [hu])
  | runTransmit i w q hw hn hq hos =>
    refine .inl ⟨rl_move (.t1 w) hw rfl rfl rfl rfl rfl rfl, fun x => made_move hw rfl x 0 ?_⟩
    simp only [setW, hq, WPhase.carried, List.count_cons, List.count_nil]
    omega
  | c1Requeue i ib hw hl | c1Release i ib hw hl =>
    exact absurd rfl (sh.noC1 _ (List.mem_of_getElem? hw) ib)
  | c2Enq i w hw | t1Enq i w hw =>
    refine .inl ⟨rl_move .atHead hw rfl rfl rfl rfl rfl rfl, fun x => made_move hw rfl x 0 ?_⟩
    simp only [setW, WPhase.carried, count_insW, List.count_cons, List.count_nil]
    omega
  | runCollectSeq i hw hn hg' =>
    obtain ⟨_, htk, hrdy, _⟩ := ready_collectSeq sel hn
    have hz := cons.token_free htk
    have hz' : ∀ r ∈ s.ws.set i .ready, r.tok = 0 := forall_set hz i rfl
    refine .inl ⟨?_, fun x => made_move hw rfl x 0 (by rfl)⟩
    cases hq : s.collQ with
    | cons ib q =>
      simp only [Rl, setW, pendQ, future, hq, htk, List.tail_cons, List.head?_cons,
        List.cons_append, remT, List.append_nil]
      rw [(Rw_holder cd _ hw hz').2, Rw_tok0 cd _ hz]
      rfl
    | nil =>
      have heof : s.eof = true := by
        rcases hrdy with h' | h'
        · exact absurd hq h'
        · exact h'.1
      have hin : s.input = [] := rdi.noInput (.inr (rdi.eofDone heof))
      simp only [Rl, setW, pendQ, future, hq, htk, hin, cutChunks_nil, List.tail_nil,
        List.head?_nil, List.append_nil, remT, seqBlocks_nil]
      rw [(Rw_holder cd _ hw hz').2, Rw_tok0 cd _ hz]
      rfl
  | s1Requeue i wo ib hw hl =>
    have hz := cons.others_free hw rfl
    have htk := cons.tok_holder hw rfl
    have hfirst := sh.requeue_first hw
      (roundOut cd wo ib).2.1
    obtain ⟨hfull, hsb⟩ := seqBlocks_requeue cd ok wo ib (pendQ c s) hl
    refine .inl ⟨?_, fun x => made_move hw rfl x 0 (by rfl)⟩
    simp only [Rl, setW, pendQ, future, htk, hfirst, remT, List.append_nil, List.cons_append]
    rw [(Rw_holder cd _ hw hz).2, (Rw_holder cd _ hw hz).1]
    simp only [remTok, hfull]
    simp only [pendQ, future] at hsb
    rw [hsb]
  | s1Release i wo ib hw hl =>
    have hz := cons.others_free hw rfl
    have htk := cons.tok_holder hw rfl
    have hsb := seqBlocks_release cd wo ib (pendQ c s) hl
    refine .inl ⟨?_, fun x => made_move hw rfl x 0 (by rfl)⟩
    simp only [Rl, setW, pendQ, future, htk, remT, List.append_nil]
    rw [(Rw_holder cd _ hw hz).2, (Rw_holder cd _ hw hz).1]
    simp only [pendQ, future] at hsb
    simp only [remTok, hsb]
    cases (roundOut cd wo ib).2.2 <;> rfl
  | s1Flush i w hw =>
    have hz := cons.others_free hw rfl
    have htk := cons.tok_holder hw rfl
    have hunf := cons.unf htk
    obtain ⟨heof, hcq⟩ := sh.flush _ (List.mem_of_getElem? hw) (some w) rfl
    have hin : s.input = [] := rdi.noInput (.inr (rdi.eofDone heof))
    refine .inr ⟨w, ?_, fun x => made_move hw rfl x _ rfl⟩
    simp only [Rl, setW, pendQ, future, htk, hunf, hcq, hin, cutChunks_nil, remT, List.append_nil,
      seqBlocks_nil, Option.toList]
    rw [(Rw_holder cd _ hw hz).2, (Rw_holder cd _ hw hz).1]
    rfl
  | s2Full i w hw =>
    have hz := cons.others_free hw rfl
    have htk := cons.tok_holder hw rfl
    have hunf := cons.unf htk
    refine .inr ⟨w, ?_, fun x => made_move hw rfl x _ rfl⟩
    simp only [Rl, setW, pendQ, future, htk, hunf, remT, List.append_nil]
    rw [(Rw_holder cd _ hw hz).2, (Rw_holder cd _ hw hz).1]
    rfl
  | s2Part i w hw =>
    have hz := cons.others_free hw rfl
    have htk := cons.tok_holder hw rfl
    refine .inl ⟨?_, fun x => made_move hw rfl x 0 (by rfl)⟩
    simp only [Rl, setW, pendQ, future, htk, remT, List.append_nil]
    rw [(Rw_holder cd _ hw hz).2, (Rw_holder cd _ hw hz).1]
    rfl

end

/-- the canonical block list is the blocks made so far, in the order they were
    made, followed by those still to be made -/
def Flight (c : Cfg) (cd : Codec α σ) (input : List α) (s : State α σ) : Prop :=
  ∃ P, canon c cd input = P ++ Rl c cd s ∧ ∀ x, P.count x = made x s

theorem flight_reach {c : Cfg} {cd : Codec α σ} {input : List α} {s : State α σ}
    (ok : cd.OK) (hu : c.ultra = true) (hg : 0 < c.inGranul) (h : Reach c cd input s) :
    Flight c cd input s := by
  refine reach_ind ?_ (fun hr ih hc => ?_) (fun hs ih => ?_) h
  · refine ⟨[], ?_, fun x => ?_⟩
    · have hw : Rw cd (pendQ c (init (σ := σ) c input)) (init (σ := σ) c input).ws = [] :=
        Rw_tok0 cd _ (init_forall c input rfl)
      simp only [Rl, hw, List.nil_append]
      simp only [init, initWith, reselect, pendQ, future, canon, hu, if_true, remT, List.nil_append]
    · rw [made, wsum_init (f := fun p : WPhase α σ => p.carried.count x) c input rfl]
      rfl
  · have i1 := inv1_reach hr
    obtain ⟨P, hP, hm⟩ := ih
    rcases core_flightStep ok hu hg hc (shapeS_reach hu hr) i1.cons i1.sel (reader_reach hr)
      with ⟨e, m⟩ | ⟨w, e, m⟩
    · exact ⟨P, by rw [e]; exact hP, fun x => by rw [m, hm]⟩
    · exact ⟨P ++ [w], by rw [hP, e]; simp, fun x => by rw [m, List.count_append, hm]⟩
  · obtain ⟨e1, e2⟩ := same_flight (c := c) (cd := cd) hs
    rw [Flight, e1]
    simp only [e2]
    exact ih

end LbzVerif.Model.SchedC
