/-
  Lemmas.SchedC.Restore — a finished run has put everything back: what `can_terminate()`
  implies under the conservation laws.
-/
import LbzVerif.Lemmas.SchedC.Conserve
import LbzVerif.Lemmas.SchedC.Reader

namespace LbzVerif.Model.SchedC
open LbzVerif.Gen

variable {α σ : Type}

/-- everything is back where `init()` put it, and no worker is inside a task -/
structure Restored (c : Cfg) (s : State α σ) : Prop where
  token : s.collectToken = true
  unf : s.unfinished = none
  collQ : s.collQ = []
  transQ : s.transQ = []
  reordQ : s.reordQ = []
  outputQ : s.outputQ = []
  wr : s.wr = none
  units : s.workUnits = c.n
  outSlots : s.outSlots = c.totalOut
  inSlots : s.inSlots = c.totalIn
  eof : s.eof = true
  rd : s.rd = .done
  input : s.input = []
  nextTask : s.nextTask = none
  idle : ∀ p ∈ s.ws, p.units = 0

variable {c : Cfg} {cd : Codec α σ} {input : List α} {s : State α σ}

theorem restores_of_finished (inv : Conserved c s)
    (sel : SelInv c s) (rdi : ReaderInv s) (hf : finished c s = true) : Restored c s := by
  have ⟨i1, i2, i3, i4, i5, i6⟩ := inv
  simp only [finished, cCanTerminate, view, Bool.and_eq_true,
    List.isEmpty_iff] at hf
  obtain ⟨⟨⟨heof, hcoll⟩, hwu⟩, hos⟩ := hf
  have hwu := of_decide_eq_true hwu
  have hos := of_decide_eq_true hos
  simp only [unitHolders, slotHolders, chunkHolders] at i2 i3 i4
  have htok := wsum_mono (fun p => (tok_chunks_le_units p).1) s.ws
  have hch := wsum_mono (fun p => (tok_chunks_le_units p).2) s.ws
  simp only [wsum] at htok hch
  have hrd := rdi.eofDone heof
  have hunf : s.unfinished = none := optCount_eq_zero (by omega)
  have htr : s.transQ = [] := List.eq_nil_of_length_eq_zero (by omega)
  have hre : s.reordQ = [] := List.eq_nil_of_length_eq_zero (by omega)
  have htk : s.collectToken = true := inv.token_of_free (by omega)
  refine ⟨htk, hunf, hcoll, htr, hre, List.eq_nil_of_length_eq_zero (by omega),
    optCount_eq_zero (by omega), hwu, hos, ?_, heof, hrd, rdi.noInput (.inr hrd), ?_, ?_⟩
  · rw [hrd, hcoll] at i4
    simp [RPhase.chunks] at i4
    omega
  · rw [sel]
    simp [selectTask, taskOrder_eq, Task.ready, cCanCollectSeq, cCanReorder, cCanTransmit,
      cCanCollect, view, hcoll, htr, hre, hunf]
  · intro p hp
    have := Lemmas.ListSum.mem_le_sum_map WPhase.units hp
    omega

theorem restored_reach (h : Reach c cd input s) (hf : finished c s = true) : Restored c s :=
  restores_of_finished (inv1_reach h).cons (inv1_reach h).sel (reader_reach h) hf

end LbzVerif.Model.SchedC
