/-
  Lemmas.SchedC.Pos — `Pos.lt` (`pos_lt`) is the lexicographic order on (major, minor);
  `Pos.le` is its reflexive closure.
-/
import LbzVerif.Model.SchedC

namespace LbzVerif.Model.SchedC

theorem Pos.lt_iff {p q : Pos} :
    p.lt q = true ↔ p.major < q.major ∨ p.major = q.major ∧ p.minor < q.minor := by
  simp only [Pos.lt, Bool.or_eq_true, Bool.and_eq_true, decide_eq_true_eq]

theorem Pos.lt_false_iff {p q : Pos} :
    p.lt q = false ↔ ¬ (p.major < q.major ∨ p.major = q.major ∧ p.minor < q.minor) := by
  rw [← Pos.lt_iff, Bool.not_eq_true]

theorem Pos.lt_of_major {p q : Pos} (h : p.major < q.major) : p.lt q = true :=
  Pos.lt_iff.mpr (.inl h)

theorem Pos.lt_incMinor (p : Pos) : p.lt p.incMinor = true := by
  rw [Pos.lt_iff]
  exact .inr ⟨rfl, Nat.lt_succ_self _⟩

theorem Pos.lt_incMajor (p : Pos) : p.lt p.incMajor = true := by
  rw [Pos.lt_iff]
  exact .inl (Nat.lt_succ_self _)

theorem Pos.lt_trans {p q r : Pos} (h : p.lt q = true) (h2 : q.lt r = true) : p.lt r = true := by
  rw [Pos.lt_iff] at h h2 ⊢
  omega

theorem Pos.lt_irrefl (p : Pos) : p.lt p = false := by
  rw [Pos.lt_false_iff]
  omega

theorem Pos.lt_asymm {p q : Pos} (h : p.lt q = true) : q.lt p = false := by
  cases hq : q.lt p with
  | false => rfl
  | true =>
    have := Pos.lt_trans h hq
    rw [Pos.lt_irrefl] at this
    cases this

def Pos.le (p q : Pos) : Prop := p = q ∨ p.lt q = true

theorem Pos.le_refl (p : Pos) : p.le p := .inl rfl

theorem Pos.lt_of_lt_of_le {p q r : Pos} (h : p.lt q = true) (h2 : q.le r) : p.lt r = true := by
  rcases h2 with rfl | h2
  · exact h
  · exact Pos.lt_trans h h2

theorem Pos.le_trans {p q r : Pos} (h : p.le q) (h2 : q.le r) : p.le r := by
  rcases h with rfl | h
  · exact h2
  · exact .inr (Pos.lt_of_lt_of_le h h2)

theorem Pos.le_of_not_lt {p q : Pos} (h : q.lt p = false) : p.le q := by
  cases p
  cases q
  simp only [Pos.lt_false_iff] at h
  simp only [Pos.le, Pos.lt_iff, Pos.mk.injEq]
  omega

theorem Pos.not_lt_of_le {p q : Pos} (h : p.le q) : q.lt p = false := by
  rcases h with rfl | h
  · exact Pos.lt_irrefl _
  · exact Pos.lt_asymm h

theorem Pos.le_antisymm {p q : Pos} (h1 : p.le q) (h2 : q.le p) : p = q := by
  rcases h1 with e | h1
  · exact e
  · have := Pos.not_lt_of_le h2
    rw [h1] at this
    cases this

end LbzVerif.Model.SchedC
