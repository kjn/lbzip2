/-
  Lemmas.SchedC.CanonSplit — in every reachable state what has been handed to the sink is a
  PREFIX of the canonical block list (`canon_split`), and the blocks in flight or still to
  be made are (as a multiset) the remaining suffix, a chain starting at `order`; when
  `can_terminate()` holds that suffix is empty, so the output is the canonical list (both
  modes).
-/
import LbzVerif.Lemmas.SchedC.SuffixS
import LbzVerif.Lemmas.SchedC.Restore
import LbzVerif.Lemmas.SchedC.Order

namespace LbzVerif.Model.SchedC

variable {α σ : Type}

open Classical

theorem eq_nil_of_count {β : Type} [BEq β] [LawfulBEq β] {l : List β}
    (h : ∀ x, l.count x = 0) : l = [] :=
  List.eq_nil_iff_forall_not_mem.mpr (fun x => List.count_eq_zero.mp (h x))

/-- how often `x` occurs among the blocks that exist or are still to be made and are neither
    handed over nor queued in `trans_q` / `reord_q` -/
noncomputable def other (c : Cfg) (cd : Codec α σ) (s : State α σ) (x : WBlk σ) : Nat :=
  if c.ultra then wsum (fun p => p.carried.count x) s.ws + (Rl c cd s).count x
  else wsum (fun p => (WPhase.blocks cd p).count x) s.ws + (s.collQ.flatMap (cb cd)).count x +
    ((future c s).flatMap (cb cd)).count x

section
variable {c : Cfg} {cd : Codec α σ} {input : List α} {s : State α σ}

/-- both modes: every block of the canonical list is in exactly one place -/
theorem out_count (ok : cd.OK) (hg : 0 < c.inGranul) (h : Reach c cd input s) (x : WBlk σ) :
    s.handed.count x + (s.transQ.count x + s.reordQ.count x + other c cd s x) =
      (canon c cd input).count x := by
  unfold other
  cases hu : c.ultra with
  | false =>
    have := outN_reach ok hu hg h x
    simp only [Bool.false_eq_true, if_false]
    omega
  | true =>
    obtain ⟨P, hP, hm⟩ := flight_reach ok hu hg h
    simp only [if_true]
    rw [hP, List.count_append, hm x, made]
    omega

theorem canon_split (ok : cd.OK) (hg : 0 < c.inGranul) (h : Reach c cd input s) :
    ∃ rest e, canon c cd input = s.handed ++ rest ∧ Chain s.order rest e ∧
      ∀ x, rest.count x = s.transQ.count x + s.reordQ.count x + other c cd s x := by
  obtain ⟨e, hcan⟩ := canon_chain c cd ok input
  obtain ⟨rest, hr, hch⟩ := chain_prefix hcan (order_reach h).chain (by
    intro x hx
    have := List.count_pos_iff.mpr hx
    have := out_count ok hg h x
    exact List.count_pos_iff.mp (by omega))
  refine ⟨rest, e, hr, hch, fun x => ?_⟩
  have := out_count ok hg h x
  rw [hr, List.count_append] at this
  omega

theorem other_finished (h : Reach c cd input s) (hf : finished c s = true) (x : WBlk σ) :
    s.transQ.count x + s.reordQ.count x + other c cd s x = 0 := by
  have cons := (inv1_reach h).cons
  have r := restored_reach h hf
  unfold other
  split
  · have hRl : Rl c cd s = [] := by
      simp only [Rl, Rw_tok0 cd _ (cons.token_free r.token), r.token, r.unf, remT, pendQ, future,
        r.collQ, r.input, cutChunks_nil, List.append_nil, seqBlocks_nil, Option.toList]
    have zc : wsum (fun p => p.carried.count x) s.ws = 0 :=
      wsum_eq_zero (fun p hp => by rw [carried_of_units (r.idle p hp)]; rfl)
    simp only [r.transQ, r.reordQ, hRl, List.count_nil, zc]
  · have zw : wsum (fun p => (WPhase.blocks cd p).count x) s.ws = 0 :=
      wsum_eq_zero (fun p hp => by rw [blocks_of_units cd (r.idle p hp)]; rfl)
    simp only [r.transQ, r.reordQ, r.collQ, future, r.input, cutChunks_nil, List.flatMap_nil,
      List.count_nil, zw]

theorem handed_eq_canon (ok : cd.OK) (hg : 0 < c.inGranul) (h : Reach c cd input s)
    (hf : finished c s = true) : s.handed = canon c cd input := by
  obtain ⟨rest, e, hr, -, hc⟩ := canon_split ok hg h
  rw [hr, eq_nil_of_count fun x => (hc x).trans (other_finished h hf x), List.append_nil]

end

end LbzVerif.Model.SchedC
