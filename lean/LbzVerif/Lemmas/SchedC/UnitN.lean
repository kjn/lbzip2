/-
  Lemmas.SchedC.UnitN — NON-sequential mode: a work unit is always available
  for the minimal `coll_q` entry, in the following sense: for every in_blk in
  `coll_q`, the unit holders whose block lies strictly AFTER it number at most
  `num_worker - 1`.  (An in_blk is dequeued only when it is minimal, and the
  worker that re-queues the rest of an in_blk holds a unit for a block before
  it.)  Plus: `coll_q` is sorted, everything in flight is older than the next
  chunk to be read, `unfinished_work` stays NULL.
-/
import LbzVerif.Lemmas.SchedC.Order
import LbzVerif.Lemmas.SchedC.OutputN

namespace LbzVerif.Model.SchedC

variable {α σ : Type}

/-- 1 for a unit holder whose block is strictly after `p` -/
def hInd (p : Pos) (ph : WPhase α σ) : Nat :=
  match WPhase.holdPos ph with
  | some q => if p.lt q then 1 else 0
  | none => 0

/-- unit holders strictly after `p` -/
def cntHold (s : State α σ) (p : Pos) : Nat :=
  s.transQ.countP (fun w => p.lt w.pos) + wsum (hInd p) s.ws

theorem hInd_le_units (p : Pos) (ph : WPhase α σ) : hInd p ph ≤ ph.units := by
  cases ph <;> simp [hInd, WPhase.holdPos, WPhase.units] <;> split <;> omega

/-- a unit holder that is not counted leaves room -/
theorem hold_room {ws : List (WPhase α σ)} {i : Nat} {q : WPhase α σ} (p : Pos)
    (h : ws[i]? = some q) (h0 : hInd p q = 0) (h1 : q.units = 1) :
    wsum (hInd p) ws + 1 ≤ wsum WPhase.units ws := by
  have e1 := wsum_set (hInd p) ws i .ready q h
  have e2 := wsum_set WPhase.units ws i .ready q h
  have m := wsum_mono (hInd_le_units (α := α) (σ := σ) p) (ws.set i .ready)
  have r1 : hInd p (WPhase.ready : WPhase α σ) = 0 := rfl
  have r2 : (WPhase.ready : WPhase α σ).units = 0 := rfl
  rw [h0, r1] at e1
  rw [h1, r2] at e2
  omega

structure NInv (c : Cfg) (s : State α σ) : Prop where
  asc : ascI s.collQ
  qLt : ∀ ib ∈ s.collQ, ib.pos.major < s.nextId
  tLt : ∀ w ∈ s.transQ, w.pos.major < s.nextId
  hLt : ∀ p ∈ s.ws, ∀ q, WPhase.holdPos p = some q → q.major < s.nextId
  unf : s.unfinished = none
  unit : ∀ ib ∈ s.collQ, cntHold s ib.pos + 1 ≤ c.n

theorem nInv_init (c : Cfg) (input : List α) : NInv c (init (σ := σ) c input) :=
  ⟨List.Pairwise.nil, nofun, nofun, init_forall c input (held_none rfl), rfl, nofun⟩

theorem nInv_same {c : Cfg} {s t : State α σ} (h : Same s t) (inv : NInv c s) : NInv c t := by
  rw [h.data]
  refine ⟨inv.asc, inv.qLt, inv.tLt, h.forall (fun p => by cases p <;> exact Iff.rfl) inv.hLt,
    inv.unf, fun ib hib => ?_⟩
  have := inv.unit ib hib
  simp only [cntHold] at this ⊢
  rw [h.wsum_eq (f := hInd ib.pos) (fun p => by cases p <;> rfl)]
  exact this

theorem cntHold_fresh {s : State α σ} (tLt : ∀ w ∈ s.transQ, w.pos.major < s.nextId)
    (hLt : ∀ p ∈ s.ws, ∀ q, WPhase.holdPos p = some q → q.major < s.nextId) :
    cntHold s ⟨s.nextId, 0⟩ = 0 := by
  have h1 : s.transQ.countP (fun w => (⟨s.nextId, 0⟩ : Pos).lt w.pos) = 0 := by
    apply List.countP_eq_zero.mpr
    intro w hw
    rw [Bool.not_eq_true]
    exact Pos.lt_asymm (Pos.lt_of_major (tLt w hw))
  have h2 : wsum (hInd ⟨s.nextId, 0⟩) s.ws = 0 := by
    refine wsum_eq_zero (fun p hp => ?_)
    simp only [hInd]
    cases hh : WPhase.holdPos p with
    | none => rfl
    | some q =>
      have hn : (⟨s.nextId, 0⟩ : Pos).lt q = false :=
        Pos.lt_asymm (Pos.lt_of_major (hLt p hp q hh))
      simp only [hn, Bool.false_eq_true, if_false]
  simp only [cntHold, h1, h2]

section
variable {c : Cfg} {cd : Codec α σ} {s t : State α σ} {sp : Bool} {k : EndKind}

theorem unit_move {i n : Nat} {q p : WPhase α σ} {x : Pos} (hw : s.ws[i]? = some q)
    (hws : t.ws = s.ws.set i p) (inv : cntHold s x + 1 ≤ n)
    (h : t.transQ.countP (fun w => x.lt w.pos) + hInd x p ≤
      s.transQ.countP (fun w => x.lt w.pos) + hInd x q) : cntHold t x + 1 ≤ n := by
  have e := wsum_set (hInd x) s.ws i p q hw
  simp only [cntHold, hws] at inv ⊢
  omega

/-- `cons` is the conservation law of the POST-state `t`: `c1Requeue` counts the unit holders
    after the move. -/
theorem nInv_core (hu : c.ultra = false) (hn : 1 ≤ c.n) (h : Core c cd s sp k t)
    (inv : NInv c s) (noSeq : ∀ p ∈ s.ws, p.tok = 0) (cons : Conserved c t) (sel : SelInv c s) :
    NInv c t := by
  have ⟨i1, i2, i3, i4, i5, i6⟩ := inv
  cases h with
  | rTake hr hi => exact ⟨i1, i2, i3, i4, i5, i6⟩
  | rDeliver hr hi =>
    refine ⟨insI_asc _ _ i1, ?_, ?_, ?_, i5, ?_⟩
    · exact forall_insI (P := fun ib => ib.pos.major < s.nextId + 1) (Nat.lt_succ_self _)
        (fun ib h => Nat.lt_succ_of_lt (i2 ib h))
    · intro w hw
      have := i3 w hw
      show _ < s.nextId + 1
      omega
    · intro p hp q hq
      have := i4 p hp q hq
      show _ < s.nextId + 1
      omega
    · intro ib hib
      rcases mem_insI.mp hib with rfl | h
      · have := cntHold_fresh i3 i4
        simp only [cntHold] at this ⊢
        omega
      · exact i6 ib h
  | rEmpty hr hi | rEof hr | wTake b q hw hq | wDone b hw | runReorder i w q hw hn' hq =>
    exact ⟨i1, i2, i3, i4, i5, i6⟩
  | idle h => exact nInv_same (.ofIdle h) inv
  | runCollect i ib q hw hn' hq hwu =>
    rw [hq] at i1 i2 i6
    obtain ⟨ha, hb⟩ := List.pairwise_cons.mp i1
    refine ⟨hb, fun x hx => i2 x (List.mem_cons_of_mem _ hx), i3, ?_, i5, ?_⟩
    · exact forall_set i4 i (held_some rfl (i2 ib List.mem_cons_self))
    · intro x hx
      refine unit_move hw rfl (i6 x (List.mem_cons_of_mem _ hx)) ?_
      simp only [setW, hInd, WPhase.holdPos, ha x hx, Bool.false_eq_true, if_false]
      omega
  | runCollectSeq i hw hn' hg' => exact absurd (ready_collectSeq sel hn').1 (by simp [hu])
  | runTransmit i w q hw hn' hq hos =>
    rw [hq] at i3
    refine ⟨i1, i2, fun x hx => i3 x (List.mem_cons_of_mem _ hx), ?_, i5, ?_⟩
    · exact forall_set i4 i (held_some rfl (i3 w List.mem_cons_self))
    · intro x hx
      refine unit_move hw rfl (i6 x hx) ?_
      simp only [setW, hq, List.countP_cons, hInd, WPhase.holdPos]
      omega
  | c1Requeue i ib hw hl =>
    have hibLt : ib.pos.major < s.nextId := i4 _ (List.mem_of_getElem? hw) ib.pos rfl
    refine ⟨insI_asc _ _ i1, ?_, i3, ?_, i5, ?_⟩
    · exact forall_insI hibLt i2
    · exact forall_set i4 i (held_some rfl hibLt)
    · intro x hx
      rcases mem_insI.mp hx with rfl | h
      · -- the re-queued rest: the re-queuing worker holds a unit for an earlier block
        have hget : (s.ws.set i (WPhase.c2 ⟨ib.pos, ib.pos.incMinor,
            (collectOn cd cd.init ib.data).1⟩))[i]? =
            some (WPhase.c2 ⟨ib.pos, ib.pos.incMinor, (collectOn cd cd.init ib.data).1⟩) := by
          simp [(List.getElem?_eq_some_iff.mp hw).1]
        have room := hold_room ib.pos.incMinor hget
          (by simp only [hInd, WPhase.holdPos, Pos.lt_asymm (Pos.lt_incMinor ib.pos), Bool.false_eq_true,
                if_false]) rfl
        have hu' := cons.units
        have hcp : s.transQ.countP (fun w => ib.pos.incMinor.lt w.pos) ≤ s.transQ.length :=
          List.countP_le_length
        simp only [unitHolders, setW] at hu'
        simp only [wsum] at room
        simp only [cntHold, setW, wsum]
        omega
      · exact unit_move hw rfl (i6 x h) (Nat.le_refl _)
  | c1Release i ib hw hl =>
    have hibLt : ib.pos.major < s.nextId := i4 _ (List.mem_of_getElem? hw) ib.pos rfl
    refine ⟨i1, i2, i3, ?_, i5, ?_⟩
    · exact forall_set i4 i (held_some rfl hibLt)
    · exact fun x hx => unit_move hw rfl (i6 x hx) (Nat.le_refl _)
  | c2Enq i w hw =>
    have hwLt : w.pos.major < s.nextId := i4 _ (List.mem_of_getElem? hw) w.pos rfl
    refine ⟨i1, i2, ?_, forall_set i4 i (held_none rfl), i5, ?_⟩
    · exact forall_insW hwLt i3
    · intro x hx
      refine unit_move hw rfl (i6 x hx) ?_
      simp only [setW, hInd, WPhase.holdPos, countP_insW]
      omega
  | t1Enq i w hw =>
    refine ⟨i1, i2, i3, forall_set i4 i (held_none rfl), i5, ?_⟩
    exact fun x hx => unit_move hw rfl (i6 x hx) (Nat.le_add_right _ _)
  -- the sections of `do_collect_seq`: no worker is in one of its phases
  | _ => exact absurd (noSeq _ (List.mem_of_getElem? ‹_›)) (by simp [WPhase.tok])

end

theorem nInv_reach {c : Cfg} {cd : Codec α σ} {input : List α} {s : State α σ}
    (hu : c.ultra = false) (hn : 1 ≤ c.n) (h : Reach c cd input s) : NInv c s :=
  reach_ind (nInv_init c input)
    (fun hr ih hc => nInv_core hu hn hc ih (noSeq_reach hu hr)
      (conserved_core hc (inv1_reach hr).cons (inv1_reach hr).sel) (inv1_reach hr).sel) nInv_same h

end LbzVerif.Model.SchedC
