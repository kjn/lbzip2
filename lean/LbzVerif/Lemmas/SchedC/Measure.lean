/-
  Lemmas.SchedC.Measure — a termination measure for the compression scheduler.

  `mu s = (live s, 3 * work s + phase s)` ordered lexicographically:
    * `live`  = number of workers that have not exited;
    * `work`  = an upper bound on the sections (atomic transitions of reader,
                writer and of workers inside tasks) still to be executed: every
                byte of input, every in_blk, every work_blk is weighted by the
                pipeline stages it still has to pass;
    * `phase` = what the workers outside tasks still do on their own
                (`ready` → take the mutex → look at `next_task` → `xwait`).
  EVERY transition except a spurious wake-up strictly decreases `mu`
  (`step_measure`); a spurious wake-up leaves `live` and `work` alone and adds 2
  to `phase` (`Props.C11.Compress.spurious_cost`).  Hypotheses: the collector facts `Codec.OK`, a positive chunk
  size, and `next_task = select_task()` (holds in reachable states).
-/
import LbzVerif.Lemmas.SchedC.Wake
import LbzVerif.Lemmas.SchedC.Canon

namespace LbzVerif.Model.SchedC

variable {α σ : Type}

-- An item weighs one more than what the next section turns it into: `wr` 1, `output_q` entry 2,
-- `reord_q` 3, `t1` 4, `trans_q` 5, `c2` 6.  A collector may cut a block off after one byte, so
-- an in_blk pays 12 per byte, and an unread byte 28 (a chunk of g ≥ 1 bytes enters `coll_q`
-- with 12·g + 13).
def ibPot (ib : IBlk α) : Nat := 12 * ib.data.length + 12
/-- an in_blk in `coll_q`: one more (it still has to be dequeued) -/
def ibQ (ib : IBlk α) : Nat := ibPot ib + 1

def rdPot : RPhase → Nat
  | .idle => 3
  | .hold => 2
  | .eofPending => 1
  | .done => 0

/-- sections still to be executed for what a worker carries -/
def taskPot : WPhase α σ → Nat
  | .c1 ib => ibPot ib
  | .c2 _ => 6
  | .t1 _ => 4
  | .s1 wo ibo => 9 * optCount wo + (match ibo with | some ib => ibPot ib | none => 0)
  | .s2 _ true => 7
  | .s2 _ false => 11
  | _ => 0

def phasePot : WPhase α σ → Nat
  | .ready => 2
  | .atHead => 1
  | _ => 0

def liveW : WPhase α σ → Nat
  | .exited => 0
  | _ => 1

def work (s : State α σ) : Nat :=
  28 * s.input.length + rdPot s.rd + (s.collQ.map ibQ).sum + 5 * s.transQ.length +
    3 * s.reordQ.length + 2 * s.outputQ.length + optCount s.wr + 10 * optCount s.unfinished +
    wsum taskPot s.ws

def live (s : State α σ) : Nat := wsum liveW s.ws
def phase (s : State α σ) : Nat := wsum phasePot s.ws
def phi (s : State α σ) : Nat := 3 * work s + phase s

def mu (s : State α σ) : Nat × Nat := (live s, phi s)

/-- what the epilogue of a section may still add to `phi`, plus the 1 of the strict decrease:
    `sched_unlock` may make one waiter `ready` (2 in `phase`) -/
def kcost : EndKind → Nat
  | .unlock => 3
  | _ => 1

theorem wsum3 {ws : List (WPhase α σ)} {i : Nat} {q : WPhase α σ} (p : WPhase α σ)
    (h : ws[i]? = some q) :
    wsum taskPot (ws.set i p) + taskPot q = wsum taskPot ws + taskPot p ∧
    wsum phasePot (ws.set i p) + phasePot q = wsum phasePot ws + phasePot p ∧
    wsum liveW (ws.set i p) + liveW q = wsum liveW ws + liveW p :=
  ⟨wsum_set _ ws i p q h, wsum_set _ ws i p q h, wsum_set _ ws i p q h⟩

theorem phase_wake {ws ws' : List (WPhase α σ)} (h : Wake ws ws') :
    wsum phasePot ws' ≤ wsum phasePot ws + 2 := by
  rcases h with rfl | ⟨k, hk, rfl⟩
  · omega
  · have := wsum_set phasePot ws k .ready .waiting hk
    simp only [phasePot] at this
    omega

theorem ends_measure {c : Cfg} {k : EndKind} {t s' : State α σ} (h : Ends c k t s') :
    live s' = live t ∧ phi s' + 1 ≤ 3 * work t + phase t + kcost k := by
  cases h with
  | unlock hw =>
    have h1 := wsum_wake (f := liveW) rfl hw.wake
    have h2 := wsum_wake (f := taskPot) rfl hw.wake
    have h3 := phase_wake hw.wake
    simp only [live, phi, work, phase, kcost] at *
    refine ⟨h1, ?_⟩
    omega
  | resel => exact ⟨rfl, by simp only [phi, reselect, work, phase, kcost]; omega⟩
  | plain => exact ⟨rfl, by simp only [phi, kcost]; omega⟩

section
variable {c : Cfg} {cd : Codec α σ} {s t : State α σ} {sp : Bool} {k : EndKind}

theorem sum_tail_head (f : IBlk α → Nat) (l : List (IBlk α)) :
    (l.tail.map f).sum + (match l.head? with | some ib => f ib | none => 0) = (l.map f).sum := by
  cases l <;> exact osum_head f _

/-- `work` without the workers' share -/
def dataPot (s : State α σ) : Nat :=
  28 * s.input.length + rdPot s.rd + (s.collQ.map ibQ).sum + 5 * s.transQ.length +
    3 * s.reordQ.length + 2 * s.outputQ.length + optCount s.wr + 10 * optCount s.unfinished

theorem work_eq (u : State α σ) : work u = dataPot u + wsum taskPot u.ws := rfl

/-- worker `i` goes from phase `q` to `p` and stays alive: only its own
    potentials and the data part of `work` enter the comparison -/
theorem measure_move {i : Nat} {q p : WPhase α σ} {kc : Nat} (hw : s.ws[i]? = some q)
    (hws : t.ws = s.ws.set i p) (hl : liveW p = liveW q)
    (h : 3 * (dataPot t + taskPot p) + phasePot p + kc ≤
      3 * (dataPot s + taskPot q) + phasePot q) :
    live t = live s ∧ 3 * work t + phase t + kc ≤ 3 * work s + phase s := by
  obtain ⟨e1, e2, e3⟩ := wsum3 p hw
  simp only [live, phase, work_eq, hws]
  omega

/-- reader, writer and reorder sections leave the workers alone: only the data
    part of `work` enters the comparison -/
theorem measure_data {kc : Nat} (hws : t.ws = s.ws) (h : 3 * dataPot t + kc ≤ 3 * dataPot s) :
    live t = live s ∧ 3 * work t + phase t + kc ≤ 3 * work s + phase s := by
  refine ⟨by rw [live, hws, live], ?_⟩
  rw [work_eq, work_eq, phase, phase, hws]
  omega

theorem core_measure (ok : cd.OK) (hg : 0 < c.inGranul) (sel : SelInv c s)
    (h : Core c cd s false k t) :
    live t < live s ∨
    (live t = live s ∧ 3 * work t + phase t + kcost k ≤ 3 * work s + phase s) := by
  cases h with
  | rTake hr hi | rEmpty hr hi | rEof hr =>
    refine .inr (measure_data rfl ?_)
    simp only [dataPot, kcost, hr, rdPot]
    omega
  | rDeliver hr hi =>
    refine .inr (measure_data rfl ?_)
    have hpos : 0 < s.input.length := List.length_pos_iff.mpr hi
    have hz : ∀ (p : Prop) [Decidable p], rdPot (if p then RPhase.eofPending else RPhase.idle) ≤ 3 := by
      intro p _; split <;> simp [rdPot]
    have := hz ((s.input.take c.inGranul).length < c.inGranul)
    simp only [dataPot, kcost, hr, rdPot, sum_map_insI, ibQ, ibPot, List.length_take,
      List.length_drop] at this ⊢
    omega
  | wTake b q hw hq =>
    refine .inr (measure_data rfl ?_)
    simp only [dataPot, kcost, hw, hq, optCount, List.length_cons]
    omega
  | wDone b hw =>
    refine .inr (measure_data rfl ?_)
    simp only [dataPot, kcost, hw, optCount]
    omega
  | runReorder i w q hw hn hq =>
    refine .inr (measure_data rfl ?_)
    simp only [dataPot, kcost, hq, List.length_cons, List.length_append, List.length_nil]
    omega
  | idle h =>
    cases h with
    | acquire i hw | runWait i hw hn hf =>
      exact .inr (measure_move hw rfl rfl (Nat.le_refl _))
    | runExit i hw hn hf =>
      obtain ⟨e1, e2, e3⟩ := wsum3 .exited hw
      have b := wsum_broadcast (f := liveW) rfl (s.ws.set i .exited)
      simp only [taskPot, phasePot, liveW] at e1 e2 e3
      left
      simp only [live]
      omega
  | runCollect i ib q hw hn hq hwu =>
    refine .inr (measure_move hw rfl rfl ?_)
    simp only [dataPot, taskPot, phasePot, kcost, setW, hq, List.map_cons, List.sum_cons, ibQ]
    omega
  | runTransmit i w q hw hn hq hos =>
    refine .inr (measure_move hw rfl rfl ?_)
    simp only [dataPot, taskPot, phasePot, kcost, setW, hq, List.length_cons]
    omega
  | c1Requeue i ib hw hl =>
    have hc := collectOn_fresh_lt cd ok ib.data hl
    refine .inr (measure_move hw rfl rfl ?_)
    simp only [dataPot, taskPot, phasePot, kcost, setW, sum_map_insI, ibQ, ibPot]
    omega
  | c1Release i ib hw hl =>
    refine .inr (measure_move hw rfl rfl ?_)
    simp only [dataPot, taskPot, phasePot, kcost, setW, ibPot]
    omega
  | c2Enq i w hw | t1Enq i w hw =>
    refine .inr (measure_move hw rfl rfl ?_)
    simp only [dataPot, taskPot, phasePot, kcost, setW, insW_length]
    omega
  | runCollectSeq i hw hn hg' =>
    obtain ⟨_, _, hrdy, _⟩ := ready_collectSeq sel hn
    refine .inr (measure_move hw rfl rfl ?_)
    cases hq : s.collQ with
    | cons ib q =>
      simp only [dataPot, taskPot, phasePot, kcost, setW, optCount, hq, List.head?_cons,
        List.tail_cons, List.map_cons, List.sum_cons, ibQ]
      omega
    | nil =>
      have hu : s.unfinished.isSome = true := by
        rcases hrdy with h' | h'
        · exact absurd hq h'
        · exact h'.2
      cases hun : s.unfinished with
      | none =>
        rw [hun] at hu
        cases hu
      | some w =>
        simp only [dataPot, taskPot, phasePot, kcost, setW, hq, hun, optCount, List.head?_nil,
          List.tail_nil, List.map_nil, List.sum_nil]
        omega
  | s1Requeue i wo ib hw hl =>
    obtain ⟨hfull, hc⟩ := requeue_cond cd ok wo ib hl
    have hle := collectOn_length_le cd (roundBlk cd wo ib).enc ib.data
    refine .inr (measure_move hw rfl rfl ?_)
    cases wo with
    | none =>
      simp only [Option.isSome_none, Bool.false_eq_true, or_false] at hc
      simp only [roundOut, roundBlk, Option.getD_none] at hfull hc hle
      simp only [dataPot, taskPot, phasePot, kcost, setW, sum_map_insI, ibQ, ibPot, optCount,
        hfull, roundOut, roundBlk, Option.getD_none]
      omega
    | some w0 =>
      simp only [roundOut, roundBlk, Option.getD_some] at hfull hc hle
      simp only [dataPot, taskPot, phasePot, kcost, setW, sum_map_insI, ibQ, ibPot, optCount,
        hfull, roundOut, roundBlk, Option.getD_some]
      omega
  | s1Release i wo ib hw hl =>
    refine .inr (measure_move hw rfl rfl ?_)
    -- the same arithmetic whether or not the block is full and whether one was pending
    cases (roundOut cd wo ib).2.2 <;> cases wo <;>
      simp only [dataPot, taskPot, phasePot, kcost, setW, ibPot, optCount] <;> omega
  | s1Flush i w hw =>
    refine .inr (measure_move hw rfl rfl ?_)
    simp only [dataPot, taskPot, phasePot, kcost, setW, optCount]
    omega
  | s2Full i w hw =>
    refine .inr (measure_move hw rfl rfl ?_)
    simp only [dataPot, taskPot, phasePot, kcost, setW]
    omega
  | s2Part i w hw =>
    refine .inr (measure_move hw rfl rfl ?_)
    -- `unfinished_work` was NULL (the token was taken): not needed, only ≥ 0
    cases hun : s.unfinished <;>
      simp only [dataPot, taskPot, phasePot, kcost, setW, optCount, hun] <;> omega

end

def muLt (a b : Nat × Nat) : Prop := a.1 < b.1 ∨ (a.1 = b.1 ∧ a.2 < b.2)

theorem muLt_wf : WellFounded muLt := by
  refine Subrelation.wf (r := Prod.Lex (· < ·) (· < ·)) ?_
    (Prod.lex Nat.lt_wfRel Nat.lt_wfRel).wf
  intro a b h
  obtain ⟨a1, a2⟩ := a
  obtain ⟨b1, b2⟩ := b
  rcases h with h | ⟨h1, h2⟩
  · exact Prod.Lex.left _ _ h
  · simp only at h1 h2
    subst h1
    exact Prod.Lex.right _ h2

theorem step_measure {c : Cfg} {cd : Codec α σ} {s s' : State α σ} {l : Label}
    (ok : cd.OK) (hg : 0 < c.inGranul) (sel : SelInv c s) (hl : l.isSpurious = false)
    (hs : step c cd s l = some s') : muLt (mu s') (mu s) := by
  obtain ⟨sp, k, t, hc, he, hsp⟩ := step_inv hs
  rw [hl] at hsp
  subst hsp
  obtain ⟨e1, e2⟩ := ends_measure he
  rcases core_measure ok hg sel hc with h | ⟨h1, h2⟩
  · left
    simp only [mu]
    omega
  · right
    simp only [mu, phi] at *
    omega

end LbzVerif.Model.SchedC
