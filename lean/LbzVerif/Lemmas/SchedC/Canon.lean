/-
  Lemmas.SchedC.Canon — the canonical block list `canon` as a function of the input alone (no
  scheduler state here): `chunkBlocks` is `seqBlocks` on one chunk, and `canon` is a `next`-chain
  from (0,0) in both modes, hence strictly sorted by position.
-/
import LbzVerif.Lemmas.SchedC.Pos
import LbzVerif.Lemmas.SchedC.Basic

namespace LbzVerif.Model.SchedC

variable {α σ : Type}

theorem cutChunks_stop {g : Nat} {input : List α} (id : Nat) (h : ¬ (input ≠ [] ∧ 0 < g)) :
    cutChunks g id input = [] := by
  rw [cutChunks]
  simp only [h, ↓reduceDIte]

theorem cutChunks_nil (g id : Nat) : cutChunks (α := α) g id [] = [] :=
  cutChunks_stop id fun h => h.1 rfl

theorem cutChunks_cons (g id : Nat) (src : List α) (h : src ≠ []) (hg : 0 < g) :
    cutChunks g id src = ⟨⟨id, 0⟩, src.take g⟩ :: cutChunks g (id + 1) (src.drop g) := by
  rw [cutChunks]
  simp [h, hg]

theorem chain_pairwise {a b : Pos} {ws : List (WBlk σ)} (h : Chain a ws b) :
    ws.Pairwise (fun x y => x.pos.lt y.pos = true) ∧ (∀ x ∈ ws, a = x.pos ∨ a.lt x.pos = true) := by
  induction ws generalizing a with
  | nil => exact ⟨List.Pairwise.nil, by simp⟩
  | cons w l ih =>
    obtain ⟨h1, h2, h3⟩ := h
    obtain ⟨p, q⟩ := ih h3
    have hall : ∀ x ∈ l, w.pos.lt x.pos = true := by
      intro x hx
      rcases q x hx with e | e
      · rw [← e]
        exact h2
      · exact Pos.lt_trans h2 e
    refine ⟨List.Pairwise.cons hall p, ?_⟩
    intro x hx
    rcases List.mem_cons.mp hx with rfl | hx
    · exact .inl h1.symm
    · exact .inr (h1 ▸ hall x hx)

theorem chain_snoc {a b : Pos} {ws : List (WBlk σ)} {w : WBlk σ} (h : Chain a ws b)
    (hp : w.pos = b) (hw : w.pos.lt w.next = true) : Chain a (ws ++ [w]) w.next := by
  induction ws generalizing a with
  | nil =>
    simp only [Chain] at h
    subst h
    exact ⟨hp, hw, rfl⟩
  | cons x l ih => exact ⟨h.1, h.2.1, ih h.2.2⟩

theorem chain_append {a b e : Pos} {l m : List (WBlk σ)} (h1 : Chain a l b) (h2 : Chain b m e) :
    Chain a (l ++ m) e := by
  induction l generalizing a with
  | nil =>
    simp only [Chain] at h1
    subst h1
    exact h2
  | cons x l ih => exact ⟨h1.1, h1.2.1, ih h1.2.2⟩

theorem chain_prefix {a e o : Pos} {l h : List (WBlk σ)} (hl : Chain a l e) (hh : Chain a h o)
    (hsub : ∀ x ∈ h, x ∈ l) : ∃ rest, l = h ++ rest ∧ Chain o rest e := by
  induction h generalizing a l with
  | nil =>
    simp only [Chain] at hh
    subst hh
    exact ⟨l, rfl, hl⟩
  | cons x h ih =>
    -- along a chain every later block lies strictly after the head
    have hxh := (List.pairwise_cons.mp (chain_pairwise hh).1).1
    obtain ⟨hx1, hx2, hx3⟩ := hh
    cases l with
    | nil => exact absurd (hsub x List.mem_cons_self) (by simp)
    | cons y l =>
      have hyl := (List.pairwise_cons.mp (chain_pairwise hl).1).1
      obtain ⟨hy1, hy2, hy3⟩ := hl
      have hxy : x = y := by
        rcases List.mem_cons.mp (hsub x List.mem_cons_self) with e | hm
        · exact e
        · have h1 := hyl x hm
          rw [hx1, hy1, Pos.lt_irrefl] at h1
          cases h1
      subst hxy
      obtain ⟨rest, hr1, hr2⟩ := ih hy3 hx3 (by
        intro z hz
        rcases List.mem_cons.mp (hsub z (List.mem_cons_of_mem _ hz)) with e | hm
        · have h1 := hxh z hz
          rw [e, Pos.lt_irrefl] at h1
          cases h1
        · exact hm)
      exact ⟨rest, by rw [hr1]; rfl, hr2⟩

theorem sorted_pos_inj {l : List (WBlk σ)} (h : l.Pairwise (fun x y => x.pos.lt y.pos = true))
    {x y : WBlk σ} (hx : x ∈ l) (hy : y ∈ l) (e : x.pos = y.pos) : x = y :=
  List.Pairwise.forall_of_forall_of_flip (R := fun a b => a.pos = b.pos → a = b)
    (fun _ _ _ => rfl)
    (h.imp (fun hlt e => by rw [e, Pos.lt_irrefl] at hlt; cases hlt))
    (h.imp (fun hlt e => by rw [e, Pos.lt_irrefl] at hlt; cases hlt)) hx hy e

theorem collectOn_fresh_lt (cd : Codec α σ) (ok : cd.OK) (data : List α)
    (hl : (collectOn cd cd.init data).2.1 ≠ []) :
    (collectOn cd cd.init data).2.1.length < data.length := by
  have hd : data ≠ [] := by
    intro h0
    apply hl
    simp [collectOn, h0]
  have h1 := ok.fresh data hd
  have : 0 < data.length := List.length_pos_iff.mpr hd
  simp only [collectOn, List.length_drop]
  omega

theorem chunkBlocks_step (cd : Codec α σ) (ok : cd.OK) (pos : Pos) (data : List α)
    (hl : (collectOn cd cd.init data).2.1 ≠ []) :
    chunkBlocks cd pos data =
      ⟨pos, pos.incMinor, (collectOn cd cd.init data).1⟩ ::
        chunkBlocks cd pos.incMinor (collectOn cd cd.init data).2.1 := by
  have hlen := collectOn_fresh_lt cd ok data hl
  rw [chunkBlocks]
  simp only [hl, hlen, ne_eq, not_false_eq_true, and_self, ↓reduceDIte]

theorem chunkBlocks_last (cd : Codec α σ) (pos : Pos) (data : List α)
    (hl : (collectOn cd cd.init data).2.1 = []) :
    chunkBlocks cd pos data = [⟨pos, pos.incMajor, (collectOn cd cd.init data).1⟩] := by
  rw [chunkBlocks]
  simp [hl]

theorem seqBlocks_nil (cd : Codec α σ) (cur : Option (WBlk σ)) :
    seqBlocks cd cur [] = cur.toList := by
  rw [seqBlocks.eq_def]; cases cur <;> rfl

/-- for a `Codec.OK` collector the `else []` branch of `seqBlocks` is dead -/
theorem requeue_cond (cd : Codec α σ) (ok : cd.OK) (wo : Option (WBlk σ)) (ib : IBlk α)
    (hl : (roundOut cd wo ib).2.1 ≠ []) :
    (roundOut cd wo ib).2.2 = true ∧
    ((roundOut cd wo ib).2.1.length <
      ib.data.length ∨ wo.isSome = true) := by
  have hfull : (roundOut cd wo ib).2.2 = true := by
    cases hh : (roundOut cd wo ib).2.2 with
    | true => rfl
    | false =>
      exfalso
      have := ok.notFull (roundBlk cd wo ib).enc ib.data
        (by simpa [collectOn] using hh)
      apply hl
      simp only [collectOn]
      exact List.drop_eq_nil_of_le this
  refine ⟨hfull, ?_⟩
  cases wo with
  | some w => exact .inr rfl
  | none => exact .inl (collectOn_fresh_lt cd ok ib.data hl)

theorem seqBlocks_requeue (cd : Codec α σ) (ok : cd.OK) (wo : Option (WBlk σ)) (ib : IBlk α)
    (Q : List (IBlk α))
    (hl : (roundOut cd wo ib).2.1 ≠ []) :
    (roundOut cd wo ib).2.2 = true ∧
    seqBlocks cd wo (ib :: Q) =
      ⟨(roundBlk cd wo ib).pos, (roundBlk cd wo ib).next.incMinor,
        (roundOut cd wo ib).1⟩ ::
      seqBlocks cd none
        (⟨ib.pos.incMinor, (roundOut cd wo ib).2.1⟩ :: Q) := by
  obtain ⟨hfull, hcond⟩ := requeue_cond cd ok wo ib hl
  refine ⟨hfull, ?_⟩
  rw [seqBlocks]
  simp only [hl, hfull, hcond, ne_eq, not_false_eq_true, and_self, ↓reduceDIte, ↓reduceIte]

theorem seqBlocks_release (cd : Codec α σ) (wo : Option (WBlk σ)) (ib : IBlk α)
    (Q : List (IBlk α))
    (hl : (roundOut cd wo ib).2.1 = []) :
    seqBlocks cd wo (ib :: Q) =
      if (roundOut cd wo ib).2.2 = true then
        ⟨(roundBlk cd wo ib).pos, (roundBlk cd wo ib).next.incMajor,
          (roundOut cd wo ib).1⟩ :: seqBlocks cd none Q
      else
        seqBlocks cd (some ⟨(roundBlk cd wo ib).pos,
          (roundBlk cd wo ib).next.incMajor,
          (roundOut cd wo ib).1⟩) Q := by
  rw [seqBlocks]
  simp only [hl, ne_eq, not_true_eq_false, ↓reduceIte]

/-- `do_collect` on one chunk is `do_collect_seq` run over that chunk alone -/
theorem chunkBlocks_eq_seq (cd : Codec α σ) (ok : cd.OK) (pos : Pos) (data : List α) :
    chunkBlocks cd pos data = seqBlocks cd none [⟨pos, data⟩] := by
  induction pos, data using chunkBlocks.induct cd with
  | case1 pos data r h ih =>
    simp only [r] at h ih
    rw [chunkBlocks_step cd ok pos data h.1, (seqBlocks_requeue cd ok none ⟨pos, data⟩ [] h.1).2, ih]
    rfl
  | case2 pos data r h =>
    simp only [r] at h
    have hnil : (collectOn cd cd.init data).2.1 = [] :=
      Classical.byContradiction fun h0 => h ⟨h0, collectOn_fresh_lt cd ok data h0⟩
    rw [chunkBlocks_last cd pos data hnil, seqBlocks_release cd none ⟨pos, data⟩ [] hnil]
    split <;> simp only [seqBlocks_nil, Option.toList] <;> rfl

/-- Induction on the graph of `seqBlocks`, one case per way a round of `do_collect_seq` on the
    head in_blk ends, so that no user unfolds `seqBlocks`; `dead` is the branch a `Codec.OK`
    collector never takes (`requeue_cond`). -/
theorem seqBlocks_ind (cd : Codec α σ)
    {motive : Option (WBlk σ) → List (IBlk α) → List (WBlk σ) → Prop}
    (nil : ∀ cur, motive cur [] cur.toList)
    (requeue : ∀ cur ib Q out, (roundOut cd cur ib).2.1 ≠ [] →
      motive none (⟨ib.pos.incMinor, (roundOut cd cur ib).2.1⟩ :: Q) out →
      motive cur (ib :: Q)
        (⟨(roundBlk cd cur ib).pos, (roundBlk cd cur ib).next.incMinor, (roundOut cd cur ib).1⟩ ::
          out))
    (dead : ∀ cur ib Q, (roundOut cd cur ib).2.1 ≠ [] →
      ¬ ((roundOut cd cur ib).2.2 = true ∧
        ((roundOut cd cur ib).2.1.length < ib.data.length ∨ cur.isSome = true)) →
      motive cur (ib :: Q) [])
    (full : ∀ cur ib Q out, (roundOut cd cur ib).2.1 = [] → (roundOut cd cur ib).2.2 = true →
      motive none Q out →
      motive cur (ib :: Q)
        (⟨(roundBlk cd cur ib).pos, (roundBlk cd cur ib).next.incMajor, (roundOut cd cur ib).1⟩ ::
          out))
    (part : ∀ cur ib Q out, (roundOut cd cur ib).2.1 = [] → ¬ (roundOut cd cur ib).2.2 = true →
      motive (some ⟨(roundBlk cd cur ib).pos, (roundBlk cd cur ib).next.incMajor,
        (roundOut cd cur ib).1⟩) Q out →
      motive cur (ib :: Q) out) :
    ∀ cur ibs, motive cur ibs (seqBlocks cd cur ibs) := by
  intro cur ibs
  induction cur, ibs using seqBlocks.induct cd with
  | case1 =>
    rw [seqBlocks]
    exact nil none
  | case2 w =>
    rw [seqBlocks]
    exact nil (some w)
  | case3 cur ib rest w0 r hl hc ih =>
    rw [seqBlocks]
    simp only [w0, r] at hl hc ih
    simp only [hl, hc, ne_eq, not_false_eq_true, and_self, ↓reduceDIte, ↓reduceIte]
    exact requeue cur ib rest _ hl ih
  | case4 cur ib rest w0 r hl hc =>
    rw [seqBlocks]
    simp only [w0, r] at hl hc
    simp only [hl, hc, ne_eq, not_false_eq_true, ↓reduceDIte, ↓reduceIte]
    exact dead cur ib rest hl hc
  | case5 cur ib rest w0 r hl hfull ih =>
    rw [seqBlocks]
    simp only [w0, r] at hl hfull ih
    simp only [hl, hfull, ↓reduceIte]
    exact full cur ib rest _ (by simpa using hl) hfull ih
  | case6 cur ib rest w0 r hl w hfull ih =>
    rw [seqBlocks]
    simp only [w0, r, w] at hl hfull ih
    simp only [hl, hfull, ↓reduceIte]
    exact part cur ib rest _ (by simpa using hl) hfull ih

theorem seqBlocks_eq_nil (cd : Codec α σ) (ok : cd.OK) (cur : Option (WBlk σ))
    (ibs : List (IBlk α)) : seqBlocks cd cur ibs = [] → cur = none ∧ ibs = [] := by
  refine seqBlocks_ind cd (motive := fun cur ibs out => out = [] → cur = none ∧ ibs = [])
    ?_ ?_ ?_ ?_ ?_ cur ibs
  · intro cur h
    cases cur with
    | none => exact ⟨rfl, rfl⟩
    | some w => cases h
  · intro cur ib Q out _ _ h
    cases h
  · intro cur ib Q hl hc _
    exact absurd (requeue_cond cd ok cur ib hl) hc
  · intro cur ib Q out _ _ _ h
    cases h
  · intro cur ib Q out _ _ ih h
    cases (ih h).1

theorem chunkBlocks_head (cd : Codec α σ) (pos : Pos) (data : List α) :
    ∃ b ∈ chunkBlocks cd pos data, b.pos = pos := by
  rw [chunkBlocks]
  split
  · exact ⟨_, List.mem_cons_self, rfl⟩
  · exact ⟨_, List.mem_cons_self, rfl⟩

theorem cutChunks_eq_nil {g id : Nat} {input : List α} (hg : 0 < g)
    (h : cutChunks g id input = []) : input = [] := by
  by_cases e : input = []
  · exact e
  · rw [cutChunks_cons g id input e hg] at h
    cases h

theorem chunkBlocks_pos (cd : Codec α σ) (pos : Pos) (data : List α) :
    ∀ x ∈ chunkBlocks cd pos data, x.pos.major = pos.major ∧ pos.le x.pos := by
  induction pos, data using chunkBlocks.induct cd with
  | case1 pos data r h ih =>
    rw [chunkBlocks]
    simp only [r] at h
    simp only [h, ne_eq, not_false_eq_true, and_self, ↓reduceDIte]
    intro x hx
    rcases List.mem_cons.mp hx with rfl | hx
    · exact ⟨rfl, Pos.le_refl _⟩
    · obtain ⟨a, b⟩ := ih x hx
      exact ⟨a, .inr (Pos.lt_of_lt_of_le (Pos.lt_incMinor pos) b)⟩
  | case2 pos data r h =>
    rw [chunkBlocks]
    simp only [r] at h
    simp only [h, ↓reduceDIte]
    intro x hx
    simp only [List.mem_singleton] at hx
    subst hx
    exact ⟨rfl, Pos.le_refl _⟩

theorem cutChunks_flatten (g : Nat) (hg : 0 < g) (id : Nat) (input : List α) :
    ((cutChunks g id input).map (·.data)).flatten = input := by
  induction id, input using cutChunks.induct g with
  | case1 id input h ih =>
    rw [cutChunks_cons g id input h.1 h.2, List.map_cons, List.flatten_cons, ih,
      List.take_append_drop]
  | case2 id input h =>
    have h0 : input = [] := Classical.byContradiction fun h0 => h ⟨h0, hg⟩
    rw [h0, cutChunks_nil]
    rfl

theorem cutChunks_mem (g : Nat) (id : Nat) (input : List α) :
    ∀ ib ∈ cutChunks g id input, id ≤ ib.pos.major ∧ ib.pos.minor = 0 ∧ ib.data ≠ [] := by
  induction id, input using cutChunks.induct g with
  | case1 id input h ih =>
    rw [cutChunks_cons g id input h.1 h.2]
    have hne : input.take g ≠ [] := fun h0 =>
      (List.take_eq_nil_iff.mp h0).elim (Nat.ne_of_gt h.2) h.1
    intro x hx
    rcases List.mem_cons.mp hx with rfl | hx
    · exact ⟨Nat.le_refl _, rfl, hne⟩
    · obtain ⟨a, b⟩ := ih x hx
      exact ⟨by omega, b⟩
  | case2 id input h =>
    rw [cutChunks_stop id h]
    simp

def Consec : Pos → List (IBlk α) → Prop
  | _, [] => True
  | p, ib :: l => ib.pos = p ∧ Consec ⟨p.major + 1, 0⟩ l

theorem cutChunks_consec (g id : Nat) (input : List α) : Consec ⟨id, 0⟩ (cutChunks g id input) := by
  induction id, input using cutChunks.induct g with
  | case1 id input h ih =>
    rw [cutChunks_cons g id input h.1 h.2]
    exact ⟨rfl, ih⟩
  | case2 id input h =>
    rw [cutChunks_stop id h]
    trivial

def seqStart (cur : Option (WBlk σ)) (p : Pos) : Pos :=
  match cur with
  | some w => w.pos
  | none => p

/-- `f` is `incMinor` when the rest of the in_blk is re-queued, `incMajor` when it is exhausted -/
theorem roundBlk_facts (cd : Codec α σ) {cur : Option (WBlk σ)} {ib : IBlk α} {p : Pos}
    (hp : ib.pos = p) (hcur : ∀ w, cur = some w → w.next = p ∧ w.pos.lt w.next = true)
    (f : Pos → Pos) (hf : p.lt (f p) = true) :
    (roundBlk cd cur ib).pos = seqStart cur p ∧ f (roundBlk cd cur ib).next = f p ∧
      (roundBlk cd cur ib).pos.lt (f (roundBlk cd cur ib).next) = true := by
  cases cur with
  | none =>
    subst hp
    exact ⟨rfl, rfl, hf⟩
  | some w =>
    obtain ⟨h1, h2⟩ := hcur w rfl
    subst h1
    exact ⟨rfl, rfl, Pos.lt_trans h2 hf⟩

def endOf : Pos → List (IBlk α) → Pos
  | p, [] => p
  | p, _ :: l => endOf ⟨p.major + 1, 0⟩ l

theorem seqBlocks_chain (cd : Codec α σ) (ok : cd.OK) (cur : Option (WBlk σ))
    (ibs : List (IBlk α)) :
    ∀ p, Consec p ibs → (∀ w, cur = some w → w.next = p ∧ w.pos.lt w.next = true) →
    Chain (seqStart cur p) (seqBlocks cd cur ibs) (endOf p ibs) := by
  refine seqBlocks_ind cd (motive := fun cur ibs out => ∀ p, Consec p ibs →
    (∀ w, cur = some w → w.next = p ∧ w.pos.lt w.next = true) →
    Chain (seqStart cur p) out (endOf p ibs)) ?_ ?_ ?_ ?_ ?_ cur ibs
  · intro cur p _ hc
    cases cur with
    | none => exact rfl
    | some w => exact ⟨rfl, (hc w rfl).2, (hc w rfl).1⟩
  · intro cur ib Q out hl ih p hcs hcur
    obtain ⟨hpos, hnext, hlt⟩ := roundBlk_facts cd hcs.1 hcur Pos.incMinor (Pos.lt_incMinor p)
    exact ⟨hpos, hlt, hnext ▸ ih p.incMinor ⟨by rw [hcs.1], hcs.2⟩ nofun⟩
  · intro cur ib Q hl hc _ _ _
    exact absurd (requeue_cond cd ok cur ib hl) hc
  · intro cur ib Q out hl hfull ih p hcs hcur
    obtain ⟨hpos, hnext, hlt⟩ := roundBlk_facts cd hcs.1 hcur Pos.incMajor (Pos.lt_incMajor p)
    exact ⟨hpos, hlt, hnext ▸ ih p.incMajor hcs.2 nofun⟩
  · intro cur ib Q out hl hfull ih p hcs hcur
    obtain ⟨hpos, hnext, hlt⟩ := roundBlk_facts cd hcs.1 hcur Pos.incMajor (Pos.lt_incMajor p)
    exact hpos ▸ ih p.incMajor hcs.2 (by
      intro w' h
      cases h
      exact ⟨hnext, hlt⟩)

theorem chunkBlocks_chain (cd : Codec α σ) (ok : cd.OK) (pos : Pos) (data : List α) :
    Chain pos (chunkBlocks cd pos data) ⟨pos.major + 1, 0⟩ :=
  chunkBlocks_eq_seq cd ok pos data ▸
    seqBlocks_chain cd ok none [⟨pos, data⟩] pos ⟨rfl, trivial⟩ nofun

theorem flatMap_chunks_chain (cd : Codec α σ) (ok : cd.OK) (g id : Nat) (input : List α) :
    ∃ e, Chain ⟨id, 0⟩ ((cutChunks g id input).flatMap (fun ib => chunkBlocks cd ib.pos ib.data)) e := by
  induction id, input using cutChunks.induct g with
  | case1 id input h ih =>
    rw [cutChunks_cons g id input h.1 h.2, List.flatMap_cons]
    obtain ⟨e, he⟩ := ih
    exact ⟨e, chain_append (chunkBlocks_chain cd ok ⟨id, 0⟩ _) he⟩
  | case2 id input h =>
    rw [cutChunks_stop id h]
    exact ⟨_, rfl⟩

theorem canon_chain (c : Cfg) (cd : Codec α σ) (ok : cd.OK) (input : List α) :
    ∃ e, Chain ⟨0, 0⟩ (canon c cd input) e := by
  unfold canon
  split
  · exact ⟨_, seqBlocks_chain cd ok none _ ⟨0, 0⟩ (cutChunks_consec c.inGranul 0 input) nofun⟩
  · exact flatMap_chunks_chain cd ok c.inGranul 0 input

theorem canon_sorted (c : Cfg) (cd : Codec α σ) (ok : cd.OK) (input : List α) :
    (canon c cd input).Pairwise (fun x y => x.pos.lt y.pos = true) :=
  let ⟨_, h⟩ := canon_chain c cd ok input
  (chain_pairwise h).1

end LbzVerif.Model.SchedC
