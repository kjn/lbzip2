/-
  Lemmas.SchedC.Order — what is handed to `sink_write_buffer` follows the
  `next` chain from (0,0) (strictly increasing, gap-free, `order` = end of the
  chain) and the writer writes in hand-over order; inductive invariant.  It also carries that
  `trans_q` and `reord_q` are sorted by position (they are `pqueue`s, so `peek` is a minimal
  element).
-/
import LbzVerif.Lemmas.SchedC.Conserve
import LbzVerif.Lemmas.SchedC.Canon

namespace LbzVerif.Model.SchedC

variable {α σ : Type}

/-- `next` is past `pos`: `do_collect` / `do_collect_seq` advance `next` (`++minor` or `++major`)
    before the block leaves the worker -/
def WOk (w : WBlk σ) : Prop := w.pos.lt w.next = true

theorem held_none {β : Type} {P : β → Prop} {o : Option β} (h : o = none) :
    ∀ w, o = some w → P w := by
  intro w hw
  rw [h] at hw
  cases hw

theorem held_some {β : Type} {P : β → Prop} {o : Option β} {w : β} (h : o = some w) (hok : P w) :
    ∀ x, o = some x → P x := by
  intro x hx
  rw [h] at hx
  cases hx
  exact hok

structure OrderInv (s : State α σ) : Prop where
  chain : Chain ⟨0, 0⟩ s.handed s.order
  fifo : s.handed = s.written ++ s.wr.toList ++ s.outputQ
  qT : ∀ w ∈ s.transQ, WOk w
  qR : ∀ w ∈ s.reordQ, WOk w
  unf : ∀ w, s.unfinished = some w → WOk w
  held : ∀ p ∈ s.ws, ∀ w, p.wblk = some w → WOk w
  tq : ascW s.transQ
  rq : ascW s.reordQ

theorem order_init (c : Cfg) (input : List α) : OrderInv (init (σ := σ) c input) :=
  ⟨rfl, rfl, nofun, nofun, nofun, init_forall c input (held_none rfl), List.Pairwise.nil,
    List.Pairwise.nil⟩

theorem order_same {s t : State α σ} (h : Same s t) (inv : OrderInv s) : OrderInv t := by
  rw [h.data]
  exact ⟨inv.chain, inv.fifo, inv.qT, inv.qR, inv.unf,
    h.forall (fun p => by cases p <;> exact Iff.rfl) inv.held, inv.tq, inv.rq⟩

section
variable {c : Cfg} {cd : Codec α σ} {s t : State α σ} {sp : Bool} {k : EndKind}

theorem order_core (h : Core c cd s sp k t) (inv : OrderInv s) (sel : SelInv c s) :
    OrderInv t := by
  have ⟨i1, i2, i3, i4, i5, i6, i7, i8⟩ := inv
  cases h with
  | rTake hr hi | rDeliver hr hi | rEmpty hr hi | rEof hr => exact ⟨i1, i2, i3, i4, i5, i6, i7, i8⟩
  | wTake b q hw hq =>
    refine ⟨i1, ?_, i3, i4, i5, i6, i7, i8⟩
    simp only [hw, hq] at i2
    simpa using i2
  | wDone b hw =>
    refine ⟨i1, ?_, i3, i4, i5, i6, i7, i8⟩
    simp only [hw] at i2
    simpa using i2
  | idle h => exact order_same (.ofIdle h) inv
  | runCollect i ib q hw hn hq hwu => exact ⟨i1, i2, i3, i4, i5, forall_set i6 i (held_none rfl), i7, i8⟩
  | runCollectSeq i hw hn hg =>
    refine ⟨i1, i2, i3, i4, ?_, forall_set i6 i ?_, i7, i8⟩
    · intro w h
      cases h
    · intro w hw'
      cases hu : s.unfinished with
      | none => simp [hu, WPhase.wblk] at hw'
      | some w' =>
        simp only [hu, WPhase.wblk, Option.some.injEq] at hw'
        subst hw'
        exact i5 _ hu
  | runTransmit i w q hw hn hq hos =>
    refine ⟨i1, i2, ?_, i4, i5, forall_set i6 i ?_, (List.pairwise_cons.mp (hq ▸ i7)).2, i8⟩
    · intro x hx
      exact i3 x (hq ▸ List.mem_cons_of_mem _ hx)
    · exact held_some rfl (i3 _ (hq ▸ List.mem_cons_self))
  | runReorder i w q hw hn hq =>
    have hok : WOk w := i4 w (hq ▸ List.mem_cons_self)
    refine ⟨chain_snoc i1 (ready_reorder sel hn hq) hok, ?_, i3, ?_, i5, i6, i7,
      (List.pairwise_cons.mp (hq ▸ i8)).2⟩
    · show s.handed ++ [w] = s.written ++ s.wr.toList ++ (s.outputQ ++ [w])
      rw [i2]
      simp
    · intro x hx
      exact i4 x (hq ▸ List.mem_cons_of_mem _ hx)
  | c1Requeue i ib hw hl =>
    exact ⟨i1, i2, i3, i4, i5, forall_set i6 i (held_some rfl (Pos.lt_incMinor _)), i7, i8⟩
  | c1Release i ib hw hl =>
    exact ⟨i1, i2, i3, i4, i5, forall_set i6 i (held_some rfl (Pos.lt_incMajor _)), i7, i8⟩
  | c2Enq i w hw =>
    have hok : WOk w := i6 _ (List.mem_of_getElem? hw) w rfl
    exact ⟨i1, i2, forall_insW hok i3, i4, i5, forall_set i6 i (held_none rfl), insW_asc w _ i7, i8⟩
  | t1Enq i w hw =>
    have hok : WOk w := i6 _ (List.mem_of_getElem? hw) w rfl
    exact ⟨i1, i2, i3, forall_insW hok i4, i5, forall_set i6 i (held_none rfl), i7, insW_asc w _ i8⟩
  | s1Requeue i wo ib hw hl =>
    refine ⟨i1, i2, i3, i4, i5, forall_set i6 i (held_some rfl ?_), i7, i8⟩
    cases wo with
    | none => exact Pos.lt_incMinor _
    | some w' => exact Pos.lt_trans (i6 _ (List.mem_of_getElem? hw) w' rfl) (Pos.lt_incMinor _)
  | s1Release i wo ib hw hl =>
    refine ⟨i1, i2, i3, i4, i5, forall_set i6 i (held_some rfl ?_), i7, i8⟩
    cases wo with
    | none => exact Pos.lt_incMajor _
    | some w' => exact Pos.lt_trans (i6 _ (List.mem_of_getElem? hw) w' rfl) (Pos.lt_incMajor _)
  | s1Flush i w hw | s2Full i w hw =>
    exact ⟨i1, i2, i3, i4, i5,
      forall_set i6 i (held_some rfl (i6 _ (List.mem_of_getElem? hw) w rfl)), i7, i8⟩
  | s2Part i w hw =>
    have hok : WOk w := i6 _ (List.mem_of_getElem? hw) w rfl
    refine ⟨i1, i2, i3, i4, ?_, forall_set i6 i (held_none rfl), i7, i8⟩
    intro x hx
    simp only [setW, Option.some.injEq] at hx
    subst hx
    exact hok

end

theorem order_reach {c : Cfg} {cd : Codec α σ} {input : List α} {s : State α σ}
    (h : Reach c cd input s) : OrderInv s :=
  reach_ind (order_init c input)
    (fun hr ih hc => order_core hc ih (inv1_reach hr).sel) order_same h

end LbzVerif.Model.SchedC
