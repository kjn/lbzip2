/-
  Lemmas.SchedC.WitnessS — a concrete terminated run in SEQUENTIAL mode
  (`ultra = true`): 7 bytes cut into 4 chunks of 2, three blocks, the first
  ending in the middle of chunk 1 (in_blk re-queued with `++pos.minor`), the
  second spanning chunks 1–2 (`unfinished_work` used), the third flushed at
  end of input; two workers, one of which sleeps and is woken.
-/
import LbzVerif.Lemmas.SchedC.Witness

namespace LbzVerif.Model.SchedC

def sCfg : Cfg := { Cfg.ofGen 2 1 true with inGranul := 2 }
def sInput : List Nat := [0, 0, 1, 0, 0, 1, 0]

open Label in
def sFinalPath : List Label :=
  [acquire 0, run 0 0, acquire 1, run 1 0, rTake, rDeliver 0, acquire 0, run 0 0, cont 0 0,
   cont 0 0, run 0 0, rTake, rDeliver 0, acquire 0, run 0 0, cont 0 0, cont 0 1, cont 0 0,
   run 0 0, cont 0 0, cont 0 0, run 0 0, cont 0 0, run 0 0, run 0 0, acquire 1, run 1 0, rTake,
   rDeliver 0, acquire 0, run 0 0, cont 0 0, cont 0 0, cont 0 0, run 0 0, cont 0 0, run 0 0,
   run 0 0, rTake, rDeliver 0, acquire 0, run 0 0, cont 0 0, cont 0 0, run 0 0, rEof 0,
   acquire 0, run 0 0, cont 0 0, cont 0 0, run 0 0, cont 0 0, run 0 0, run 0 0, wTake, wDone 0,
   wTake, wDone 0, wTake, wDone 0, acquire 0, run 0 0, acquire 1, run 1 0]

def sFinal : State Nat (List Nat) :=
  (runLabels sCfg wCodec (init sCfg sInput) sFinalPath).getD (init sCfg sInput)

def sFinalVal : State Nat (List Nat) :=
  { input := [], rd := .done, nextId := 4, inSlots := 4, eof := true, collQ := [], transQ := [],
    reordQ := [], order := ⟨4, 0⟩, workUnits := 2, outSlots := 6, collectToken := true,
    unfinished := none, nextTask := none, ws := [.exited, .exited], outputQ := [], wr := none,
    handed := [⟨⟨0, 0⟩, ⟨1, 1⟩, [0, 0, 1]⟩, ⟨⟨1, 1⟩, ⟨3, 0⟩, [0, 0, 1]⟩, ⟨⟨3, 0⟩, ⟨4, 0⟩, [0]⟩],
    written := [⟨⟨0, 0⟩, ⟨1, 1⟩, [0, 0, 1]⟩, ⟨⟨1, 1⟩, ⟨3, 0⟩, [0, 0, 1]⟩, ⟨⟨3, 0⟩, ⟨4, 0⟩, [0]⟩] }

theorem sFinal_runVal :
    runLabels sCfg wCodec (init sCfg sInput) sFinalPath = some sFinalVal := by decide

theorem sFinal_eq : sFinal = sFinalVal := by
  rw [sFinal, sFinal_runVal]
  rfl

theorem sFinal_reach : Reach sCfg wCodec sInput sFinal :=
  sFinal_eq ▸ reach_of_run _ .init sFinal_runVal

theorem sFinal_facts : isFinal sFinal = true ∧ finished sCfg sFinal = true ∧
    sFinal.handed.map (·.pos) = [⟨0, 0⟩, ⟨1, 1⟩, ⟨3, 0⟩] ∧
    sFinal.written.map (·.enc) = [[0, 0, 1], [0, 0, 1], [0]] := by
  rw [sFinal_eq]
  decide

end LbzVerif.Model.SchedC
