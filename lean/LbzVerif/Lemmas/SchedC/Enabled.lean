/-
  Lemmas.SchedC.Enabled — enabledness of every thread that is not blocked on a
  condition variable (the stored `next_task` can always be run: its generated guard implies
  the preconditions of the task body).  When none of them is enabled the state is *quiet*
  (mutex free, every worker in `xwait`, reader stalled or done, writer idle:
  `Props.C11.Compress.progress_partial`); `Lemmas.SchedC.Quiet` shows that quiet states are
  unreachable.
-/
import LbzVerif.Lemmas.SchedC.Wake

namespace LbzVerif.Model.SchedC
open LbzVerif.Gen

variable {α σ : Type}

theorem signal_some (ws : List (WPhase α σ)) : ∃ k ws', signal ws k = some ws' := by
  by_cases h : ws.any (·.isWaiting) = true
  · obtain ⟨p, hp, hw⟩ := List.any_eq_true.mp h
    obtain ⟨k, hk⟩ := List.getElem?_of_mem hp
    have : p = .waiting := by cases p <;> simp [WPhase.isWaiting] at hw ⊢
    subst this
    exact ⟨k, ws.set k .ready, by simp [signal, h, hk]⟩
  · exact ⟨0, ws, by simp [signal, h]⟩

theorem unlock_some (c : Cfg) (s : State α σ) : ∃ k s', unlock c s k = some s' := by
  unfold unlock
  dsimp only
  by_cases hc : ((reselect c s).nextTask.isSome || finished c (reselect c s)) = true
  · obtain ⟨k, ws', hk⟩ := signal_some (reselect c s).ws
    exact ⟨k, _, by rw [if_pos hc, hk]; rfl⟩
  · exact ⟨0, _, by rw [if_neg hc]⟩

theorem head_enabled {c : Cfg} {s : State α σ} (sel : SelInv c s) (i : Nat) :
    ∃ k s', runHead c s i k = some s' := by
  unfold runHead
  cases hn : s.nextTask with
  | none =>
    simp only
    split
    · exact ⟨0, _, rfl⟩
    · exact ⟨0, _, rfl⟩
  | some t =>
    cases t with
    | collect =>
      obtain ⟨_, hq, hwu⟩ := ready_collect sel hn
      cases hq' : s.collQ with
      | nil => exact absurd hq' hq
      | cons ib q =>
        simp only [runTask, hq', if_neg (show ¬ s.workUnits = 0 by omega)]
        exact unlock_some c _
    | collectSeq =>
      obtain ⟨_, _, _, hwu⟩ := ready_collectSeq sel hn
      have : (s.unfinished.isNone && s.workUnits == 0) = false := by
        rcases hwu with h | h
        · have : (s.workUnits == 0) = false := by
            simp
            omega
          simp [this]
        · cases hu : s.unfinished <;> simp [hu] at h ⊢
      simp only [runTask, this]
      exact unlock_some c _
    | transmit =>
      cases hq' : s.transQ with
      | nil =>
        have hrdy := selectTask_ready (sel.symm.trans hn)
        simp [Task.ready, cCanTransmit, view, hq'] at hrdy
      | cons w q =>
        have hos : ¬ s.outSlots = 0 := by
          rcases ready_transmit sel hn hq' with h | h <;> omega
        simp only [runTask, hq', if_neg hos]
        exact unlock_some c _
    | reorder =>
      cases hq' : s.reordQ with
      | nil =>
        have hrdy := selectTask_ready (sel.symm.trans hn)
        simp [Task.ready, cCanReorder, view, hq'] at hrdy
      | cons w q =>
        simp only [runTask, hq']
        exact ⟨0, _, rfl⟩

/-- not blocked on a condition variable (worker in `xwait`, reader without a free input slot,
    writer with nothing to write) and not finished -/
def Active (s : State α σ) : Prop :=
  (∃ p ∈ s.ws, p.isWaiting = false ∧ p.isExited = false) ∨
  s.rd = .hold ∨ s.rd = .eofPending ∨ (s.rd = .idle ∧ 0 < s.inSlots) ∨
  s.wr.isSome ∨ s.outputQ ≠ []

theorem cont_enabled (c : Cfg) (cd : Codec α σ) (s : State α σ) (i : Nat) (p : WPhase α σ)
    (hl : lockFree s = true) (hp : p.units = 1) (hb : p ≠ .s1 none none) :
    ∃ k s', contTask c cd s i k p = some s' := by
  cases p with
  | ready | waiting | atHead | exited => cases hp
  | c1 ib =>
    simp only [contTask, if_pos hl]
    split
    · exact unlock_some c _
    · exact ⟨0, _, rfl⟩
  | c2 w | t1 w =>
    simp only [contTask, if_pos hl]
    exact ⟨0, _, rfl⟩
  | s1 wo ibo =>
    cases ibo with
    | some ib =>
      simp only [contTask, if_pos hl]
      split
      · exact unlock_some c _
      · exact ⟨0, _, rfl⟩
    | none =>
      cases wo with
      | none => exact absurd rfl hb
      | some w =>
        simp only [contTask, if_pos hl]
        exact unlock_some c _
  | s2 w full =>
    cases full with
    | true =>
      simp only [contTask, if_pos hl]
      exact unlock_some c _
    | false =>
      simp only [contTask, if_pos hl]
      exact ⟨0, _, rfl⟩

def CanStep (c : Cfg) (cd : Codec α σ) (s : State α σ) : Prop :=
  ∃ l s', Label.isSpurious l = false ∧ step c cd s l = some s'

theorem canStep_intro {c : Cfg} {cd : Codec α σ} {s : State α σ} (l : Label)
    (hl : l.isSpurious = false) (h : ∃ s', step c cd s l = some s') : CanStep c cd s :=
  let ⟨s', hs⟩ := h
  ⟨l, s', hl, hs⟩

/-- the same for the labels that say which waiter a signal wakes -/
theorem canStep_intro_sig {c : Cfg} {cd : Codec α σ} {s : State α σ} (l : Nat → Label)
    (hl : ∀ k, (l k).isSpurious = false) (h : ∃ k s', step c cd s (l k) = some s') :
    CanStep c cd s :=
  let ⟨k, s', hs⟩ := h
  ⟨l k, s', hl k, hs⟩

section
variable {c : Cfg} {cd : Codec α σ} {s : State α σ}

theorem worker_enabled (sel : SelInv c s) (noBad : NoBadS1 s) :
    CanStep c cd s ∨ (lockFree s = true ∧ ∀ p ∈ s.ws, p = .waiting ∨ p = .exited) := by
  -- somebody holds the mutex?
  cases hl : lockFree s with
  | false =>
    left
    have : ∃ p ∈ s.ws, (!p.isAtHead) = false := by
      have hl' : ¬ lockFree s = true := by
        rw [hl]
        simp
      simpa [lockFree, List.all_eq_true] using hl'
    obtain ⟨p, hp, hpa⟩ := this
    obtain ⟨i, hi⟩ := List.getElem?_of_mem hp
    have : p = .atHead := by cases p <;> simp [WPhase.isAtHead] at hpa ⊢
    subst this
    refine canStep_intro_sig (.run i) (fun _ => rfl) ?_
    simp only [step, hi]
    exact head_enabled sel i
  | true =>
    -- a runnable worker?
    by_cases hw : ∃ p ∈ s.ws, p ≠ .waiting ∧ p ≠ .exited
    · left
      obtain ⟨p, hp, hpw, hpe⟩ := hw
      obtain ⟨i, hi⟩ := List.getElem?_of_mem hp
      by_cases hr : p = .ready
      · subst hr
        exact canStep_intro (.acquire i) rfl (by simp only [step, hi, if_pos hl]; exact ⟨_, rfl⟩)
      · have hnh : p ≠ .atHead := by
          intro e
          subst e
          have := List.all_eq_true.mp hl _ hp
          simp [WPhase.isAtHead] at this
        have hu : p.units = 1 := by cases p <;> simp_all [WPhase.units]
        refine canStep_intro_sig (.cont i) (fun _ => rfl) ?_
        simp only [step, hi]
        exact cont_enabled c cd s i p hl hu (noBad p hp)
    · refine .inr ⟨rfl, fun p hp => Classical.byContradiction fun h => ?_⟩
      exact hw ⟨p, hp, fun e => h (.inl e), fun e => h (.inr e)⟩

theorem reader_enabled (hl : lockFree s = true) :
    CanStep c cd s ∨ s.rd = .done ∨ (s.rd = .idle ∧ s.inSlots = 0) := by
  cases hrd : s.rd with
  | idle =>
    by_cases hin : 0 < s.inSlots
    · left
      exact canStep_intro .rTake rfl (by simp only [step]; rw [if_pos ⟨hrd, hin⟩]; exact ⟨_, rfl⟩)
    · exact .inr (.inr ⟨rfl, Nat.eq_zero_of_not_pos hin⟩)
  | hold =>
    left
    by_cases hin : s.input = []
    · exact canStep_intro .rEmpty rfl (by simp only [step, hrd, hin, and_self, if_true]; exact ⟨_, rfl⟩)
    · refine canStep_intro_sig .rDeliver (fun _ => rfl) ?_
      simp only [step]
      simp only [if_pos (show s.rd = .hold ∧ s.input ≠ [] ∧ lockFree s = true from ⟨hrd, hin, hl⟩)]
      exact unlock_some c _
  | eofPending =>
    left
    refine canStep_intro_sig .rEof (fun _ => rfl) ?_
    simp only [step]
    simp only [if_pos (show s.rd = .eofPending ∧ lockFree s = true from ⟨hrd, hl⟩)]
    exact unlock_some c _
  | done => exact .inr (.inl rfl)

theorem writer_enabled (hl : lockFree s = true) :
    CanStep c cd s ∨ (s.wr = none ∧ s.outputQ = []) := by
  cases hwr : s.wr with
  | some b =>
    left
    refine canStep_intro_sig .wDone (fun _ => rfl) ?_
    simp only [step, hwr, if_pos hl]
    exact unlock_some c _
  | none =>
    cases hoq : s.outputQ with
    | cons b q => exact .inl (canStep_intro .wTake rfl (by simp only [step, hwr, hoq]; exact ⟨_, rfl⟩))
    | nil => exact .inr ⟨rfl, rfl⟩

end

end LbzVerif.Model.SchedC
