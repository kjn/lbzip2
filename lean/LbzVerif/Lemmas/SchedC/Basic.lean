/-
  Lemmas.SchedC.Basic — the worker list of `Model.SchedC` (weights summed over it, `setW`, a
  wake-up, `broadcast`), what a worker carries, and `pqueue` insertion.
-/
import LbzVerif.Lemmas.SchedC.Pos
import LbzVerif.Lemmas.ListSum
import LbzVerif.Lemmas.SortBy

namespace LbzVerif.Model.SchedC

variable {α σ : Type}

def wsum (f : WPhase α σ → Nat) (ws : List (WPhase α σ)) : Nat := (ws.map f).sum

theorem wsum_cons (f : WPhase α σ → Nat) (a : WPhase α σ) (l : List (WPhase α σ)) :
    wsum f (a :: l) = f a + wsum f l := by simp [wsum]

theorem wsum_set (f : WPhase α σ → Nat) (ws : List (WPhase α σ)) (i : Nat) (p q : WPhase α σ)
    (h : ws[i]? = some q) : wsum f (ws.set i p) + f q = wsum f ws + f p :=
  Lemmas.ListSum.sum_map_set f p h

theorem wsum_eq_zero {f : WPhase α σ → Nat} {ws : List (WPhase α σ)} (h : ∀ p ∈ ws, f p = 0) :
    wsum f ws = 0 :=
  Lemmas.ListSum.sum_map_zero ws f h

theorem wsum_mono {f g : WPhase α σ → Nat} (h : ∀ p, f p ≤ g p) (ws : List (WPhase α σ)) :
    wsum f ws ≤ wsum g ws :=
  Lemmas.ListSum.sum_map_le ws f g fun p _ => h p

theorem wsum_set_same {f : WPhase α σ → Nat} {ws : List (WPhase α σ)} {i : Nat}
    {p q : WPhase α σ} (h : ws[i]? = some q) (hpq : f p = f q) : wsum f (ws.set i p) = wsum f ws := by
  have := wsum_set f ws i p q h
  omega

/-- `ws'` is `ws` after a `cond_signal`: nothing, or one waiter made ready. -/
def Wake (ws ws' : List (WPhase α σ)) : Prop :=
  ws' = ws ∨ ∃ k, ws[k]? = some .waiting ∧ ws' = ws.set k .ready

theorem wsum_wake {f : WPhase α σ → Nat} (hf : f .waiting = f .ready) {ws ws' : List (WPhase α σ)}
    (h : Wake ws ws') : wsum f ws' = wsum f ws := by
  rcases h with rfl | ⟨k, hk, rfl⟩
  · rfl
  · have := wsum_set f ws k .ready .waiting hk
    rw [hf] at this
    omega

theorem wsum_broadcast {f : WPhase α σ → Nat} (hf : f .waiting = f .ready) (ws : List (WPhase α σ)) :
    wsum f (broadcast ws) = wsum f ws := by
  induction ws with
  | nil => rfl
  | cons a l ih =>
    simp only [wsum, broadcast, List.map_cons, List.sum_cons, List.map_map] at ih ⊢
    rw [ih]
    cases a <;> simp [WPhase.isWaiting, hf.symm]

section
variable {P : WPhase α σ → Prop} {ws ws' : List (WPhase α σ)}

theorem forall_set (h : ∀ p ∈ ws, P p) (i : Nat) {p : WPhase α σ} (hp : P p) :
    ∀ q ∈ ws.set i p, P q := by
  intro q hq
  rcases List.mem_or_eq_of_mem_set hq with hm | rfl
  · exact h q hm
  · exact hp

theorem forall_broadcast (hr : P .ready) (h : ∀ p ∈ ws, P p) : ∀ p ∈ broadcast ws, P p := by
  intro p hp
  simp only [broadcast, List.mem_map] at hp
  obtain ⟨q, hq, rfl⟩ := hp
  split
  · exact hr
  · exact h q hq

theorem forall_wake (hw : Wake ws ws') (hr : P .ready) (h : ∀ p ∈ ws, P p) : ∀ p ∈ ws', P p := by
  rcases hw with rfl | ⟨k, _, rfl⟩
  · exact h
  · exact forall_set h k hr

end

theorem init_ready (c : Cfg) (input : List α) :
    ∀ p ∈ (init (σ := σ) c input).ws, p = .ready := by
  intro p hp
  simp only [init, initWith, reselect, List.mem_replicate] at hp
  exact hp.2

theorem init_forall {P : WPhase α σ → Prop} (c : Cfg) (input : List α) (hr : P .ready) :
    ∀ p ∈ (init (σ := σ) c input).ws, P p := by
  intro p hp
  rw [init_ready c input p hp]
  exact hr

theorem wsum_init {f : WPhase α σ → Nat} (c : Cfg) (input : List α) (hf : f .ready = 0) :
    wsum f (init (σ := σ) c input).ws = 0 :=
  wsum_eq_zero (init_forall c input hf)

theorem selectTask_ready {v : Gen.CView} {t : Task} (h : selectTask v = some t) :
    t.ready v = true := by
  have := List.find?_some h
  simpa using this

theorem taskOrder_eq : taskOrder = [.collectSeq, .reorder, .transmit, .collect] := by decide

theorem s1_chunks (a : Option (WBlk σ)) (b : Option (IBlk α)) :
    (WPhase.s1 a b).chunks = optCount b := by cases b <;> rfl

/-- `assert(iblk != NULL)` in `do_collect_seq` does not fail -/
def NoBadS1 (s : State α σ) : Prop := ∀ p ∈ s.ws, p ≠ .s1 none none

theorem optCount_eq_zero {β : Type} {o : Option β} (h : optCount o = 0) : o = none := by
  cases o with
  | none => rfl
  | some _ => cases h

theorem tok_chunks_le_units (p : WPhase α σ) : p.tok ≤ p.units ∧ p.chunks ≤ p.units := by
  cases p with
  | s1 a b => cases b <;> simp [WPhase.tok, WPhase.chunks, WPhase.units]
  | _ => simp [WPhase.tok, WPhase.chunks, WPhase.units]

def WPhase.wblk : WPhase α σ → Option (WBlk σ)
  | .c2 w | .t1 w | .s2 w _ | .s1 (some w) _ => some w
  | _ => none

/-- position of the block a unit-holding worker works on -/
def WPhase.holdPos : WPhase α σ → Option Pos
  | .c1 ib => some ib.pos
  | .c2 w | .t1 w => some w.pos
  | _ => none

/-- the finished block a worker carries to `trans_q` or to `reord_q` -/
def WPhase.carried : WPhase α σ → List (WBlk σ)
  | .c2 w | .t1 w => [w]
  | _ => []

/-- blocks one in_blk will yield -/
def cb (cd : Codec α σ) (ib : IBlk α) : List (WBlk σ) := chunkBlocks cd ib.pos ib.data

/-- blocks a worker phase stands for -/
def WPhase.blocks (cd : Codec α σ) : WPhase α σ → List (WBlk σ)
  | .c1 ib => cb cd ib
  | .c2 w | .t1 w => [w]
  | _ => []

theorem carried_of_units {p : WPhase α σ} (h : p.units = 0) : p.carried = [] := by
  cases p <;> simp [WPhase.units] at h <;> rfl

theorem blocks_of_units (cd : Codec α σ) {p : WPhase α σ} (h : p.units = 0) :
    WPhase.blocks cd p = [] := by
  cases p <;> simp [WPhase.units] at h <;> rfl

theorem tail_head_length {β : Type} (l : List β) : l.tail.length + optCount l.head? = l.length := by
  cases l <;> simp [optCount]

/-- `optCount` with a weight -/
def osum {β : Type} (f : β → Nat) : Option β → Nat
  | some b => f b
  | none => 0

theorem osum_none {β : Type} (f : β → Nat) : osum f none = 0 := rfl
theorem osum_some {β : Type} (f : β → Nat) (b : β) : osum f (some b) = f b := rfl

theorem osum_getD_le {β : Type} (f : β → Nat) (o : Option β) (d : β) :
    f (o.getD d) ≤ osum f o + f d := by
  cases o with
  | none => exact Nat.le_add_left _ _
  | some b => exact Nat.le_add_right _ _

theorem osum_head {β : Type} (f : β → Nat) (q : List β) :
    (q.tail.map f).sum + osum f q.head? = (q.map f).sum := by
  cases q with
  | nil => rfl
  | cons b q =>
    simp only [List.tail_cons, List.head?_cons, osum_some, List.map_cons, List.sum_cons]
    omega

/-- the block a round of `do_collect_seq` fills: the pending one, or a fresh one
    at the in_blk's position -/
abbrev roundBlk (cd : Codec α σ) (cur : Option (WBlk σ)) (ib : IBlk α) : WBlk σ :=
  cur.getD ⟨ib.pos, ib.pos, cd.init⟩

abbrev roundOut (cd : Codec α σ) (cur : Option (WBlk σ)) (ib : IBlk α) : σ × List α × Bool :=
  collectOn cd (roundBlk cd cur ib).enc ib.data

/-- `pqueue_insert`: `insI` and `insW` are one function, insertion by position
(`Spec.Ibwt.insertBy`, Lemmas/SortBy.lean); what holds of it is proved once. -/
theorem insI_eq (x : IBlk α) (l : List (IBlk α)) :
    insI x l = Spec.Ibwt.insertBy (fun a b => a.pos.lt b.pos) x l := by
  induction l with
  | nil => rfl
  | cons y l ih => simp only [insI, Spec.Ibwt.insertBy, ih]

theorem insW_eq (x : WBlk σ) (l : List (WBlk σ)) :
    insW x l = Spec.Ibwt.insertBy (fun a b => a.pos.lt b.pos) x l := by
  induction l with
  | nil => rfl
  | cons y l ih => simp only [insW, Spec.Ibwt.insertBy, ih]

theorem insI_perm (x : IBlk α) (l : List (IBlk α)) : (insI x l).Perm (x :: l) :=
  insI_eq x l ▸ Lemmas.SortBy.insertBy_perm _ x l

theorem insW_perm (x : WBlk σ) (l : List (WBlk σ)) : (insW x l).Perm (x :: l) :=
  insW_eq x l ▸ Lemmas.SortBy.insertBy_perm _ x l

theorem insI_length (x : IBlk α) (l : List (IBlk α)) : (insI x l).length = l.length + 1 :=
  (insI_perm x l).length_eq

theorem sum_map_insI (f : IBlk α → Nat) (w : IBlk α) (l : List (IBlk α)) :
    ((insI w l).map f).sum = f w + (l.map f).sum := by
  rw [((insI_perm w l).map f).sum_nat]
  rfl

theorem sum_map_insW (f : WBlk σ → Nat) (w : WBlk σ) (l : List (WBlk σ)) :
    ((insW w l).map f).sum = f w + (l.map f).sum := by
  rw [((insW_perm w l).map f).sum_nat, List.map_cons, List.sum_cons]

theorem insW_length (x : WBlk σ) (l : List (WBlk σ)) : (insW x l).length = l.length + 1 :=
  (insW_perm x l).length_eq

theorem mem_insW {x w : WBlk σ} {l : List (WBlk σ)} : x ∈ insW w l ↔ x = w ∨ x ∈ l := by
  rw [(insW_perm w l).mem_iff]
  simp

theorem mem_insI {x w : IBlk α} {l : List (IBlk α)} : x ∈ insI w l ↔ x = w ∨ x ∈ l := by
  rw [(insI_perm w l).mem_iff]
  simp

theorem forall_insW {P : WBlk σ → Prop} {w : WBlk σ} {l : List (WBlk σ)} (hw : P w)
    (h : ∀ x ∈ l, P x) : ∀ x ∈ insW w l, P x :=
  fun x hx => (mem_insW.mp hx).elim (fun e => e ▸ hw) (h x)

theorem forall_insI {P : IBlk α → Prop} {w : IBlk α} {l : List (IBlk α)} (hw : P w)
    (h : ∀ x ∈ l, P x) : ∀ x ∈ insI w l, P x :=
  fun x hx => (mem_insI.mp hx).elim (fun e => e ▸ hw) (h x)

open Classical in
theorem count_insW (x w : WBlk σ) (l : List (WBlk σ)) : (insW w l).count x = (w :: l).count x :=
  (insW_perm w l).count_eq x

open Classical in
theorem count_flatMap_insI (f : IBlk α → List (WBlk σ)) (x : WBlk σ) (w : IBlk α)
    (l : List (IBlk α)) : ((insI w l).flatMap f).count x = (f w).count x + (l.flatMap f).count x := by
  rw [((insI_perm w l).flatMap_right f).count_eq, List.flatMap_cons, List.count_append]

theorem countP_insW (p : WBlk σ → Bool) (w : WBlk σ) (l : List (WBlk σ)) :
    (insW w l).countP p = l.countP p + (if p w = true then 1 else 0) := by
  rw [(insW_perm w l).countP_eq, List.countP_cons]

theorem insI_last (x : IBlk α) (l : List (IBlk α)) (h : ∀ y ∈ l, x.pos.lt y.pos = false) :
    insI x l = l ++ [x] := by
  induction l with
  | nil => rfl
  | cons y l ih =>
    simp only [insI, h y List.mem_cons_self, Bool.false_eq_true, if_false, List.cons_append]
    rw [ih (fun z hz => h z (List.mem_cons_of_mem _ hz))]

theorem insI_first (x : IBlk α) (l : List (IBlk α)) (h : ∀ y ∈ l, x.pos.lt y.pos = true) :
    insI x l = x :: l := by
  cases l with
  | nil => rfl
  | cons y l => simp only [insI, h y List.mem_cons_self, if_true]

/-- insertion by position keeps a queue ascending: "not after" is `Pos.le`, a total preorder -/
theorem insertBy_asc {β : Type} (pos : β → Pos) (w : β) (q : List β)
    (h : q.Pairwise (fun a b => (pos b).lt (pos a) = false)) :
    (Spec.Ibwt.insertBy (fun a b => (pos a).lt (pos b)) w q).Pairwise
      (fun a b => (pos b).lt (pos a) = false) :=
  Lemmas.SortBy.insertBy_sorted (R := fun a b => (pos b).lt (pos a) = false)
    (fun _ _ _ hab hbc =>
      Pos.not_lt_of_le (Pos.le_trans (Pos.le_of_not_lt hab) (Pos.le_of_not_lt hbc)))
    w q (fun _ _ hlt => Pos.lt_asymm hlt) (fun _ _ hnl => hnl) h

def ascW (q : List (WBlk σ)) : Prop := q.Pairwise (fun a b => b.pos.lt a.pos = false)

def ascI (q : List (IBlk α)) : Prop := q.Pairwise (fun a b => b.pos.lt a.pos = false)

theorem insW_asc (w : WBlk σ) (q : List (WBlk σ)) (h : ascW q) : ascW (insW w q) :=
  insW_eq w q ▸ insertBy_asc WBlk.pos w q h

theorem insI_asc (w : IBlk α) (q : List (IBlk α)) (h : ascI q) : ascI (insI w q) :=
  insI_eq w q ▸ insertBy_asc IBlk.pos w q h

theorem ascW_head_at {q : List (WBlk σ)} {o : Pos} (h : ascW q) (low : ∀ x ∈ q, o.le x.pos)
    {z : WBlk σ} (hz : z ∈ q) (e : z.pos = o) : ∃ w l, q = w :: l ∧ w.pos = o := by
  cases q with
  | nil => cases hz
  | cons w l =>
    refine ⟨w, l, rfl, Pos.le_antisymm ?_ (low w List.mem_cons_self)⟩
    rcases List.mem_cons.mp hz with rfl | hm
    · exact .inl e
    · exact e ▸ Pos.le_of_not_lt ((List.pairwise_cons.mp h).1 z hm)

end LbzVerif.Model.SchedC
