/-
  Lemmas.SchedC.StepRel — `Model.SchedC.step` as an inductive relation with explicit
  post-states: a `Core` update (the body of one atomic section) followed by the way the section
  ends (`sched_unlock`: select + signal; `select_task()` only; or nothing).  `Ends` keeps
  that `sched_unlock` signals exactly when `next_task != NULL || finished()` and that a
  signal wakes a waiter whenever there is one (the no-lost-wake-up invariant needs it);
  safety needs only that at most one waiter was made ready (`SigWake.wake`).
  `Core` does not record that `sched_mutex` was free where a section takes it: no invariant
  reads it.  The `EndKind` says how a section ends, not whether it held the mutex: `.unlock` and
  `.resel` sections run under it; of the `.plain` ones `runWait`/`runExit` hold it, `acquire`
  takes it, and the rest (`rTake`, `wTake`, `c1Release` …) never touch it.
-/
import LbzVerif.Lemmas.SchedC.Basic

namespace LbzVerif.Model.SchedC

variable {α σ : Type}

inductive EndKind where
  /-- `sched_unlock()`: `select_task()`, `xsignal` if a task is ready or the
      process finished -/
  | unlock
  /-- `run()` returned to `worker_thread_proc`: `select_task()`, mutex kept -/
  | resel
  /-- no scheduler epilogue (other mutex, `xwait`, exit, mutex acquisition) -/
  | plain
  deriving DecidableEq, Repr

/-- what `xsignal` in `sched_unlock` does to the workers -/
def SigWake (c : Cfg) (t : State α σ) (ws' : List (WPhase α σ)) : Prop :=
  if (selectTask (view c t)).isSome || finished c t then
    ((∀ p ∈ t.ws, p.isWaiting = false) ∧ ws' = t.ws) ∨
    (∃ k, t.ws[k]? = some .waiting ∧ ws' = t.ws.set k .ready)
  else ws' = t.ws

theorem SigWake.wake {c : Cfg} {t : State α σ} {ws' : List (WPhase α σ)} (h : SigWake c t ws') :
    Wake t.ws ws' := by
  unfold SigWake at h
  split at h
  · rcases h with ⟨_, h⟩ | ⟨k, hk, h⟩
    · exact .inl h
    · exact .inr ⟨k, hk, h⟩
  · exact .inl h

inductive Ends (c : Cfg) : EndKind → State α σ → State α σ → Prop where
  | unlock {t : State α σ} {ws' : List (WPhase α σ)} : SigWake c t ws' →
      Ends c .unlock t { t with nextTask := selectTask (view c t), ws := ws' }
  | resel {t : State α σ} : Ends c .resel t (reselect c t)
  | plain {t : State α σ} : Ends c .plain t t

/-- The sections that change nothing but the phase of one worker outside every task: a woken
    worker takes `sched_mutex`, a spurious wake-up, `xwait`, the exit (which also broadcasts).
    The index says whether it is the spurious wake-up. -/
inductive IdleStep (c : Cfg) (s : State α σ) : Bool → State α σ → Prop where
  | acquire (i : Nat) : s.ws[i]? = some .ready →
      IdleStep c s false (setW s i .atHead)
  | spurious (i : Nat) : s.ws[i]? = some .waiting → IdleStep c s true (setW s i .ready)
  | runWait (i : Nat) : s.ws[i]? = some .atHead → s.nextTask = none → finished c s = false →
      IdleStep c s false (setW s i .waiting)
  | runExit (i : Nat) : s.ws[i]? = some .atHead → s.nextTask = none → finished c s = true →
      IdleStep c s false { s with ws := broadcast (s.ws.set i .exited) }

/-- the first index says whether the section is a spurious wake-up -/
inductive Core (c : Cfg) (cd : Codec α σ) (s : State α σ) : Bool → EndKind → State α σ → Prop where
  | rTake : s.rd = .idle → 0 < s.inSlots →
      Core c cd s false .plain { s with rd := .hold, inSlots := s.inSlots - 1 }
  | rDeliver : s.rd = .hold → s.input ≠ [] →
      Core c cd s false .unlock
        { s with input := s.input.drop c.inGranul
                 collQ := insI ⟨⟨s.nextId, 0⟩, s.input.take c.inGranul⟩ s.collQ
                 nextId := s.nextId + 1
                 rd := if (s.input.take c.inGranul).length < c.inGranul then .eofPending
                       else .idle }
  | rEmpty : s.rd = .hold → s.input = [] →
      Core c cd s false .plain { s with rd := .eofPending, inSlots := s.inSlots + 1 }
  | rEof : s.rd = .eofPending →
      Core c cd s false .unlock { s with eof := true, rd := .done }
  | wTake (b : WBlk σ) (q : List (WBlk σ)) : s.wr = none → s.outputQ = b :: q →
      Core c cd s false .plain { s with wr := some b, outputQ := q }
  | wDone (b : WBlk σ) : s.wr = some b →
      Core c cd s false .unlock
        { s with wr := none, outSlots := s.outSlots + 1, written := s.written ++ [b] }
  | idle {sp : Bool} {t : State α σ} : IdleStep c s sp t → Core c cd s sp .plain t
  | runCollect (i : Nat) (ib : IBlk α) (q : List (IBlk α)) : s.ws[i]? = some .atHead →
      s.nextTask = some .collect → s.collQ = ib :: q → s.workUnits ≠ 0 →
      Core c cd s false .unlock (setW { s with collQ := q, workUnits := s.workUnits - 1 } i (.c1 ib))
  | runCollectSeq (i : Nat) : s.ws[i]? = some .atHead → s.nextTask = some .collectSeq →
      (s.unfinished.isNone && s.workUnits == 0) = false →
      Core c cd s false .unlock
        (setW { s with unfinished := none
                       workUnits := if s.unfinished.isNone then s.workUnits - 1 else s.workUnits
                       collQ := s.collQ.tail, collectToken := false }
          i (.s1 s.unfinished s.collQ.head?))
  | runTransmit (i : Nat) (w : WBlk σ) (q : List (WBlk σ)) : s.ws[i]? = some .atHead →
      s.nextTask = some .transmit → s.transQ = w :: q → s.outSlots ≠ 0 →
      Core c cd s false .unlock (setW { s with transQ := q, outSlots := s.outSlots - 1 } i (.t1 w))
  | runReorder (i : Nat) (w : WBlk σ) (q : List (WBlk σ)) : s.ws[i]? = some .atHead →
      s.nextTask = some .reorder → s.reordQ = w :: q →
      Core c cd s false .resel
        { s with reordQ := q, order := w.next, outputQ := s.outputQ ++ [w]
                 handed := s.handed ++ [w] }
  | c1Requeue (i : Nat) (ib : IBlk α) : s.ws[i]? = some (.c1 ib) →
      (collectOn cd cd.init ib.data).2.1 ≠ [] →
      Core c cd s false .unlock
        (setW { s with collQ := insI ⟨ib.pos.incMinor, (collectOn cd cd.init ib.data).2.1⟩ s.collQ }
          i (.c2 ⟨ib.pos, ib.pos.incMinor, (collectOn cd cd.init ib.data).1⟩))
  | c1Release (i : Nat) (ib : IBlk α) : s.ws[i]? = some (.c1 ib) →
      (collectOn cd cd.init ib.data).2.1 = [] →
      Core c cd s false .plain
        (setW { s with inSlots := s.inSlots + 1 } i
          (.c2 ⟨ib.pos, ib.pos.incMajor, (collectOn cd cd.init ib.data).1⟩))
  | c2Enq (i : Nat) (w : WBlk σ) : s.ws[i]? = some (.c2 w) →
      Core c cd s false .resel (setW { s with transQ := insW w s.transQ } i .atHead)
  | t1Enq (i : Nat) (w : WBlk σ) : s.ws[i]? = some (.t1 w) →
      Core c cd s false .resel
        (setW { s with workUnits := s.workUnits + 1, reordQ := insW w s.reordQ } i .atHead)
  | s1Requeue (i : Nat) (wo : Option (WBlk σ)) (ib : IBlk α) :
      s.ws[i]? = some (.s1 wo (some ib)) →
      (roundOut cd wo ib).2.1 ≠ [] →
      Core c cd s false .unlock
        (setW { s with collQ := insI ⟨ib.pos.incMinor,
                  (roundOut cd wo ib).2.1⟩ s.collQ }
          i (.s2 ⟨(roundBlk cd wo ib).pos,
                  (roundBlk cd wo ib).next.incMinor,
                  (roundOut cd wo ib).1⟩
                 (roundOut cd wo ib).2.2))
  | s1Release (i : Nat) (wo : Option (WBlk σ)) (ib : IBlk α) :
      s.ws[i]? = some (.s1 wo (some ib)) →
      (roundOut cd wo ib).2.1 = [] →
      Core c cd s false .plain
        (setW { s with inSlots := s.inSlots + 1 }
          i (.s2 ⟨(roundBlk cd wo ib).pos,
                  (roundBlk cd wo ib).next.incMajor,
                  (roundOut cd wo ib).1⟩
                 (roundOut cd wo ib).2.2))
  | s1Flush (i : Nat) (w : WBlk σ) : s.ws[i]? = some (.s1 (some w) none) →
      Core c cd s false .unlock (setW { s with collectToken := true } i (.c2 w))
  | s2Full (i : Nat) (w : WBlk σ) : s.ws[i]? = some (.s2 w true) →
      Core c cd s false .unlock (setW { s with collectToken := true } i (.c2 w))
  | s2Part (i : Nat) (w : WBlk σ) : s.ws[i]? = some (.s2 w false) →
      Core c cd s false .resel (setW { s with collectToken := true, unfinished := some w } i .atHead)

def WPhase.strip : WPhase α σ → WPhase α σ
  | .waiting | .atHead | .exited => .ready
  | p => p

/-- `t` has the scheduler data of `s`, and the workers inside tasks are where they were: what
    `sched_unlock`'s epilogue, `acquire`, `xwait`, a wake-up and the exit leave alone.  The
    invariants about the data do not see the monitor: each is preserved along `Same`. -/
structure Same (s t : State α σ) : Prop where
  data : t = { s with nextTask := t.nextTask, ws := t.ws }
  /-- `strip` identifies all four phases outside tasks, `exited` too: the exit is such a step -/
  ws : t.ws.map WPhase.strip = s.ws.map WPhase.strip

theorem map_strip_set {ws : List (WPhase α σ)} {i : Nat} {q : WPhase α σ} (p : WPhase α σ)
    (h : ws[i]? = some q) (e : p.strip = q.strip) :
    (ws.set i p).map WPhase.strip = ws.map WPhase.strip := by
  obtain ⟨hlt, heq⟩ := List.getElem?_eq_some_iff.mp h
  have : (ws.map WPhase.strip)[i]'(by simpa using hlt) = q.strip := by simp [heq]
  rw [List.map_set, e, ← this]
  exact List.set_getElem_self _

theorem map_strip_broadcast (ws : List (WPhase α σ)) :
    (broadcast ws).map WPhase.strip = ws.map WPhase.strip := by
  simp only [broadcast, List.map_map]
  refine List.map_congr_left fun p _ => ?_
  cases p <;> rfl

theorem Same.ofEnds {c : Cfg} {k : EndKind} {t s' : State α σ} (h : Ends c k t s') : Same t s' := by
  cases h with
  | unlock hw =>
    refine ⟨rfl, ?_⟩
    rcases hw.wake with rfl | ⟨j, hj, rfl⟩
    · rfl
    · exact map_strip_set _ hj rfl
  | resel | plain => exact ⟨rfl, rfl⟩

theorem Same.ofIdle {c : Cfg} {s t : State α σ} {sp : Bool} (h : IdleStep c s sp t) :
    Same s t := by
  cases h with
  | acquire i hw | spurious i hw | runWait i hw hn hf => exact ⟨rfl, map_strip_set _ hw rfl⟩
  | runExit i hw hn hf => exact ⟨rfl, (map_strip_broadcast _).trans (map_strip_set _ hw rfl)⟩

theorem Same.wsum_eq {s t : State α σ} (h : Same s t) {f : WPhase α σ → Nat}
    (hf : ∀ p, f p.strip = f p) : wsum f t.ws = wsum f s.ws := by
  have e : ∀ ws : List (WPhase α σ), wsum f ws = wsum f (ws.map WPhase.strip) := fun ws => by
    simp only [SchedC.wsum, List.map_map, Function.comp_def, hf]
  rw [e, h.ws, ← e]

theorem Same.length {s t : State α σ} (h : Same s t) : t.ws.length = s.ws.length := by
  have := congrArg List.length h.ws
  simpa using this

theorem Same.forall {s t : State α σ} (h : Same s t) {P : WPhase α σ → Prop}
    (hP : ∀ p, P p.strip ↔ P p) (inv : ∀ p ∈ s.ws, P p) : ∀ p ∈ t.ws, P p := by
  intro p hp
  have : p.strip ∈ s.ws.map WPhase.strip := h.ws ▸ List.mem_map_of_mem hp
  obtain ⟨q, hq, e⟩ := List.mem_map.mp this
  exact (hP p).mp (e ▸ (hP q).mpr (inv q hq))

theorem signal_spec {ws ws' : List (WPhase α σ)} {k : Nat} (h : signal ws k = some ws') :
    ((∀ p ∈ ws, p.isWaiting = false) ∧ ws' = ws) ∨
    (∃ k, ws[k]? = some .waiting ∧ ws' = ws.set k .ready) := by
  unfold signal at h
  split at h
  · split at h
    · next heq => right; exact ⟨k, heq, by simpa using h.symm⟩
    · simp at h
  · next hn =>
    left
    refine ⟨?_, by simpa using h.symm⟩
    intro p hp
    cases hw : p.isWaiting with
    | false => rfl
    | true => exact absurd (List.any_eq_true.mpr ⟨p, hp, hw⟩) hn

theorem ends_of_unlock {c : Cfg} {t s' : State α σ} {k : Nat} (h : unlock c t k = some s') :
    Ends c .unlock t s' := by
  unfold unlock at h
  dsimp only at h
  by_cases hc : ((reselect c t).nextTask.isSome || finished c (reselect c t)) = true
  · rw [if_pos hc] at h
    cases hs : signal (reselect c t).ws k with
    | none => simp [hs] at h
    | some ws' =>
      simp only [hs, Option.map_some, Option.some.injEq] at h
      subst h
      refine .unlock ?_
      unfold SigWake
      rw [if_pos (by simpa [reselect, finished, view] using hc)]
      exact signal_spec hs
  · rw [if_neg hc] at h
    simp only [Option.some.injEq] at h
    subst h
    have : Ends c .unlock t { t with nextTask := selectTask (view c t), ws := t.ws } := by
      refine .unlock ?_
      unfold SigWake
      rw [if_neg (by simpa [reselect, finished, view] using hc)]
    exact this

/-- every transition of the executable model is a `Core` followed by `Ends`;
    spurious wake-ups are exactly `IdleStep.spurious`. -/
theorem step_inv {c : Cfg} {cd : Codec α σ} {s s' : State α σ} {l : Label}
    (h : step c cd s l = some s') :
    ∃ sp k t, Core c cd s sp k t ∧ Ends c k t s' ∧ l.isSpurious = sp := by
  cases l with
  | rTake =>
    simp only [step] at h
    split at h
    · next hc => cases h; exact ⟨_, _, _, .rTake hc.1 hc.2, .plain, rfl⟩
    · cases h
  | rDeliver k =>
    simp only [step] at h
    split at h
    · next hc => exact ⟨_, _, _, .rDeliver hc.1 hc.2.1, ends_of_unlock h, rfl⟩
    · cases h
  | rEmpty =>
    simp only [step] at h
    split at h
    · next hc => cases h; exact ⟨_, _, _, .rEmpty hc.1 hc.2, .plain, rfl⟩
    · cases h
  | rEof k =>
    simp only [step] at h
    split at h
    · next hc => exact ⟨_, _, _, .rEof hc.1, ends_of_unlock h, rfl⟩
    · cases h
  | wTake =>
    simp only [step] at h
    split at h
    · next b q hw hq => cases h; exact ⟨_, _, _, .wTake b q hw hq, .plain, rfl⟩
    · cases h
  | wDone k =>
    simp only [step] at h
    split at h
    · next b hw =>
      split at h
      · exact ⟨_, _, _, .wDone b hw, ends_of_unlock h, rfl⟩
      · cases h
    · cases h
  | acquire i =>
    simp only [step] at h
    split at h
    · next hw =>
      split at h
      · cases h; exact ⟨_, _, _, .idle (.acquire i hw), .plain, rfl⟩
      · cases h
    · cases h
  | spurious i =>
    simp only [step] at h
    split at h
    · next hw => cases h; exact ⟨_, _, _, .idle (.spurious i hw), .plain, rfl⟩
    · cases h
  | run i k =>
    simp only [step] at h
    split at h
    · next hw =>
      unfold runHead at h
      split at h
      · next t ht =>
        cases t with
        | collect =>
          simp only [runTask] at h
          split at h
          · cases h
          · next ib q hq =>
            split at h
            · cases h
            · next hwu => exact ⟨_, _, _, .runCollect i ib q hw ht hq hwu, ends_of_unlock h, rfl⟩
        | collectSeq =>
          simp only [runTask] at h
          split at h
          · cases h
          · next hg =>
            exact ⟨_, _, _, .runCollectSeq i hw ht (by simpa using hg), ends_of_unlock h, rfl⟩
        | transmit =>
          simp only [runTask] at h
          split at h
          · cases h
          · next w q hq =>
            split at h
            · cases h
            · next hos => exact ⟨_, _, _, .runTransmit i w q hw ht hq hos, ends_of_unlock h, rfl⟩
        | reorder =>
          simp only [runTask] at h
          split at h
          · cases h
          · next w q hq => cases h; exact ⟨_, _, _, .runReorder i w q hw ht hq, .resel, rfl⟩
      · next ht =>
        split at h
        · next hf => cases h; exact ⟨_, _, _, .idle (.runExit i hw ht hf), .plain, rfl⟩
        · next hf => cases h; exact ⟨_, _, _, .idle (.runWait i hw ht (by simpa using hf)), .plain, rfl⟩
    · cases h
  | cont i k =>
    simp only [step] at h
    split at h
    · next p hw =>
      cases p with
      | ready | waiting | atHead | exited => simp [contTask] at h
      | c1 ib =>
        simp only [contTask] at h
        split at h
        · next hl =>
          split at h
          · exact ⟨_, _, _, .c1Requeue i ib hw hl, ends_of_unlock h, rfl⟩
          · cases h
        · next hl => cases h; exact ⟨_, _, _, .c1Release i ib hw (by simpa using hl), .plain, rfl⟩
      | c2 w =>
        simp only [contTask] at h
        split at h
        · cases h; exact ⟨_, _, _, .c2Enq i w hw, .resel, rfl⟩
        · cases h
      | t1 w =>
        simp only [contTask] at h
        split at h
        · cases h; exact ⟨_, _, _, .t1Enq i w hw, .resel, rfl⟩
        · cases h
      | s1 wo ibo =>
        cases ibo with
        | some ib =>
          simp only [contTask] at h
          split at h
          · next hl =>
            split at h
            · exact ⟨_, _, _, .s1Requeue i wo ib hw hl, ends_of_unlock h, rfl⟩
            · cases h
          · next hl => cases h; exact ⟨_, _, _, .s1Release i wo ib hw (by simpa using hl), .plain, rfl⟩
        | none =>
          cases wo with
          | none => simp [contTask] at h
          | some w =>
            simp only [contTask] at h
            split at h
            · exact ⟨_, _, _, .s1Flush i w hw, ends_of_unlock h, rfl⟩
            · cases h
      | s2 w full =>
        cases full with
        | true =>
          simp only [contTask] at h
          split at h
          · exact ⟨_, _, _, .s2Full i w hw, ends_of_unlock h, rfl⟩
          · cases h
        | false =>
          simp only [contTask] at h
          split at h
          · cases h; exact ⟨_, _, _, .s2Part i w hw, .resel, rfl⟩
          · cases h
    · cases h

/-- Induction over `Reach` for a `P` that `Same` preserves, i.e. that reads neither `next_task`
    nor which workers wait, stand at the loop head or have gone; the section case may use
    `Reach s` for other invariants of the pre-state.  `SelInv` and `WakeInv` read exactly what
    `Same` leaves free, so `inv1_reach` and `wake_reach` split the step themselves. -/
theorem reach_ind {c : Cfg} {cd : Codec α σ} {input : List α} {P : State α σ → Prop}
    (h0 : P (init c input))
    (hcore : ∀ {s t : State α σ} {sp : Bool} {k : EndKind}, Reach c cd input s → P s →
      Core c cd s sp k t → P t)
    (hsame : ∀ {s t : State α σ}, Same s t → P s → P t)
    {s : State α σ} (h : Reach c cd input s) : P s := by
  induction h with
  | init => exact h0
  | step l hr hs ih =>
    obtain ⟨sp, k, t, hc, he, -⟩ := step_inv hs
    exact hsame (.ofEnds he) (hcore hr ih hc)

end LbzVerif.Model.SchedC
