/-
  Lemmas.SchedC.OutputN — the multiset of blocks "handed over + in flight +
  still to be made from the input not yet collected" is always the canonical
  block list; non-sequential mode (`ultra = false`).
-/
import LbzVerif.Lemmas.SchedC.Conserve
import LbzVerif.Lemmas.SchedC.Canon

namespace LbzVerif.Model.SchedC

variable {α σ : Type}

-- Occurrences are counted with `List.count` under classical equality: the block
-- payload `σ` carries no decidable equality.
open Classical

/-- chunks the reader will still deliver -/
def future (c : Cfg) (s : State α σ) : List (IBlk α) := cutChunks c.inGranul s.nextId s.input

/-- `do_collect_seq` never runs (its guard requires `ultra`): `collect_token` stays set, so no
    worker is ever in one of its phases -/
theorem noSeq_reach {c : Cfg} {cd : Codec α σ} {input : List α} {s : State α σ}
    (hu : c.ultra = false) (h : Reach c cd input s) : ∀ p ∈ s.ws, p.tok = 0 := by
  refine (inv1_reach h).cons.token_free ?_
  refine reach_ind (P := fun s => s.collectToken = true) rfl (fun hr ih hc => ?_)
    (fun hs ih => ?_) h
  · cases hc with
    | runCollectSeq i hw hn hg =>
      exact absurd (ready_collectSeq (inv1_reach hr).sel hn).1 (by simp [hu])
    | s1Flush i w hw | s2Full i w hw | s2Part i w hw => rfl
    | idle h =>
      rw [(Same.ofIdle h).data]
      exact ih
    | _ => exact ih
  · rw [hs.data]
    exact ih

/-- for every block `x`: occurrences among (handed, queues, workers, blocks
    still to be made from `coll_q` and from the unread input) = occurrences in
    the canonical list -/
def OutN (c : Cfg) (cd : Codec α σ) (input : List α) (s : State α σ) : Prop :=
  ∀ x, s.handed.count x + s.transQ.count x + s.reordQ.count x +
      wsum (fun p => (WPhase.blocks cd p).count x) s.ws + (s.collQ.flatMap (cb cd)).count x +
      ((future c s).flatMap (cb cd)).count x = (canon c cd input).count x

theorem outN_init (c : Cfg) (cd : Codec α σ) (input : List α) (hu : c.ultra = false) :
    OutN c cd input (init c input) := by
  intro x
  rw [wsum_init (f := fun p : WPhase α σ => (WPhase.blocks cd p).count x) c input rfl]
  simp only [init, initWith, reselect, future, canon, hu, List.count_nil,
    List.flatMap_nil, Bool.false_eq_true, ↓reduceIte, Nat.zero_add]
  rfl

theorem outN_same {c : Cfg} {cd : Codec α σ} {input : List α} {s t : State α σ} (h : Same s t)
    (inv : OutN c cd input s) : OutN c cd input t := by
  intro x
  have I := inv x
  rw [← h.wsum_eq (f := fun p => (WPhase.blocks cd p).count x) (fun p => by cases p <;> rfl)] at I
  rw [h.data]
  exact I

section
variable {c : Cfg} {cd : Codec α σ} {input : List α} {s t : State α σ} {sp : Bool} {k : EndKind}

theorem outN_move {i : Nat} {q p : WPhase α σ} (inv : OutN c cd input s)
    (hw : s.ws[i]? = some q) (hws : t.ws = s.ws.set i p)
    (h : ∀ x, t.handed.count x + t.transQ.count x + t.reordQ.count x +
        (WPhase.blocks cd p).count x + (t.collQ.flatMap (cb cd)).count x +
        ((future c t).flatMap (cb cd)).count x =
      s.handed.count x + s.transQ.count x + s.reordQ.count x +
        (WPhase.blocks cd q).count x + (s.collQ.flatMap (cb cd)).count x +
        ((future c s).flatMap (cb cd)).count x) : OutN c cd input t := by
  intro x
  have e := wsum_set (fun p => (WPhase.blocks cd p).count x) s.ws i p q hw
  have I := inv x
  have := h x
  rw [hws]
  omega

theorem outN_core (ok : cd.OK) (hu : c.ultra = false) (hg : 0 < c.inGranul)
    (h : Core c cd s sp k t) (noSeq : ∀ p ∈ s.ws, p.tok = 0) (sel : SelInv c s)
    (inv : OutN c cd input s) : OutN c cd input t := by
  intro x
  have I := inv x
  cases h with
  | rTake hr hi | rEmpty hr hi | rEof hr | wTake b q hw hq | wDone b hw => exact I
  | rDeliver hr hi =>
    have hf : future c s = ⟨⟨s.nextId, 0⟩, s.input.take c.inGranul⟩ ::
        cutChunks c.inGranul (s.nextId + 1) (s.input.drop c.inGranul) :=
      cutChunks_cons _ _ _ hi hg
    simp only [hf, List.flatMap_cons, List.count_append] at I
    simp only [future, count_flatMap_insI]
    omega
  | runReorder i w q hw hn hq =>
    simp only [hq, List.count_cons] at I
    simp only [future, List.count_append, List.count_cons, List.count_nil]
    simp only [future] at I
    omega
  | idle h => exact outN_same (.ofIdle h) inv x
  | runCollect i ib q hw hn hq hwu =>
    refine outN_move inv hw rfl (fun x => ?_) x
    simp only [setW, future, hq, WPhase.blocks, List.flatMap_cons, List.count_append, List.count_nil]
    omega
  | runCollectSeq i hw hn hg' => exact absurd (ready_collectSeq sel hn).1 (by simp [hu])
  | runTransmit i w q hw hn hq hos =>
    refine outN_move inv hw rfl (fun x => ?_) x
    simp only [setW, future, hq, WPhase.blocks, List.count_cons, List.count_nil]
    omega
  | c1Requeue i ib hw hl =>
    refine outN_move inv hw rfl (fun x => ?_) x
    simp only [setW, future, WPhase.blocks, count_flatMap_insI, cb,
      chunkBlocks_step cd ok ib.pos ib.data hl, List.count_cons, List.count_nil]
    omega
  | c1Release i ib hw hl =>
    refine outN_move inv hw rfl (fun x => ?_) x
    simp only [setW, future, WPhase.blocks, cb, chunkBlocks_last cd ib.pos ib.data hl]
  | c2Enq i w hw | t1Enq i w hw =>
    refine outN_move inv hw rfl (fun x => ?_) x
    simp only [setW, future, WPhase.blocks, count_insW, List.count_cons, List.count_nil]
    omega
  -- the sections of `do_collect_seq`: no worker is in one of its phases
  | _ => exact absurd (noSeq _ (List.mem_of_getElem? ‹_›)) (by simp [WPhase.tok])

end

theorem outN_reach {c : Cfg} {cd : Codec α σ} {input : List α} {s : State α σ}
    (ok : cd.OK) (hu : c.ultra = false) (hg : 0 < c.inGranul) (h : Reach c cd input s) :
    OutN c cd input s :=
  reach_ind (outN_init c cd input hu)
    (fun hr ih hc => outN_core ok hu hg hc (noSeq_reach hu hr) (inv1_reach hr).sel ih) outN_same h

end LbzVerif.Model.SchedC
