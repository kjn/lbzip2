/-
  Lemmas.SchedC.Conserve — conservation of work units, output slots, input slots and of
  `collect_token`, plus `next_task = select_task(state)`: the base invariant.
-/
import LbzVerif.Lemmas.SchedC.StepRel

namespace LbzVerif.Model.SchedC
open LbzVerif.Gen

variable {α σ : Type}

structure Conserved (c : Cfg) (s : State α σ) : Prop where
  nWorkers : s.ws.length = c.n
  units : s.workUnits + unitHolders s = c.n
  slots : s.outSlots + slotHolders s = c.totalOut
  chunks : s.inSlots + chunkHolders s = c.totalIn
  /-- exactly one of: `collect_token` is set / one worker is inside the
      token-protected part of `do_collect_seq` -/
  token : (s.ws.map WPhase.tok).sum + boolCount s.collectToken = 1
  /-- while the token is taken `unfinished_work` is NULL -/
  unf : s.collectToken = false → s.unfinished = none

/-- `next_task` always equals `select_task()` of the current state (every
    section that changes what the guards read ends in `select_task()`). -/
def SelInv (c : Cfg) (s : State α σ) : Prop := s.nextTask = selectTask (view c s)

theorem conserved_init (c : Cfg) (input : List α) : Conserved c (init (σ := σ) c input) := by
  constructor
  · simp [init, initWith, reselect]
  · simp [init, initWith, reselect, unitHolders, optCount, WPhase.units]
  · simp [init, initWith, reselect, slotHolders, optCount, WPhase.slots]
  · simp [init, initWith, reselect, chunkHolders, RPhase.chunks, WPhase.chunks]
  · simp [init, initWith, reselect, boolCount, WPhase.tok]
  · intro h
    rfl

theorem sel_init (c : Cfg) (input : List α) : SelInv c (init (σ := σ) c input) := rfl

section
variable {c : Cfg} {s t : State α σ}

theorem ready_collect (sel : SelInv c s) (hn : s.nextTask = some .collect) :
    c.ultra = false ∧ s.collQ ≠ [] ∧ 0 < s.workUnits := by
  have h : cCanCollect (view c s) = true := selectTask_ready (sel.symm.trans hn)
  simpa [cCanCollect, view, and_assoc] using h

theorem ready_collectSeq (sel : SelInv c s) (hn : s.nextTask = some .collectSeq) :
    c.ultra = true ∧ s.collectToken = true ∧
      (s.collQ ≠ [] ∨ s.eof = true ∧ s.unfinished.isSome = true) ∧
      (0 < s.workUnits ∨ s.unfinished.isSome = true) := by
  have h : cCanCollectSeq (view c s) = true := selectTask_ready (sel.symm.trans hn)
  simpa [cCanCollectSeq, view, and_assoc] using h

theorem ready_reorder {w : WBlk σ} {q : List (WBlk σ)} (sel : SelInv c s)
    (hn : s.nextTask = some .reorder) (hq : s.reordQ = w :: q) : w.pos = s.order := by
  have h : cCanReorder (view c s) = true := selectTask_ready (sel.symm.trans hn)
  simpa [cCanReorder, view, hq, headIs] using h

theorem ready_transmit {w : WBlk σ} {q : List (WBlk σ)} (sel : SelInv c s)
    (hn : s.nextTask = some .transmit) (hq : s.transQ = w :: q) :
    TRANSM_THRESH < s.outSlots ∨ 0 < s.outSlots ∧ w.pos = s.order := by
  have h : cCanTransmit (view c s) = true := selectTask_ready (sel.symm.trans hn)
  simpa [cCanTransmit, view, hq, headIs] using h

theorem Conserved.of_totals (inv : Conserved c s) (hl : t.ws.length = s.ws.length)
    (hu : t.workUnits + unitHolders t = s.workUnits + unitHolders s)
    (hs : t.outSlots + slotHolders t = s.outSlots + slotHolders s)
    (hc : t.inSlots + chunkHolders t = s.inSlots + chunkHolders s)
    (ht : wsum WPhase.tok t.ws + boolCount t.collectToken
        = wsum WPhase.tok s.ws + boolCount s.collectToken)
    (hunf : t.collectToken = false → t.unfinished = none) : Conserved c t :=
  ⟨hl.trans inv.nWorkers, hu.trans inv.units, hs.trans inv.slots, hc.trans inv.chunks,
    ht.trans inv.token, hunf⟩

/-- worker `i` goes from phase `q` to phase `p`, and what it holds goes with it -/
theorem Conserved.move {i : Nat} {q p : WPhase α σ} (inv : Conserved c s)
    (hw : s.ws[i]? = some q) (hws : t.ws = s.ws.set i p)
    (hu : t.workUnits + t.transQ.length + optCount t.unfinished + p.units
        = s.workUnits + s.transQ.length + optCount s.unfinished + q.units)
    (hs : t.outSlots + t.reordQ.length + t.outputQ.length + optCount t.wr + p.slots
        = s.outSlots + s.reordQ.length + s.outputQ.length + optCount s.wr + q.slots)
    (hc : t.inSlots + t.collQ.length + t.rd.chunks + p.chunks
        = s.inSlots + s.collQ.length + s.rd.chunks + q.chunks)
    (ht : p.tok + boolCount t.collectToken = q.tok + boolCount s.collectToken)
    (hunf : t.collectToken = false → t.unfinished = none) : Conserved c t := by
  have eu := wsum_set WPhase.units s.ws i p q hw
  have es := wsum_set WPhase.slots s.ws i p q hw
  have ec := wsum_set WPhase.chunks s.ws i p q hw
  have et := wsum_set WPhase.tok s.ws i p q hw
  simp only [wsum] at eu es ec
  refine inv.of_totals (by simp [hws]) ?_ ?_ ?_ ?_ hunf
  · simp only [unitHolders, hws]
    omega
  · simp only [slotHolders, hws]
    omega
  · simp only [chunkHolders, hws]
    omega
  · rw [hws]
    omega

theorem Conserved.tok_holder {i : Nat} {q : WPhase α σ} (inv : Conserved c s)
    (hw : s.ws[i]? = some q) (hq : q.tok = 1) : s.collectToken = false := by
  have e := wsum_set WPhase.tok s.ws i .ready q hw
  have h := inv.token
  cases hh : s.collectToken with
  | false => rfl
  | true =>
    rw [hh] at h
    rw [hq] at e
    simp only [boolCount] at h
    simp only [wsum, WPhase.tok] at e
    omega

theorem tok_zero_of_token {ws : List (WPhase α σ)} (hs : (ws.map WPhase.tok).sum = 0) :
    ∀ p ∈ ws, p.tok = 0 := by
  intro p hp
  have := Lemmas.ListSum.mem_le_sum_map WPhase.tok hp
  omega

theorem Conserved.token_free (inv : Conserved c s) (htk : s.collectToken = true) :
    ∀ p ∈ s.ws, p.tok = 0 := by
  have h := inv.token
  rw [htk] at h
  simp only [boolCount] at h
  exact tok_zero_of_token (by omega)

theorem Conserved.token_of_free (inv : Conserved c s) (h : (s.ws.map WPhase.tok).sum = 0) :
    s.collectToken = true := by
  have ht := inv.token
  cases hh : s.collectToken with
  | true => rfl
  | false =>
    rw [hh, h] at ht
    cases ht

theorem Conserved.others_free {i : Nat} {q : WPhase α σ} (inv : Conserved c s)
    (hw : s.ws[i]? = some q) (hq : q.tok = 1) : ∀ r ∈ s.ws.set i .ready, r.tok = 0 := by
  have e := wsum_set WPhase.tok s.ws i .ready q hw
  have h := inv.token
  simp only [wsum] at e
  have hr0 : WPhase.tok (WPhase.ready : WPhase α σ) = 0 := rfl
  exact tok_zero_of_token (by omega)

theorem Conserved.tok_unique {i : Nat} {q : WPhase α σ} (inv : Conserved c s)
    (hw : s.ws[i]? = some q) (hq : q.tok = 1) (r : WPhase α σ) :
    ∀ p ∈ s.ws.set i r, p = r ∨ p.tok = 0 := by
  have hset : s.ws.set i r = (s.ws.set i .ready).set i r := by simp
  rw [hset]
  exact forall_set (fun p hp => .inr (inv.others_free hw hq p hp)) i (.inl rfl)

end

/-- the laws read the worker list only through its length and the four weights -/
theorem conserved_same {c : Cfg} {s t : State α σ} (h : Same s t) (inv : Conserved c s) :
    Conserved c t := by
  have hu := h.wsum_eq (f := WPhase.units) (fun p => by cases p <;> rfl)
  have hs := h.wsum_eq (f := WPhase.slots) (fun p => by cases p <;> rfl)
  have hc := h.wsum_eq (f := WPhase.chunks) (fun p => by cases p <;> rfl)
  have ht := h.wsum_eq (f := WPhase.tok) (fun p => by cases p <;> rfl)
  simp only [wsum] at hu hs hc
  rw [h.data]
  refine inv.of_totals h.length ?_ ?_ ?_ (by rw [ht]) inv.unf
  · simp only [unitHolders, hu]
  · simp only [slotHolders, hs]
  · simp only [chunkHolders, hc]

theorem sel_ends {c : Cfg} {k : EndKind} {t s' : State α σ} (h : Ends c k t s')
    (hp : k = .plain → SelInv c t) : SelInv c s' := by
  cases h with
  | unlock hw => rfl
  | resel => rfl
  | plain => exact hp rfl

section
variable {c : Cfg} {cd : Codec α σ} {s t : State α σ} {sp : Bool} {k : EndKind}

theorem core_plain_view (h : Core c cd s sp .plain t) :
    view c t = view c s ∧ t.nextTask = s.nextTask := by
  cases h with
  | idle h => cases h <;> exact ⟨rfl, rfl⟩
  | _ => exact ⟨rfl, rfl⟩

theorem conserved_core (h : Core c cd s sp k t) (inv : Conserved c s) (sel : SelInv c s) :
    Conserved c t := by
  cases h with
  | rTake hr hi | rEmpty hr hi =>
    refine inv.of_totals rfl rfl rfl ?_ rfl inv.unf
    simp only [chunkHolders, hr, RPhase.chunks]
    omega
  | rDeliver hr hi =>
    refine inv.of_totals rfl rfl rfl ?_ rfl inv.unf
    have hz : ∀ (p : Prop) [Decidable p],
        (if p then RPhase.eofPending else RPhase.idle).chunks = 0 := by
      intro p _
      split <;> rfl
    simp only [chunkHolders, insI_length, hz]
    simp only [hr, RPhase.chunks]
    omega
  | rEof hr =>
    refine inv.of_totals rfl rfl rfl ?_ rfl inv.unf
    simp only [chunkHolders, hr, RPhase.chunks]
  | wTake b q hw hq =>
    refine inv.of_totals rfl rfl ?_ rfl rfl inv.unf
    simp only [slotHolders, hw, hq, optCount, List.length_cons]
    omega
  | wDone b hw =>
    refine inv.of_totals rfl rfl ?_ rfl rfl inv.unf
    simp only [slotHolders, hw, optCount]
    omega
  | runReorder i w q hw hn hq =>
    refine inv.of_totals rfl rfl ?_ rfl rfl inv.unf
    simp only [slotHolders, hq, List.length_cons, List.length_append, List.length_nil]
    omega
  | idle h => exact conserved_same (.ofIdle h) inv
  | runCollect i ib q hw hn hq hwu =>
    refine inv.move hw rfl ?_ rfl ?_ rfl inv.unf
    · simp only [setW, WPhase.units]
      omega
    · simp only [setW, hq, List.length_cons, WPhase.chunks]
      omega
  | runTransmit i w q hw hn hq hos =>
    refine inv.move hw rfl ?_ ?_ rfl rfl inv.unf
    · simp only [setW, hq, List.length_cons, WPhase.units]
      omega
    · simp only [setW, WPhase.slots]
      omega
  | c1Requeue i ib hw hl | s1Requeue i wo ib hw hl =>
    refine inv.move hw rfl rfl rfl ?_ rfl inv.unf
    simp only [setW, insI_length, WPhase.chunks]
    omega
  | c1Release i ib hw hl | s1Release i wo ib hw hl =>
    refine inv.move hw rfl rfl rfl ?_ rfl inv.unf
    simp only [setW, WPhase.chunks]
    omega
  | c2Enq i w hw =>
    refine inv.move hw rfl ?_ rfl rfl rfl inv.unf
    simp only [setW, insW_length, WPhase.units]
    omega
  | t1Enq i w hw =>
    refine inv.move hw rfl ?_ ?_ rfl rfl inv.unf
    · simp only [setW, WPhase.units]
      omega
    · simp only [setW, insW_length, WPhase.slots]
      omega
  | s1Flush i w hw | s2Full i w hw =>
    have htk := inv.tok_holder hw rfl
    refine inv.move hw rfl rfl rfl rfl ?_ (fun hh => nomatch hh)
    simp only [setW, htk, boolCount, WPhase.tok]
  | s2Part i w hw =>
    -- `unfinished_work` is NULL while the token is out, so storing `w` adds one holder
    have htk := inv.tok_holder hw rfl
    refine inv.move hw rfl ?_ rfl rfl ?_ (fun hh => nomatch hh)
    · simp only [setW, inv.unf htk, optCount, WPhase.units]
    · simp only [setW, htk, boolCount, WPhase.tok]
  | runCollectSeq i hw hn hg =>
    have htk := (ready_collectSeq sel hn).2.1
    refine inv.move hw rfl ?_ rfl ?_ ?_ (fun _ => rfl)
    · cases hu : s.unfinished with
      | none =>
        simp only [hu, Option.isNone_none, Bool.true_and, beq_eq_false_iff_ne, ne_eq] at hg
        simp only [setW, Option.isNone_none, optCount, ↓reduceIte, WPhase.units]
        omega
      | some w => simp only [setW, Option.isNone_some, optCount, Bool.false_eq_true, ↓reduceIte, WPhase.units]
    · have hth := tail_head_length s.collQ
      simp only [setW, s1_chunks]
      simp only [WPhase.chunks]
      omega
    · simp only [setW, htk, boolCount, WPhase.tok]

end

/-- the base invariant: what every later invariant's step takes as hypotheses -/
structure Inv1 (c : Cfg) (s : State α σ) : Prop where
  cons : Conserved c s
  sel : SelInv c s

theorem inv1_core_ends {c : Cfg} {cd : Codec α σ} {s t s' : State α σ} {sp : Bool} {k : EndKind}
    (hc : Core c cd s sp k t) (he : Ends c k t s') (inv : Inv1 c s) : Inv1 c s' := by
  refine ⟨conserved_same (.ofEnds he) (conserved_core hc inv.cons inv.sel), sel_ends he ?_⟩
  intro hk
  subst hk
  obtain ⟨hv, hn⟩ := core_plain_view hc
  rw [SelInv, hn, hv]
  exact inv.sel

theorem inv1_reach {c : Cfg} {cd : Codec α σ} {input : List α} {s : State α σ}
    (h : Reach c cd input s) : Inv1 c s := by
  induction h with
  | init => exact ⟨conserved_init c input, sel_init c input⟩
  | step l _ hs ih =>
    obtain ⟨sp, k, t, hc, he, -⟩ := step_inv hs
    exact inv1_core_ends hc he ih

theorem capacity_of_conserved {c : Cfg} {s : State α σ} (inv : Conserved c s) :
    s.collQ.length ≤ c.caps.1 ∧ s.transQ.length ≤ c.caps.2.1 ∧ s.reordQ.length ≤ c.caps.2.2 ∧
      s.outputQ.length ≤ c.totalOut := by
  obtain ⟨i1, i2, i3, i4, _, _⟩ := inv
  simp only [unitHolders, slotHolders, chunkHolders] at i2 i3 i4
  simp only [Cfg.caps, cCaps]
  refine ⟨?_, ?_, ?_, ?_⟩ <;> omega

end LbzVerif.Model.SchedC
