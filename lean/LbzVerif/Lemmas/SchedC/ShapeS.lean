/-
  Lemmas.SchedC.ShapeS — shape invariant of SEQUENTIAL mode (`ultra = true`):
  `coll_q` is strictly sorted by chunk number, every queued / held in_blk is
  older than the chunks still to be read, the in_blk held by the token holder
  is older than everything queued (so re-queuing puts it back at the head), and
  the flush path of `do_collect_seq` (`iblk == NULL`) is only taken when
  nothing is left to collect.
-/
import LbzVerif.Lemmas.SchedC.Conserve
import LbzVerif.Lemmas.SchedC.Reader

namespace LbzVerif.Model.SchedC

variable {α σ : Type}

structure ShapeS (s : State α σ) : Prop where
  noC1 : ∀ p ∈ s.ws, ∀ ib, p ≠ .c1 ib
  sorted : s.collQ.Pairwise (fun a b => a.pos.major < b.pos.major)
  qLt : ∀ ib ∈ s.collQ, ib.pos.major < s.nextId
  held : ∀ p ∈ s.ws, ∀ wo ib, p = .s1 wo (some ib) →
    ib.pos.major < s.nextId ∧ ∀ jb ∈ s.collQ, ib.pos.major < jb.pos.major
  flush : ∀ p ∈ s.ws, ∀ wo, p = .s1 wo none → s.eof = true ∧ s.collQ = []

theorem shapeS_init (c : Cfg) (input : List α) : ShapeS (init (σ := σ) c input) :=
  ⟨init_forall c input (fun _ => nofun), List.Pairwise.nil, nofun,
    init_forall c input (fun _ _ => nofun), init_forall c input (fun _ => nofun)⟩

def WPhase.plainPh : WPhase α σ → Prop
  | .c1 _ | .s1 _ _ => False
  | _ => True

/-- the invariant speaks of the workers in `c1` and `s1` only: it survives when
    every worker is in another phase or is as it was, and what the clauses
    compare with stays -/
theorem ShapeS.of_workers {s t : State α σ} (inv : ShapeS s) (hn : t.nextId = s.nextId)
    (he : t.eof = s.eof) (hq : t.collQ = s.collQ) (h : ∀ p ∈ t.ws, p.plainPh ∨ p ∈ s.ws) :
    ShapeS t := by
  have old : ∀ p ∈ t.ws, ¬ p.plainPh → p ∈ s.ws := fun p hp hn => (h p hp).resolve_left hn
  refine ⟨?_, ?_, ?_, ?_, ?_⟩
  · intro p hp ib e
    exact inv.noC1 p (old p hp (e ▸ id)) ib e
  · rw [hq]
    exact inv.sorted
  · rw [hq, hn]
    exact inv.qLt
  · rw [hq, hn]
    intro p hp wo ib e
    exact inv.held p (old p hp (e ▸ id)) wo ib e
  · rw [hq, he]
    intro p hp wo e
    exact inv.flush p (old p hp (e ▸ id)) wo e

theorem shapeS_same {s t : State α σ} (h : Same s t) (inv : ShapeS s) : ShapeS t := by
  rw [h.data]
  refine inv.of_workers rfl rfl rfl fun p hp => ?_
  have : p.strip ∈ s.ws.map WPhase.strip := h.ws ▸ List.mem_map_of_mem hp
  obtain ⟨q, hq, e⟩ := List.mem_map.mp this
  -- a phase inside `c1`/`s1` is its own `strip`, so `q` is `p`
  cases p <;> first | exact .inl trivial | (cases q <;> cases e; exact .inr hq)

section
variable {c : Cfg} {cd : Codec α σ} {s t : State α σ} {sp : Bool} {k : EndKind}

theorem ShapeS.deliver_last (sh : ShapeS s) (d : List α) :
    insI ⟨⟨s.nextId, 0⟩, d⟩ s.collQ = s.collQ ++ [⟨⟨s.nextId, 0⟩, d⟩] := by
  apply insI_last
  intro y hy
  exact Pos.lt_asymm (Pos.lt_of_major (sh.qLt y hy))

theorem ShapeS.requeue_first (sh : ShapeS s) {i : Nat} {wo : Option (WBlk σ)} {ib : IBlk α}
    (hw : s.ws[i]? = some (.s1 wo (some ib))) (d : List α) :
    insI ⟨ib.pos.incMinor, d⟩ s.collQ = ⟨ib.pos.incMinor, d⟩ :: s.collQ := by
  apply insI_first
  intro y hy
  have := (sh.held _ (List.mem_of_getElem? hw) wo ib rfl).2 y hy
  exact Pos.lt_of_major this

/-- of the workers only the token holder can be in `s1` -/
theorem s1_holder {p r : WPhase α σ} {wo : Option (WBlk σ)} {ibo : Option (IBlk α)}
    (h : p = r ∨ p.tok = 0) (e : p = .s1 wo ibo) : r = .s1 wo ibo := by
  rcases h with rfl | h0
  · exact e
  · subst e
    cases h0

theorem shapeS_core (hu : c.ultra = true) (h : Core c cd s sp k t)
    (inv : ShapeS s) (cons : Conserved c s) (sel : SelInv c s) (rdi : ReaderInv s) :
    ShapeS t := by
  have ⟨i1, i2, i3, i4, i5⟩ := inv
  cases h with
  | rTake hr hi | rEmpty hr hi | wTake b q hw hq | wDone b hw | runReorder i w q hw hn hq =>
    exact ⟨i1, i2, i3, i4, i5⟩
  | rDeliver hr hi =>
    have hlast := inv.deliver_last (s.input.take c.inGranul)
    refine ⟨i1, ?_, ?_, ?_, ?_⟩
    · show (insI _ s.collQ).Pairwise _
      rw [hlast, List.pairwise_append]
      refine ⟨i2, List.pairwise_singleton _ _, ?_⟩
      intro a ha b hb
      simp only [List.mem_singleton] at hb
      subst hb
      exact i3 a ha
    · exact forall_insI (P := fun ib => ib.pos.major < s.nextId + 1) (Nat.lt_succ_self _)
        (fun ib h => Nat.lt_succ_of_lt (i3 ib h))
    · intro p hp wo ib h
      obtain ⟨a, b⟩ := i4 p hp wo ib h
      exact ⟨Nat.lt_succ_of_lt a, forall_insI a b⟩
    · intro p hp wo h
      have he := (i5 p hp wo h).1
      have := rdi.eofDone he
      rw [hr] at this
      cases this
  | rEof hr =>
    refine ⟨i1, i2, i3, i4, ?_⟩
    intro p hp wo h
    exact ⟨rfl, (i5 p hp wo h).2⟩
  | idle h => exact shapeS_same (.ofIdle h) inv
  | runCollect i ib q hw hn hq hwu => exact absurd (ready_collect sel hn).1 (by simp [hu])
  | runTransmit i w q hw hn hq hos | c2Enq i w hw | t1Enq i w hw
    | s1Release i wo ib hw hl | s1Flush i w hw | s2Full i w hw | s2Part i w hw =>
    exact inv.of_workers rfl rfl rfl (forall_set (fun _ hp => .inr hp) i (.inl trivial))
  | c1Requeue i ib hw hl | c1Release i ib hw hl =>
    exact absurd rfl (i1 _ (List.mem_of_getElem? hw) ib)
  | runCollectSeq i hw hn hg =>
    obtain ⟨_, htk, hrdy, _⟩ := ready_collectSeq sel hn
    have hz := cons.token_free htk
    have huniq : ∀ p ∈ s.ws.set i (.s1 s.unfinished s.collQ.head?),
        p = .s1 s.unfinished s.collQ.head? ∨ p.tok = 0 :=
      forall_set (fun p hp => .inr (hz p hp)) i (.inl rfl)
    refine ⟨?_, ?_, ?_, ?_, ?_⟩
    · exact forall_set i1 i (fun _ => nofun)
    · show s.collQ.tail.Pairwise _
      exact i2.tail
    · intro ib hib
      exact i3 ib (List.mem_of_mem_tail hib)
    · intro p hp wo ib h
      have hh := (WPhase.s1.inj (s1_holder (huniq p hp) h)).2
      cases hq : s.collQ with
      | nil =>
        rw [hq] at hh
        cases hh
      | cons y l =>
        rw [hq] at hh i2
        cases hh
        exact ⟨i3 _ (hq ▸ List.mem_cons_self), (List.pairwise_cons.mp i2).1⟩
    · intro p hp wo h
      have hh := (WPhase.s1.inj (s1_holder (huniq p hp) h)).2
      cases hq : s.collQ with
      | cons y l =>
        rw [hq] at hh
        cases hh
      | nil =>
        refine ⟨?_, rfl⟩
        rcases hrdy with h' | h'
        · exact absurd hq h'
        · exact h'.1
  | s1Requeue i wo ib hw hl =>
    have huniq := cons.tok_unique hw rfl
    obtain ⟨hlt, hall⟩ := i4 _ (List.mem_of_getElem? hw) wo ib rfl
    have hfirst := inv.requeue_first hw
      (roundOut cd wo ib).2.1
    refine ⟨?_, ?_, ?_, ?_, ?_⟩
    · exact forall_set i1 i (fun _ => nofun)
    · show (insI _ s.collQ).Pairwise _
      rw [hfirst]
      exact List.pairwise_cons.mpr ⟨fun y hy => hall y hy, i2⟩
    · exact forall_insI hlt i3
    · intro p hp wo' ib' h
      cases s1_holder (huniq _ p hp) h
    · intro p hp wo' h
      cases s1_holder (huniq _ p hp) h

end

theorem shapeS_reach {c : Cfg} {cd : Codec α σ} {input : List α} {s : State α σ}
    (hu : c.ultra = true) (h : Reach c cd input s) : ShapeS s :=
  reach_ind (shapeS_init c input)
    (fun hr ih hc =>
      shapeS_core hu hc ih (inv1_reach hr).cons (inv1_reach hr).sel (reader_reach hr))
    shapeS_same h

end LbzVerif.Model.SchedC
