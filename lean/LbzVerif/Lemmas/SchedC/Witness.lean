/-
  Lemmas.SchedC.Witness — concrete reachable states used by the non-vacuity
  examples of C03 / C11 / C13 / C18 (a 5-byte input cut into 3 chunks and 3
  blocks, two workers, generated slot totals).
-/
import LbzVerif.Lemmas.SchedC.Restore

namespace LbzVerif.Model.SchedC

/-- a small concrete collector: byte `1` ends the block after it. -/
def wcollect : List Nat → List Nat → Nat → List Nat × Nat × Bool
  | st, [], k => (st, k, false)
  | st, b :: r, k => if b = 1 then (st ++ [b], k + 1, true) else wcollect (st ++ [b]) r (k + 1)

def wCodec : Codec Nat (List Nat) := { init := [], collect := fun st r => wcollect st r 0 }

def runLabels {α σ} (c : Cfg) (cd : Codec α σ) (s : State α σ) : List Label → Option (State α σ)
  | [] => some s
  | l :: ls => (step c cd s l).bind (fun s' => runLabels c cd s' ls)

theorem reach_of_run {α σ} {c : Cfg} {cd : Codec α σ} {input : List α} {s s' : State α σ}
    (ls : List Label) (hr : Reach c cd input s) (h : runLabels c cd s ls = some s') :
    Reach c cd input s' := by
  induction ls generalizing s with
  | nil =>
    simp only [runLabels, Option.some.injEq] at h
    subst h
    exact hr
  | cons l ls ih =>
    simp only [runLabels] at h
    cases hs : step c cd s l with
    | none => simp [hs] at h
    | some s1 =>
      rw [hs] at h
      exact ih (.step l hr hs) h

/-- 2 workers, non-sequential, slot totals from the generated
    `set_memory_constraints`, chunk size 2 -/
def wCfg : Cfg := { Cfg.ofGen 2 1 false with inGranul := 2 }
def wInput : List Nat := [0, 1, 0, 1, 0]

open Label in
/-- a complete run: 3 chunks, 3 blocks, both workers exit -/
def wFinalPath : List Label :=
  [rTake, rDeliver 0, rTake, rDeliver 0, rTake, rDeliver 0, rEof 0, acquire 0, run 0 0, cont 0 0,
   cont 0 0, run 0 0, cont 0 0, run 0 0, wTake, run 0 0, wDone 0, cont 0 0, cont 0 0, run 0 0,
   cont 0 0, run 0 0, wTake, run 0 0, wDone 0, cont 0 0, cont 0 0, run 0 0, cont 0 0, run 0 0,
   wTake, run 0 0, wDone 0, acquire 0, run 0 0, acquire 1, run 1 0]

open Label in
def wMidPath : List Label :=
  [rTake, rDeliver 0, rTake, rDeliver 0, rTake, rDeliver 0, acquire 0, run 0 0, acquire 1,
   cont 0 0, run 1 0, cont 0 0, run 0 0, cont 0 0, run 0 0, run 0 0, cont 0 0, cont 0 0, run 0 0,
   cont 0 0, cont 1 0]

def wFinal : State Nat (List Nat) := (runLabels wCfg wCodec (init wCfg wInput) wFinalPath).getD (init wCfg wInput)
def wMid : State Nat (List Nat) := (runLabels wCfg wCodec (init wCfg wInput) wMidPath).getD (init wCfg wInput)

/-- the end state of `wFinalPath`, written out: the run is evaluated once, in
    `wFinal_runVal`, and everything about `wFinal` is read off this value -/
def wFinalVal : State Nat (List Nat) :=
  { input := [], rd := .done, nextId := 3, inSlots := 4, eof := true, collQ := [], transQ := [],
    reordQ := [], order := ⟨3, 0⟩, workUnits := 2, outSlots := 6, collectToken := true,
    unfinished := none, nextTask := none, ws := [.exited, .exited], outputQ := [], wr := none,
    handed := [⟨⟨0, 0⟩, ⟨1, 0⟩, [0, 1]⟩, ⟨⟨1, 0⟩, ⟨2, 0⟩, [0, 1]⟩, ⟨⟨2, 0⟩, ⟨3, 0⟩, [0]⟩],
    written := [⟨⟨0, 0⟩, ⟨1, 0⟩, [0, 1]⟩, ⟨⟨1, 0⟩, ⟨2, 0⟩, [0, 1]⟩, ⟨⟨2, 0⟩, ⟨3, 0⟩, [0]⟩] }

def wMidVal : State Nat (List Nat) :=
  { input := [], rd := .eofPending, nextId := 3, inSlots := 4, eof := false, collQ := [],
    transQ := [], reordQ := [⟨⟨2, 0⟩, ⟨3, 0⟩, [0]⟩], order := ⟨1, 0⟩, workUnits := 1, outSlots := 4,
    collectToken := true, unfinished := none, nextTask := none,
    ws := [.atHead, .c2 ⟨⟨1, 0⟩, ⟨2, 0⟩, [0, 1]⟩], outputQ := [⟨⟨0, 0⟩, ⟨1, 0⟩, [0, 1]⟩], wr := none,
    handed := [⟨⟨0, 0⟩, ⟨1, 0⟩, [0, 1]⟩], written := [] }

theorem wFinal_runVal :
    runLabels wCfg wCodec (init wCfg wInput) wFinalPath = some wFinalVal := by decide

theorem wMid_runVal : runLabels wCfg wCodec (init wCfg wInput) wMidPath = some wMidVal := by decide

theorem wFinal_eq : wFinal = wFinalVal := by
  rw [wFinal, wFinal_runVal]
  rfl

theorem wMid_eq : wMid = wMidVal := by
  rw [wMid, wMid_runVal]
  rfl

theorem wFinal_reach : Reach wCfg wCodec wInput wFinal :=
  wFinal_eq ▸ reach_of_run _ .init wFinal_runVal

theorem wMid_reach : Reach wCfg wCodec wInput wMid := wMid_eq ▸ reach_of_run _ .init wMid_runVal

theorem wFinal_facts : isFinal wFinal = true ∧ finished wCfg wFinal = true ∧
    wFinal.handed.map (·.pos) = [⟨0, 0⟩, ⟨1, 0⟩, ⟨2, 0⟩] ∧
    wFinal.written.map (·.enc) = [[0, 1], [0, 1], [0]] := by
  rw [wFinal_eq]
  decide

/-- out-of-order situation: (0,0) handed over, (2,0) waits in `reord_q` for
    (1,0), which worker 1 is still encoding -/
theorem wMid_facts : wMid.handed.map (·.pos) = [⟨0, 0⟩] ∧ wMid.reordQ.map (·.pos) = [⟨2, 0⟩] ∧
    wMid.workUnits = 1 ∧ wMid.outSlots = 4 ∧ wMid.inSlots = 4 ∧ unitHolders wMid = 1 ∧
    slotHolders wMid = 2 ∧ isFinal wMid = false := by
  rw [wMid_eq]
  decide

end LbzVerif.Model.SchedC
