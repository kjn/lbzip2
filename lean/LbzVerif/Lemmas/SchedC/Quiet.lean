/-
  Lemmas.SchedC.Quiet — a quiet state (mutex free, every worker in `xwait`,
  reader stalled or done, writer idle) is NOT reachable: the block at position
  `order` is the head of `reord_q`, or the head of `trans_q` (and the reserve
  leaves it an output slot), or still to be collected (and a work unit is
  free), or not yet read (and an input slot is free), or nothing is left (and
  `can_terminate()` holds) — in each case a guard holds or the process has
  finished, against the no-lost-wake-up invariant.
-/
import LbzVerif.Lemmas.SchedC.Enabled
import LbzVerif.Lemmas.SchedC.Reserve
import LbzVerif.Lemmas.SchedC.UnitN
import LbzVerif.Lemmas.SchedC.CanonSplit

namespace LbzVerif.Model.SchedC
open LbzVerif.Gen

variable {α σ : Type}

/-- every thread is blocked on a condition variable (or gone), nobody has left
    yet, and nothing is in flight to the writer -/
structure Quiet (s : State α σ) : Prop where
  free : lockFree s = true
  allWait : ∀ p ∈ s.ws, p = .waiting
  some : s.ws ≠ []
  reader : s.rd = .done ∨ (s.rd = .idle ∧ s.inSlots = 0)
  wr : s.wr = none
  outQ : s.outputQ = []

/-- what the no-lost-wake-up invariant says about a quiet state: no task is
    ready and the process has not finished -/
theorem quiet_no_task {c : Cfg} {cd : Codec α σ} {input : List α} {s : State α σ}
    (h : Reach c cd input s) (q : Quiet s) :
    selectTask (view c s) = none ∧ finished c s = false := by
  have wk := wake_reach h
  have hsel := (inv1_reach h).sel
  have key : ¬ (s.nextTask.isSome = true ∨ finished c s = true) := by
    intro hp
    rcases wk.noLost q.free hp with hr | hnw
    · have := q.allWait _ hr
      cases this
    · obtain ⟨p, hp'⟩ := List.exists_mem_of_ne_nil _ q.some
      have := hnw p hp'
      rw [q.allWait p hp'] at this
      simp [WPhase.isWaiting] at this
  refine ⟨?_, ?_⟩
  · rw [← hsel]
    cases hh : s.nextTask with
    | none => rfl
    | some t => exact absurd (.inl (by rw [hh]; rfl)) key
  · cases hh : finished c s with
    | false => rfl
    | true => exact absurd (.inr hh) key

theorem wsum_all_waiting (f : WPhase α σ → Nat) (hf : f .waiting = 0) {ws : List (WPhase α σ)}
    (h : ∀ p ∈ ws, p = .waiting) : wsum f ws = 0 :=
  wsum_eq_zero (fun p hp => (h p hp) ▸ hf)

section
variable {c : Cfg} {cd : Codec α σ} {input : List α} {s : State α σ}

/-- What the invariants say of a quiet state, in the form the case analysis on the block at
    `order` uses: it is in neither queue, every unit / slot / chunk is free or in a queue, the
    token is free, and no guard of `collect`, `collect_seq`, `can_terminate()` holds. -/
structure QuietFacts (c : Cfg) (s : State α σ) : Prop where
  nRe : ∀ z ∈ s.reordQ, z.pos ≠ s.order
  nTr : ∀ z ∈ s.transQ, z.pos ≠ s.order
  units : s.workUnits + s.transQ.length + optCount s.unfinished = c.n
  slots : s.outSlots + s.reordQ.length = c.totalOut
  chunks : s.inSlots + s.collQ.length = c.totalIn
  token : s.collectToken = true
  nColl : cCanCollect (view c s) = false
  nSeq : cCanCollectSeq (view c s) = false
  nFin : finished c s = false

theorem quiet_token (h : Reach c cd input s) (q : Quiet s) : s.collectToken = true :=
  (inv1_reach h).cons.token_of_free (wsum_all_waiting WPhase.tok rfl q.allWait)

theorem quiet_facts (h : Reach c cd input s) (q : Quiet s) (hout : 1 ≤ c.totalOut)
    (below : ∀ x, x ∈ s.transQ ∨ x ∈ s.reordQ → s.order.le x.pos) : QuietFacts c s := by
  obtain ⟨hsel, hnf⟩ := quiet_no_task h q
  have cons := (inv1_reach h).cons
  have srt := order_reach h
  have rsv := reserve_reach h
  have hnone : ∀ t ∈ taskOrder, t.ready (view c s) = false := by
    intro t ht
    have := List.find?_eq_none.mp hsel t ht
    simpa using this
  rw [taskOrder_eq] at hnone
  have g1 := hnone .collectSeq (by simp)
  have g2 := hnone .reorder (by simp)
  have g3 := hnone .transmit (by simp)
  have g4 := hnone .collect (by simp)
  simp only [Task.ready] at g1 g2 g3 g4
  -- conservation with everybody waiting
  have zu := wsum_all_waiting (α := α) (σ := σ) WPhase.units rfl q.allWait
  have zs := wsum_all_waiting (α := α) (σ := σ) WPhase.slots rfl q.allWait
  have zc := wsum_all_waiting (α := α) (σ := σ) WPhase.chunks rfl q.allWait
  have cu := cons.units
  have cs := cons.slots
  have cc := cons.chunks
  simp only [wsum] at zu zs zc
  have o0 : optCount (none : Option (WBlk σ)) = 0 := rfl
  simp only [unitHolders, slotHolders, chunkHolders, zu, zs, zc, q.wr, q.outQ, o0,
    List.length_nil] at cu cs cc
  have hrdc : s.rd.chunks = 0 := by
    rcases q.reader with e | ⟨e, _⟩ <;> rw [e] <;> rfl
  have nRe : ∀ z ∈ s.reordQ, z.pos ≠ s.order := by
    intro z hz e
    obtain ⟨w, l, hq, hw⟩ := ascW_head_at srt.rq (fun x hx => below x (.inr hx)) hz e
    simp [cCanReorder, view, hq, headIs, hw] at g2
  -- hence the reserve is all in `out_slots`
  have hdue : slotsDue s = 0 := by
    have z1 := wsum_all_waiting (α := α) (σ := σ) (t1Ind s.order) rfl q.allWait
    have z2 : s.reordQ.countP (atOrBefore s.order) = 0 := by
      apply List.countP_eq_zero.mpr
      intro z hz hb
      simp only [atOrBefore, Bool.not_eq_true'] at hb
      have hlow := below z (.inr hz)
      exact nRe z hz (Pos.le_antisymm (Pos.le_of_not_lt hb) hlow)
    simp only [slotsDue, q.outQ, q.wr, optCount, z1, z2, List.length_nil]
  have hos : 1 ≤ s.outSlots := by
    have := rsv
    simp only [Reserve, hdue, TRANSM_THRESH] at this
    omega
  have nTr : ∀ z ∈ s.transQ, z.pos ≠ s.order := by
    intro z hz e
    obtain ⟨w, l, hq, hw⟩ := ascW_head_at srt.tq (fun x hx => below x (.inl hx)) hz e
    have hpos : decide (s.outSlots > 0) = true := by
      simp
      omega
    simp [cCanTransmit, view, hq, headIs, hw, hpos] at g3
  exact ⟨nRe, nTr, by omega, by omega, by rw [hrdc] at cc; omega, quiet_token h q, g4, g1, hnf⟩

/-- with `coll_q` empty every input slot is free, so a stalled reader has finished -/
theorem quiet_reader_done (q : Quiet s) (f : QuietFacts c s) (hin : 1 ≤ c.totalIn)
    (hc : s.collQ = []) : s.rd = .done := by
  rcases q.reader with e | ⟨_, e⟩
  · exact e
  · have := f.chunks
    rw [hc, e] at this
    simp at this
    omega

theorem quiet_drained (h : Reach c cd input s) (q : Quiet s) (f : QuietFacts c s)
    (hin : 1 ≤ c.totalIn) (hc : s.collQ = []) (ht : s.transQ = []) (hr : s.reordQ = [])
    (hu : s.unfinished = none) : False := by
  have heof := (reader_reach h).doneEof (quiet_reader_done q f hin hc)
  have hun := f.units
  have hsl := f.slots
  rw [ht, hu] at hun
  rw [hr] at hsl
  simp only [List.length_nil, optCount] at hun hsl
  have : finished c s = true := by
    simp only [finished, cCanTerminate, view, heof, hc, List.isEmpty_nil, Bool.and_self,
      Bool.true_and, Bool.and_eq_true, decide_eq_true_eq]
    omega
  rw [f.nFin] at this
  cases this

open Classical

/-- what both modes start from.  `other x` counts `x` among the blocks still to
    be made; with `trans_q` and `reord_q` that is what is in flight, and it is the
    rest of the canonical chain from `order` on: strictly sorted, so nothing occurs
    in it twice.  Either nothing is in flight, or the block at `order` is still to
    be made. -/
theorem quiet_front (ok : cd.OK) (hg : 0 < c.inGranul) (h : Reach c cd input s) (q : Quiet s)
    (hout : 1 ≤ c.totalOut) :
    ∃ rest, canon c cd input = s.handed ++ rest ∧
      rest.Pairwise (fun x y => x.pos.lt y.pos = true) ∧ (∀ x ∈ rest, s.order.le x.pos) ∧
      (∀ x, 0 < other c cd s x → x ∈ rest) ∧ (∀ x ∈ s.transQ, x ∈ rest ∧ other c cd s x = 0) ∧
      QuietFacts c s ∧
      ((s.transQ = [] ∧ s.reordQ = [] ∧ ∀ x, other c cd s x = 0) ∨
        ∃ y, y.pos = s.order ∧ 0 < other c cd s y) := by
  obtain ⟨rest, e, hr, hch, count⟩ := canon_split ok hg h
  obtain ⟨hsorted, hlow⟩ := chain_pairwise hch
  have le1 : ∀ x, rest.count x ≤ 1 :=
    List.nodup_iff_count.mp (hsorted.imp (fun hlt e => by rw [e, Pos.lt_irrefl] at hlt; cases hlt))
  have inRest : ∀ x, 0 < s.transQ.count x + s.reordQ.count x + other c cd s x → x ∈ rest :=
    fun x hx => List.count_pos_iff.mp (count x ▸ hx)
  have inTr : ∀ x ∈ s.transQ, x ∈ rest ∧ other c cd s x = 0 := by
    intro x hx
    have := List.count_pos_iff.mpr hx
    have := count x
    have := le1 x
    exact ⟨inRest x (by omega), by omega⟩
  have f := quiet_facts h q hout (by
    intro x hx
    apply hlow x (inRest x _)
    rcases hx with hx | hx
    · have := List.count_pos_iff.mpr hx
      omega
    · have := List.count_pos_iff.mpr hx
      omega)
  refine ⟨rest, hr, hsorted, hlow, fun x hx => inRest x (by omega), inTr, f, ?_⟩
  cases hrest : rest with
  | nil =>
    have zero : ∀ x, s.transQ.count x = 0 ∧ s.reordQ.count x = 0 ∧ other c cd s x = 0 := by
      intro x
      have := count x
      rw [hrest, List.count_nil] at this
      omega
    exact .inl ⟨eq_nil_of_count fun x => (zero x).1, eq_nil_of_count fun x => (zero x).2.1,
      fun x => (zero x).2.2⟩
  | cons y rest' =>
    have hypos : y.pos = s.order := by
      rw [hrest] at hch
      exact hch.1
    have hyc := count y
    have hy1 : 0 < rest.count y := List.count_pos_iff.mpr (hrest ▸ List.mem_cons_self)
    have hyT : s.transQ.count y = 0 :=
      Nat.eq_zero_of_not_pos fun hp => f.nTr y (List.count_pos_iff.mp hp) hypos
    have hyR : s.reordQ.count y = 0 :=
      Nat.eq_zero_of_not_pos fun hp => f.nRe y (List.count_pos_iff.mp hp) hypos
    exact .inr ⟨y, hypos, by omega⟩

theorem quiet_unreachable_N (ok : cd.OK) (hu : c.ultra = false) (hg : 0 < c.inGranul)
    (hn : 1 ≤ c.n) (hin : 1 ≤ c.totalIn) (hout : 1 ≤ c.totalOut)
    (h : Reach c cd input s) (q : Quiet s) : False := by
  have ni := nInv_reach hu hn h
  have zw : ∀ x, wsum (fun p => (WPhase.blocks cd p).count x) s.ws = 0 := fun x =>
    wsum_all_waiting _ rfl q.allWait
  obtain ⟨rest, -, hsorted, hlow, inRest, inTr, f, hd⟩ := quiet_front ok hg h q hout
  simp only [other, hu, Bool.false_eq_true, if_false, zw, Nat.zero_add] at inRest inTr hd
  -- the head block of an in_blk of `coll_q` is in flight
  have headIn : ∀ ib ∈ s.collQ, ∃ b, b.pos = ib.pos ∧ 0 < (s.collQ.flatMap (cb cd)).count b := by
    intro ib hib
    obtain ⟨b, hb, hp⟩ := chunkBlocks_head cd ib.pos ib.data
    exact ⟨b, hp, List.count_pos_iff.mpr (List.mem_flatMap.mpr ⟨ib, hib, hb⟩)⟩
  rcases hd with ⟨htq, hrq, zero⟩ | ⟨y, hypos, hyO⟩
  · -- nothing in flight
    have hcq : s.collQ = [] := by
      cases hq : s.collQ with
      | nil => rfl
      | cons ib l =>
        obtain ⟨b, _, hb⟩ := headIn ib (hq ▸ List.mem_cons_self)
        have := zero b
        omega
    exact quiet_drained h q f hin hcq htq hrq ni.unf
  · by_cases hyC : 0 < (s.collQ.flatMap (cb cd)).count y
    · -- the block at `order` is still to be collected from `coll_q`
      obtain ⟨ib, hib, hyin⟩ := List.mem_flatMap.mp (List.count_pos_iff.mp hyC)
      have hible : ib.pos.le y.pos := (chunkBlocks_pos cd ib.pos ib.data y hyin).2
      cases hq : s.collQ with
      | nil =>
        rw [hq] at hib
        cases hib
      | cons ib0 l =>
        have hwu : s.workUnits = 0 := by
          have := f.nColl
          simp only [cCanCollect, view, hu, hq, Bool.not_false, List.isEmpty_cons, Bool.true_and,
            decide_eq_false_iff_not] at this
          omega
        have hmin : ib0.pos.le ib.pos := by
          have hs := ni.asc
          rw [hq] at hs
          rcases List.mem_cons.mp (by rw [hq] at hib; exact hib) with rfl | hm
          · exact Pos.le_refl _
          · exact Pos.le_of_not_lt ((List.pairwise_cons.mp hs).1 ib hm)
        obtain ⟨b0, hb0p, hb0c⟩ := headIn ib0 (hq ▸ List.mem_cons_self)
        have hb0 : b0 ∈ rest := inRest b0 (by omega)
        -- every `trans_q` entry is strictly after `ib0`
        have hall : ∀ x ∈ s.transQ, ib0.pos.lt x.pos = true := by
          intro x hx
          obtain ⟨hxr, hx0⟩ := inTr x hx
          have hle : ib0.pos.le x.pos :=
            Pos.le_trans hmin (Pos.le_trans hible (hypos ▸ hlow x hxr))
          rcases hle with e | hl
          · exfalso
            have hxb : x = b0 := sorted_pos_inj hsorted hxr hb0 (by rw [hb0p]; exact e.symm)
            subst hxb
            omega
          · exact hl
        have hcnt : s.transQ.countP (fun w => ib0.pos.lt w.pos) = s.transQ.length :=
          List.countP_eq_length.mpr (fun x hx => hall x hx)
        have hunit := ni.unit ib0 (hq ▸ List.mem_cons_self)
        have zh := wsum_all_waiting (α := α) (σ := σ) (hInd ib0.pos) rfl q.allWait
        have hun := f.units
        rw [ni.unf] at hun
        simp only [cntHold, hcnt, zh, optCount] at hunit hun
        omega
    · -- the block at `order` belongs to a chunk not yet read
      have hyF : 0 < ((future c s).flatMap (cb cd)).count y := by omega
      obtain ⟨fb, hfb, hyin⟩ := List.mem_flatMap.mp (List.count_pos_iff.mp hyF)
      have hmaj : y.pos.major = fb.pos.major := (chunkBlocks_pos cd fb.pos fb.data y hyin).1
      have hfid : s.nextId ≤ fb.pos.major := (cutChunks_mem c.inGranul s.nextId s.input fb hfb).1
      have hinp : s.input ≠ [] := by
        intro e
        simp only [future, e, cutChunks_nil] at hfb
        cases hfb
      have hrd : s.rd = .idle ∧ s.inSlots = 0 := by
        rcases q.reader with e | e
        · exact absurd ((reader_reach h).noInput (.inr e)) hinp
        · exact e
      have hclen : s.collQ.length = c.totalIn := by
        have := f.chunks
        omega
      cases hq : s.collQ with
      | nil =>
        rw [hq] at hclen
        simp at hclen
        omega
      | cons ib0 l =>
        obtain ⟨b0, hb0p, hb0c⟩ := headIn ib0 (hq ▸ List.mem_cons_self)
        have hb0 : b0 ∈ rest := inRest b0 (by omega)
        have h1 := hlow b0 hb0
        have h2 := ni.qLt ib0 (hq ▸ List.mem_cons_self)
        have : b0.pos.lt s.order = true := by
          apply Pos.lt_of_major
          rw [hb0p, ← hypos, hmaj]
          omega
        rw [Pos.not_lt_of_le h1] at this
        cases this

theorem quiet_unreachable_S (ok : cd.OK) (hu : c.ultra = true) (hg : 0 < c.inGranul)
    (hn : 1 ≤ c.n) (hin : 1 ≤ c.totalIn) (hout : 1 ≤ c.totalOut)
    (h : Reach c cd input s) (q : Quiet s) : False := by
  obtain ⟨P, hP, hm⟩ := flight_reach ok hu hg h
  have htok := quiet_token h q
  have hRl : Rl c cd s = seqBlocks cd s.unfinished (pendQ c s) := by
    have : Rw cd (pendQ c s) s.ws = [] :=
      Rw_tok0 cd _ (fun r hr => by rw [q.allWait r hr]; rfl)
    simp only [Rl, this, htok, remT, List.nil_append]
  obtain ⟨rest, hsplit, hsorted, hlow, -, inTr, f, hd⟩ := quiet_front ok hg h q hout
  have zc : ∀ x, wsum (fun p => p.carried.count x) s.ws = 0 := fun x =>
    wsum_all_waiting _ rfl q.allWait
  simp only [other, hu, if_true, hRl, zc, Nat.zero_add] at inTr hd
  have futNil : s.rd = .done → future c s = [] := by
    intro e
    simp only [future, (reader_reach h).noInput (.inr e), cutChunks_nil]
  rcases hd with ⟨htq, hrq, zero⟩ | ⟨y, hypos, hyO⟩
  · obtain ⟨hunf, hQ⟩ := seqBlocks_eq_nil cd ok _ _ (eq_nil_of_count zero)
    have hcq : s.collQ = [] := by
      simp only [pendQ, List.append_eq_nil_iff] at hQ
      exact hQ.1
    exact quiet_drained h q f hin hcq htq hrq hunf
  · have hyS : y ∈ seqBlocks cd s.unfinished (pendQ c s) := List.count_pos_iff.mp hyO
    have hns := f.nSeq
    simp only [cCanCollectSeq, view, hu, htok, Bool.and_self, Bool.true_and] at hns
    cases hq : s.collQ with
    | nil =>
      -- end of input: the pending block has to be flushed
      have hrd := quiet_reader_done q f hin hq
      have heof := (reader_reach h).doneEof hrd
      have hQ : pendQ c s = [] := by simp only [pendQ, hq, futNil hrd, List.append_nil]
      rw [hQ, seqBlocks_nil] at hyS
      cases hun : s.unfinished with
      | none =>
        rw [hun] at hyS
        cases hyS
      | some w => simp [hq, heof, hun] at hns
    | cons ib0 l =>
      have hfacts : s.workUnits = 0 ∧ s.unfinished = none := by
        cases hun : s.unfinished with
        | some w => simp [hq, hun] at hns
        | none =>
          simp [hq, hun] at hns
          exact ⟨by omega, rfl⟩
      obtain ⟨hwu, hunf⟩ := hfacts
      have hlen : s.transQ.length = c.n := by
        have := f.units
        rw [hunf] at this
        simp only [optCount] at this
        omega
      cases htq : s.transQ with
      | nil =>
        rw [htq] at hlen
        simp at hlen
        omega
      | cons x l' =>
        have hx : x ∈ s.transQ := by
          rw [htq]
          exact List.mem_cons_self
        obtain ⟨hxr, hx0⟩ := inTr x hx
        have hxc : x ∈ canon c cd input := by
          rw [hsplit]
          exact List.mem_append_right _ hxr
        have hcs := canon_sorted c cd ok input
        rw [hP, hRl] at hxc hcs
        rcases List.mem_append.mp hxc with hxP | hxS
        · -- made before `y`, yet not before `order`
          have := (List.pairwise_append.mp hcs).2.2 x hxP y hyS
          rw [hypos, Pos.not_lt_of_le (hlow x hxr)] at this
          cases this
        · have := List.count_pos_iff.mpr hxS
          omega

end

end LbzVerif.Model.SchedC
