/-
  Lemmas.IbwtSort — the successor vector of the textbook inverse BWT
  (`Spec.Ibwt.succVec`, a stable insertion sort of the positions by byte value)
  realises the rank function `pos` of Lemmas/Ibwt.lean: `pos L (succVec L)[q] = q`
  for `q < n` (`pos_succVec`).  Hence any map `T` with `T (pos L i) = i` agrees with
  `succVec L` on `[0,n)` (`eq_succVec_of_pos`), and `pos L` is onto `[0,n)` (`pos_surj`).
  Route: insertion sort is a permutation (Lemmas/SortBy.lean); on increasing indices
  it yields a list strictly increasing for the (byte, index) order `ltB`; `pos` is
  strictly increasing for that order (`Ibwt.pos_mono`) and stays below `n`, and `n`
  strictly increasing numbers below `n` are `0, …, n-1` (`SortBy.getElem_of_increasing`).
-/
import LbzVerif.Lemmas.Ibwt
import LbzVerif.Lemmas.SortBy
import LbzVerif.Lemmas.ListAux

namespace LbzVerif.Lemmas.IbwtSort

open LbzVerif.Model.Ibwt
open LbzVerif.Lemmas.Ibwt
open LbzVerif.Spec.Ibwt (insertBy isort succVec follow)
open LbzVerif.Lemmas.SortBy (insertBy_perm isort_perm getElem_of_increasing)

/-- The comparison `succVec` sorts by. -/
def leB (L : List UInt8) (i j : Nat) : Bool := decide (L.getD i 0 ≤ L.getD j 0)

/-- Strict (byte, index) order. -/
def ltB (L : List UInt8) (i j : Nat) : Bool :=
  decide (byteAt L i < byteAt L j) || (decide (byteAt L i = byteAt L j) && decide (i < j))

theorem leB_iff (L : List UInt8) (i j : Nat) : leB L i j = true ↔ byteAt L i ≤ byteAt L j := by
  simp [leB, byteAt, UInt8.le_iff_toNat_le]

theorem ltB_iff (L : List UInt8) (i j : Nat) :
    ltB L i j = true ↔ (byteAt L i < byteAt L j ∨ (byteAt L i = byteAt L j ∧ i < j)) := by
  simp [ltB]

theorem succVec_eq (L : List UInt8) : succVec L = isort (leB L) (List.range L.length) := rfl

theorem ltB_trans (L : List UInt8) (i j k : Nat) (h1 : ltB L i j = true) (h2 : ltB L j k = true) :
    ltB L i k = true := by
  rw [ltB_iff] at h1 h2 ⊢
  omega

/-- Stability: an index smaller than all those already sorted goes in front of its equals. -/
theorem insertBy_pairwise (L : List UInt8) (x : Nat) (S : List Nat)
    (hS : S.Pairwise (fun a b => ltB L a b = true)) (hx : ∀ y ∈ S, x < y) :
    (insertBy (leB L) x S).Pairwise (fun a b => ltB L a b = true) := by
  refine SortBy.insertBy_sorted (ltB_trans L) x S (fun y hy hle => ?_) (fun y hy hle => ?_) hS
  · have := hx y hy
    rw [leB_iff] at hle
    rw [ltB_iff]
    omega
  · have hle : ¬ byteAt L x ≤ byteAt L y := fun h => by rw [(leB_iff L x y).mpr h] at hle; cases hle
    rw [ltB_iff]
    omega

theorem isort_pairwise (L : List UInt8) :
    ∀ l : List Nat, l.Pairwise (· < ·) →
      (isort (leB L) l).Pairwise (fun a b => ltB L a b = true) := by
  intro l
  induction l with
  | nil => intro _; simp [isort]
  | cons x xs ih =>
    intro h
    rw [List.pairwise_cons] at h
    simp only [isort]
    refine insertBy_pairwise L x _ (ih h.2) ?_
    intro y hy
    exact h.1 y ((isort_perm (leB L) xs).mem_iff.mp hy)

theorem succVec_perm (L : List UInt8) : (succVec L).Perm (List.range L.length) :=
  isort_perm _ _

theorem succVec_length (L : List UInt8) : (succVec L).length = L.length := by
  rw [(succVec_perm L).length_eq, List.length_range]

theorem succVec_getD_lt (L : List UInt8) (q : Nat) (hq : q < L.length) :
    (succVec L).getD q 0 < L.length := by
  have hq' : q < (succVec L).length := by rw [succVec_length]; exact hq
  rw [ListAux.getD_of_lt 0 hq']
  exact List.mem_range.mp ((succVec_perm L).mem_iff.mp (List.getElem_mem hq'))

/-- `succVec` sorts by the order that `pos` counts, so `pos` is strictly increasing along it. -/
theorem pos_succVec (L : List UInt8) (q : Nat) (hq : q < L.length) :
    pos L ((succVec L).getD q 0) = q := by
  have hq' : q < (succVec L).length := by rw [succVec_length]; exact hq
  have hmem : ∀ i ∈ succVec L, i < L.length := fun i hi =>
    List.mem_range.mp ((succVec_perm L).mem_iff.mp hi)
  have hpw : ((succVec L).map (pos L)).Pairwise (· < ·) := by
    rw [List.pairwise_map]
    refine (isort_pairwise L _ List.pairwise_lt_range).imp_of_mem fun {a b} ha hb hlt => ?_
    exact pos_mono L a b (hmem a ha) (hmem b hb) ((ltB_iff L a b).mp hlt)
  have := getElem_of_increasing _ hpw
    (fun x hx => by
      obtain ⟨i, hi, rfl⟩ := List.mem_map.mp hx
      rw [List.length_map, succVec_length]
      exact pos_lt L i (hmem i hi))
    q (by rw [List.length_map]; exact hq')
  rw [ListAux.getD_of_lt 0 hq']
  simpa using this

theorem pos_surj (L : List UInt8) (q : Nat) (hq : q < L.length) :
    ∃ i, i < L.length ∧ pos L i = q :=
  ⟨_, succVec_getD_lt L q hq, pos_succVec L q hq⟩

theorem succVec_pos (L : List UInt8) (i : Nat) (hi : i < L.length) :
    (succVec L).getD (pos L i) 0 = i := by
  have hp := pos_lt L i hi
  exact pos_inj L _ i (succVec_getD_lt L _ hp) hi (pos_succVec L _ hp)

theorem eq_succVec_of_pos (L : List UInt8) (T : Nat → Nat)
    (hT : ∀ i, i < L.length → T (pos L i) = i) (q : Nat) (hq : q < L.length) :
    T q = (succVec L).getD q 0 := by
  have := hT _ (succVec_getD_lt L q hq)
  rw [pos_succVec L q hq] at this
  exact this

theorem follow_length (L : List UInt8) (T : List Nat) : ∀ m q, (follow L T m q).length = m := by
  intro m
  induction m with
  | zero => intro q; rfl
  | succ m ih => intro q; simp [follow, ih]

theorem follow_congr (L : List UInt8) (T T' : List Nat) (n : Nat)
    (hT : ∀ q, q < n → T.getD q 0 = T'.getD q 0) (hr : ∀ q, q < n → T'.getD q 0 < n) :
    ∀ (m q : Nat), q < n → follow L T m q = follow L T' m q := by
  intro m
  induction m with
  | zero => intro q _; rfl
  | succ m ih =>
    intro q hq
    simp only [follow]
    rw [hT q hq, ih _ (hr q hq)]

end LbzVerif.Lemmas.IbwtSort
