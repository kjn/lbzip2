/-
  Lemmas.MtfRun — the symbol-consumption loop of `retrieve()` (delayed writes,
  `run += RUN(s) << shift++` under the `run <= MAX_BLOCK_SIZE` guard, overflow
  test) computes the reference `Spec.Mtf.unGo`.
-/
import LbzVerif.Spec.Mtf
import LbzVerif.Model.MtfDec
import LbzVerif.Model.Canon
import LbzVerif.Lemmas.MtfSpec
import LbzVerif.Lemmas.MtfOne

namespace LbzVerif.Lemmas.MtfRun
open LbzVerif.Model.MtfDec LbzVerif.Gen LbzVerif.Lemmas.MtfOne LbzVerif.Spec.Mtf

theorem max_block : MAX_BLOCK_SIZE = 900000 := rfl

/-- Errors and undefined behaviour collapse to `none`. -/
def toOpt : Res → Option (List UInt8)
  | .ok out _ => some out
  | _ => none

/-- The symbols `make_tree` can produce (internal numbering). -/
def validSym (s : Nat) : Prop := s = 0 ∨ (1 ≤ s ∧ s < 256) ∨ s = 257 ∨ s = 258

theorem validSym.run {s : Nat} (hv : validSym s) (h : 256 ≤ s) : s = 257 ∨ s = 258 := by
  rcases hv with h0 | h0 | h0 | h0 <;> omega

/-- `run ≥ 2^shift - 1` under the `run <= MAX_BLOCK_SIZE` gate bounds the shift: `2 ^ 20 > 900001`. -/
theorem shift_le_19 (run shift : Nat) (hpow : 2 ^ shift ≤ run + 1)
    (hrun : run ≤ Gen.MAX_BLOCK_SIZE) : shift ≤ 19 := by
  apply Nat.le_of_not_lt
  intro hc
  have : 2 ^ 20 ≤ 2 ^ shift := Nat.pow_le_pow_right (by omega) hc
  have hM : Gen.MAX_BLOCK_SIZE = 900000 := rfl
  omega

theorem accum_step (run shift s : Nat) (hs : s = 257 ∨ s = 258)
    (hpow : 2 ^ shift ≤ run + 1) (hrun : run ≤ MAX_BLOCK_SIZE) :
    shift ≤ 19 ∧
    (s - 256) <<< shift ≤ 2 ^ 20 ∧
    (run + ((s - 256) <<< shift) % 4294967296) % 4294967296 = run + (s - 256) * 2 ^ shift ∧
    run + (s - 256) * 2 ^ shift < 2 ^ 21 ∧
    2 ^ (shift + 1) ≤ run + (s - 256) * 2 ^ shift + 1 := by
  have h19 := shift_le_19 run shift hpow hrun
  rw [max_block] at hrun
  have hP : 2 ^ shift ≤ 2 ^ 19 := Nat.pow_le_pow_right (by omega) h19
  have e19 : (2 : Nat) ^ 19 = 524288 := by decide
  have e20 : (2 : Nat) ^ 20 = 1048576 := by decide
  have e21 : (2 : Nat) ^ 21 = 2097152 := by decide
  have hsucc : 2 ^ (shift + 1) = 2 * 2 ^ shift := by rw [Nat.pow_succ]; omega
  rw [Nat.shiftLeft_eq, hsucc, e20, e21]
  rw [e19] at hP
  generalize 2 ^ shift = P at *
  rcases hs with rfl | rfl
  · simp only [show 257 - 256 = 1 from rfl, Nat.one_mul]
    refine ⟨h19, by omega, ?_, by omega, by omega⟩
    rw [Nat.mod_eq_of_lt (by omega : P < 4294967296), Nat.mod_eq_of_lt (by omega)]
  · simp only [show 258 - 256 = 2 from rfl]
    refine ⟨h19, by omega, ?_, by omega, by omega⟩
    rw [Nat.mod_eq_of_lt (by omega : 2 * P < 4294967296), Nat.mod_eq_of_lt (by omega)]

theorem consume_run (limit : Nat) (st : RunSt) (s : Nat) (ss : List Nat) (hs : s = 257 ∨ s = 258)
    (hpow : 2 ^ st.shift ≤ st.run + 1) (hrun : st.run ≤ MAX_BLOCK_SIZE) :
    consume limit st (s :: ss) =
        consume limit { st with run := st.run + (s - 256) * 2 ^ st.shift, shift := st.shift + 1 } ss ∧
      2 ^ (st.shift + 1) ≤ st.run + (s - 256) * 2 ^ st.shift + 1 := by
  obtain ⟨h19, _, hnw, _, hpow'⟩ := accum_step st.run st.shift s hs hpow hrun
  refine ⟨?_, hpow'⟩
  rw [consume, if_neg (by omega), if_pos ⟨by omega, hrun⟩, if_neg (by omega), ← hnw]

theorem consume_overflow (limit : Nat) (st : RunSt) (s : Nat) (ss : List Nat)
    (hr : ¬ (256 ≤ s ∧ st.run ≤ MAX_BLOCK_SIZE)) (hgt : st.run > limit - st.n) :
    consume limit st (s :: ss) = .overflow := by
  rw [consume]
  by_cases h0 : s = 0
  · rw [if_pos h0, if_pos hgt]
  · rw [if_neg h0, if_neg hr, if_pos hgt]

theorem consume_eob (limit : Nat) (st : RunSt) (ss : List Nat) (hfit : ¬ st.run > limit - st.n) :
    consume limit st (0 :: ss) = .ok (flush st).out.reverse (flush st).ftab := by
  rw [consume, if_pos rfl, if_neg hfit]

theorem consume_mtf (limit : Nat) (st : RunSt) (s : Nat) (ss : List Nat) (hinv : Inv st.sl)
    (h1 : 1 ≤ s) (h256 : s < 256) (hfit : ¬ st.run > limit - st.n) :
    ∃ b sl', Inv sl' ∧ (abs st.sl)[s]? = some b ∧ abs sl' = moveToFront (abs st.sl) s ∧
      consume limit st (s :: ss) =
        consume limit { flush st with sl := sl', runChar := b, shift := 0, run := 1 } ss := by
  have hcn : (UInt8.ofNat s).toNat = s := by
    rw [UInt8.toNat_ofNat']; omega
  obtain ⟨b, sl', e1, e2, e3, e4⟩ := mtfOne_abs st.sl hinv (UInt8.ofNat s) (by omega)
  rw [hcn] at e3 e4
  refine ⟨b, sl', e2, e3, e4, ?_⟩
  rw [consume, if_neg (by omega), if_neg (by omega), if_neg hfit]
  dsimp only
  rw [show (flush st).sl = st.sl from rfl, e1]

theorem consume_sticky (limit : Nat) :
    ∀ (syms : List Nat) (st : RunSt), (∀ s ∈ syms, validSym s) →
      2 ^ st.shift ≤ st.run + 1 → st.n ≤ limit → st.n + st.run > limit →
      toOpt (consume limit st syms) = none := by
  intro syms
  induction syms with
  | nil => intro st _ _ _ _; rfl
  | cons s ss ih =>
    intro st hv hpow hn hov
    have hvs := hv s (List.mem_cons_self ..)
    have hvss : ∀ x ∈ ss, validSym x := fun x hx => hv x (List.mem_cons_of_mem _ hx)
    by_cases hr : 256 ≤ s ∧ st.run ≤ MAX_BLOCK_SIZE
    · obtain ⟨e, hpow'⟩ := consume_run limit st s ss (hvs.run hr.1) hpow hr.2
      rw [e]
      exact ih _ hvss hpow' hn (by show st.n + (st.run + _) > limit; omega)
    · rw [consume_overflow limit st s ss hr (by omega)]
      rfl

/-- The state of `retrieve()`'s symbol loop against the reference decoder's MTF list `l` of the `N`
bytes in use; `pow` (`run ≥ 2^shift - 1`) is what lets the guard `run <= MAX_BLOCK_SIZE` bound the shift. -/
structure Coupled (N : Nat) (st : RunSt) (l : List UInt8) : Prop where
  inv : Inv st.sl
  pow : 2 ^ st.shift ≤ st.run + 1
  len : l.length = N
  pos : 1 ≤ N
  le : N ≤ 256
  abs : ∃ junk, abs st.sl = l ++ junk
  head : l.head? = some st.runChar

theorem internalSym_eob (N : Nat) (h : 1 ≤ N) : internalSym N (N + 1) = 0 := by
  rw [internalSym, if_neg (by omega), if_neg (by omega), if_pos rfl]

theorem internalSym_run (N s : Nat) (h : s < 2) : internalSym N s = 257 + s := by
  rcases (by omega : s = 0 ∨ s = 1) with rfl | rfl <;> rfl

theorem internalSym_mtf (N s : Nat) (h2 : 2 ≤ s) (hN : s ≤ N) : internalSym N s = s - 1 := by
  rw [internalSym, if_neg (by omega), if_neg (by omega), if_neg (by omega)]

theorem internalSym_valid (N s : Nat) (hN : N ≤ 256) (hs : s ≤ N + 1) :
    validSym (internalSym N s) := by
  unfold internalSym validSym
  split
  · omega
  · split
    · omega
    · split <;> omega

theorem internalSym_eq (N s : Nat) : internalSym N s = Model.Canon.renumber (N + 2) s := by
  unfold internalSym Model.Canon.renumber
  by_cases h0 : s = 0
  · simp [h0]
  · by_cases h1 : s = 1
    · simp [h1]
    · simp only [h0, h1, if_false]
      by_cases h2 : s = N + 1
      · simp [h2]
      · rw [if_neg h2, if_neg (by omega)]

theorem moveToFront_append (l junk : List UInt8) (p : Nat) (hp : p < l.length) :
    moveToFront (l ++ junk) p = moveToFront l p ++ junk := by
  unfold moveToFront
  rw [List.getElem?_append_left hp, List.getElem?_eq_getElem hp]
  simp [List.eraseIdx_append_of_lt_length hp]

theorem consume_spec (N limit : Nat) (hl : limit ≤ MAX_BLOCK_SIZE) :
    ∀ (syms : List Nat) (st : RunSt) (l : List UInt8), Coupled N st l →
      (∀ s ∈ syms, s ≤ N + 1) → st.n + st.run ≤ limit →
      toOpt (consume limit st (syms.map (internalSym N))) =
        (unGo (N + 1) limit l (st.n + st.run) (2 ^ st.shift) syms).map
          (fun r => st.out.reverse ++ List.replicate st.run st.runChar ++ r) := by
  intro syms
  induction syms with
  | nil => intro st l _ _ _; rfl
  | cons s ss ih =>
    intro st l hc hle hfit
    have hs := hle s (List.mem_cons_self ..)
    have hss : ∀ x ∈ ss, x ≤ N + 1 := fun x hx => hle x (List.mem_cons_of_mem _ hx)
    have hvalid : ∀ x ∈ ss.map (internalSym N), validSym x := by
      intro x hx
      obtain ⟨y, hy, rfl⟩ := List.mem_map.mp hx
      exact internalSym_valid N y hc.le (hss y hy)
    have hN1 := hc.pos
    have hN256 := hc.le
    have hM := max_block
    obtain ⟨b0, t, rfl⟩ := List.exists_cons_of_length_pos (by rw [hc.len]; exact hc.pos)
    have hrc : st.runChar = b0 := (Option.some.inj hc.head).symm
    rw [List.map_cons, unGo]
    by_cases heob : s = N + 1
    · rw [heob, internalSym_eob N hN1, consume_eob limit st _ (by omega), if_pos rfl]
      simp [toOpt, flush, List.reverse_append]
    · rw [if_neg heob]
      by_cases hrun : s < 2
      ·
        have hi := internalSym_run N s hrun
        obtain ⟨e, hpow'⟩ := consume_run limit st _ (ss.map (internalSym N))
          (by omega : internalSym N s = 257 ∨ internalSym N s = 258) hc.pow (by omega)
        rw [show internalSym N s - 256 = s + 1 by omega] at e hpow'
        rw [e, if_pos hrun]
        dsimp only
        by_cases hov : st.n + st.run + (s + 1) * 2 ^ st.shift > limit
        · rw [if_pos hov]
          exact consume_sticky limit _ _ hvalid hpow' (by show st.n ≤ limit; omega)
            (by show st.n + (st.run + (s + 1) * 2 ^ st.shift) > limit; omega)
        · rw [if_neg hov]
          have hc' : Coupled N { st with run := st.run + (s + 1) * 2 ^ st.shift,
                                          shift := st.shift + 1 } (b0 :: t) :=
            ⟨hc.inv, hpow', hc.len, hc.pos, hc.le, hc.abs, hc.head⟩
          rw [ih _ (b0 :: t) hc' hss (by show st.n + (st.run + _) ≤ limit; omega)]
          have e1 : st.n + (st.run + (s + 1) * 2 ^ st.shift) =
              st.n + st.run + (s + 1) * 2 ^ st.shift := by omega
          have e2 : 2 ^ (st.shift + 1) = 2 * 2 ^ st.shift := by rw [Nat.pow_succ]; omega
          show Option.map _ (unGo (N + 1) limit (b0 :: t) (st.n + (st.run + (s + 1) * 2 ^ st.shift))
            (2 ^ (st.shift + 1)) ss) = _
          rw [e1, e2, Option.map_map]
          congr 1
          funext r
          simp only [Function.comp, hrc, ← List.replicate_append_replicate, List.append_assoc]
      ·
        obtain ⟨b, sl', e2, e3, e4, e⟩ := consume_mtf limit st (s - 1) (ss.map (internalSym N))
          hc.inv (by omega) (by omega) (by omega)
        obtain ⟨junk, hj⟩ := hc.abs
        have hp : s - 1 < (b0 :: t).length := by rw [hc.len]; omega
        rw [hj, List.getElem?_append_left hp] at e3
        rw [hj, moveToFront_append _ _ _ hp] at e4
        rw [internalSym_mtf N s (by omega) (by omega), e, if_neg hrun, if_pos (by omega), e3]
        dsimp only
        by_cases hov : st.n + st.run + 1 > limit
        · rw [if_pos hov]
          exact consume_sticky limit _ _ hvalid (Nat.le_succ 1) hfit hov
        · rw [if_neg hov]
          have hc' : Coupled N { flush st with sl := sl', runChar := b, shift := 0, run := 1 }
              (moveToFront (b0 :: t) (s - 1)) :=
            ⟨e2, Nat.le_succ 1, by rw [Lemmas.MtfSpec.moveToFront_length]; exact hc.len, hc.pos,
             hc.le, ⟨junk, e4⟩, by unfold moveToFront; rw [e3]; rfl⟩
          rw [ih _ _ hc' hss (by show (st.n + st.run) + 1 ≤ limit; omega)]
          show Option.map _ (unGo (N + 1) limit (moveToFront (b0 :: t) (s - 1))
            ((st.n + st.run) + 1) (2 ^ 0) ss) = _
          rw [Option.map_map, Nat.pow_zero]
          congr 1
          funext r
          simp [Function.comp, flush, List.reverse_append]

theorem initRun_spec (sl : Slide) (hinv : Inv sl) :
    initRun sl = some ⟨sl, absAt sl 0, 0, 0, 0, [], List.replicate 256 0⟩ := by
  unfold initRun
  have h0 := hinv.hi 0 (by omega)
  rw [Lemmas.MtfSlide.row_get sl.row 0 (by rw [hinv.len]; omega)]
  dsimp only
  rw [Lemmas.MtfSlide.rd_eq sl.mem _ (by rw [hinv.size]; omega)]
  dsimp only
  rw [absAt_eq]
  simp only [Nat.zero_div, Nat.zero_mod, Nat.add_zero]

theorem initRun_fresh (sl : Slide) (rs : RunSt) (h : initRun sl = some rs) : rs.n = 0 ∧ rs.out = [] := by
  unfold initRun at h
  split at h
  · cases h
  · split at h
    · cases h
    · cases h
      exact ⟨rfl, rfl⟩

theorem consume_init (sl : Slide) (hinv : Inv sl) (used : List UInt8) (h1 : 1 ≤ used.length)
    (h256 : used.length ≤ 256) (habs : ∃ junk, abs sl = used ++ junk)
    (limit : Nat) (hl : limit ≤ MAX_BLOCK_SIZE) (syms : List Nat)
    (hsyms : ∀ s ∈ syms, s ≤ used.length + 1) :
    ∃ st0, initRun sl = some st0 ∧
      toOpt (consume limit st0 (syms.map (internalSym used.length))) =
        unMtfRle2 used syms limit := by
  refine ⟨_, initRun_spec sl hinv, ?_⟩
  obtain ⟨junk, hj⟩ := habs
  obtain ⟨b0, t, rfl⟩ := List.exists_cons_of_length_pos h1
  have hhead : absAt sl 0 = b0 := by
    have h := abs_getElem sl 0 (by rw [abs_length]; omega)
    rw [← h]
    simp [hj]
  have hc : Coupled (b0 :: t).length ⟨sl, absAt sl 0, 0, 0, 0, [], List.replicate 256 0⟩ (b0 :: t) :=
    ⟨hinv, by show 2 ^ 0 ≤ 0 + 1; omega, rfl, h1, h256, ⟨junk, hj⟩, by simp [hhead]⟩
  rw [consume_spec _ limit hl syms _ _ hc hsyms (by show 0 + 0 ≤ limit; omega)]
  unfold unMtfRle2
  show Option.map _ (unGo _ limit (b0 :: t) (0 + 0) (2 ^ 0) syms) = _
  simp

end LbzVerif.Lemmas.MtfRun
