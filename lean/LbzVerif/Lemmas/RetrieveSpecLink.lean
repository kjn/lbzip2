/-
  Lemmas.RetrieveSpecLink — reference against reference: the pieces the header theorems of
  `Model.Retrieve` are stated with (`Spec.Delta.table`, `specTables`, `specSelTables`, `specRows`)
  are the corresponding readers of the oracle `Spec.Bzip2.parseBlock`, whose position
  bookkeeping does not influence what is read.
-/
import LbzVerif.Lemmas.RetrieveHeader

namespace LbzVerif.Lemmas.RetrieveSpecLink
open LbzVerif LbzVerif.Basic LbzVerif.Spec.Bzip2
open LbzVerif.Lemmas.RetrieveTables LbzVerif.Lemmas.RetrieveSelectors LbzVerif.Lemmas.RetrieveBitmap
open LbzVerif.Lemmas.RetrieveHeader

/-- Result of a reader without its position. -/
def dropPos {α : Type} : Except Reject (α × Nat × Bits) → Option (α × Bits)
  | .ok (a, _, r) => some (a, r)
  | .error _ => none

theorem inRange_of (c : Nat) (h : 1 ≤ c ∧ c ≤ maxLen) : Spec.Delta.inRange c = true :=
  (Lemmas.Delta.inRange_iff c).2 h

theorem not_inRange (c : Nat) (h : ¬ (1 ≤ c ∧ c ≤ maxLen)) : Spec.Delta.inRange c = false :=
  Bool.eq_false_iff.2 fun h' => h ((Lemmas.Delta.inRange_iff c).1 h')

theorem readLen_sym (cur pos : Nat) (bits : Bits) (hc : 1 ≤ cur ∧ cur ≤ maxLen) :
    dropPos (readLen cur pos bits) = Spec.Delta.sym cur bits := by
  fun_induction readLen cur pos bits with
  | case1 => rfl
  | case2 cur pos bits => simp [dropPos, Spec.Delta.sym, inRange_of cur hc]
  | case3 => rfl
  | case4 cur pos bits hlt ih =>
    rw [ih ⟨by omega, hlt⟩]
    simp [Spec.Delta.sym, inRange_of cur hc]
  | case5 cur pos bits hnot =>
    simp only [dropPos, Spec.Delta.sym, inRange_of cur hc, if_true]
    exact (Lemmas.Delta.sym_not_inRange (cur + 1) bits (not_inRange _ (by omega))).symm
  | case6 cur pos bits hge ih =>
    rw [ih ⟨by omega, by omega⟩]
    simp [Spec.Delta.sym, inRange_of cur hc]
  | case7 cur pos bits hnot =>
    simp only [dropPos, Spec.Delta.sym, inRange_of cur hc, if_true]
    exact (Lemmas.Delta.sym_not_inRange (cur - 1) bits (not_inRange _ (by omega))).symm

/-! The readers with an accumulator append what the position-free reference reads to it.  Each
equation comes a second time for the empty accumulator, solved for the reference, which is the
form that rewrites the reference into the reader. -/

theorem readLens_syms (n cur pos : Nat) (bits : Bits) (acc : Array Nat) (hc : 1 ≤ cur ∧ cur ≤ maxLen) :
    (dropPos (readLens n cur pos bits acc)).map (fun p => (p.1.toList, p.2)) =
      (Spec.Delta.syms n cur bits).map (fun p => (acc.toList ++ p.1, p.2)) := by
  fun_induction readLens n cur pos bits acc with
  | case1 cur pos bits acc => simp [dropPos, Spec.Delta.syms]
  | case2 n cur pos bits acc e h =>
    rw [Spec.Delta.syms, ← readLen_sym cur pos bits hc, h]
    rfl
  | case3 n cur pos bits acc len pos' bits' h ih =>
    rw [ih (Spec.Bzip2.readLen_range hc h), Spec.Delta.syms, ← readLen_sym cur pos bits hc, h]
    dsimp only [dropPos]
    cases Spec.Delta.syms n len bits' with
    | none => rfl
    | some p => simp

theorem syms_eq_readLens (n cur pos k : Nat) (bits : Bits) (hc : 1 ≤ cur ∧ cur ≤ maxLen) :
    Spec.Delta.syms n cur bits =
      (dropPos (readLens n cur pos bits (Array.mkEmpty k))).map (fun p => (p.1.toList, p.2)) := by
  rw [readLens_syms n cur pos bits _ hc]
  cases Spec.Delta.syms n cur bits <;> rfl

theorem readTable_table (alpha pos : Nat) (bits : Bits) :
    dropPos (readTable alpha pos bits) = Spec.Delta.table alpha bits := by
  unfold readTable Spec.Delta.table
  rw [← Lemmas.RetrieveValues.takeNat_takeNum]
  rcases takeNat 5 bits with _ | ⟨start, b1⟩
  · rfl
  dsimp only
  by_cases hr : 1 ≤ start ∧ start ≤ maxLen
  · rw [if_pos hr, if_pos (inRange_of start hr),
      syms_eq_readLens alpha start (pos + 5) alpha b1 hr]
    rcases readLens alpha start (pos + 5) b1 (Array.mkEmpty alpha) with e | ⟨lens, pos', b2⟩ <;> rfl
  · rw [if_neg hr, not_inRange start hr]
    rfl

theorem readTables_spec (alpha : Nat) : ∀ (n pos : Nat) (bits : Bits) (acc : Array (List Nat)),
    dropPos (readTables alpha n pos bits acc) =
      (specTables alpha n bits).map (fun p => (acc.toList ++ p.1, p.2)) := by
  intro n
  induction n with
  | zero => intro pos bits acc; simp [readTables, specTables, dropPos]
  | succ n ih =>
    intro pos bits acc
    rw [readTables, specTables_succ, ← readTable_table alpha pos bits]
    rcases readTable alpha pos bits with e | ⟨t, pos', b'⟩
    · rfl
    dsimp only
    rw [ih pos' b' (acc.push t)]
    dsimp only [dropPos, Option.bind_some]
    cases specTables alpha n b' with
    | none => rfl
    | some z => simp

theorem specTables_eq_readTables (alpha n pos k : Nat) (bits : Bits) :
    specTables alpha n bits = dropPos (readTables alpha n pos bits (Array.mkEmpty k)) := by
  rw [readTables_spec]
  cases specTables alpha n bits <;> rfl

theorem readSelectorMtf_spec (ng alpha : Nat) : ∀ (n pos : Nat) (bits : Bits) (acc : Array Nat),
    ((dropPos (readSelectorMtf ng n pos bits acc)).bind fun p =>
      (specTables alpha ng p.2).map fun q => (p.1.toList, q.1, q.2)) =
    (specSelTables ng alpha n bits).map (fun q => (acc.toList ++ q.1, q.2.1, q.2.2)) := by
  intro n
  induction n with
  | zero =>
    intro pos bits acc
    rw [specSelTables_zero, readSelectorMtf]
    dsimp only [dropPos, Option.bind_some]
    cases specTables alpha ng bits with
    | none => rfl
    | some q => simp
  | succ n ih =>
    intro pos bits acc
    rw [readSelectorMtf]
    rcases h : readUnary ng 0 bits with e | ⟨j, b'⟩
    · rw [specSelTables_error ng alpha n h]
      rfl
    dsimp only
    rw [ih (pos + j + 1) b' (acc.push j), specSelTables_ok ng alpha n h]
    cases specSelTables ng alpha n b' with
    | none => rfl
    | some q => simp

theorem specSelTables_eq_readSelectorMtf (ng alpha n pos k : Nat) (bits : Bits) :
    specSelTables ng alpha n bits =
      (dropPos (readSelectorMtf ng n pos bits (Array.mkEmpty k))).bind fun p =>
        (specTables alpha ng p.2).map fun q => (p.1.toList, q.1, q.2) := by
  rw [readSelectorMtf_spec]
  cases specSelTables ng alpha n bits <;> rfl

theorem readBitmapRows_spec (big : Nat) : ∀ (rows : List Nat) (pos : Nat) (bits : Bits),
    (readBitmapRows big rows pos bits).map (fun x => (x.1, x.2.2)) = specRows big rows bits := by
  intro rows
  induction rows with
  | nil => intro pos bits; rfl
  | cons i rows ih =>
    intro pos bits
    rw [readBitmapRows, specRows_cons]
    split
    · rcases takeNat 16 bits with _ | ⟨small, b1⟩
      · rfl
      dsimp only [Option.bind_some]
      rw [← ih (pos + 16) b1]
      cases readBitmapRows big rows (pos + 16) b1 <;> rfl
    · exact ih pos bits

/-- What `Spec.Bzip2.parseBlock` does after the tables, given the header
values: undo the MTF coding of the selectors, decode the groups, build the
`Block`. -/
def parseTail (level start crc r idx : Nat) (h : Hdr) (pos : Nat) : Except Reject (Block × Bits) :=
  match unMtfSelectors (List.range h.ng) h.sels (Array.mkEmpty h.ns) with
  | none => .error .badSelector
  | some selectors =>
    match decodeGroups ((h.tabs.map mkCode).toArray) (h.used.length + 2 - 1) selectors.toList 0 pos h.rest
        (Array.mkEmpty 1024) with
    | .error e => .error e
    | .ok (nUsed, pos', bits', syms) =>
      .ok ({ level := level, startBit := start, endBit := pos', storedCrc := crc,
             rand := r == 1, origPtr := idx, used := h.used, nGroups := h.ng,
             selectors := selectors.toList, tables := h.tabs, nSelectorsUsed := nUsed,
             syms := syms }, bits')

/-- **The oracle factors through `specHeader`.**  After the 32-bit CRC,
`Spec.Bzip2.parseBlock` rejects whenever `specHeader` does, and otherwise is
`parseTail` on the header values `specHeader` delivers (for some value of the
position counter, which influences only the reported offsets). -/
theorem parseBlock_factor (level start : Nat) (bits : Bits) (crc : Nat) (b0 : Bits)
    (h32 : takeNat 32 bits = some (crc, b0)) :
    (specHeader b0 = none → ∃ e, parseBlock level start bits = .error e) ∧
    (∀ r idx h, specHeader b0 = some (r, idx, h) →
      ∃ pos, parseBlock level start bits = parseTail level start crc r idx h pos) := by
  -- both sides inspect the same values in the same order; where one stops the other stops too
  have reject : ∀ {e : Reject} {t : Nat → Nat → Hdr → Nat → Except Reject (Block × Bits)},
      ((none : Option (Nat × Nat × Hdr)) = none →
        ∃ e', (.error e : Except Reject (Block × Bits)) = .error e') ∧
      ∀ r idx h, (none : Option (Nat × Nat × Hdr)) = some (r, idx, h) →
        ∃ pos, .error e = t r idx h pos :=
    ⟨fun _ => ⟨_, rfl⟩, fun _ _ _ h => nomatch h⟩
  unfold parseBlock
  rw [h32, specHeader_eq]
  dsimp only
  rcases takeNat 1 b0 with _ | ⟨r0, b1⟩
  · exact reject
  dsimp only [Option.bind_some]
  rcases takeNat 24 b1 with _ | ⟨i0, b2⟩
  · exact reject
  dsimp only [Option.bind_some]
  rw [specFromBig_eq]
  rcases takeNat 16 b2 with _ | ⟨big, b3⟩
  · exact reject
  dsimp only [Option.bind_some]
  rw [specFromRows_eq, ← readBitmapRows_spec big _ (start + 121) b3, ← List.range_eq_range']
  rcases readBitmapRows big (List.range 16) (start + 121) b3 with _ | ⟨used, pos4, b4⟩
  · exact reject
  dsimp only [Option.map_some, Option.bind_some, List.nil_append]
  cases used with
  | nil => exact reject
  | cons u us =>
  rw [specCounts_eq _ _ (List.cons_ne_nil u us)]
  dsimp only [List.isEmpty_cons]
  rw [if_neg Bool.false_ne_true]
  rcases takeNat 3 b4 with _ | ⟨ng, b5⟩
  · exact reject
  dsimp only [Option.bind_some]
  split
  · exact reject
  rcases takeNat 15 b5 with _ | ⟨ns, b6⟩
  · exact reject
  dsimp only [Option.bind_some]
  split
  · exact reject
  rw [specSelTables_eq_readSelectorMtf ng _ ns (pos4 + 18) ns b6]
  rcases readSelectorMtf ng ns (pos4 + 18) b6 (Array.mkEmpty ns) with e | ⟨selMtf, pos7, b7⟩
  · exact reject
  dsimp only [dropPos, Option.bind_some]
  rw [specTables_eq_readTables _ ng pos7 ng b7]
  -- `parseBlock` undoes the MTF coding of the selectors before it reads the tables, `parseTail` after
  rcases hum : unMtfSelectors (List.range ng) selMtf.toList (Array.mkEmpty ns) with _ | sels
  · rcases readTables ((u :: us).length + 2) ng pos7 b7 (Array.mkEmpty ng) with e | ⟨tables, pos8, b8⟩
    · exact reject
    refine ⟨fun _ => ⟨_, rfl⟩, fun r idx h hh => ?_⟩
    cases hh
    exact ⟨0, by simp only [parseTail, hum]⟩
  dsimp only
  rcases readTables ((u :: us).length + 2) ng pos7 b7 (Array.mkEmpty ng) with e | ⟨tables, pos8, b8⟩
  · exact reject
  refine ⟨nofun, fun r idx h hh => ?_⟩
  cases hh
  refine ⟨pos8, ?_⟩
  simp only [parseTail, hum]
  rfl

end LbzVerif.Lemmas.RetrieveSpecLink
