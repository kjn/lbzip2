/-
  Lemmas.IbwtDerand — derandomisation: the index-jumping loop of `decode()`

      i = 0, j = RAND_THRESH;
      while (j < n) { tt[j] ^= 1; i = (i + 1) & 0x1FF; j += rand_table[i]; }

  flips exactly the positions that the reference automaton (`rNToGo`, `rTPos`) of
  `Spec.Ibwt.derand` flips, for every block length (`derandLoop_low`).  Both are
  related to `flipsGo`.  Facts taken from the generated table: all 512 entries are
  ≥ 3 and `rand_table[0] - 2 = RAND_THRESH` (`decide`).
-/
import LbzVerif.Model.Ibwt
import LbzVerif.Lemmas.ListAux

namespace LbzVerif.Lemmas.IbwtDerand

open LbzVerif.Model.Ibwt

/-- Flip (apply `f` to) the element `d` positions ahead; the next flip is
`rt[t]` positions after it; `t` advances cyclically. -/
def flipsGo {α : Type} (f : α → α) (rt : List Nat) : Nat → Nat → List α → List α
  | _, _, [] => []
  | 0, t, b :: bs => f b :: flipsGo f rt (rt.getD t 0 - 1) ((t + 1) % 512) bs
  | d + 1, t, b :: bs => b :: flipsGo f rt d t bs

theorem flipsGo_nil {α : Type} (f : α → α) (rt : List Nat) (d t : Nat) :
    flipsGo f rt d t [] = [] := by
  cases d <;> rfl

theorem flipsGo_length {α : Type} (f : α → α) (rt : List Nat) :
    ∀ (l : List α) (d t : Nat), (flipsGo f rt d t l).length = l.length := by
  intro l
  induction l with
  | nil => intro d t; rw [flipsGo_nil]
  | cons b bs ih =>
    intro d t
    cases d <;> simp [flipsGo, ih]

theorem flipsGo_split {α : Type} (f : α → α) (rt : List Nat) :
    ∀ (d t : Nat) (l : List α),
      flipsGo f rt d t l = l.take d ++ flipsGo f rt 0 t (l.drop d) := by
  intro d
  induction d with
  | zero => intro t l; simp
  | succ d ih =>
    intro t l
    cases l with
    | nil => simp [flipsGo_nil]
    | cons b bs => simp [flipsGo, ih t bs]

theorem flipsGo_past {α : Type} (f : α → α) (rt : List Nat) (t : Nat) (l : List α) (j : Nat)
    (h : l.length ≤ j) : l.take j ++ flipsGo f rt 0 t (l.drop j) = l := by
  rw [List.take_of_length_le h, List.drop_eq_nil_of_le h, flipsGo_nil, List.append_nil]

theorem flipsGo_map {α β : Type} (f : α → α) (f' : β → β) (g : α → β) (rt : List Nat)
    (h : ∀ x, g (f x) = f' (g x)) :
    ∀ (l : List α) (d t : Nat), (flipsGo f rt d t l).map g = flipsGo f' rt d t (l.map g) := by
  intro l
  induction l with
  | nil => intro d t; simp [flipsGo_nil]
  | cons b bs ih =>
    intro d t
    cases d <;> simp [flipsGo, ih, h]

section Spec
open LbzVerif.Spec.Ibwt (derandGo derand)

theorem derandGo_succ (rt : List Nat) (g t : Nat) (b : UInt8) (bs : List UInt8) :
    derandGo rt (g + 1) t (b :: bs) =
      (if g = 1 then b ^^^ 1 else b) :: derandGo rt g t bs := by
  simp [derandGo]

theorem derandGo_zero (rt : List Nat) (t : Nat) (b : UInt8) (bs : List UInt8) :
    derandGo rt 0 t (b :: bs) =
      (if rt.getD t 0 - 1 = 1 then b ^^^ 1 else b) ::
        derandGo rt (rt.getD t 0 - 1) ((t + 1) % 512) bs := by
  simp [derandGo]

/-- The automaton in its three kinds of states, against `flipsGo`. -/
theorem derandGo_flips (rt : List Nat) (hrt : ∀ t, t < 512 → 3 ≤ rt.getD t 0) :
    ∀ (bs : List UInt8) (t : Nat), t < 512 →
      (∀ d, derandGo rt (d + 2) t bs = flipsGo (· ^^^ 1) rt d t bs) ∧
      derandGo rt 1 t bs = flipsGo (· ^^^ 1) rt (rt.getD t 0 - 1) ((t + 1) % 512) bs ∧
      derandGo rt 0 t bs = flipsGo (· ^^^ 1) rt (rt.getD t 0 - 2) ((t + 1) % 512) bs := by
  intro bs
  induction bs with
  | nil =>
    intro t _
    refine ⟨fun d => ?_, ?_, ?_⟩ <;> simp [derandGo, flipsGo_nil]
  | cons b bs ih =>
    intro t ht
    have hr := hrt t ht
    have ht' : (t + 1) % 512 < 512 := Nat.mod_lt _ (by omega)
    obtain ⟨ih1, ih2, ih3⟩ := ih t ht
    obtain ⟨r, hr'⟩ : ∃ r, rt.getD t 0 = r + 3 := ⟨rt.getD t 0 - 3, by omega⟩
    refine ⟨fun d => ?_, ?_, ?_⟩
    · cases d with
      | zero =>
        rw [derandGo_succ, ih2]
        simp [flipsGo]
      | succ d =>
        rw [show d + 1 + 2 = (d + 2) + 1 from rfl, derandGo_succ, ih1 d]
        have : ¬ d + 2 = 1 := by omega
        simp [flipsGo, this]
    · rw [derandGo_succ, ih3]
      rw [hr']
      simp [flipsGo]
    · rw [derandGo_zero]
      rw [hr']
      have e1 : r + 3 - 1 = r + 2 := by omega
      have e2 : r + 3 - 2 = r + 1 := by omega
      have e3 : ¬ r + 2 = 1 := by omega
      rw [e1, e2, (ih ((t + 1) % 512) ht').1 r]
      simp [flipsGo, e3]

theorem derand_flips (rt : List Nat) (hrt : ∀ t, t < 512 → 3 ≤ rt.getD t 0) (bs : List UInt8) :
    derand rt bs = flipsGo (· ^^^ 1) rt (rt.getD 0 0 - 2) 1 bs :=
  (derandGo_flips rt hrt bs 0 (by omega)).2.2

end Spec

theorem randTable_all : Gen.randTable.all (fun r => decide (3 ≤ r)) = true := by decide +kernel
theorem randTable_len : Gen.randTable.length = 512 := by decide +kernel

theorem randTable_ge (t : Nat) (ht : t < 512) : 3 ≤ Gen.randTable.getD t 0 := by
  have hl : t < Gen.randTable.length := by rw [randTable_len]; exact ht
  rw [ListAux.getD_of_lt 0 hl]
  exact of_decide_eq_true (List.all_eq_true.mp randTable_all _ (List.getElem_mem hl))

theorem randTable_zero : Gen.randTable.getD 0 0 - 2 = Gen.RAND_THRESH := by decide

theorem derand_randTable (bs : List UInt8) :
    Spec.Ibwt.derand Gen.randTable bs = flipsGo (· ^^^ 1) Gen.randTable Gen.RAND_THRESH 1 bs := by
  rw [derand_flips _ randTable_ge, randTable_zero]

theorem derand_short (bs : List UInt8) (h : bs.length ≤ Gen.RAND_THRESH) :
    Spec.Ibwt.derand Gen.randTable bs = bs := by
  rw [derand_randTable, flipsGo_split, flipsGo_past _ _ _ _ _ h]

theorem and_1FF (x : Nat) : x &&& 0x1FF = x % 512 :=
  Nat.and_two_pow_sub_one_eq_mod x 9

theorem derandLoop_length (n : Nat) : ∀ (fuel i j : Nat) (tt : List Nat),
    (derandLoop n fuel i j tt).length = tt.length := by
  intro fuel
  induction fuel with
  | zero => intro i j tt; rfl
  | succ fuel ih =>
    intro i j tt
    simp only [derandLoop]
    split
    · rw [ih]; simp
    · rfl

theorem derandLoop_flips (n : Nat) : ∀ (fuel i j : Nat) (tt : List Nat),
    tt.length = n → n ≤ j + fuel →
      derandLoop n fuel i j tt =
        tt.take j ++ flipsGo (· ^^^ 1) Gen.randTable 0 ((i + 1) % 512) (tt.drop j) := by
  intro fuel
  induction fuel with
  | zero =>
    intro i j tt hl hf
    rw [flipsGo_past _ _ _ _ _ (by omega)]
    rfl
  | succ fuel ih =>
    intro i j tt hl hf
    simp only [derandLoop]
    by_cases hj : j < n
    · simp only [hj, if_true, and_1FF]
      have ht : (i + 1) % 512 < 512 := Nat.mod_lt _ (by omega)
      obtain ⟨r, hr⟩ : ∃ r, Gen.randTable.getD ((i + 1) % 512) 0 = r + 1 :=
        ⟨Gen.randTable.getD ((i + 1) % 512) 0 - 1, by have := randTable_ge _ ht; omega⟩
      have hjl : j < tt.length := by omega
      rw [ih _ _ _ (by simp [hl]) (by omega), hr]
      have hset : tt.set j (tt.getD j 0 ^^^ 1) =
          tt.take j ++ (tt.getD j 0 ^^^ 1) :: tt.drop (j + 1) := by
        rw [List.set_eq_take_append_cons_drop, if_pos hjl]
      have hlen : (tt.take j).length = j := by simp; omega
      rw [hset]
      have e1 : j + (r + 1) = (tt.take j).length + (r + 1) := by rw [hlen]
      rw [e1, List.take_length_add_append, List.drop_length_add_append,
        List.drop_eq_getElem_cons hjl]
      have hg : tt.getD j 0 = tt[j] := ListAux.getD_of_lt 0 hjl
      simp only [flipsGo, hr, List.take_succ_cons, List.drop_succ_cons, hg]
      rw [flipsGo_split _ _ (r + 1 - 1)]
      simp
    · simp only [hj, if_false]
      rw [flipsGo_past _ _ _ _ _ (by omega)]

theorem derandLoop_eq (tt : List Nat) :
    derandLoop tt.length tt.length 0 Gen.RAND_THRESH tt =
      flipsGo (· ^^^ 1) Gen.randTable Gen.RAND_THRESH 1 tt := by
  rw [derandLoop_flips tt.length _ _ _ tt rfl (by omega), flipsGo_split _ _ Gen.RAND_THRESH]

def low (v : Nat) : UInt8 := UInt8.ofNat (v % 256)

theorem low_eq (v : Nat) : low v = UInt8.ofNat v := by
  unfold low
  exact UInt8.ofNat_mod_size (x := v)

theorem low_xor (v : Nat) : low (v ^^^ 1) = low v ^^^ 1 := by
  rw [low_eq, low_eq, UInt8.ofNat_xor]
  rfl

theorem derandLoop_low (tt : List Nat) {n : Nat} (hn : tt.length = n) :
    (derandLoop n n 0 Gen.RAND_THRESH tt).map low =
      Spec.Ibwt.derand Gen.randTable (tt.map low) := by
  subst hn
  rw [derandLoop_eq, derand_randTable]
  exact flipsGo_map _ _ low _ low_xor _ _ _

end LbzVerif.Lemmas.IbwtDerand
