/-
  Lemmas.TransmitSelMtf — lifting the finite core (TransmitSelMtfCore) to all
  selector sequences (the MTF list stays a permutation of the table numbers),
  and the link to the reference decoder's `unMtfSelectors`.
-/
import LbzVerif.Lemmas.TransmitSelMtfCore
import LbzVerif.Lemmas.ListAux
import LbzVerif.Spec.Bzip2

namespace LbzVerif.Lemmas.TransmitSelMtf
open LbzVerif LbzVerif.Model.Transmit

/-- Ordinary move-to-front coding of a sequence w.r.t. the list `l`:
    position of each element, which then moves to the front. -/
def mtfEnc : List Nat → List Nat → List Nat
  | _, [] => []
  | l, c :: cs => l.idxOf c :: mtfEnc (mtfNext l c) cs

theorem all6_true {f : Nat → Bool} (h : all6 f = true) {a : Nat} (ha : a < 6) : f a = true := by
  simp only [all6, Bool.and_eq_true] at h
  obtain ⟨⟨⟨⟨⟨h0, h1⟩, h2⟩, h3⟩, h4⟩, h5⟩ := h
  match a, ha with
  | 0, _ => exact h0
  | 1, _ => exact h1
  | 2, _ => exact h2
  | 3, _ => exact h3
  | 4, _ => exact h4
  | 5, _ => exact h5

theorem or_right {q p : Bool} (h : (q || p) = true) (hq : q = false) : p = true := by
  cases q
  · simpa using h
  · cases hq

theorem mtfNext_perm {l : List Nat} {c : Nat} (hc : c ∈ l) : (mtfNext l c).Perm l := by
  rw [mtfNext, ← List.erase_eq_eraseIdx_of_idxOf rfl]
  exact (List.perm_cons_erase hc).symm

/-- `sweep` covers every duplicate-free arrangement: `pre` is what the enumeration has fixed so
    far (`m` its set), `suf` the `n` entries still to come, last one first. -/
theorem sweep_sound : ∀ (n m : Nat) (pre suf : List Nat), (∀ a, m.testBit a = pre.contains a) →
    sweep n m pre = true → suf.length = n → (∀ a ∈ suf, a < 6) → (suf.reverse ++ pre).Nodup →
    ∀ x, x < 6 → stepOK (suf.reverse ++ pre) x = true := by
  intro n
  induction n with
  | zero =>
    intro m pre suf _ h hl _ _ x hx
    rw [List.eq_nil_of_length_eq_zero hl]
    exact all6_true h hx
  | succ n ih =>
    intro m pre suf hm h hl hlt hnd x hx
    obtain ⟨a, suf, rfl⟩ := List.exists_cons_of_length_eq_add_one hl
    rw [List.reverse_cons, List.append_assoc, List.singleton_append] at hnd ⊢
    have ha : m.testBit a = false := by
      rw [hm, List.contains_eq_mem, decide_eq_false_iff_not]
      exact fun hp => (List.nodup_cons.mp (List.nodup_append.mp hnd).2.1).1 hp
    refine ih (m ||| 2 ^ a) (a :: pre) suf (fun b => ?_)
      (or_right (all6_true h (hlt a (List.mem_cons_self ..))) ha) (by simpa using hl)
      (fun b hb => hlt b (List.mem_cons_of_mem _ hb)) hnd x hx
    rw [Nat.testBit_or, Nat.testBit_two_pow, hm, List.contains_cons, Bool.or_comm]
    congr 1
    rw [Bool.eq_iff_iff, decide_eq_true_eq, beq_iff_eq]
    exact eq_comm

theorem step_ok {l : List Nat} (h : l.Perm (List.range 6)) {x : Nat} (hx : x < 6) :
    selStep (pack l) x = (pack (mtfNext l x), l.idxOf x) := by
  have hi : l.idxOf x < 6 := by
    rw [← List.length_range (n := 6), ← h.length_eq]
    exact List.idxOf_lt_length_of_mem (h.mem_iff.mpr (List.mem_range.mpr hx))
  have h6 := sweep_sound 6 0 [] l.reverse (fun a => by rw [Nat.zero_testBit]; rfl) sweep_true
    (List.length_reverse.trans (h.length_eq.trans List.length_range))
    (fun a ha => List.mem_range.mp (h.mem_iff.mp (List.mem_reverse.mp ha)))
    (by rw [List.reverse_reverse, List.append_nil]; exact h.nodup_iff.mpr List.nodup_range) x hx
  simp only [List.reverse_reverse, List.append_nil, stepOK, Bool.and_eq_true, beq_iff_eq] at h6
  refine Prod.ext h6.2 ?_
  rw [selStep_snd, h6.1, ctz32_not_ones _ (by omega), Nat.shiftRight_eq_div_pow]
  omega

theorem selLoop_eq (l : List Nat) (hv : l.Perm (List.range 6)) (cs : List Nat)
    (hc : ∀ c ∈ cs, c < 6) : selLoop (pack l) cs = mtfEnc l cs := by
  induction cs generalizing l with
  | nil => rfl
  | cons c cs ih =>
    have hc6 := hc c (List.mem_cons_self ..)
    rw [selLoop, mtfEnc, step_ok hv hc6]
    exact congrArg _ (ih _ ((mtfNext_perm (hv.mem_iff.mpr (List.mem_range.mpr hc6))).trans hv)
      (fun x hx => hc x (List.mem_cons_of_mem _ hx)))

theorem mem_mtfNext {l : List Nat} {c x : Nat} (hc : c ∈ l) (hx : x ∈ l) : x ∈ mtfNext l c :=
  (mtfNext_perm hc).mem_iff.mpr hx

theorem mtfEnc_append (l1 l2 : List Nat) (cs : List Nat) (h : ∀ c ∈ cs, c ∈ l1) :
    mtfEnc (l1 ++ l2) cs = mtfEnc l1 cs := by
  induction cs generalizing l1 with
  | nil => rfl
  | cons c cs ih =>
    have hc := h c (List.mem_cons_self ..)
    have hi : (l1 ++ l2).idxOf c = l1.idxOf c := by
      rw [List.idxOf_append]; simp [hc]
    have hlt : l1.idxOf c < l1.length := List.idxOf_lt_length_iff.mpr hc
    have hn : mtfNext (l1 ++ l2) c = mtfNext l1 c ++ l2 := by
      simp only [mtfNext, hi]
      rw [List.eraseIdx_append_of_lt_length hlt, ← List.cons_append]
    simp only [mtfEnc, hi, hn]
    congr 1
    exact ih _ (fun x hx => mem_mtfNext hc (h x (List.mem_cons_of_mem _ hx)))

theorem unMtf_mtfEnc_append (l : List Nat) (cs : List Nat) (h : ∀ c ∈ cs, c ∈ l) (js : List Nat)
    (acc : Array Nat) :
    Spec.Bzip2.unMtfSelectors l (mtfEnc l cs ++ js) acc =
      Spec.Bzip2.unMtfSelectors (cs.foldl mtfNext l) js (acc ++ cs.toArray) := by
  induction cs generalizing l acc with
  | nil => rw [List.foldl_nil, Array.append_empty]; rfl
  | cons c cs ih =>
    have hc := h c (List.mem_cons_self ..)
    have hlt : l.idxOf c < l.length := List.idxOf_lt_length_iff.mpr hc
    have hg : l[l.idxOf c]? = some c := by
      rw [List.getElem?_eq_getElem hlt, List.getElem_idxOf hlt]
    rw [mtfEnc, List.cons_append, Spec.Bzip2.unMtfSelectors, Spec.Bzip2.moveToFront, hg]
    exact (ih (mtfNext l c) (fun x hx => mem_mtfNext hc (h x (List.mem_cons_of_mem _ hx)))
      (acc.push c)).trans (congrArg _ (List.push_append_toArray))

theorem unMtf_mtfEnc (l : List Nat) (cs : List Nat) (h : ∀ c ∈ cs, c ∈ l) (acc : Array Nat) :
    Spec.Bzip2.unMtfSelectors l (mtfEnc l cs) acc = some (acc ++ cs.toArray) := by
  have := unMtf_mtfEnc_append l cs h [] acc
  rw [List.append_nil] at this
  exact this

theorem selectorMtfOf_range (n : Nat) (hn : n ≤ 6) (sels : List Nat) (h : ∀ c ∈ sels, c < n) :
    selectorMtfOf sels = mtfEnc (List.range n) sels := by
  rw [← mtfEnc_append _ (List.range' n (6 - n)) _ (fun c hc => List.mem_range.mpr (h c hc)),
    ← ListAux.range_split hn]
  exact selLoop_eq _ (List.Perm.refl _) sels (fun c hc => Nat.lt_of_lt_of_le (h c hc) hn)

end LbzVerif.Lemmas.TransmitSelMtf
