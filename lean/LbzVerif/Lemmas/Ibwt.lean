/-
  Lemmas.Ibwt — the list construction of `decode()` for all blocks:

      for (i = 0; i < n; i++) { uc = tt[i]; tt[ftab[uc]] += (i << 8); ftab[uc]++; }

  `pos L i` is the slot of `i` in the stably sorted first column.  By induction over
  the loop (`Ik`, `link_inv`): every store goes to a slot `pos L i < n`; `pos L` is
  injective, so a slot receives at most one `+= i << 8` (`S_pos`): afterwards slot
  `pos L i` holds byte `L[pos L i]` and pointer `i`.
-/
import LbzVerif.Model.Ibwt
import LbzVerif.Lemmas.ListAux

namespace LbzVerif.Lemmas.Ibwt

open LbzVerif.Model.Ibwt

/-- `tt[i] & 0xff`: the byte `retrieve()` stored in cell `i`. -/
def byteAt (L : List UInt8) (i : Nat) : Nat := (L.getD i 0).toNat
/-- `ftab[v]` after the cumulation loop of `decode()`: the number of bytes smaller than `v`. -/
def cntLt (L : List UInt8) (v : Nat) : Nat := L.countP (fun x => decide (x.toNat < v))
/-- `ftab[v]` as `retrieve()` leaves it: the number of occurrences of `v`. -/
def cntEq (L : List UInt8) (v : Nat) : Nat := L.countP (fun x => decide (x.toNat = v))

/-- Slot of index `i` in the stably sorted first column. -/
def pos (L : List UInt8) (i : Nat) : Nat :=
  cntLt L (byteAt L i) + cntEq (L.take i) (byteAt L i)

theorem cntLt_cons (x : UInt8) (xs : List UInt8) (v : Nat) :
    cntLt (x :: xs) v = cntLt xs v + (if x.toNat < v then 1 else 0) := by
  simp [cntLt, List.countP_cons]

theorem cntEq_cons (x : UInt8) (xs : List UInt8) (v : Nat) :
    cntEq (x :: xs) v = cntEq xs v + (if x.toNat = v then 1 else 0) := by
  simp [cntEq, List.countP_cons]

theorem cntEq_nil (v : Nat) : cntEq [] v = 0 := rfl

theorem cntLt_succ (L : List UInt8) (v : Nat) : cntLt L (v + 1) = cntLt L v + cntEq L v := by
  induction L with
  | nil => simp [cntLt, cntEq]
  | cons x xs ih =>
    rw [cntLt_cons, cntEq_cons, cntLt_cons, ih]
    split <;> split <;> split <;> omega

theorem cntLt_mono (L : List UInt8) (v w : Nat) (h : v ≤ w) : cntLt L v ≤ cntLt L w := by
  induction L with
  | nil => simp [cntLt]
  | cons x xs ih =>
    rw [cntLt_cons, cntLt_cons]
    split <;> split <;> omega

theorem cnt_le_length (L : List UInt8) (v : Nat) : cntLt L v + cntEq L v ≤ L.length := by
  rw [← cntLt_succ]
  exact List.countP_le_length

theorem cnt_mono (L : List UInt8) (v w : Nat) (h : v < w) :
    cntLt L v + cntEq L v ≤ cntLt L w := by
  rw [← cntLt_succ]
  exact cntLt_mono L _ _ h

theorem byteAt_lt (L : List UInt8) (i : Nat) : byteAt L i < 256 := (L.getD i 0).toNat_lt

theorem take_succ_getD (L : List UInt8) (k : Nat) (h : k < L.length) :
    L.take (k + 1) = L.take k ++ [L.getD k 0] := by
  rw [List.take_add_one, List.getElem?_eq_getElem h, ListAux.getD_of_lt 0 h]
  rfl

theorem cntEq_take_succ (L : List UInt8) (k : Nat) (h : k < L.length) (b : Nat) :
    cntEq (L.take (k + 1)) b = cntEq (L.take k) b + (if byteAt L k = b then 1 else 0) := by
  rw [take_succ_getD L k h]
  simp [cntEq, List.countP_append, List.countP_cons, byteAt]

theorem cntEq_take_mono (L : List UInt8) (m n : Nat) (h : m ≤ n) (v : Nat) :
    cntEq (L.take m) v ≤ cntEq (L.take n) v := by
  have : L.take m = (L.take n).take m := by rw [List.take_take, Nat.min_eq_left h]
  rw [this]
  exact (List.take_sublist _ _).countP_le

theorem cntEq_take_strict (L : List UInt8) (i j : Nat) (hij : i < j) (hj : j ≤ L.length) :
    cntEq (L.take i) (byteAt L i) < cntEq (L.take j) (byteAt L i) := by
  have h1 := cntEq_take_succ L i (by omega) (byteAt L i)
  have h2 := cntEq_take_mono L (i + 1) j hij (byteAt L i)
  rw [if_pos rfl] at h1
  omega

theorem cntEq_take_lt (L : List UInt8) (k : Nat) (h : k < L.length) :
    cntEq (L.take k) (byteAt L k) + 1 ≤ cntEq L (byteAt L k) := by
  have := cntEq_take_strict L k L.length h (Nat.le_refl _)
  rwa [List.take_length] at this

theorem pos_lt (L : List UInt8) (k : Nat) (h : k < L.length) : pos L k < L.length := by
  have h1 := cntEq_take_lt L k h
  have h2 := cnt_le_length L (byteAt L k)
  unfold pos; omega

theorem pos_mono (L : List UInt8) (i j : Nat) (hi : i < L.length) (hj : j < L.length)
    (h : byteAt L i < byteAt L j ∨ (byteAt L i = byteAt L j ∧ i < j)) : pos L i < pos L j := by
  unfold pos
  rcases h with h | ⟨h, hij⟩
  · have h1 := cntEq_take_lt L i hi
    have h2 := cnt_mono L _ _ h
    omega
  · have := cntEq_take_strict L i j hij (Nat.le_of_lt hj)
    rw [← h]; omega

theorem order_total (L : List UInt8) (i j : Nat) :
    i = j ∨ (byteAt L i < byteAt L j ∨ (byteAt L i = byteAt L j ∧ i < j)) ∨
      (byteAt L j < byteAt L i ∨ (byteAt L j = byteAt L i ∧ j < i)) := by
  omega

theorem pos_inj (L : List UInt8) (i j : Nat) (hi : i < L.length) (hj : j < L.length)
    (h : pos L i = pos L j) : i = j := by
  rcases order_total L i j with e | o | o
  · exact e
  · have := pos_mono L i j hi hj o; omega
  · have := pos_mono L j i hj hi o; omega

theorem pos_order (L : List UInt8) (i j : Nat) (hi : i < L.length) (hj : j < L.length) :
    pos L i < pos L j ↔
      (byteAt L i < byteAt L j ∨ (byteAt L i = byteAt L j ∧ i < j)) := by
  refine ⟨fun hlt => ?_, pos_mono L i j hi hj⟩
  rcases order_total L i j with e | o | o
  · subst e; omega
  · exact o
  · have := pos_mono L j i hj hi o; omega

/-- Sum of all `j < k` whose slot is `q` (what `+=` has added, divided by 256). -/
def S (L : List UInt8) : Nat → Nat → Nat
  | 0, _ => 0
  | k + 1, q => S L k q + (if pos L k = q then k else 0)

theorem S_pos (L : List UInt8) (i : Nat) (hi : i < L.length) : ∀ k, k ≤ L.length →
    S L k (pos L i) = if i < k then i else 0 := by
  intro k
  induction k with
  | zero => intro _; simp [S]
  | succ k ih =>
    intro hk
    rw [S, ih (by omega)]
    have e : pos L k = pos L i ↔ k = i := ⟨pos_inj L k i (by omega) hi, fun h => by rw [h]⟩
    simp only [e]
    split <;> split <;> split <;> omega

/-- One step of a counting sort over any representation of the bucket table:
`f` reads the table before position `k` is placed, `g` after; the bucket of
`L[k]` was advanced and no other. -/
theorem bucket_step (L : List UInt8) (k : Nat) (hk : k < L.length) (f g : Nat → Nat)
    (hf : ∀ b, b < 256 → f b = cntLt L b + cntEq (L.take k) b)
    (heq : g (byteAt L k) = f (byteAt L k) + 1) (hne : ∀ b, byteAt L k ≠ b → g b = f b) :
    ∀ b, b < 256 → g b = cntLt L b + cntEq (L.take (k + 1)) b := by
  intro b hb
  rw [cntEq_take_succ L k hk b]
  by_cases hbb : byteAt L k = b
  · subst hbb
    rw [heq, hf _ hb, if_pos rfl, Nat.add_assoc]
  · rw [hne b hbb, hf b hb, if_neg hbb, Nat.add_zero]

structure Ik (L : List UInt8) (tt ftab : List Nat) (k : Nat) : Prop where
  ttLen : tt.length = L.length
  ftLen : ftab.length = 256
  /-- `ftab[b]` has been advanced once for every `b` among the first `k` bytes -/
  ft : ∀ b, b < 256 → ftab.getD b 0 = cntLt L b + cntEq (L.take k) b
  /-- cell `q` keeps its byte; above it, what the `+= i << 8` so far have added -/
  tt : ∀ q, q < L.length → tt.getD q 0 = byteAt L q + S L k q * 256

theorem linkStep_inv (L : List UInt8) (tt ftab : List Nat) (k : Nat) (hk : k < L.length)
    (h : Ik L tt ftab k) :
    Ik L (linkStep (tt, ftab) k).1 (linkStep (tt, ftab) k).2 (k + 1) ∧
      ftab.getD (tt.getD k 0 % 256) 0 = pos L k := by
  have hb := byteAt_lt L k
  have huc : tt.getD k 0 % 256 = byteAt L k := by
    rw [h.tt k hk]; omega
  have hq : ftab.getD (byteAt L k) 0 = pos L k := by
    rw [h.ft _ hb]; rfl
  have hql := pos_lt L k hk
  refine ⟨?_, by rw [huc, hq]⟩
  simp only [linkStep, huc, hq]
  refine ⟨by simp [h.ttLen], by simp [h.ftLen], ?_, ?_⟩
  · exact bucket_step L k hk (ftab.getD · 0) _ h.ft
      (by rw [ListAux.getD_set_eq _ _ _ _ (by rw [h.ftLen]; exact hb), hq])
      (fun b hbb => ListAux.getD_set_ne _ _ _ _ _ hbb)
  · intro q hq'
    rw [S]
    by_cases hpq : pos L k = q
    · subst hpq
      rw [ListAux.getD_set_eq _ _ _ _ (by rw [h.ttLen]; exact hql), h.tt _ hql]
      simp [Nat.shiftLeft_eq]; omega
    · rw [ListAux.getD_set_ne _ _ _ _ _ hpq, h.tt q hq']
      simp [hpq]

theorem foldl_inv (L : List UInt8) (tt0 ftab0 : List Nat) (h0 : Ik L tt0 ftab0 0) :
    ∀ k, k ≤ L.length →
      Ik L ((List.range k).foldl linkStep (tt0, ftab0)).1
        ((List.range k).foldl linkStep (tt0, ftab0)).2 k := by
  intro k
  induction k with
  | zero => intro _; simpa using h0
  | succ k ih =>
    intro hk
    rw [List.range_succ, List.foldl_append]
    simp only [List.foldl_cons, List.foldl_nil]
    exact (linkStep_inv L _ _ k (by omega) (ih (by omega))).1

theorem link_inv (L : List UInt8) (ftab0 : List Nat) (hf : ftab0.length = 256)
    (hc : ∀ b, b < 256 → ftab0.getD b 0 = cntLt L b) :
    Ik L (link (L.map (·.toNat)) ftab0 L.length).1 (link (L.map (·.toNat)) ftab0 L.length).2
      L.length := by
  have h0 : Ik L (L.map (·.toNat)) ftab0 0 := by
    refine ⟨by simp, hf, ?_, ?_⟩
    · intro b hb
      rw [hc b hb]
      simp [cntEq_nil]
    · intro q hq
      simp [S, byteAt, List.getD_eq_getElem?_getD, hq]
  exact foldl_inv L _ _ h0 L.length (Nat.le_refl _)

theorem cumulate_getD : ∀ (fs : List Nat) (c b : Nat), b < fs.length →
    (cumulate c fs).getD b 0 = c + (fs.take b).sum := by
  intro fs
  induction fs with
  | nil => intro c b h; simp at h
  | cons f fs ih =>
    intro c b h
    cases b with
    | zero => simp [cumulate]
    | succ b =>
      have := ih (c + f) b (by simpa using h)
      simp only [cumulate, List.getD_cons_succ, List.take_succ_cons, List.sum_cons]
      rw [this]; omega

theorem cumulate_length : ∀ (fs : List Nat) (c : Nat), (cumulate c fs).length = fs.length := by
  intro fs
  induction fs with
  | nil => intro c; simp [cumulate]
  | cons f fs ih => intro c; simp [cumulate, ih]

theorem counts_eq (L : List UInt8) : counts L = (List.range 256).map (cntEq L) := by
  simp [counts, cntEq, List.countP_eq_length_filter]

theorem sum_cntEq (L : List UInt8) : ∀ b, ((List.range b).map (cntEq L)).sum = cntLt L b := by
  intro b
  induction b with
  | zero => simp [cntLt]
  | succ b ih =>
    rw [List.range_succ, List.map_append, List.sum_append, ih, cntLt_succ]
    simp

theorem cumulate_counts (L : List UInt8) :
    (cumulate 0 (counts L)).length = 256 ∧
      ∀ b, b < 256 → (cumulate 0 (counts L)).getD b 0 = cntLt L b := by
  refine ⟨by simp [cumulate_length, counts], ?_⟩
  intro b hb
  rw [cumulate_getD _ _ _ (by simp [counts]; exact hb), counts_eq, ← List.map_take,
    List.take_range, Nat.min_eq_left (by omega), sum_cntEq]
  simp

end LbzVerif.Lemmas.Ibwt
