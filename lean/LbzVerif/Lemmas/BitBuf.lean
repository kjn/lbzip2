/-
  Lemmas.BitBuf — the 64-bit bit buffer of lbzip2's `struct bitstream` as plain
  arithmetic: `v` holds `w` live bits left-justified.  Under `BufInv` (`v < 2^64`,
  the bits below the live ones 0) it is a FIFO of the stream's bits: `refillV`
  appends the 32 bits of a word, `dumpV` drops the first `k`.  `retrieve()` and
  `scan()` share it; the namespace is that of the retriever's buffer lemmas.
-/
import LbzVerif.Model.Retrieve
import LbzVerif.Lemmas.BitsBasic

namespace LbzVerif.Lemmas.RetrieveBits
open LbzVerif LbzVerif.Model.Retrieve

/-- The live bits of the buffer, in reading order. -/
def bufBits (v w : Nat) : List Bool := (List.range w).map (fun i => v.testBit (63 - i))

/-- The 32 bits of a word, most significant first. -/
def wordBits (x : Nat) : List Bool := (List.range 32).map (fun i => x.testBit (31 - i))

theorem wordBits_length (x : Nat) : (wordBits x).length = 32 := by simp [wordBits]

structure BufInv (v w : Nat) : Prop where
  wle : w ≤ 64
  hi : ∀ i, 64 ≤ i → v.testBit i = false
  lo : ∀ i, i + w < 64 → v.testBit i = false

theorem bufInv_start : BufInv 0 0 := ⟨by omega, by simp, by simp⟩

theorem testBit_refillV (v w x j : Nat) (hw : w < 32) :
    (refillV v w x).testBit j =
      (v.testBit j || (decide (32 - w ≤ j) && (decide (j - (32 - w) < 32) && x.testBit (j - (32 - w))))) := by
  unfold refillV
  have : 64 - (w + 32) = 32 - w := by omega
  rw [this, Nat.testBit_or, Nat.testBit_shiftLeft, Nat.testBit_mod_two_pow]

theorem testBit_dumpV (v k j : Nat) :
    (dumpV v k).testBit j = (decide (j < 64) && (decide (k ≤ j) && v.testBit (j - k))) := by
  unfold dumpV
  rw [Nat.testBit_mod_two_pow, Nat.testBit_shiftLeft]

theorem refill_bits (v w x : Nat) (hw : w < 32) (inv : BufInv v w) :
    bufBits (refillV v w x) (w + 32) = bufBits v w ++ wordBits x ∧ BufInv (refillV v w x) (w + 32) := by
  constructor
  · apply List.ext_getElem
    · simp [bufBits, wordBits]
    · intro i h1 h2
      simp only [bufBits, List.length_map, List.length_range] at h1
      simp only [bufBits, wordBits, List.getElem_map, List.getElem_range, List.getElem_append,
        List.length_map, List.length_range]
      rw [testBit_refillV v w x _ hw]
      by_cases hi : i < w
      · rw [dif_pos hi]
        have : ¬ (63 - i - (32 - w) < 32) := by omega
        simp [this]
      · rw [dif_neg hi]
        have h0 : v.testBit (63 - i) = false := inv.lo _ (by omega)
        have ha : 32 - w ≤ 63 - i := by omega
        have hb : 63 - i - (32 - w) < 32 := by omega
        have hc : 63 - i - (32 - w) = 31 - (i - w) := by omega
        simp [h0, ha, hc]
        intro _
        omega
  · refine ⟨by omega, ?_, ?_⟩
    · intro i hi
      rw [testBit_refillV v w x _ hw, inv.hi i hi]
      have : ¬ (i - (32 - w) < 32) := by omega
      simp [this]
    · intro i hi
      rw [testBit_refillV v w x _ hw, inv.lo i (by omega)]
      have : ¬ (32 - w ≤ i) := by omega
      simp [this]

theorem dump_bits (v w k : Nat) (hk : k ≤ w) (inv : BufInv v w) :
    bufBits (dumpV v k) (w - k) = (bufBits v w).drop k ∧ BufInv (dumpV v k) (w - k) := by
  have hw := inv.wle
  constructor
  · apply List.ext_getElem
    · simp [bufBits]
    · intro i h1 h2
      simp only [bufBits, List.length_map, List.length_range] at h1
      simp only [bufBits, List.getElem_map, List.getElem_range, List.getElem_drop]
      rw [testBit_dumpV]
      have ha : 63 - i < 64 := by omega
      have hb : k ≤ 63 - i := by omega
      have hc : 63 - i - k = 63 - (k + i) := by omega
      simp [ha, hb, hc]
  · refine ⟨by omega, ?_, ?_⟩
    · intro i hi
      rw [testBit_dumpV]
      have : ¬ (i < 64) := by omega
      simp [this]
    · intro i hi
      rw [testBit_dumpV]
      by_cases hki : k ≤ i
      · rw [inv.lo (i - k) (by omega)]
        simp
      · simp [hki]

/-- `v >>> (64 - k)` is `PEEK(k)`: the next `k` bits, 0 beyond the live ones. -/
theorem peek_testBit (v w k i : Nat) (hk : k ≤ 64) (inv : BufInv v w) :
    (v >>> (64 - k)).testBit i =
      (decide (i < k) && (bufBits v w).getD (k - 1 - i) false) := by
  rw [Nat.testBit_shiftRight]
  by_cases hik : i < k
  · have hidx : 64 - k + i = 63 - (k - 1 - i) := by omega
    simp only [hik, decide_true, Bool.true_and]
    by_cases hl : k - 1 - i < w
    · rw [List.getD_eq_getElem?_getD, List.getElem?_eq_getElem (by simp [bufBits]; exact hl)]
      simp [bufBits, hidx]
    · rw [List.getD_eq_getElem?_getD, List.getElem?_eq_none (by simp [bufBits]; omega)]
      simp only [Option.getD_none]
      exact inv.lo _ (by omega)
  · simp only [hik, decide_false, Bool.false_and]
    exact inv.hi _ (by omega)

theorem buf_ext (v v' w : Nat) (i1 : BufInv v w) (i2 : BufInv v' w)
    (h : bufBits v w = bufBits v' w) : v = v' := by
  apply Nat.eq_of_testBit_eq
  intro j
  by_cases hj : 64 ≤ j
  · rw [i1.hi j hj, i2.hi j hj]
  · by_cases hl : j + w < 64
    · rw [i1.lo j hl, i2.lo j hl]
    · have hidx : 63 - j < w := by omega
      have := congrArg (fun l => l.getD (63 - j) false) h
      simp only [bufBits, List.getD_eq_getElem?_getD] at this
      rw [List.getElem?_eq_getElem (by simp; exact hidx),
        List.getElem?_eq_getElem (by simp; exact hidx)] at this
      simp only [List.getElem_map, List.getElem_range, Option.getD_some] at this
      have e : 63 - (63 - j) = j := by omega
      rw [e] at this
      exact this

theorem wordBits_eq (x : Nat) : wordBits x = Basic.natToBits 32 x := rfl

theorem bufBits_length (v w : Nat) : (bufBits v w).length = w := by simp [bufBits]

theorem bufBits_eq (v w : Nat) (hw : w ≤ 64) : bufBits v w = (Basic.natToBits 64 v).take w := by
  rw [Basic.natToBits_eq_range, ← List.map_take, List.take_range, Nat.min_eq_left hw]
  rfl

theorem buf_lt (v w : Nat) (inv : BufInv v w) : v < 2 ^ 64 :=
  Nat.lt_pow_two_of_testBit v (fun i hi => inv.hi i hi)

/-- With fewer than 64 live bits the lowest bit of the buffer is 0. -/
theorem window_lt (v w : Nat) (inv : BufInv v w) (hw : w ≤ 63) : v < 2 ^ 64 - 1 := by
  have h0 : v.testBit 0 = false := inv.lo 0 (by omega)
  have hlt := buf_lt v w inv
  apply Classical.byContradiction
  intro hn
  have : v = 2 ^ 64 - 1 := by omega
  rw [this] at h0
  revert h0
  decide

theorem peek_lt (v w k : Nat) (inv : BufInv v w) (hk : k ≤ 64) : v >>> (64 - k) < 2 ^ k := by
  rw [Nat.shiftRight_eq_div_pow, Nat.div_lt_iff_lt_mul (Nat.two_pow_pos _), ← Nat.pow_add,
    show k + (64 - k) = 64 by omega]
  exact buf_lt v w inv

theorem take_bits (v w k : Nat) (hk : k ≤ w) (inv : BufInv v w) :
    (bufBits v w).take k = Basic.natToBits k (v >>> (64 - k)) := by
  have hw := inv.wle
  rw [bufBits_eq v w hw, List.take_take, Nat.min_eq_left hk, Basic.natToBits_take 64 k v (by omega)]

/-! The buffer in front of whatever follows it (`R`: the words of the segment, as bits). -/

theorem refill_append (v w x : Nat) (hw : w < 32) (inv : BufInv v w) (ws : List Nat) :
    bufBits (refillV v w x) (w + 32) ++ ws.flatMap wordBits =
      bufBits v w ++ (x :: ws).flatMap wordBits := by
  rw [(refill_bits v w x hw inv).1, List.flatMap_cons, List.append_assoc]

theorem dump_append (v w k : Nat) (hk : k ≤ w) (inv : BufInv v w) (R : List Bool) :
    bufBits (dumpV v k) (w - k) ++ R = (bufBits v w ++ R).drop k := by
  rw [List.drop_append_of_le_length (by rw [bufBits_length]; exact hk), (dump_bits v w k hk inv).1]

/-- `TAKE(x, k)` on the buffer is `takeNat k` on the unread bits. -/
theorem take_append (v w k : Nat) (hk : k ≤ w) (inv : BufInv v w) (R : List Bool) :
    Basic.takeNat k (bufBits v w ++ R) =
      some (v >>> (64 - k), bufBits (dumpV v k) (w - k) ++ R) := by
  have h := Basic.takeNat_natToBits k (v >>> (64 - k)) ((bufBits v w ++ R).drop k)
  rw [← take_bits v w k hk inv, ← List.take_append_of_le_length (l₂ := R)
    (by rw [bufBits_length]; exact hk), List.take_append_drop,
    Nat.mod_eq_of_lt (peek_lt v w k inv (by have := inv.wle; omega))] at h
  rw [h, dump_append v w k hk inv]

/-- `PEEK(k)` is the value of the next `k` unread bits. -/
theorem peek_append (v w k : Nat) (hk : k ≤ w) (inv : BufInv v w) (R : List Bool) :
    v >>> (64 - k) = Basic.bitsToNat ((bufBits v w ++ R).take k) := by
  rw [List.take_append_of_le_length (by rw [bufBits_length]; exact hk), take_bits v w k hk inv,
    Basic.bitsToNat_natToBits, Nat.mod_eq_of_lt (peek_lt v w k inv (by have := inv.wle; omega))]

end LbzVerif.Lemmas.RetrieveBits
