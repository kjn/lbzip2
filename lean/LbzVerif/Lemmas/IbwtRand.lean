/-
  Lemmas.IbwtRand — the randomised path of `decode()` for all blocks.  The
  eight-step binary search returns `k ≤ 255` with `ftab[k-1] ≤ j < ftab[k]`
  (`ftab[-1] = 0`; no monotonicity needed); over the advanced `ftab` (`ftab[b]` =
  number of bytes `≤ b`) and `j = pos L i` that is the byte `L[i]`.  So the in-situ
  loop writes into the cells `0, 1, …` the bytes that following the stored pointers
  from `idx` spells (the same `Spec.Ibwt.follow` the other path is tied to), and the
  re-formed list, walked from `rle_index = 0`, yields the cells in index order.
-/
import LbzVerif.Lemmas.IbwtLink
import LbzVerif.Lemmas.IbwtDerand

namespace LbzVerif.Lemmas.IbwtRand

open LbzVerif.Model.Ibwt
open LbzVerif.Lemmas.Ibwt
open LbzVerif.Lemmas.IbwtSort
open LbzVerif.Lemmas.IbwtLink
open LbzVerif.Lemmas.IbwtDerand
open LbzVerif.Spec.Ibwt (succVec follow)

/-- One `if (j >= ftab[k + w - 1]) k += w;`. -/
def bstep (ftab : List Nat) (j k w : Nat) : Nat :=
  if j ≥ ftab.getD (k + w - 1) 0 then k + w else k

/-- Search interval `[k, k + w)`: everything below `k` is `≤ j`, the entry at
the top of the interval (if it exists) is `> j`. -/
def BInv (F : List Nat) (j k w : Nat) : Prop :=
  k + w ≤ 256 ∧ (k = 0 ∨ F.getD (k - 1) 0 ≤ j) ∧ (256 ≤ k + w ∨ j < F.getD (k + w - 1) 0)

theorem bstep_inv (F : List Nat) (j k h : Nat) (H : BInv F j k (2 * h)) :
    BInv F j (bstep F j k h) h := by
  obtain ⟨h1, h2, h3⟩ := H
  unfold bstep
  by_cases hc : j ≥ F.getD (k + h - 1) 0
  · simp only [hc, if_true]
    refine ⟨by omega, Or.inr hc, ?_⟩
    rcases h3 with h3 | h3
    · left; omega
    · right
      have : k + h + h - 1 = k + 2 * h - 1 := by omega
      rw [this]; exact h3
  · simp only [hc, if_false]
    exact ⟨by omega, h2, Or.inr (by omega)⟩

theorem bsearch_spec (F : List Nat) (j : Nat) :
    bsearch F j ≤ 255 ∧ (bsearch F j = 0 ∨ F.getD (bsearch F j - 1) 0 ≤ j) ∧
      (bsearch F j = 255 ∨ j < F.getD (bsearch F j) 0) := by
  have h0 : BInv F j 0 (2 * 128) := ⟨by omega, Or.inl rfl, Or.inl (by omega)⟩
  have h1 := bstep_inv F j _ 128 h0
  have h2 := bstep_inv F j _ 64 h1
  have h3 := bstep_inv F j _ 32 h2
  have h4 := bstep_inv F j _ 16 h3
  have h5 := bstep_inv F j _ 8 h4
  have h6 := bstep_inv F j _ 4 h5
  have h7 := bstep_inv F j _ 2 h6
  have h8 : BInv F j (bsearch F j) 1 := bstep_inv F j _ 1 h7
  obtain ⟨a, b, c⟩ := h8
  refine ⟨by omega, b, ?_⟩
  rcases c with c | c
  · left; omega
  · right; simpa using c

theorem cntLt_256 (L : List UInt8) : cntLt L 256 = L.length := by
  induction L with
  | nil => simp [cntLt]
  | cons x xs ih =>
    rw [cntLt_cons, ih]
    have := x.toNat_lt
    simp; omega

theorem bsearch_pos (L : List UInt8) (F : List Nat)
    (hF : ∀ b, b < 256 → F.getD b 0 = cntLt L (b + 1)) (i : Nat) (hi : i < L.length) :
    bsearch F (pos L i) = byteAt L i := by
  obtain ⟨hk, hlo, hhi⟩ := bsearch_spec F (pos L i)
  generalize bsearch F (pos L i) = k at *
  have hv := byteAt_lt L i
  -- the slot lies in the bucket of its byte
  have hp1 : cntLt L (byteAt L i) ≤ pos L i := Nat.le_add_right _ _
  have hp2 : pos L i < cntLt L (byteAt L i + 1) := by
    have := cntEq_take_lt L i hi
    rw [cntLt_succ]
    unfold pos
    omega
  rcases Nat.lt_trichotomy k (byteAt L i) with h | h | h
  · have := cntLt_mono L (k + 1) (byteAt L i) h
    rw [hF k (by omega)] at hhi
    omega
  · exact h
  · have := cntLt_mono L (byteAt L i + 1) k h
    obtain ⟨k', rfl⟩ : ∃ k', k = k' + 1 := ⟨k - 1, by omega⟩
    rw [Nat.add_sub_cancel, hF k' (by omega)] at hlo
    omega

/-- After the list construction `ftab[b]` has been advanced past bucket `b`: the table the in-situ
path searches. -/
theorem link_state (L : List UInt8) :
    let r := link (L.map (·.toNat)) (cumulate 0 (counts L)) L.length
    r.1.length = L.length ∧ (∀ b, b < 256 → r.2.getD b 0 = cntLt L (b + 1)) := by
  obtain ⟨hf, hc⟩ := cumulate_counts L
  have h := link_inv L _ hf hc
  exact ⟨h.ttLen, fun b hb => by rw [h.ft b hb, List.take_length, cntLt_succ]⟩

theorem insitu_length (F : List Nat) : ∀ (todo i j : Nat) (tt : List Nat),
    (insitu F todo i j tt).length = tt.length := by
  intro todo
  induction todo with
  | zero => intro i j tt; rfl
  | succ todo ih => intro i j tt; simp [insitu, ih]

theorem insitu_follow (L : List UInt8) (F T : List Nat)
    (hT : ∀ q, q < L.length → T.getD q 0 < L.length)
    (hF : ∀ q, q < L.length → bsearch F q = byteAt L (T.getD q 0)) :
    ∀ (todo i j : Nat) (tt : List Nat), i + todo ≤ tt.length → j < L.length →
      (∀ q, q < L.length → tt.getD q 0 >>> 8 = T.getD q 0) →
      (∀ q, q < i → (insitu F todo i j tt).getD q 0 = tt.getD q 0) ∧
      (∀ m, m < todo →
        low ((insitu F todo i j tt).getD (i + m) 0) = (follow L T todo j).getD m 0) := by
  intro todo
  induction todo with
  | zero => intro i j tt _ _ _; exact ⟨fun _ _ => rfl, fun m hm => by omega⟩
  | succ todo ih =>
    intro i j tt hi hj hP
    simp only [insitu, follow]
    have hk := (bsearch_spec F j).1
    have hil : i < tt.length := by omega
    have hcell : ∀ q, q < L.length →
        (tt.set i (tt.getD i 0 / 256 * 256 + bsearch F j)).getD q 0 >>> 8 = T.getD q 0 := by
      intro q hq
      by_cases hqi : i = q
      · subst hqi
        rw [ListAux.getD_set_eq _ _ _ _ hil, ← hP i hq, Nat.shiftRight_eq_div_pow,
          Nat.shiftRight_eq_div_pow]
        omega
      · rw [ListAux.getD_set_ne _ _ _ _ _ hqi]; exact hP q hq
    rw [hcell j hj]
    obtain ⟨r3, r4⟩ := ih (i + 1) (T.getD j 0) _ (by simp; omega) (hT j hj) hcell
    refine ⟨fun q hq => ?_, fun m hm => ?_⟩
    · rw [r3 q (by omega), ListAux.getD_set_ne _ _ _ _ _ (by omega)]
    · cases m with
      | zero =>
        rw [show i + 0 = i from rfl, r3 i (by omega), ListAux.getD_set_eq _ _ _ _ hil, List.getD_cons_zero, low,
          show (tt.getD i 0 / 256 * 256 + bsearch F j) % 256 = bsearch F j by omega, hF j hj]
        apply UInt8.toNat_inj.mp
        simp [byteAt]
      | succ m =>
        rw [show i + (m + 1) = i + 1 + m by omega, r4 m (by omega), List.getD_cons_succ]

theorem reform_length (tt : List Nat) : (reform tt).length = tt.length := by
  simp [reform]

theorem reform_getD (tt : List Nat) (q : Nat) (hq : q < tt.length) :
    (reform tt).getD q 0 = ((q + 1) <<< 8) + tt.getD q 0 % 256 := by
  simp [reform, List.getD_eq_getElem?_getD, List.getElem?_map, List.getElem?_zipIdx,
    List.getElem?_eq_getElem hq]

theorem shl8_add_shr8 (a b : Nat) (hb : b < 256) : ((a <<< 8) + b) >>> 8 = a := by
  rw [Nat.shiftLeft_eq, Nat.shiftRight_eq_div_pow]; omega

theorem shl8_add_mod (a b : Nat) (hb : b < 256) : ((a <<< 8) + b) % 256 = b := by
  rw [Nat.shiftLeft_eq]; omega

theorem walk_reform (tt : List Nat) : ∀ (m k p : Nat), p >>> 8 = k → k + m ≤ tt.length →
    walk (reform tt) m p = ((tt.drop k).take m).map low := by
  intro m
  induction m with
  | zero => intro k p _ _; simp [walk]
  | succ m ih =>
    intro k p hp hk
    have hkl : k < tt.length := by omega
    have hb : tt.getD k 0 % 256 < 256 := Nat.mod_lt _ (by omega)
    have hg : tt.getD k 0 = tt[k] := ListAux.getD_of_lt 0 hkl
    simp only [walk, hp]
    rw [reform_getD tt k hkl, shl8_add_mod _ _ hb,
      ih (k + 1) _ (shl8_add_shr8 _ _ hb) (by omega), List.drop_eq_getElem_cons hkl,
      List.take_succ_cons, List.map_cons, hg]
    rfl

theorem walkMaxPtr_reform (tt : List Nat) : ∀ (m k p : Nat), p >>> 8 = k → 0 < m →
    k + m ≤ tt.length → walkMaxPtr (reform tt) m p = k + m - 1 := by
  intro m
  induction m with
  | zero => intro k p _ h; omega
  | succ m ih =>
    intro k p hp _ hk
    have hkl : k < tt.length := by omega
    have hb : tt.getD k 0 % 256 < 256 := Nat.mod_lt _ (by omega)
    simp only [walkMaxPtr, hp]
    rw [reform_getD tt k hkl]
    cases m with
    | zero => simp [walkMaxPtr]
    | succ m =>
      rw [ih (k + 1) _ (shl8_add_shr8 _ _ hb) (by omega) (by omega)]
      omega

theorem insitu_low (L : List UInt8) (idx : Nat) (hidx : idx < L.length) :
    let r := link (L.map (·.toNat)) (cumulate 0 (counts L)) L.length
    (insitu r.2 L.length 0 idx r.1).map low = Spec.Ibwt.ibwt L idx := by
  intro r
  obtain ⟨hlen, hft⟩ := link_state L
  have r1 : (insitu r.2 L.length 0 idx r.1).length = L.length := by rw [insitu_length]; exact hlen
  -- a slot is `pos` of its successor, whose byte the search returns
  obtain ⟨_, r4⟩ := insitu_follow L r.2 (succVec L) (succVec_getD_lt L)
    (fun q hq => by
      have := bsearch_pos L r.2 hft _ (succVec_getD_lt L q hq)
      rwa [pos_succVec L q hq] at this)
    L.length 0 idx r.1 (by rw [hlen]; omega) hidx
    (fun q hq => eq_succVec_of_pos L (fun q => r.1.getD q 0 >>> 8)
      (link_ptr L _ (cumulate_counts L).1 (cumulate_counts L).2) q hq)
  refine ListAux.ext_getD 0 (by simp [r1, Spec.Ibwt.ibwt, follow_length]) fun m h1 => ?_
  have hm : m < L.length := by simpa [r1] using h1
  have h4 := r4 m hm
  rw [Nat.zero_add] at h4
  exact (ListAux.getD_map low _ m 0).trans h4

/-- The cells `decode()` has on the randomised path before it re-forms the list. -/
def randCells (idx : Nat) (L : List UInt8) : List Nat :=
  derandLoop L.length L.length 0 Gen.RAND_THRESH
    (insitu (link (L.map (·.toNat)) (cumulate 0 (counts L)) L.length).2 L.length 0 idx
      (link (L.map (·.toNat)) (cumulate 0 (counts L)) L.length).1)

theorem decode_true (idx : Nat) (L : List UInt8) :
    (decode true idx L (counts L)).tt = reform (randCells idx L) ∧
      (decode true idx L (counts L)).rleIndex = 0 :=
  ⟨rfl, rfl⟩

theorem randCells_length (idx : Nat) (L : List UInt8) : (randCells idx L).length = L.length := by
  rw [randCells, derandLoop_length, insitu_length]
  exact (link_state L).1

theorem randCells_low (L : List UInt8) (idx : Nat) (hidx : idx < L.length) :
    (randCells idx L).map low = Spec.Ibwt.derand Gen.randTable (Spec.Ibwt.ibwt L idx) := by
  rw [randCells, derandLoop_low _ (by rw [insitu_length]; exact (link_state L).1),
    insitu_low L idx hidx]

theorem nodes_true_eq (L : List UInt8) (idx : Nat) (hidx : idx < L.length) :
    nodes true idx L = Spec.Ibwt.derand Gen.randTable (Spec.Ibwt.ibwt L idx) := by
  have hl := randCells_length idx L
  show walk (reform (randCells idx L)) L.length 0 = _
  rw [walk_reform _ L.length 0 0 rfl (by omega), List.drop_zero,
    List.take_of_length_le (by omega), randCells_low L idx hidx]

theorem nodes_true_short (L : List UInt8) (idx : Nat) (hidx : idx < L.length)
    (hL : L.length ≤ Gen.RAND_THRESH) : nodes true idx L = nodes false idx L := by
  rw [nodes_true_eq L idx hidx, nodes_false_eq_ibwt L idx hidx]
  exact derand_short _ (by rw [Spec.Ibwt.ibwt, follow_length]; exact hL)

theorem decode_walk_bound_rand (L : List UInt8) (idx : Nat) (hn : 0 < L.length) :
    let d := decode true idx L (counts L)
    d.rleIndex = 0 ∧ walkMaxPtr d.tt L.length d.rleIndex = L.length - 1 := by
  have hl := randCells_length idx L
  refine ⟨rfl, ?_⟩
  show walkMaxPtr (reform (randCells idx L)) L.length 0 = _
  rw [walkMaxPtr_reform _ L.length 0 0 rfl hn (by omega)]
  omega

theorem decode_cells_lt (rand : Bool) (L : List UInt8) (idx : Nat) (q : Nat) :
    (decode rand idx L (counts L)).tt.getD q 0 < (L.length + 1) * 256 := by
  have hlen : (decode rand idx L (counts L)).tt.length = L.length := by
    cases rand
    · exact (link_state L).1
    · rw [(decode_true idx L).1, reform_length, randCells_length]
  by_cases hq : q < L.length
  · cases rand with
    | false =>
      -- a byte below a pointer `< n`
      obtain ⟨hf, hc⟩ := cumulate_counts L
      have h := ((link_correct L _ hf hc).2.2 q hq).2
      rw [Nat.shiftRight_eq_div_pow] at h
      show (link (L.map (·.toNat)) (cumulate 0 (counts L)) L.length).1.getD q 0 < _
      omega
    | true =>
      -- a byte below the pointer `q + 1`
      rw [(decode_true idx L).1, reform_getD _ q (by rw [randCells_length]; exact hq),
        Nat.shiftLeft_eq]
      have : (randCells idx L).getD q 0 % 256 < 256 := Nat.mod_lt _ (by omega)
      omega
  · rw [List.getD_eq_getElem?_getD, List.getElem?_eq_none (by rw [hlen]; omega)]
    exact Nat.mul_pos (Nat.succ_pos _) (by decide)

end LbzVerif.Lemmas.IbwtRand
