/-
  Lemmas.RetrieveSplit — suspension / resumption of `toTop` (word feeding), the part that needs
  no invariant: running `toTop` over `a ++ b` is running it over `a`, and, if that suspends,
  resuming over `b`.
-/
import LbzVerif.Lemmas.RetrieveEqns

namespace LbzVerif.Lemmas.RetrieveSplit
open LbzVerif LbzVerif.Model.Retrieve LbzVerif.Lemmas.RetrieveEqns

theorem drain_need : ∀ (f : Nat) (st st' : St), drain f st = .need st' →
    st'.w < 32 ∧ normPc st' = st' := by
  intro f
  induction f with
  | zero => intro st st' h; simp [drain] at h
  | succ f ih =>
    intro st st' h
    unfold drain at h
    split at h
    · rename_i hw
      injection h with h
      subst h
      exact ⟨by rw [(normPc_vw st).2]; exact hw, normPc_idem st⟩
    · split at h
      · split at h
        · exact ih _ _ h
        · cases h
      · cases h
      · cases h

theorem drain_at_need (st : St) (hw : st.w < 32) (hn : normPc st = st) :
    drain (st.w + 1) st = .need st := by
  unfold drain
  simp [hw, hn]

theorem toTop_eq (st : St) (ws : List Nat) :
    toTop st ws = match drain (st.w + 1) st with
      | .done r st' => .halt r st' ws
      | .top st' => .top st' ws
      | .need st' =>
        match ws with
        | [] => .susp st'
        | x :: ws' => toTop (refill st' x) ws' := by
  cases ws with
  | nil =>
    rw [toTop]
    cases drain (st.w + 1) st <;> rfl
  | cons x ws' =>
    rw [toTop]
    cases drain (st.w + 1) st <;> rfl

def addRest : Out → List Nat → Out
  | .halt r st rest, b => .halt r st (rest ++ b)
  | .top st rest, b => .top st (rest ++ b)
  | .susp st, _ => .susp st

theorem toTop_at_need (st : St) (hw : st.w < 32) (hn : normPc st = st) (ws : List Nat) :
    toTop st ws = match ws with
      | [] => .susp st
      | x :: ws' => toTop (refill st x) ws' := by
  rw [toTop_eq, drain_at_need st hw hn]

theorem toTop_append (a b : List Nat) : ∀ st : St,
    toTop st (a ++ b) = match toTop st a with
      | .susp st' => toTop st' b
      | o => addRest o b := by
  induction a with
  | nil =>
    intro st
    rw [List.nil_append, toTop_eq st b, toTop_eq st []]
    cases hd : drain (st.w + 1) st with
    | done r st' => rfl
    | top st' => rfl
    | need st' =>
      obtain ⟨hw, hn⟩ := drain_need _ _ _ hd
      exact (toTop_at_need st' hw hn b).symm
  | cons x a' ih =>
    intro st
    rw [List.cons_append, toTop_eq st (x :: (a' ++ b)), toTop_eq st (x :: a')]
    cases drain (st.w + 1) st with
    | done r st' => rfl
    | top st' => rfl
    | need st' => exact ih _

end LbzVerif.Lemmas.RetrieveSplit
