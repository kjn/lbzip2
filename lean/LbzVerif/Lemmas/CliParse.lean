/-
  Lemmas about `Model.Cli`.  The environment tokeniser `tokAux` (the `strtok` loop) is "split at
  separators, drop the empty pieces".  `interp` is read one event at a time: `evUpd` is the effect
  of a single event, `Step` lists the events after which processing goes on, and everything about
  the option variables is an induction over `Step`.
-/
import LbzVerif.Model.Cli

namespace LbzVerif.Lemmas.CliParse
open LbzVerif.Gen LbzVerif.Model.Cli

def flush (cur : List Char) : List Tok := if cur.isEmpty then [] else [cur.reverse]

theorem tokAux_nil (seps : List Char) (cur : List Char) : tokAux seps [] cur = flush cur := by
  simp only [tokAux, flush]

theorem tokAux_sep (seps : List Char) (sep : Char) (h : seps.contains sep = true)
    (b cur : List Char) : tokAux seps (sep :: b) cur = flush cur ++ tokAux seps b [] := by
  simp only [tokAux, h, if_true, flush]
  split <;> rfl

theorem tokAux_nonsep (seps : List Char) (ch : Char) (h : seps.contains ch = false)
    (b cur : List Char) : tokAux seps (ch :: b) cur = tokAux seps b (ch :: cur) := by
  simp only [tokAux, h, Bool.false_eq_true, if_false]

theorem tokAux_split (seps : List Char) (sep : Char) (h : seps.contains sep = true)
    (b : List Char) : ∀ (a cur : List Char),
    tokAux seps (a ++ sep :: b) cur = tokAux seps a cur ++ tokAux seps b [] := by
  intro a
  induction a with
  | nil =>
    intro cur
    rw [List.nil_append, tokAux_sep seps sep h, tokAux_nil]
  | cons ch a ih =>
    intro cur
    by_cases hc : seps.contains ch = true
    · rw [List.cons_append, tokAux_sep seps ch hc, tokAux_sep seps ch hc, ih, List.append_assoc]
    · have hc' : seps.contains ch = false := by simpa using hc
      rw [List.cons_append, tokAux_nonsep seps ch hc', tokAux_nonsep seps ch hc', ih]

theorem tokAux_run (seps : List Char) : ∀ (a : List Char), (∀ c ∈ a, seps.contains c = false) →
    ∀ cur, tokAux seps a cur = flush (a.reverse ++ cur) := by
  intro a
  induction a with
  | nil =>
    intro _ cur
    exact tokAux_nil seps cur
  | cons ch a ih =>
    intro h cur
    rw [tokAux_nonsep seps ch (h ch List.mem_cons_self),
      ih (fun c hc => h c (List.mem_cons_of_mem _ hc))]
    simp

/-- The effect of one event on the option variables; `none`: the event ends
option processing. -/
def evUpd (e : Ev) (c : Config) : Option Config :=
  match e with
  | .operand _ => some c
  | .bad => none
  | .setN s => (xstrtol s 1 mxWorker).map fun v => { c with numWorker := some v }
  | .setM s => (xstrtol s 1 sizeMax).map fun v => { c with maxMem := some v }
  | .act a ch => applyAct a ch c

def actOf : Ev → Option OptAct
  | .act a _ => some a
  | _ => none

def endOf (e : Ev) : OutcomeL :=
  if actOf e = some .usage then .help
  else if actOf e = some .version then .version
  else .fatal

theorem endOf_ne_config (e : Ev) (c : Config) (ops : List Tok) : endOf e ≠ .config c ops := by
  unfold endOf
  split
  · exact OutcomeL.noConfusion
  split <;> exact OutcomeL.noConfusion

def opsOf : Ev → List Tok
  | .operand t => [t]
  | _ => []

def addOps (ts : List Tok) : OutcomeL → OutcomeL
  | .config c ops => .config c (ts ++ ops)
  | o => o

theorem addOps_nil (o : OutcomeL) : addOps [] o = o := by
  cases o <;> rfl

theorem addOps_append (ts us : List Tok) (o : OutcomeL) :
    addOps ts (addOps us o) = addOps (ts ++ us) o := by
  cases o <;> simp only [addOps, List.append_assoc]

theorem consOp_eq (t : Tok) (o : OutcomeL) : consOp t o = addOps [t] o := by
  cases o <;> rfl

theorem addOps_eq_config {ts : List Tok} {o : OutcomeL} {c : Config} {ops : List Tok}
    (h : addOps ts o = .config c ops) : ∃ ops', o = .config c ops' ∧ ops = ts ++ ops' := by
  cases o with
  | config c0 ops0 =>
    simp only [addOps, OutcomeL.config.injEq] at h
    exact ⟨ops0, by rw [h.1], h.2.symm⟩
  | _ => cases h

theorem interp_cons (c : Config) (e : Ev) (es : List Ev) :
    interp c (e :: es) =
      match evUpd e c with
      | none => endOf e
      | some c1 => addOps (opsOf e) (interp c1 es) := by
  cases e with
  | operand t => simp only [interp, evUpd, opsOf, consOp_eq]
  | bad => rfl
  | setN s =>
    simp only [interp, evUpd, opsOf]
    cases xstrtol s 1 mxWorker with
    | none => rfl
    | some v => simp only [Option.map, addOps_nil]
  | setM s =>
    simp only [interp, evUpd, opsOf]
    cases xstrtol s 1 sizeMax with
    | none => rfl
    | some v => simp only [Option.map, addOps_nil]
  | act a ch =>
    -- `applyAct` refuses `-h` and `-V`, which `interp` tests for first
    by_cases hu : a = .usage
    · subst hu
      rfl
    by_cases hv : a = .version
    · subst hv
      rfl
    simp only [interp, evUpd, opsOf, endOf, actOf, Option.some.injEq, if_neg hu, if_neg hv]
    cases applyAct a ch c <;> simp only [addOps_nil]

inductive Step : Config → Ev → Config → Prop
  | operand (c : Config) (t : Tok) : Step c (.operand t) c
  | setN (c : Config) (s : Tok) (v : Nat) : Step c (.setN s) { c with numWorker := some v }
  | setM (c : Config) (s : Tok) (v : Nat) : Step c (.setM s) { c with maxMem := some v }
  | act (c : Config) (a : OptAct) (ch : Char) (c' : Config) :
      applyAct a ch c = some c' → Step c (.act a ch) c'

theorem Step.of_evUpd {e : Ev} {c c1 : Config} (h : evUpd e c = some c1) : Step c e c1 := by
  cases e with
  | operand t =>
    cases h
    exact .operand c t
  | bad => cases h
  | setN s =>
    obtain ⟨v, _, rfl⟩ := Option.map_eq_some_iff.mp h
    exact .setN c s v
  | setM s =>
    obtain ⟨v, _, rfl⟩ := Option.map_eq_some_iff.mp h
    exact .setM c s v
  | act a ch => exact .act c a ch c1 h

theorem interp_cons_config {c : Config} {e : Ev} {es : List Ev} {c' : Config} {ops : List Tok}
    (h : interp c (e :: es) = .config c' ops) :
    ∃ c1 ops', Step c e c1 ∧ interp c1 es = .config c' ops' := by
  rw [interp_cons] at h
  cases hs : evUpd e c with
  | none =>
    rw [hs] at h
    exact absurd h (endOf_ne_config e c' ops)
  | some c1 =>
    rw [hs] at h
    obtain ⟨ops', h2, _⟩ := addOps_eq_config h
    exact ⟨c1, ops', .of_evUpd hs, h2⟩

theorem interp_append_eq (X Y : List Ev) : ∀ c : Config,
    interp c (X ++ Y) =
      match interp c X with
      | .config c1 ops1 => addOps ops1 (interp c1 Y)
      | o => o := by
  induction X with
  | nil =>
    intro c
    simp only [List.nil_append, interp, addOps_nil]
  | cons e X ih =>
    intro c
    rw [List.cons_append, interp_cons, interp_cons]
    cases hs : evUpd e c with
    | none =>
      have := endOf_ne_config e
      cases he : endOf e with
      | config c1 ops1 => exact absurd he (this c1 ops1)
      | _ => rfl
    | some c1 =>
      simp only
      rw [ih c1]
      cases interp c1 X with
      | config c2 ops2 => exact addOps_append _ _ _
      | _ => rfl

theorem interp_append_act {c c' : Config} {A B : List Ev} {a : OptAct} {ch : Char} {ops : List Tok}
    (h : interp c (A ++ .act a ch :: B) = .config c' ops) :
    ∃ c1 ops1 c2 ops2, interp c A = .config c1 ops1 ∧ applyAct a ch c1 = some c2
      ∧ interp c2 B = .config c' ops2 := by
  rw [interp_append_eq] at h
  cases hA : interp c A with
  | config c1 ops1 =>
    rw [hA] at h
    obtain ⟨_, h2, _⟩ := addOps_eq_config h
    obtain ⟨c2, ops2, hs, h3⟩ := interp_cons_config h2
    cases hs with
    | act _ _ _ hx => exact ⟨c1, ops1, c2, ops2, rfl, hx, h3⟩
  | _ =>
    rw [hA] at h
    cases h

/-- what follows a common prefix decides, for any view `f` of the outcome that
leaves the operands alone -/
theorem interp_prefix_congr (f : OutcomeL → OutcomeL)
    (hf : ∀ ts o, f (addOps ts o) = addOps ts (f o)) (X Y : List Ev)
    (h : ∀ c, f (interp c X) = f (interp c Y)) (A : List Ev) (c : Config) :
    f (interp c (A ++ X)) = f (interp c (A ++ Y)) := by
  rw [interp_append_eq, interp_append_eq]
  cases interp c A with
  | config c1 ops1 => simp only [hf, h]
  | _ => rfl

def unsmallC (c : Config) : Config := { c with small := false }

def unsmall : OutcomeL → OutcomeL
  | .config c ops => .config (unsmallC c) ops
  | o => o

theorem unsmall_addOps (ts : List Tok) (o : OutcomeL) :
    unsmall (addOps ts o) = addOps ts (unsmall o) := by
  cases o <;> rfl

theorem applyAct_unsmall (a : OptAct) (ch : Char) (c : Config) :
    (applyAct a ch (unsmallC c)).map unsmallC = (applyAct a ch c).map unsmallC := by
  have ho : (unsmallC c).outmode = c.outmode := rfl
  cases a <;> simp only [applyAct, ho] <;> (try split) <;> rfl

theorem evUpd_unsmall (e : Ev) (c : Config) :
    (evUpd e (unsmallC c)).map unsmallC = (evUpd e c).map unsmallC := by
  cases e with
  | operand t => rfl
  | bad => rfl
  | setN s =>
    simp only [evUpd]
    cases xstrtol s 1 mxWorker <;> rfl
  | setM s =>
    simp only [evUpd]
    cases xstrtol s 1 sizeMax <;> rfl
  | act a ch => exact applyAct_unsmall a ch c

/-- nothing reads `small` -/
theorem interp_unsmall (es : List Ev) : ∀ c : Config,
    unsmall (interp (unsmallC c) es) = unsmall (interp c es) := by
  induction es with
  | nil => intro c; rfl
  | cons e es ih =>
    intro c
    rw [interp_cons, interp_cons]
    have := evUpd_unsmall e c
    cases h1 : evUpd e (unsmallC c) <;> cases h2 : evUpd e c <;>
      simp only [h1, h2, Option.map, reduceCtorEq, Option.some.injEq] at this
    · rfl
    · simp only [unsmall_addOps]
      rw [← ih, this, ih]

/-- the events of the options that are accepted and ignored, and of `-s` -/
def isNoopEv : Ev → Bool
  | .act .nop _ => true
  | .act .small _ => true
  | _ => false

theorem interp_noop {e : Ev} (h : isNoopEv e = true) (c : Config) (B : List Ev) :
    unsmall (interp c (e :: B)) = unsmall (interp c B) := by
  unfold isNoopEv at h
  split at h
  · simp [interp, applyAct]
  · simp only [interp, applyAct, reduceCtorEq, if_false]
    exact (interp_unsmall B _).symm.trans (interp_unsmall B c)
  · cases h

theorem interp_erase_noops (es : List Ev) : ∀ c : Config,
    unsmall (interp c es) = unsmall (interp c (es.filter (fun e => !isNoopEv e))) := by
  induction es with
  | nil => intro c; rfl
  | cons e es ih =>
    intro c
    cases hn : isNoopEv e with
    | false =>
      rw [List.filter_cons_of_pos (by rw [hn]; rfl)]
      exact interp_prefix_congr unsmall unsmall_addOps es _ ih [e] c
    | true =>
      rw [List.filter_cons_of_neg (by rw [hn]; decide), ← ih c]
      exact interp_noop hn c es

theorem mainView_eq_unsmall (o : OutcomeL) : mainView o = unsmall o := by
  cases o <;> simp [mainView, unsmall, unsmallC, smallForcedOff]

theorem unsmall_finalize (o : OutcomeL) : unsmall (finalize o) = finalize (unsmall o) := by
  cases o with
  | config c ops =>
    simp only [finalize, unsmall, unsmallC]
    split <;> rfl
  | _ => rfl

theorem parseL_eq (p : String) (args : List Tok) :
    parseL p args = finalize (unsmall (interp (initial p) (flatten args))) := by
  simp only [parseL, optsSetupL, mainView_eq_unsmall, unsmall_finalize]

theorem toOutcome_config {o : OutcomeL} {c : Config} {ops : List String}
    (h : o.toOutcome = .config c ops) : ∃ opsL, o = .config c opsL := by
  cases o with
  | config c0 o0 =>
    simp only [OutcomeL.toOutcome, Outcome.config.injEq] at h
    exact ⟨o0, by rw [h.1]⟩
  | _ => cases h

/-- the configuration `main` sees, from the one option processing ends with -/
def finalC (c0 : Config) (ops : List Tok) : Config :=
  if c0.outmode = .regf ∧ ops.isEmpty then { unsmallC c0 with outmode := .stdout }
  else unsmallC c0

theorem parseL_config {p : String} {args : List Tok} {c : Config} {ops : List Tok}
    (h : parseL p args = .config c ops) :
    ∃ c0, interp (initial p) (flatten args) = .config c0 ops ∧ c = finalC c0 ops := by
  rw [parseL_eq] at h
  cases hi : interp (initial p) (flatten args) with
  | config c0 ops0 =>
    rw [hi] at h
    simp only [unsmall, finalize, OutcomeL.config.injEq] at h
    obtain ⟨h1, h2⟩ := h
    subst h2
    exact ⟨c0, rfl, by rw [← h1]; rfl⟩
  | _ =>
    rw [hi] at h
    cases h

theorem finalC_fields (c0 : Config) (ops : List Tok) :
    (finalC c0 ops).decompress = c0.decompress ∧ (finalC c0 ops).keep = c0.keep
    ∧ (finalC c0 ops).force = c0.force ∧ (finalC c0 ops).bs100k = c0.bs100k := by
  unfold finalC unsmallC
  split <;> exact ⟨rfl, rfl, rfl, rfl⟩

theorem finalC_outmode (c0 : Config) (ops : List Tok) :
    ((finalC c0 ops).outmode = .discard ↔ c0.outmode = .discard)
    ∧ (c0.outmode = .stdout → (finalC c0 ops).outmode = .stdout) := by
  unfold finalC unsmallC
  split
  · rename_i h
    simp [h.1]
  · simp

theorem parse_config {p : String} {env : String → Option String} {argv : List String}
    {c : Config} {ops : List String} (h : parse p env argv = .config c ops) :
    ∃ c0 opsL, interp (initial p) (flatten (argList env (argv.map String.toList))) = .config c0 opsL
      ∧ c = finalC c0 opsL := by
  obtain ⟨opsL, h⟩ := toOutcome_config h
  obtain ⟨c0, hi, hc⟩ := parseL_config h
  exact ⟨c0, opsL, hi, hc⟩

theorem initial_cases (p : String) :
    (decompressNames.contains p = true ∧ initial p = { decompress := true })
    ∨ (decompressNames.contains p = false ∧ catNames.contains p = true
        ∧ initial p = { decompress := true, outmode := .stdout })
    ∨ (decompressNames.contains p = false ∧ catNames.contains p = false ∧ initial p = {}) := by
  unfold initial
  cases decompressNames.contains p <;> cases catNames.contains p <;> simp

theorem initial_decompress (p : String) :
    (initial p).decompress = (decompressNames.contains p || catNames.contains p) := by
  rcases initial_cases p with ⟨h1, h⟩ | ⟨h1, h2, h⟩ | ⟨h1, h2, h⟩
  · rw [h, h1]
    rfl
  · rw [h, h1, h2]
    rfl
  · rw [h, h1, h2]
    rfl

/-- everything but `decompress` and `outmode` starts at its static initialiser -/
theorem initial_flags (p : String) :
    (initial p).keep = false ∧ (initial p).force = false ∧ (initial p).bs100k = 9
    ∧ ((initial p).outmode = .discard → (initial p).decompress = true) := by
  rcases initial_cases p with ⟨_, h⟩ | ⟨_, _, h⟩ | ⟨_, _, h⟩ <;> rw [h] <;>
    exact ⟨rfl, rfl, rfl, fun _ => by trivial⟩

theorem outmode_set {ch : Char} {c c' : Config} :
    (applyAct .outmodeC ch c = some c' → c'.outmode = .stdout)
    ∧ (applyAct .outmodeT ch c = some c' → c'.outmode = .discard) := by
  constructor <;> intro h <;> simp only [applyAct] at h <;> split at h <;> cases h <;> rfl

theorem interp_inv (P : Config → Prop) (es : List Ev) :
    (∀ c e c1, e ∈ es → Step c e c1 → P c → P c1) →
    ∀ (c c' : Config) (ops : List Tok), interp c es = .config c' ops → P c → P c' := by
  induction es with
  | nil =>
    intro _ c c' ops h hp
    simp only [interp, OutcomeL.config.injEq] at h
    exact h.1 ▸ hp
  | cons e es ih =>
    intro hstep c c' ops h hp
    obtain ⟨c1, ops', hs, hi⟩ := interp_cons_config h
    exact ih (fun c e c1 he => hstep c e c1 (List.mem_cons_of_mem _ he)) c1 c' ops' hi
      (hstep c e c1 List.mem_cons_self hs hp)

theorem getLast_filterMap_cons {α β : Type} (sel : α → Option β) (e : α) (es : List α) (x : β) :
    (((e :: es).filterMap sel).getLast?).getD x =
      ((es.filterMap sel).getLast?).getD ((sel e).getD x) := by
  cases hs : sel e <;> simp [hs, List.getLast?_cons]

def modeOfAct : OptAct → Option Bool
  | .decompressD => some true
  | .decompressZ => some false
  | .outmodeT => some true
  | _ => none

def modeOf : Ev → Option Bool
  | .act a _ => modeOfAct a
  | _ => none

def lastMode (es : List Ev) : Option Bool := (es.filterMap modeOf).getLast?

def isKeepEv : Ev → Bool
  | .act .keep _ => true
  | _ => false

def isForceEv : Ev → Bool
  | .act .force _ => true
  | _ => false

def levelOf : Ev → Option Nat
  | .act (.level n) _ => some n
  | .act .levelDigit ch => some (ch.toNat - 48)
  | _ => none

/-- `opts_outmode` / `opts_decompress` on `outmode` alone; `none` = refused -/
def outmodeAct (a : OptAct) (m : OutMode) : Option OutMode :=
  match a with
  | .outmodeC => if m = .discard then none else some .stdout
  | .outmodeT => if m = .stdout then none else some .discard
  | .decompressD | .decompressZ => some (if m = .discard then .regf else m)
  | _ => some m

theorem applyAct_fields {a : OptAct} {ch : Char} {c c' : Config}
    (h : applyAct a ch c = some c') :
    c'.keep = (c.keep || isKeepEv (.act a ch)) ∧ c'.force = (c.force || isForceEv (.act a ch))
    ∧ c'.bs100k = (levelOf (.act a ch)).getD c.bs100k
    ∧ c'.decompress = (modeOfAct a).getD c.decompress
    ∧ outmodeAct a c.outmode = some c'.outmode := by
  cases a <;> simp only [applyAct, reduceCtorEq] at h
  case outmodeC | outmodeT =>
    split at h
    · cases h
    · cases h
      simp [isKeepEv, isForceEv, levelOf, modeOfAct, outmodeAct, *]
  all_goals
    cases h
    simp [isKeepEv, isForceEv, levelOf, modeOfAct, outmodeAct]

theorem outmodeAct_stdout {a : OptAct} {m : OutMode} (h : outmodeAct a .stdout = some m) :
    m = .stdout := by
  cases a <;> simp [outmodeAct] at h <;> exact h.symm

theorem outmodeAct_eq_discard {a : OptAct} {m : OutMode} (h : outmodeAct a m = some .discard) :
    modeOfAct a = some true ∨ (modeOfAct a = none ∧ m = .discard) := by
  cases a <;> simp [outmodeAct, modeOfAct] at h ⊢ <;> first | exact h | (split at h <;> simp_all)

theorem outmodeAct_of_discard {a : OptAct} {m : OutMode} (ha : modeOfAct a = none)
    (h : outmodeAct a .discard = some m) : m = .discard := by
  cases a <;> simp [outmodeAct, modeOfAct] at h ha <;> exact h.symm

theorem Step.fields {c : Config} {e : Ev} {c1 : Config} (h : Step c e c1) :
    c1.keep = (c.keep || isKeepEv e) ∧ c1.force = (c.force || isForceEv e)
    ∧ c1.bs100k = (levelOf e).getD c.bs100k
    ∧ c1.decompress = (modeOf e).getD c.decompress := by
  cases h with
  | act a ch c1 ha =>
    obtain ⟨hk, hf, hl, hd, _⟩ := applyAct_fields ha
    exact ⟨hk, hf, hl, hd⟩
  | _ => simp [isKeepEv, isForceEv, levelOf, modeOf]

theorem Step.outmode {c : Config} {e : Ev} {c1 : Config} (h : Step c e c1) :
    (modeOf e = none ∧ c1.outmode = c.outmode)
    ∨ ∃ a ch, e = .act a ch ∧ outmodeAct a c.outmode = some c1.outmode := by
  cases h with
  | act a ch c1 ha => exact .inr ⟨a, ch, rfl, (applyAct_fields ha).2.2.2.2⟩
  | _ => exact .inl ⟨rfl, rfl⟩

theorem interp_fields (es : List Ev) (c c' : Config) (ops : List Tok)
    (h : interp c es = .config c' ops) :
    c'.keep = (c.keep || es.any isKeepEv) ∧ c'.force = (c.force || es.any isForceEv)
    ∧ c'.bs100k = ((es.filterMap levelOf).getLast?).getD c.bs100k
    ∧ c'.decompress = (lastMode es).getD c.decompress := by
  induction es generalizing c ops with
  | nil =>
    cases h
    simp [lastMode]
  | cons e es ih =>
    obtain ⟨c1, ops', hs, hi⟩ := interp_cons_config h
    obtain ⟨hk, hf, hl, hd⟩ := ih c1 ops' hi
    obtain ⟨sk, sf, sl, sd⟩ := hs.fields
    rw [hk, hf, hl, hd, sk, sf, sl, sd, lastMode, lastMode, getLast_filterMap_cons,
      getLast_filterMap_cons, List.any_cons, List.any_cons, Bool.or_assoc, Bool.or_assoc]
    exact ⟨rfl, rfl, rfl, rfl⟩

theorem interp_stdout_absorbing (es : List Ev) (c c' : Config) (ops : List Tok)
    (h : interp c es = .config c' ops) (hs : c.outmode = .stdout) : c'.outmode = .stdout := by
  refine interp_inv (fun c => c.outmode = .stdout) es ?_ c c' ops h hs
  intro c e c1 _ hst hp
  rcases hst.outmode with ⟨_, ho⟩ | ⟨a, ch, _, ho⟩
  · rw [ho, hp]
  · exact outmodeAct_stdout (hp ▸ ho)

theorem interp_discard_decompress (es : List Ev) (c c' : Config) (ops : List Tok)
    (h : interp c es = .config c' ops) (hs : c.outmode = .discard → c.decompress = true) :
    c'.outmode = .discard → c'.decompress = true := by
  refine interp_inv (fun c => c.outmode = .discard → c.decompress = true) es ?_ c c' ops h hs
  intro c e c1 _ hst hp hd
  have hdec := hst.fields.2.2.2
  rcases hst.outmode with ⟨hm, ho⟩ | ⟨a, ch, rfl, ho⟩
  · rw [hdec, hm]
    exact hp (ho.symm.trans hd)
  · rw [hd] at ho
    rcases outmodeAct_eq_discard ho with hm | ⟨hm, hc⟩
    · rw [hdec, modeOf, hm]
      rfl
    · rw [hdec, modeOf, hm]
      exact hp hc

theorem interp_discard_stays (M : List Ev) (hM : ∀ e ∈ M, modeOf e = none)
    (c c' : Config) (ops : List Tok) (h : interp c M = .config c' ops)
    (hd : c.outmode = .discard) : c'.outmode = .discard := by
  refine interp_inv (fun c => c.outmode = .discard) M ?_ c c' ops h hd
  intro c e c1 he hst hp
  rcases hst.outmode with ⟨_, ho⟩ | ⟨a, ch, rfl, ho⟩
  · rw [ho, hp]
  · exact outmodeAct_of_discard (hM _ he) (hp ▸ ho)

inductive ScanSt where
  | normal      -- the next element is examined as operand / option
  | pending     -- the next element is the argument of a trailing `-n` / `-m`
  | stopped     -- `--` was seen: everything that follows is an operand
  deriving DecidableEq, Repr

/-- state of the arguments loop after the list `xs` -/
def scanState : List Tok → ScanSt
  | [] => .normal
  | a :: rest =>
    match argKind a with
    | .operand => scanState rest
    | .stop => .stopped
    | .long _ => scanState rest
    | .short cs =>
      match (cluster cs).2 with
      | none => scanState rest
      | some _ =>
        match rest with
        | [] => .pending
        | _ :: rest' => scanState rest'

theorem scanState_cons (a : Tok) (rest : List Tok) :
    scanState (a :: rest) =
      match argKind a with
      | .operand => scanState rest
      | .stop => .stopped
      | .long _ => scanState rest
      | .short cs =>
        match (cluster cs).2 with
        | none => scanState rest
        | some _ =>
          match rest with
          | [] => .pending
          | _ :: rest' => scanState rest' := by
  rw [scanState.eq_def]

def tailOf (p : Option Bool) (rest : List Tok) : List Ev :=
  match p with
  | none => flatten rest
  | some isN =>
    match rest with
    | [] => [.bad]
    | v :: rest' => (if isN then Ev.setN v else Ev.setM v) :: flatten rest'

theorem flatten_cons (a : Tok) (rest : List Tok) :
    flatten (a :: rest) =
      match argKind a with
      | .operand => .operand a :: flatten rest
      | .stop => rest.map .operand
      | .long name => longEv name :: flatten rest
      | .short cs => (cluster cs).1 ++ tailOf (cluster cs).2 rest := by
  rw [flatten.eq_def]
  simp only
  cases argKind a with
  | short cs =>
    simp only
    rcases cluster cs with ⟨es, _ | isN⟩
    · rfl
    · cases rest <;> rfl
  | _ => rfl

theorem flatten_short (a : Tok) (cs : List Char) (rest : List Tok)
    (h : argKind a = .short cs) :
    flatten (a :: rest) = (cluster cs).1 ++ tailOf (cluster cs).2 rest := by
  rw [flatten_cons, h]

/-- The induction follows `scanState`, which consumes an option argument together with its
option. -/
theorem scan_append (xs ys : List Tok) (h : scanState xs = .normal) :
    flatten (xs ++ ys) = flatten xs ++ flatten ys ∧ scanState (xs ++ ys) = scanState ys := by
  fun_induction scanState xs with
  | case1 => exact ⟨rfl, rfl⟩
  | case2 a rest hk ih =>
    obtain ⟨h1, h2⟩ := ih h
    simp only [List.cons_append, flatten_cons, scanState_cons, hk, h1, h2, and_self]
  | case3 => cases h
  | case4 a rest name hk ih =>
    obtain ⟨h1, h2⟩ := ih h
    simp only [List.cons_append, flatten_cons, scanState_cons, hk, h1, h2, and_self]
  | case5 a rest cs hk hc ih =>
    obtain ⟨h1, h2⟩ := ih h
    simp only [List.cons_append, flatten_cons, scanState_cons, hk, hc, tailOf, h1, h2,
      List.append_assoc, and_self]
  | case6 => cases h
  | case7 a cs hk isN hc v rest ih =>
    obtain ⟨h1, h2⟩ := ih h
    simp only [List.cons_append, flatten_cons, scanState_cons, hk, hc, tailOf, h1, h2,
      List.append_assoc, and_self]

theorem flatten_append' (xs ys : List Tok) (h : scanState xs = .normal) :
    flatten (xs ++ ys) = flatten xs ++ flatten ys :=
  (scan_append xs ys h).1

theorem scanState_append' (xs ys : List Tok) (h : scanState xs = .normal) :
    scanState (xs ++ ys) = scanState ys :=
  (scan_append xs ys h).2

/-- the one event a list element is scanned to, when it is an option that
stands alone (takes nothing from the next element, is not `--`) -/
def tokenEv (t : Tok) : Option Ev :=
  match argKind t with
  | .long name => some (longEv name)
  | .short cs =>
    match cluster cs with
    | ([e], none) => some e
    | _ => none
  | _ => none

theorem tokenEv_eq_some {t : Tok} {e : Ev} (h : tokenEv t = some e) :
    scanState [t] = .normal ∧ flatten [t] = [e] := by
  unfold tokenEv at h
  rw [scanState_cons, flatten_cons]
  split at h
  next name hk =>
    cases h
    rw [hk]
    exact ⟨rfl, rfl⟩
  next cs hk =>
    split at h
    next e' hc =>
      cases h
      simp only [hk, hc]
      exact ⟨rfl, rfl⟩
    · cases h
  · cases h

theorem flatten_insert_token {t : Tok} {e : Ev} (h : tokenEv t = some e) (xs ys : List Tok)
    (hx : scanState xs = .normal) :
    flatten (xs ++ t :: ys) = flatten xs ++ e :: flatten ys := by
  obtain ⟨hs, hf⟩ := tokenEv_eq_some h
  have ht : flatten ([t] ++ ys) = [e] ++ flatten ys := by
    rw [← hf]
    exact flatten_append' [t] ys hs
  rw [flatten_append' xs _ hx]
  exact congrArg (flatten xs ++ ·) ht

theorem actOf_eq_some {e : Ev} {a : OptAct} (h : actOf e = some a) : ∃ ch, e = .act a ch := by
  cases e with
  | act b ch =>
    simp only [actOf, Option.some.injEq] at h
    exact ⟨ch, by rw [h]⟩
  | _ => cases h

theorem tokenEv_act {t : Tok} {a : OptAct} (h : (tokenEv t).bind actOf = some a) :
    ∃ ch, tokenEv t = some (.act a ch) := by
  obtain ⟨e, hte, hae⟩ := Option.bind_eq_some_iff.mp h
  obtain ⟨ch, rfl⟩ := actOf_eq_some hae
  exact ⟨ch, hte⟩

/-- an action that neither ends the cluster nor takes an argument -/
def Simple (a : OptAct) : Prop := a ≠ .usage ∧ a ≠ .version ∧ a ≠ .argN ∧ a ≠ .argM

theorem cluster_none (ch : Char) (cs : List Char) (h : shortOpts.lookup ch = none) :
    cluster (ch :: cs) = ([.bad], none) := by
  simp only [cluster, h]

theorem cluster_term (ch : Char) (cs : List Char) (a : OptAct)
    (h : shortOpts.lookup ch = some a) (ha : a = .usage ∨ a = .version) :
    cluster (ch :: cs) = ([.act a ch], none) := by
  simp only [cluster, h, ha, if_true]

theorem cluster_simple (ch : Char) (cs : List Char) (a : OptAct)
    (h : shortOpts.lookup ch = some a) (ha : Simple a) :
    cluster (ch :: cs) = (.act a ch :: (cluster cs).1, (cluster cs).2) := by
  obtain ⟨h1, h2, h3, h4⟩ := ha
  simp only [cluster, h, h1, h2, h3, h4, or_self, if_false]

/-- The first case: an unknown letter, `-h`, `-V`. -/
theorem cluster_cons_cases (ch : Char)
    (hch : shortOpts.lookup ch ≠ some .argN ∧ shortOpts.lookup ch ≠ some .argM) :
    (∃ e, (∀ cs, cluster (ch :: cs) = ([e], none))
        ∧ ∀ c X Y, interp c (e :: X) = interp c (e :: Y))
    ∨ ∃ b, Simple b ∧ ∀ cs, cluster (ch :: cs) = (.act b ch :: (cluster cs).1, (cluster cs).2) := by
  cases hlk : shortOpts.lookup ch with
  | none => exact .inl ⟨.bad, fun cs => cluster_none ch cs hlk, fun _ _ _ => rfl⟩
  | some b =>
    by_cases hb : b = .usage ∨ b = .version
    · refine .inl ⟨.act b ch, fun cs => cluster_term ch cs b hlk hb, ?_⟩
      rcases hb with rfl | rfl <;> exact fun _ _ _ => rfl
    · have hs : Simple b :=
        ⟨fun e => hb (.inl e), fun e => hb (.inr e), fun e => hch.1 (by rw [hlk, e]),
          fun e => hch.2 (by rw [hlk, e])⟩
      exact .inr ⟨b, hs, fun cs => cluster_simple ch cs b hlk hs⟩

theorem argKind_short (cs : List Char) (h : cs.head? ≠ some '-') :
    argKind ('-' :: cs) = .short cs := by
  cases cs with
  | nil => simp [argKind]
  | cons c1 t =>
    have : c1 ≠ '-' := by simpa using h
    simp [argKind, this]

/-- The first case: the cluster was cut short before the insertion point. -/
theorem cluster_insert (l : Char) (a : OptAct) (hl : shortOpts.lookup l = some a)
    (ha : Simple a) (l2 : List Char) : ∀ (l1 : List Char),
    (∀ ch ∈ l1, shortOpts.lookup ch ≠ some .argN ∧ shortOpts.lookup ch ≠ some .argM) →
    cluster (l1 ++ l :: l2) = cluster (l1 ++ l2) ∨
    ∃ A B, (cluster (l1 ++ l2)).1 = A ++ B ∧ (cluster (l1 ++ l :: l2)).1 = A ++ .act a l :: B
      ∧ (cluster (l1 ++ l :: l2)).2 = (cluster (l1 ++ l2)).2 := by
  intro l1
  induction l1 with
  | nil =>
    intro _
    right
    refine ⟨[], (cluster l2).1, rfl, ?_, ?_⟩ <;> simp [cluster_simple l l2 a hl ha]
  | cons ch l1 ih =>
    intro h
    have ih' := ih (fun c hc => h c (List.mem_cons_of_mem _ hc))
    rcases cluster_cons_cases ch (h ch List.mem_cons_self) with ⟨e, he, _⟩ | ⟨b, _, hb⟩
    · left
      simp only [List.cons_append, he]
    · simp only [List.cons_append, hb]
      rcases ih' with ih' | ⟨A, B, h1, h2, h3⟩
      · left
        rw [ih']
      · right
        exact ⟨.act b ch :: A, B, by simp [h1], by simp [h2], h3⟩

theorem interp_cluster_events (rest : List Tok) : ∀ (ls : List Char),
    (∀ ch ∈ ls, ch ≠ '-' ∧ shortOpts.lookup ch ≠ some .argN ∧ shortOpts.lookup ch ≠ some .argM) →
    ∀ c, interp c ((cluster ls).1 ++ tailOf (cluster ls).2 rest)
       = interp c (flatten (ls.map (fun ch => ['-', ch]) ++ rest)) := by
  intro ls
  induction ls with
  | nil =>
    intro _ c
    rfl
  | cons ch ls ih =>
    intro h c
    have hch := h ch List.mem_cons_self
    have hk : argKind ['-', ch] = .short [ch] := argKind_short _ (by simpa using hch.1)
    rw [List.map_cons, List.cons_append, flatten_short _ _ _ hk]
    rcases cluster_cons_cases ch hch.2 with ⟨e, he, hend⟩ | ⟨b, _, hb⟩
    · rw [he, he]
      exact hend c _ _
    · rw [hb, hb]
      exact interp_prefix_congr id (fun _ _ => rfl) _ _
        (ih fun c hc => h c (List.mem_cons_of_mem _ hc)) [.act b ch] c

theorem interp_cluster_separate (rest : List Tok) (ls : List Char)
    (h : ∀ ch ∈ ls, ch ≠ '-' ∧ shortOpts.lookup ch ≠ some .argN ∧ shortOpts.lookup ch ≠ some .argM)
    (c : Config) :
    interp c (flatten (('-' :: ls) :: rest))
      = interp c (flatten (ls.map (fun ch => ['-', ch]) ++ rest)) := by
  rw [flatten_short _ ls rest (argKind_short ls fun e => (h '-' (List.mem_of_mem_head? e)).1 rfl)]
  exact interp_cluster_events rest ls h c

end LbzVerif.Lemmas.CliParse
