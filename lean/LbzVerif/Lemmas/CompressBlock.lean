/-
  Lemmas.CompressBlock — one block of `Model.Compress`: under the contract
  `ChoicesOK` the encoder state `encodeBlock` builds is well-formed (`WF`) and
  coded (`Coded`), so `parse_transmit` applies; and the block the reference
  parser returns for it is decoded by `Spec.Bzip2.decodeBlock` to the bytes the
  block was made of.
-/
import LbzVerif.Model.Compress
import LbzVerif.Lemmas.CompressMtf
import LbzVerif.Lemmas.SpecMtfLink
import LbzVerif.Lemmas.SpecTailLink
import LbzVerif.Lemmas.Rle1Len
import LbzVerif.Lemmas.AssignCanon
import LbzVerif.Lemmas.TransmitCompose
import LbzVerif.Lemmas.CompressBits

namespace LbzVerif.Lemmas.CompressBlock
open LbzVerif LbzVerif.Basic LbzVerif.Model.Compress LbzVerif.Model.Transmit
open LbzVerif.Model.Canon (numSelectors dummySelectors treePad)
open LbzVerif.Lemmas.CompressMtf LbzVerif.Lemmas.TransmitCompose LbzVerif.Lemmas.TransmitLen
open LbzVerif.Lemmas.ListAux

theorem ibwtWalk_size (l : Array UInt8) (t : Array Nat) (n p : Nat) (acc : Array UInt8) :
    (Spec.Bzip2.ibwtWalk l t n p acc).size = acc.size + n := by
  induction n generalizing p acc with
  | zero => rfl
  | succ n ih => simp only [Spec.Bzip2.ibwtWalk, ih, Array.size_push]; omega

theorem ibwt_some {l : Array UInt8} {idx : Nat} {t : Array UInt8}
    (h : Spec.Bzip2.ibwt l idx = some t) : idx < l.size ∧ t.size = l.size := by
  unfold Spec.Bzip2.ibwt at h
  split at h
  · rename_i hlt
    simp only [Option.some.injEq] at h
    refine ⟨hlt, ?_⟩
    rw [← h, ibwtWalk_size]
    simp
  · cases h

theorem bwtOK_facts {rb L : List UInt8} {idx : Nat} (h : BwtOK rb L idx) :
    idx < L.length ∧ L.length = rb.length := by
  have := ibwt_some h.1
  simp only [List.size_toArray] at this
  omega

section fields
variable (rb : List UInt8) (crc : UInt32) (ch : Choice)

theorem eb_mtfv : (encodeBlock rb crc ch).mtfv = mtfvOf rb ch.L := rfl
theorem eb_lens : (encodeBlock rb crc ch).lens = ch.lens := rfl
theorem eb_codes : (encodeBlock rb crc ch).codes = ch.lens.map Model.Canon.assignCodes := rfl
theorem eb_selectors : (encodeBlock rb crc ch).selectors = ch.selectors := rfl
theorem eb_numTrees : (encodeBlock rb crc ch).numTrees = ch.numTrees := rfl
theorem eb_cmap : (encodeBlock rb crc ch).cmap = cmapOf rb := rfl
theorem eb_crc : (encodeBlock rb crc ch).crc = crc.toNat := rfl
theorem eb_bwtIdx : (encodeBlock rb crc ch).bwtIdx = ch.idx := rfl
theorem eb_ns : (encodeBlock rb crc ch).ns = numSelectors (mtfvOf rb ch.L).length := rfl
theorem eb_nmtf : (encodeBlock rb crc ch).nmtf = (mtfvOf rb ch.L).length := rfl

theorem eb_gpcCost : gpcCost (encodeBlock rb crc ch) = gpcCost (encodeBlock0 rb crc ch) := rfl

/-- the padding does not change the cost it was computed from -/
theorem eb_costBase (hs : ch.selectors.length = numSelectors (mtfvOf rb ch.L).length) :
    costBase (encodeBlock rb crc ch) = costBase (encodeBlock0 rb crc ch) := by
  unfold costBase
  rw [eb_gpcCost]
  have h1 : (encodeBlock rb crc ch).selectorMtf =
      selectorMtfOf ch.selectors ++
        List.replicate (dummySelectors (costBase (encodeBlock0 rb crc ch))) 0 := rfl
  have h2 : (encodeBlock0 rb crc ch).selectorMtf = selectorMtfOf ch.selectors := rfl
  have h3 : (encodeBlock0 rb crc ch).ns = numSelectors (mtfvOf rb ch.L).length := rfl
  have hl : (selectorMtfOf ch.selectors).length = numSelectors (mtfvOf rb ch.L).length := by
    unfold selectorMtfOf; rw [selLoop_length, hs]
  rw [h1, h2, eb_ns, h3, List.take_left' hl, ← hl, List.take_length]

end fields

theorem alphaSize_eq (rb : List UInt8) (crc : UInt32) (ch : Choice) (hL : ∀ x ∈ ch.L, x ∈ rb) :
    (encodeBlock rb crc ch).alphaSize = (usedOf rb).length + 2 := by
  unfold EncBlock.alphaSize
  rw [eb_mtfv, mtfvOf_eq rb ch.L hL, mtfRle2_getLastD]

theorem encodeBlock_wf (rb : List UInt8) (crc : UInt32) (ch : Choice)
    (hlen : rb.length ≤ Gen.MAX_BLOCK_SIZE) (hok : ChoicesOK rb ch) :
    WF (encodeBlock rb crc ch) := by
  obtain ⟨hb, ht1, ht2, ht3, ht4, ht5, ht6⟩ := hok
  obtain ⟨hidx, hLlen⟩ := bwtOK_facts hb
  have hmv := mtfvOf_eq rb ch.L hb.2
  have hcb := eb_costBase rb crc ch ht5
  refine
    { crc_lt := ?_, bwt_lt := ?_, cmap_len := ?_, mtfv_ne := ?_, nmtf_le := ?_, trees_ge := ht1,
      trees_le := ht2, lens_len := ht3, codes_len := ?_, lens_ok := ?_, sel_len := ht5,
      sel_lt := ht6, selMtf_eq := ?_, nsel_eq := ?_, pad_eq := ?_ }
  · rw [eb_crc]; exact crc.toNat_lt
  · rw [eb_bwtIdx]
    simp only [Gen.MAX_BLOCK_SIZE] at hlen
    omega
  · rw [eb_cmap]; exact cmapOf_length rb
  · rw [eb_mtfv, hmv]; exact mtfRle2_ne _ _
  · rw [eb_nmtf, hmv]
    have := mtfRle2_length_le (usedOf rb) ch.L
    omega
  · rw [eb_codes, List.length_map]; exact ht3
  · intro l hl
    rw [eb_lens] at hl
    rw [alphaSize_eq rb crc ch hb.2]
    exact ⟨(ht4 l hl).1, (ht4 l hl).2.2⟩
  · rw [hcb]; rfl
  · rw [hcb]; rfl
  · rw [hcb]; rfl

theorem encodeBlock_coded (rb : List UInt8) (crc : UInt32) (ch : Choice)
    (hne : rb ≠ []) (hok : ChoicesOK rb ch) :
    Coded (encodeBlock rb crc ch) := by
  obtain ⟨hb, ht1, ht2, ht3, ht4, ht5, ht6⟩ := hok
  have hmv := mtfvOf_eq rb ch.L hb.2
  have has := alphaSize_eq rb crc ch hb.2
  have hune := usedOf_ne rb hne
  have hsyms := mtfRle2_syms_le (usedOf rb) ch.L hune
    (fun x hx => (mem_usedOf rb x).mpr (hb.2 x hx))
  refine
    { alpha_eq := ?_, used_ne := ?_, complete := ?_, canon := ?_, syms_lt := ?_, eob_last := ?_ }
  · rw [has]; rfl
  · exact hune
  · intro l hl; exact (ht4 l hl).2
  · intro s hs
    rw [eb_selectors] at hs
    have hst : s < ch.lens.length := by rw [ht3]; exact ht6 s hs
    have hst' : s < (ch.lens.map Model.Canon.assignCodes).length := by
      rw [List.length_map]; exact hst
    have hm := ht4 _ (List.getElem_mem hst)
    rw [eb_codes, eb_lens, has, getD_of_lt [] hst, getD_of_lt [] hst', List.getElem_map,
      Lemmas.AssignCanon.assignCodes_eq_canon _ hm.2, hm.1]
  · intro x hx
    rw [has]
    rw [eb_mtfv, hmv, mtfRle2_split, List.mem_append] at hx
    rcases hx with hx | hx
    · have := hsyms x hx; omega
    · simp only [List.mem_singleton] at hx; omega
  · intro x hx
    rw [has]
    rw [eb_mtfv, hmv, mtfRle2_dropLast] at hx
    have := hsyms x hx
    omega

theorem crcFold_eq_crcRun (c : UInt32) (xs : List UInt8) :
    Model.crcFold c xs = Basic.crcRun c xs := rfl

theorem storedCrc_eq (bytes : List UInt8) :
    (Basic.crc32Arr bytes.toArray).toNat =
      (Model.crcFold 0xFFFFFFFF bytes).toNat ^^^ 0xFFFFFFFF := by
  rw [Basic.crc32Arr_eq, Basic.crc32, CompressBits.uint32_not_toNat, crcFold_eq_crcRun]
  rfl

theorem unMtf_expected (rb L : List UInt8) (cap : Nat) (hne : rb ≠ [])
    (hL : ∀ x ∈ L, x ∈ rb) (hfit : L.length ≤ cap) :
    Spec.Bzip2.unMtfRle2 (usedOf rb) cap (mtfvOf rb L).dropLast = .ok L.toArray := by
  have hune := usedOf_ne rb hne
  have hmem : ∀ x ∈ L, x ∈ usedOf rb := fun x hx => (mem_usedOf rb x).mpr (hL x hx)
  have hsyms := mtfRle2_syms_le (usedOf rb) L hune hmem
  rw [mtfvOf_eq rb L hL, mtfRle2_dropLast]
  have h1 := Lemmas.MtfSpec.unMtfRle2_mtfRle2 (usedOf rb) L cap hmem hfit
  rw [mtfRle2_split, Lemmas.SpecMtfLink.unMtfRle2_link (usedOf rb) hune cap _
    (fun s hs => by have := hsyms s hs; omega)] at h1
  split at h1
  · rename_i a ha
    rw [ha]
    simp only [Option.some.injEq] at h1
    congr 1
    apply Array.toList_inj.mp
    simpa using h1
  · cases h1

theorem decodeBlock_ok (b : Spec.Bzip2.Block) (tt T out : Array UInt8)
    (h1 : Spec.Bzip2.unMtfRle2 b.used (Spec.Bzip2.blockCap b.level) b.syms.toList = .ok tt)
    (h2 : tt.size ≠ 0) (h3 : Spec.Bzip2.ibwt tt b.origPtr = some T) (h4 : b.rand = false)
    (h5 : Spec.Bzip2.unRle1 T = .ok out) (h6 : (Basic.crc32Arr out).toNat = b.storedCrc) :
    Spec.Bzip2.decodeBlock b = .ok { nblock := tt.size, bytes := out } := by
  unfold Spec.Bzip2.decodeBlock
  simp only [h1, h2, h3, h4, h5, h6, if_false, if_true, Bool.false_eq_true]

theorem decodeBlock_expected (bytes : List UInt8) (ch : Choice) (level start : Nat)
    (hne : bytes ≠ []) (hfit : (Spec.rle1 bytes).length ≤ Spec.Bzip2.blockCap level)
    (hok : ChoicesOK (Spec.rle1 bytes) ch) :
    Spec.Bzip2.decodeBlock
        (expectedBlock level start
          (encodeBlock (Spec.rle1 bytes) (Model.crcFold 0xFFFFFFFF bytes) ch)) =
      .ok { nblock := (Spec.rle1 bytes).length, bytes := bytes.toArray } := by
  have hrne := Rle1Len.rle1_ne_nil hne
  obtain ⟨hb, _⟩ := hok
  obtain ⟨hidx, hLlen⟩ := bwtOK_facts hb
  have hm := unMtf_expected (Spec.rle1 bytes) ch.L (Spec.Bzip2.blockCap level) hrne hb.2
    (by omega)
  have hpos : 0 < (Spec.rle1 bytes).length := List.length_pos_iff.mpr hrne
  have h := decodeBlock_ok
    (expectedBlock level start (encodeBlock (Spec.rle1 bytes) (Model.crcFold 0xFFFFFFFF bytes) ch))
    ch.L.toArray (Spec.rle1 bytes).toArray bytes.toArray
    (by simp only [expectedBlock, List.toList_toArray]; exact hm)
    (by simp only [List.size_toArray]; omega) hb.1 rfl
    (by
      rw [Lemmas.SpecTailLink.bzip2_unRle1_eq, List.toList_toArray,
        Lemmas.SpecTailLink.unRle1_refs_agree, Spec.unrle_rle])
    (storedCrc_eq bytes)
  rw [h, List.size_toArray, hLlen]

end LbzVerif.Lemmas.CompressBlock
