/-
  Lemmas.ExpandBlock — ONE block of `Model.Expand` (`blockAt`: retrieve, size test, decode + emit
  into one big buffer, CRC comparison) against the oracle's `Spec.Bzip2.parseBlock` +
  `Spec.Bzip2.decodeBlock`: `blockAt_sound`, and `blockAt_complete` when at least 32 bits follow
  the block; `blockAt_size` (the retriever only moves forward) serves the fuel arguments.
  Composition of `Props.C05.BlockDecode.block_decode_sound`, `Props.C05.Block.retrieve_sound`,
  `Props.C06.Block.retrieve_complete`, `Props.C05.decode_emit_sound`.
-/
import LbzVerif.Model.Expand
import LbzVerif.Lemmas.ExpandBits
import LbzVerif.Lemmas.ExpandLocal
import LbzVerif.Lemmas.Reorder
import LbzVerif.Props.C05.BlockDecode
import LbzVerif.Props.C06.Block

namespace LbzVerif.Lemmas.ExpandBlock
open LbzVerif.Model.Expand LbzVerif.Lemmas.ExpandBits LbzVerif.Lemmas.RetrieveBits

theorem retrieve_ok_suffix (v w : Nat) (ws : List Nat) (eof : Bool) (inv : BufInv v w)
    (hok : (Model.Retrieve.retrieve (Model.Retrieve.St.start v w) ws eof).status = .ok) :
    SufC (Model.Retrieve.St.start v w) ws
      (Model.Retrieve.retrieve (Model.Retrieve.St.start v w) ws eof).st
      (Model.Retrieve.retrieve (Model.Retrieve.St.start v w) ws eof).rest := by
  rw [Props.C09.Retrieve.retrieve_init _ _ _ rfl] at hok ⊢
  obtain ⟨s, rest, hr⟩ := Props.C09.Retrieve.result_ok hok
  have hb := Lemmas.RetrieveCall.run_does (Model.Retrieve.St.start v w) ws
  rw [hr] at hb ⊢
  cases hb with
  | ok h _ => exact h inv
  | other hne => exact absurd rfl hne

/-- the retrieve job of the block that starts at `c` -/
abbrev retrAt (c : Cur) : Model.Retrieve.Result :=
  Model.Retrieve.retrieve (Model.Retrieve.St.start c.v c.w) c.ws true

theorem retrieve_ok_cur (c : Cur) (inv : BufInv c.v c.w)
    (hok : (retrAt c).status = .ok) :
    BufInv (retrAt c).st.v (retrAt c).st.w ∧
    (⟨(retrAt c).st.v, (retrAt c).st.w, (retrAt c).rest⟩ : Cur).size ≤ c.size := by
  obtain ⟨i, k, e⟩ := retrieve_ok_suffix c.v c.w c.ws true inv hok
  refine ⟨i, ?_⟩
  unfold retrAt at *
  generalize Model.Retrieve.retrieve (Model.Retrieve.St.start c.v c.w) c.ws true = R at *
  have e' : bitsC ⟨R.st.v, R.st.w, R.rest⟩ = (bitsC c).drop k := e
  have := congrArg List.length e'
  rw [List.length_drop, bitsC_length, bitsC_length] at this
  omega

theorem emitCode_eq_zero (s : Model.Emit.Status) (h : emitCode s = 0) : s = .ok := by
  cases s <;> simp [emitCode, Gen.ERR_RUNLEN] at h ⊢

theorem blockAt_ok_iff (l crc : Nat) (c c6 : Cur) (out : List UInt8) :
    blockAt l crc c = .ok (out, c6) ↔
      ((retrAt c).status = .ok ∧
       (retrAt c).st.run.n ≤ l * 100000 ∧
       (emitOf (retrAt c)).final = .ok ∧
       (emitOf (retrAt c)).crc.toNat = crc ∧
       out = (emitOf (retrAt c)).bytes ∧
       c6 = ⟨(retrAt c).st.v, (retrAt c).st.w, (retrAt c).rest⟩) := by
  unfold blockAt retrAt
  generalize Model.Retrieve.retrieve (Model.Retrieve.St.start c.v c.w) c.ws true = R
  simp only
  cases hs : R.status with
  | ok =>
    simp only
    by_cases h0 : Gen.reorderStatus R.st.run.n l Gen.RV_MORE 0 crc = Gen.RV_MORE
    · have hn := (Gen.reorderStatus_more _ _ _).mp h0
      simp only [ne_eq, h0, not_true_eq_false, if_false, true_and, hn]
      by_cases h1 : Gen.reorderStatus R.st.run.n l (emitCode (emitOf R).final) (emitOf R).crc.toNat crc
          = Gen.RV_OK
      · obtain ⟨_, a, b⟩ := (Gen.reorderStatus_ok _ _ _ _ _).mp h1
        rw [if_pos h1]
        have a' := emitCode_eq_zero _ a
        simp only [Except.ok.injEq, Prod.mk.injEq, a', b, true_and]
        constructor
        · rintro ⟨rfl, rfl⟩; exact ⟨rfl, rfl⟩
        · rintro ⟨rfl, rfl⟩; exact ⟨rfl, rfl⟩
      · rw [if_neg h1]
        constructor
        · intro h; cases h
        · rintro ⟨a, b, _, _⟩
          exfalso; apply h1
          rw [Gen.reorderStatus_ok]
          exact ⟨hn, by rw [a]; rfl, b⟩
    · have hn : ¬ R.st.run.n ≤ l * 100000 := fun h => h0 ((Gen.reorderStatus_more _ _ _).mpr h)
      simp only [ne_eq, h0, not_false_eq_true, if_true, hn, false_and, and_false]
      constructor
      · intro h; cases h
      · intro h; exact h.elim
  | err code => simp
  | more => simp
  | ub => simp
  | overread => simp
  | assertFail => simp

theorem blockAt_size (l crc : Nat) (c c6 : Cur) (out : List UInt8) (inv : BufInv c.v c.w)
    (h : blockAt l crc c = .ok (out, c6)) : BufInv c6.v c6.w ∧ c6.size ≤ c.size := by
  obtain ⟨hok, _, _, _, _, rfl⟩ := (blockAt_ok_iff l crc c c6 out).mp h
  exact retrieve_ok_cur c inv hok

theorem blockAt_sound (l crc : Nat) (c c6 : Cur) (out : List UInt8) (inv : BufInv c.v c.w)
    (hw : c.w ≤ 63) (h : blockAt l crc c = .ok (out, c6)) (start : Nat) (bits : List Bool)
    (h32 : Basic.takeNat 32 bits = some (crc, bitsC c)) :
    ∃ (b : Spec.Bzip2.Block) (n : Nat), Spec.Bzip2.parseBlock l start bits = .ok (b, bitsC c6) ∧
      Spec.Bzip2.decodeBlock b = .ok { nblock := n, bytes := out.toArray } ∧
      BufInv c6.v c6.w ∧ c6.size ≤ c.size := by
  obtain ⟨hi, hsz⟩ := blockAt_size l crc c c6 out inv h
  obtain ⟨hok, hn, hf, hc, rfl, rfl⟩ := (blockAt_ok_iff l crc c c6 out).mp h
  obtain ⟨b, h1, h2⟩ := Props.C05.BlockDecode.block_decode_sound c.v c.w c.ws true inv hw hok
    l start crc bits h32 hn [bigBuf] (by intro z hz; simp at hz; subst hz; decide) hf hc
  exact ⟨b, _, h1, h2, hi, hsz⟩

theorem blockAt_complete (l crc : Nat) (c : Cur) (inv : BufInv c.v c.w) (hw : c.w ≤ 63)
    (hl : l ≤ 9) (start : Nat) (bits : List Bool)
    (h32 : Basic.takeNat 32 bits = some (crc, bitsC c))
    (b : Spec.Bzip2.Block) (restB : List Bool)
    (hp : Spec.Bzip2.parseBlock l start bits = .ok (b, restB))
    (d : Spec.Bzip2.Decoded) (hd : Spec.Bzip2.decodeBlock b = .ok d) (hmore : 32 ≤ restB.length) :
    ∃ c6, blockAt l crc c = .ok (d.bytes.toList, c6) ∧ bitsC c6 = restB ∧ BufInv c6.v c6.w := by
  obtain ⟨hlv, _⟩ := Lemmas.ExpandLocal.parseBlock_fields l start bits b restB hp
  obtain ⟨tt, t, hm, hne, hib, hun, hcrcO⟩ := Spec.Bzip2.decodeBlock_ok_stages hd
  generalize d.bytes = o at hun hcrcO ⊢
  have hop : b.origPtr < tt.size := by
    by_cases hop : b.origPtr < tt.size
    · exact hop
    · exfalso
      unfold Spec.Bzip2.ibwt at hib
      rw [if_neg hop] at hib
      cases hib
  have hst : Props.C05.specStages b.rand b.origPtr tt = .ok o := by
    unfold Props.C05.specStages
    rw [hib]
    exact hun
  have hcap : tt.size ≤ l * 100000 := by
    have := (Lemmas.SpecMtfLink.unMtfRle2_size_ge b.used _ _ tt hm).2
    unfold Spec.Bzip2.blockCap at this
    rw [hlv] at this
    exact this
  have h9 : tt.size ≤ Gen.MAX_BLOCK_SIZE := by
    unfold Gen.MAX_BLOCK_SIZE; omega
  have hm9 := Lemmas.SpecMtfLink.unMtfRle2_cap_mono b.used _ Gen.MAX_BLOCK_SIZE _ tt hm h9
  have h32' : Basic.takeNat 32 bits =
      some (crc, bitsOf (Model.Retrieve.St.start c.v c.w) c.ws) := h32
  obtain ⟨hok, hrest, hrand, hidx, hout, hn⟩ :=
    Props.C06.Block.retrieve_complete c.v c.w c.ws true inv hw l start crc bits h32' b restB hp tt
      hm9 hne hop hmore
  obtain ⟨b', _, hp', _, _, hsc, _⟩ :=
    Props.C05.Block.retrieve_sound c.v c.w c.ws true inv hw hok l start crc bits h32'
  have hbb : b' = b := by
    rw [hp] at hp'
    injection hp' with hp'
    injection hp' with hp' _
    exact hp'.symm
  subst hbb
  obtain ⟨hi, _⟩ := retrieve_ok_cur c inv hok
  refine ⟨⟨(retrAt c).st.v, (retrAt c).st.w, (retrAt c).rest⟩, ?_, hrest, hi⟩
  rw [blockAt_ok_iff]
  unfold retrAt at *
  generalize Model.Retrieve.retrieve (Model.Retrieve.St.start c.v c.w) c.ws true = R at *
  have hlen : R.st.run.out.reverse.length = tt.size := by rw [hout]; simp
  have hidxL : R.st.bwtIdx < R.st.run.out.reverse.length := by rw [hlen, hidx]; exact hop
  have hM1 : Gen.MAX_BLOCK_SIZE < Model.Emit.M1 := by decide
  have hdes := Props.C05.decode_emit_sound (R.st.rand == 1) R.st.run.out.reverse R.st.bwtIdx
    hidxL (by rw [hlen]; omega) [bigBuf] (by intro z hz; simp at hz; subst hz; decide)
  have hspec : Props.C05.specStages (R.st.rand == 1) R.st.bwtIdx R.st.run.out.reverse.toArray =
      .ok o := by
    rw [hout, Array.toArray_toList, ← hrand, hidx]
    exact hst
  have hbig : (Lemmas.Emit.unOut 0 0
      (Model.Ibwt.nodes (R.st.rand == 1) R.st.bwtIdx R.st.run.out.reverse)).length <
      [bigBuf].sum := by
    have h1 := Lemmas.Emit.unOut_length_le
      (Model.Ibwt.nodes (R.st.rand == 1) R.st.bwtIdx R.st.run.out.reverse) 0 0
    rw [Props.C05.nodes_length _ _ _ hidxL, hlen] at h1
    have : [bigBuf].sum = 0xFFFFFFFE := by simp [bigBuf]
    rw [this]
    unfold Gen.MAX_BLOCK_SIZE at h9
    omega
  have hfin : (emitOf R).final = .ok := (hdes.2.2.2 hbig).1.mpr ⟨o, hspec⟩
  obtain ⟨e1, e2⟩ := hdes.1 hfin
  have hob : o = (emitOf R).bytes.toArray := by
    rw [hspec] at e1
    injection e1
  refine ⟨hok, by rw [hn]; exact hcap, hfin, ?_, ?_, rfl⟩
  · rw [← hsc, ← hcrcO, hob]
    exact congrArg UInt32.toNat e2
  · rw [hob]

end LbzVerif.Lemmas.ExpandBlock
