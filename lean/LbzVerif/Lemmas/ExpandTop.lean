/-
  Lemmas.ExpandTop — the top of the two file-level functions: `expandFile` is
  the header test followed by `expandRest` (`expandFile_eq`), `walkFile` is the
  same test followed by `decodeStreams` (`walkFile_eq`).
  Statements about `bytesToBits (b0 :: …)` go through `bytesToBits_cons` and lemmas over an
  abstract list, not through unfolding the array-based `bytesToBits` on a literal cons.
-/
import LbzVerif.Model.Expand
import LbzVerif.Lemmas.Sniff
import LbzVerif.Lemmas.SpecBasic

namespace LbzVerif.Lemmas.ExpandTop
open LbzVerif.Basic LbzVerif.Spec.Bzip2

open LbzVerif.Model.Expand in
theorem expandFile_eq (x : List UInt8) :
    expandFile x =
      if Lemmas.Copy.hasHeader x then expandRest (Lemmas.Copy.headerLevel x) (x.drop 4)
      else .error .notBzip2 := by
  have h1 := Lemmas.Copy.sniff_decision x [] false false
  have h2 : (Model.Copy.sniff x [] false false).2.1 = x.drop 4 :=
    (Lemmas.Copy.xread_spec x Model.Copy.sniffLen []).2.1
  unfold expandFile
  generalize Model.Copy.sniff x [] false false = r at h1 h2
  obtain ⟨d, rest, fr⟩ := r
  simp only at h1 h2
  subst h2
  by_cases hh : Lemmas.Copy.hasHeader x = true
  · rw [if_pos hh] at h1
    rw [if_pos hh, h1]
  · rw [if_neg hh] at h1
    simp only [Bool.false_and, Bool.false_eq_true, if_false] at h1
    rw [if_neg hh, h1]

theorem walkFile_of_take (x : List UInt8) (w : Nat) (bits : Bits) (level : Nat)
    (hne : x.isEmpty = false) (h32 : takeNat 32 (bytesToBits x) = some (w, bits))
    (hl : headerLevel w = some level) :
    walkFile false x = decodeStreams false (x.length + 1) (x.length + 1) level 0 bits {} := by
  rw [walkFile_unfold, hne]
  simp only [Bool.false_eq_true, if_false, h32, hl]

theorem header_take (x : List UInt8) (hh : Lemmas.Copy.hasHeader x = true) :
    ∃ w, takeNat 32 (bytesToBits x) = some (w, bytesToBits (x.drop 4)) ∧
      headerLevel w = some (Lemmas.Copy.headerLevel x) := by
  match x, hh with
  | b0 :: b1 :: b2 :: b3 :: rest, hh =>
    simp only [Lemmas.Copy.hasHeader, Bool.and_eq_true, beq_iff_eq, Nat.ble_eq] at hh
    obtain ⟨⟨⟨h0, h1⟩, h2⟩, h3, h4⟩ := hh
    refine ⟨_, takeNat32_bytes b0 b1 b2 b3 rest, ?_⟩
    rw [headerLevel_some_iff]
    simp only [Lemmas.Copy.headerLevel]
    omega

theorem noHeader_level {x : List UInt8} (h : Lemmas.Copy.hasHeader x = false) :
    ∀ w bits, takeNat 32 (bytesToBits x) = some (w, bits) → headerLevel w = none := by
  by_cases hlen : x.length < 4
  · have hn := (takeNat_none_iff_short 32 (bytesToBits x)).mpr (by rw [bytesToBits_length]; omega)
    intro w bits h32
    rw [hn] at h32
    cases h32
  · match x, h, hlen with
    | b0 :: b1 :: b2 :: b3 :: rest, h, _ =>
      intro w bits h32
      rw [takeNat32_bytes, Option.some.injEq, Prod.mk.injEq] at h32
      rw [← h32.1]
      cases hl : headerLevel (b0.toNat * 2 ^ 24 + b1.toNat * 2 ^ 16 + b2.toNat * 2 ^ 8 + b3.toNat) with
      | none => rfl
      | some level =>
        exfalso
        rw [headerLevel_some_iff] at hl
        have q0 := b0.toNat_lt
        have q1 := b1.toNat_lt
        have q2 := b2.toNat_lt
        have q3 := b3.toNat_lt
        have : Lemmas.Copy.hasHeader (b0 :: b1 :: b2 :: b3 :: rest) = true := by
          simp only [Lemmas.Copy.hasHeader, Bool.and_eq_true, beq_iff_eq, Nat.ble_eq]
          omega
        rw [this] at h
        cases h
    | [], _, hlen => simp at hlen
    | [_], _, hlen => simp at hlen
    | [_, _], _, hlen => simp at hlen
    | [_, _, _], _, hlen => simp at hlen

theorem walkFile_eq (x : List UInt8) :
    walkFile false x =
      if Lemmas.Copy.hasHeader x then
        decodeStreams false (x.length + 1) (x.length + 1) (Lemmas.Copy.headerLevel x) 0
          (bytesToBits (x.drop 4)) {}
      else .error (if x.isEmpty then .empty else .badMagic) := by
  by_cases hh : Lemmas.Copy.hasHeader x = true
  · obtain ⟨w, ht, hl⟩ := header_take x hh
    rw [if_pos hh]
    refine walkFile_of_take x w _ _ ?_ ht hl
    cases x with
    | nil => cases hh
    | cons _ _ => rfl
  · rw [if_neg hh, walkFile_unfold]
    split
    · rfl
    split
    · rfl
    rename_i w bits h32
    rw [noHeader_level (Bool.eq_false_iff.mpr hh) w bits h32]

theorem hasHeader_of_reason {x : List UInt8} {r : Except Reject (List UInt8)}
    (h : decodeFile x = r) (h1 : r ≠ .error .empty) (h2 : r ≠ .error .badMagic) :
    Lemmas.Copy.hasHeader x = true := by
  cases hx : Lemmas.Copy.hasHeader x with
  | true => rfl
  | false =>
    exfalso
    unfold decodeFile at h
    rw [walkFile_eq, hx, if_neg Bool.false_ne_true] at h
    subst h
    by_cases he : x.isEmpty = true
    · exact h1 (by rw [if_pos he])
    · exact h2 (by rw [if_neg he])

end LbzVerif.Lemmas.ExpandTop
