/-
  Lemmas.Rle1Len — `Spec.rle1` on a run (`rle1_replicate`) and as a left fold
  (state after a prefix), the growth of `rleLen` per appended byte, monotonicity,
  the characterisation of `Spec.pack`, and `blocksOf` (no fuel, nothing lost).
-/
import LbzVerif.Spec.Rle1
import LbzVerif.Lemmas.Rle1Dec

namespace LbzVerif.Spec

theorem rleLen_nil : rleLen [] = 0 := rfl

-- `pack` with the largest candidate length as a parameter, for induction on it (`packUpTo_spec`)
def packUpTo (cap : Nat) (xs : List UInt8) (n : Nat) : Nat :=
  (List.range (n + 1)).foldl (fun best k => if rleLen (xs.take k) ≤ cap then k else best) 0

theorem pack_eq (cap : Nat) (xs : List UInt8) : pack cap xs = packUpTo cap xs xs.length := rfl

end LbzVerif.Spec

namespace LbzVerif.Lemmas.Rle1Len
open LbzVerif.Spec

/-- Encoder state after a prefix: the encoding `out` of the runs that are
closed, and the open run `(c, r)`; `r = 0` when no run is open (at the start, and
right after a run has been closed because it reached `maxRun`). -/
structure RunSt where
  out : List UInt8
  c : UInt8
  r : Nat

def stepSt (s : RunSt) (x : UInt8) : RunSt :=
  if x = s.c then
    if s.r + 1 = maxRun then ⟨s.out ++ flush s.c maxRun, s.c, 0⟩
    else ⟨s.out, s.c, s.r + 1⟩
  else ⟨s.out ++ flush s.c s.r, x, 1⟩

/-- The encoding if the data ended here (the open run is closed), and its length. -/
def encSt (s : RunSt) : List UInt8 := s.out ++ flush s.c s.r
def lenSt (s : RunSt) : Nat := s.out.length + (if s.r ≥ 4 then 5 else s.r)

/-- The state after the bytes `xs`: `rle1` as a left fold (`rle1_eq_encSt`). -/
def stOf (xs : List UInt8) : RunSt := xs.foldl stepSt ⟨[], 0, 0⟩

theorem lenSt_eq (s : RunSt) : lenSt s = (encSt s).length := by
  simp [lenSt, encSt, flush_length]

theorem flush_zero (c : UInt8) : flush c 0 = [] := by simp [flush]

theorem stepSt_ne {s : RunSt} {x : UInt8} (hx : x ≠ s.c) : stepSt s x = ⟨encSt s, x, 1⟩ := by
  rw [stepSt, if_neg hx]; rfl

theorem stepSt_same (out : List UInt8) (c : UInt8) (r : Nat) :
    stepSt ⟨out, c, r⟩ c =
      if r + 1 = maxRun then ⟨out ++ flush c maxRun, c, 0⟩ else ⟨out, c, r + 1⟩ := by
  rw [stepSt, if_pos rfl]

theorem stepSt_zero (out : List UInt8) (c x : UInt8) :
    stepSt ⟨out, c, 0⟩ x = ⟨encSt ⟨out, c, 0⟩, x, 1⟩ := by
  by_cases hx : x = c
  · subst hx; rw [stepSt_same, if_neg (by decide)]; simp [encSt, flush_zero]
  · exact stepSt_ne hx

theorem encAux_zero (c : UInt8) (xs : List UInt8) : encAux c 0 xs = rle1 xs := by
  cases xs with
  | nil => simp [encAux, rle1, flush_zero]
  | cons x xs =>
    simp only [encAux, rle1, flush_zero, List.nil_append]
    split
    · rename_i h; rw [h.1]
    · rfl

theorem encAux_max (c : UInt8) (xs : List UInt8) :
    encAux c maxRun xs = flush c maxRun ++ rle1 xs := by
  cases xs with
  | nil => simp [encAux, rle1]
  | cons x xs => simp [encAux, rle1]

theorem encAux_replicate (c : UInt8) (j r : Nat) (rest : List UInt8) (h : r + j ≤ maxRun) :
    encAux c r (List.replicate j c ++ rest) = encAux c (r + j) rest := by
  induction j generalizing r with
  | zero => simp
  | succ j ih =>
    have hlt : r < maxRun := by omega
    simp only [List.replicate_succ, List.cons_append, encAux, hlt, and_self, if_true]
    rw [ih (r + 1) (by omega)]
    congr 1
    omega

theorem rle1_replicate (c : UInt8) (n : Nat) (rest : List UInt8) (h1 : 1 ≤ n) (h2 : n ≤ 259)
    (h : n = 259 ∨ ∀ d ys, rest = d :: ys → d ≠ c) :
    rle1 (List.replicate n c ++ rest) = flush c n ++ rle1 rest := by
  obtain ⟨j, rfl⟩ : ∃ j, n = j + 1 := ⟨n - 1, by omega⟩
  simp only [List.replicate_succ, List.cons_append, rle1]
  rw [encAux_replicate c j 1 rest (by show 1 + j ≤ 259; omega), Nat.add_comm 1 j]
  rcases h with h | h
  · rw [h]
    exact encAux_max c rest
  · cases rest with
    | nil => simp [encAux]
    | cons d ys =>
      have hd : d ≠ c := h d ys rfl
      simp [encAux, hd]

theorem stepSt_r_le (s : RunSt) (x : UInt8) (h : s.r + 1 ≤ maxRun) :
    (stepSt s x).r + 1 ≤ maxRun := by
  unfold stepSt
  have : (1 : Nat) + 1 ≤ maxRun := by decide
  split
  · split
    · simp only; omega
    · simp only; omega
  · simpa using this

theorem encSt_foldl (xs : List UInt8) (s : RunSt) (h : s.r + 1 ≤ maxRun) :
    encSt (xs.foldl stepSt s) = s.out ++ encAux s.c s.r xs := by
  induction xs generalizing s with
  | nil => simp [encSt, encAux]
  | cons x xs ih =>
    rw [List.foldl_cons, ih _ (stepSt_r_le s x h)]
    unfold stepSt
    by_cases hx : x = s.c
    · have hlt : s.r < maxRun := by omega
      simp only [hx, if_true]
      split
      · rename_i h1
        simp only [encAux_zero]
        rw [encAux]
        simp only [hlt, and_self, if_true, h1, encAux_max, List.append_assoc]
      · rw [encAux.eq_2]
        simp [hlt]
    · simp only [hx, if_false]
      rw [encAux.eq_2]
      simp [hx, List.append_assoc]

theorem rle1_eq_encSt (xs : List UInt8) : rle1 xs = encSt (stOf xs) := by
  rw [stOf, encSt_foldl xs _ (by decide)]
  simp [encAux_zero]

theorem rleLen_eq_lenSt (xs : List UInt8) : rleLen xs = lenSt (stOf xs) := by
  rw [lenSt_eq, ← rle1_eq_encSt]; rfl

theorem stOf_snoc (xs : List UInt8) (x : UInt8) : stOf (xs ++ [x]) = stepSt (stOf xs) x := by
  simp [stOf, List.foldl_append]

/-- Growth of the encoded size when one byte is appended. -/
def delta (s : RunSt) (x : UInt8) : Nat :=
  if x = s.c then (if s.r ≥ 4 then 0 else if s.r = 3 then 2 else 1) else 1

theorem lenSt_stepSt (s : RunSt) (x : UInt8) :
    lenSt (stepSt s x) = lenSt s + delta s x := by
  have hm : maxRun = 259 := rfl
  unfold stepSt delta lenSt
  by_cases hx : x = s.c
  · simp only [hx, if_true]
    split
    · rename_i h1
      have : s.r ≥ 4 := by omega
      simp [this, flush_length, hm]
    · rename_i h1
      simp only
      split <;> split <;> (try split) <;> omega
  · simp only [hx, if_false, List.length_append, flush_length]
    simp

/-- Only the empty input has an empty encoding: the decoder gives it back. -/
theorem rle1_ne_nil {b : List UInt8} (hne : b ≠ []) : rle1 b ≠ [] := by
  intro he
  have h := unrle_rle b
  have h0 : unRle1 [] = some [] := by decide
  rw [he, h0] at h
  exact hne (Option.some.inj h).symm

theorem rleLen_snoc_eq (xs : List UInt8) (x : UInt8) :
    rleLen (xs ++ [x]) = rleLen xs + delta (stOf xs) x := by
  rw [rleLen_eq_lenSt, rleLen_eq_lenSt, stOf_snoc, lenSt_stepSt]

theorem delta_le (s : RunSt) (x : UInt8) : delta s x ≤ 2 := by
  unfold delta; split <;> (try split) <;> (try split) <;> omega

theorem rleLen_snoc (xs : List UInt8) (x : UInt8) :
    rleLen xs ≤ rleLen (xs ++ [x]) ∧ rleLen (xs ++ [x]) ≤ rleLen xs + 2 := by
  rw [rleLen_snoc_eq]
  have := delta_le (stOf xs) x
  omega

theorem rleLen_append_ge (xs ys : List UInt8) : rleLen xs ≤ rleLen (xs ++ ys) := by
  induction ys generalizing xs with
  | nil => simp
  | cons y ys ih =>
    have h1 := (rleLen_snoc xs y).1
    have h2 := ih (xs ++ [y])
    simp only [List.append_assoc, List.singleton_append] at h2
    omega

theorem rleLen_take_mono (xs : List UInt8) (i j : Nat) (h : i ≤ j) :
    rleLen (xs.take i) ≤ rleLen (xs.take j) := by
  have : xs.take j = xs.take i ++ (xs.take j).drop i := by
    have h1 : (xs.take j).take i = xs.take i := by
      rw [List.take_take]; congr 1; omega
    rw [← h1, List.take_append_drop]
  rw [this]
  exact rleLen_append_ge _ _

theorem packUpTo_zero (cap : Nat) (xs : List UInt8) : packUpTo cap xs 0 = 0 := by
  simp only [packUpTo, List.range_succ, List.range_zero, List.nil_append, List.foldl_cons,
    List.foldl_nil, List.take_zero]
  exact ite_self 0

theorem packUpTo_succ (cap : Nat) (xs : List UInt8) (n : Nat) :
    packUpTo cap xs (n + 1)
      = if rleLen (xs.take (n + 1)) ≤ cap then n + 1 else packUpTo cap xs n := by
  simp only [packUpTo]
  rw [List.range_succ, List.foldl_append]
  simp

theorem packUpTo_spec (cap : Nat) (xs : List UInt8) (n : Nat) :
    packUpTo cap xs n ≤ n ∧ rleLen (xs.take (packUpTo cap xs n)) ≤ cap ∧
    ∀ j, j ≤ n → rleLen (xs.take j) ≤ cap → j ≤ packUpTo cap xs n := by
  induction n with
  | zero =>
    rw [packUpTo_zero]
    refine ⟨Nat.le_refl _, ?_, ?_⟩
    · simp [rleLen_nil]
    · intro j hj _; exact hj
  | succ n ih =>
    rw [packUpTo_succ]
    obtain ⟨h1, h2, h3⟩ := ih
    split
    · rename_i h
      refine ⟨Nat.le_refl _, h, fun j hj _ => hj⟩
    · rename_i h
      refine ⟨by omega, h2, ?_⟩
      intro j hj hc
      by_cases hjn : j = n + 1
      · subst hjn; exact absurd hc h
      · exact h3 j (by omega) hc

theorem pack_le_length (cap : Nat) (xs : List UInt8) : pack cap xs ≤ xs.length :=
  (packUpTo_spec cap xs xs.length).1

theorem pack_fits (cap : Nat) (xs : List UInt8) : rleLen (xs.take (pack cap xs)) ≤ cap :=
  (packUpTo_spec cap xs xs.length).2.1

theorem pack_largest (cap : Nat) (xs : List UInt8) (j : Nat) (hj : j ≤ xs.length)
    (h : rleLen (xs.take j) ≤ cap) : j ≤ pack cap xs :=
  (packUpTo_spec cap xs xs.length).2.2 j hj h

theorem pack_next_overflows (cap : Nat) (xs : List UInt8) (h : pack cap xs < xs.length) :
    cap < rleLen (xs.take (pack cap xs + 1)) := by
  apply Nat.lt_of_not_le
  intro hc
  have := pack_largest cap xs (pack cap xs + 1) h hc
  omega

theorem pack_unique (cap : Nat) (xs : List UInt8) (k : Nat) (hk : k ≤ xs.length)
    (hfit : rleLen (xs.take k) ≤ cap)
    (hnext : k < xs.length → cap < rleLen (xs.take (k + 1))) : pack cap xs = k := by
  apply Nat.le_antisymm
  · apply Nat.le_of_not_lt
    intro hlt
    have h1 := pack_le_length cap xs
    have h2 := pack_fits cap xs
    have h3 := hnext (by omega)
    have h4 := rleLen_take_mono xs (k + 1) (pack cap xs) hlt
    omega
  · exact pack_largest cap xs k hk hfit

theorem rleLen_singleton (x : UInt8) : rleLen [x] = 1 := by
  simp [rleLen, rle1, encAux, flush]

theorem pack_pos (cap : Nat) (hcap : 1 ≤ cap) (xs : List UInt8) (hne : xs ≠ []) :
    1 ≤ pack cap xs := by
  cases xs with
  | nil => exact absurd rfl hne
  | cons x xs =>
    apply pack_largest cap (x :: xs) 1 (by simp)
    simp only [List.take_succ_cons, List.take_zero, rleLen_singleton]
    exact hcap

theorem blocks_fuel (cap : Nat) (hcap : 1 ≤ cap) (f1 : Nat) :
    ∀ (f2 : Nat) (xs : List UInt8), xs.length ≤ f1 → xs.length ≤ f2 →
      blocks cap f1 xs = blocks cap f2 xs := by
  induction f1 with
  | zero =>
    intro f2 xs h1 _
    have : xs = [] := List.eq_nil_of_length_eq_zero (by omega)
    subst this
    cases f2 <;> simp [blocks]
  | succ f1 ih =>
    intro f2 xs h1 h2
    cases f2 with
    | zero =>
      have : xs = [] := List.eq_nil_of_length_eq_zero (by omega)
      subst this
      simp [blocks]
    | succ f2 =>
      simp only [blocks]
      split
      · rfl
      · rename_i hne
        have hne' : xs ≠ [] := by simpa using hne
        have hp := pack_pos cap hcap xs hne'
        have hk : ¬ pack cap xs = 0 := by omega
        simp only [hk, if_false]
        congr 1
        apply ih <;> simp only [List.length_drop] <;> omega

theorem blocksOf_unfold (cap : Nat) (hcap : 1 ≤ cap) (xs : List UInt8) :
    blocksOf cap xs =
      if xs = [] then []
      else xs.take (pack cap xs) :: blocksOf cap (xs.drop (pack cap xs)) := by
  unfold blocksOf
  cases hxs : xs with
  | nil => simp [blocks]
  | cons x t =>
    rw [← hxs]
    have hne : xs ≠ [] := by rw [hxs]; simp
    have hl : xs.length = t.length + 1 := by rw [hxs]; simp
    rw [hl]
    simp only [blocks, hne, if_false]
    have hp := pack_pos cap hcap xs hne
    have hk : ¬ pack cap xs = 0 := by omega
    have he : ¬ xs.isEmpty = true := by simpa using hne
    simp only [he, hk, if_false, Bool.false_eq_true]
    congr 1
    apply blocks_fuel cap hcap <;> simp only [List.length_drop] <;> omega

theorem blocksOf_flatten (cap : Nat) (hcap : 1 ≤ cap) (xs : List UInt8) :
    (blocksOf cap xs).flatten = xs := by
  generalize hn : xs.length = n
  induction n using Nat.strongRecOn generalizing xs with
  | _ n ih =>
    rw [blocksOf_unfold cap hcap]
    split
    · rename_i he; simp [he]
    · rename_i hne
      have hp := pack_pos cap hcap xs hne
      have hl := List.length_pos_iff.mpr hne
      rw [List.flatten_cons, ih _ (by simp only [List.length_drop]; omega) _ rfl,
        List.take_append_drop]

end LbzVerif.Lemmas.Rle1Len
