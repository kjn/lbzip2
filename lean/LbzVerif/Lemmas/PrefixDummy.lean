/-
  Lemmas.PrefixDummy — the dummy second table of a single-table block is a
  complete code: `n` codes of length `c` and `as - n` of length `c + 1` with
  `n + as = 2^(c+1)` have Kraft sum one, and `Gen.cl0` (regenerated from
  encode.c) is ⌊log₂ as⌋ on the 256 alphabet sizes 3…258 (put together for `dummyLens` in
  `Props.C02.dummyTable_complete`).
-/
import LbzVerif.Spec.Prefix
import LbzVerif.Model.Canon
import LbzVerif.Lemmas.ListAux

namespace LbzVerif.Lemmas.PrefixDummy
open LbzVerif LbzVerif.Spec.Prefix LbzVerif.Model.Canon

/-- The shift-and-mask formula of encode.c is a table of ⌊log₂ as⌋. -/
theorem cl0_eq_log2 : ∀ k, k < 256 → Gen.cl0 (k + 3) = Nat.log2 (k + 3) := by decide +kernel

theorem kraft20_two_lengths (c n m : Nat) (hc : c ≤ 19) (hn : n ≤ m) (hnm : n + m = 2 ^ (c + 1)) :
    kraft20 (List.replicate n c ++ List.replicate (m - n) (c + 1)) = 2 ^ 20 := by
  have hw : width c = 2 * width (c + 1) := by
    unfold width
    rw [show 20 - c = 20 - (c + 1) + 1 by omega, Nat.pow_succ, Nat.mul_comm]
  have hp : 2 ^ 20 = 2 ^ (c + 1) * width (c + 1) := by
    unfold width
    rw [← Nat.pow_add, show c + 1 + (20 - (c + 1)) = 20 by omega]
  obtain ⟨d, rfl⟩ := Nat.exists_eq_add_of_le hn
  simp only [kraft20, List.map_append, List.map_replicate, List.sum_append, List.sum_replicate_nat,
    Nat.add_sub_cancel_left]
  rw [hw, hp, ← hnm, Nat.mul_left_comm, Nat.two_mul, Nat.add_mul, Nat.add_mul]
  omega

end LbzVerif.Lemmas.PrefixDummy
