/-
  Lemmas.RetrieveHeader — the whole block header of `Model.Retrieve` (rand
  bit, 24-bit index, bitmap, counts, selectors, tables — everything up to the
  top of the group loop), run under `NEED` with any suspensions, against the
  reference reading the same fields from the unread bits; and (namespace
  `HeaderBudget`) it does not run out of words when at least 32 bits follow the header.
-/
import LbzVerif.Lemmas.RetrieveBitmap

namespace LbzVerif.Lemmas.RetrieveHeader
open LbzVerif.Model.Retrieve
open LbzVerif.Lemmas.RetrieveBits LbzVerif.Lemmas.RetrieveValues
open LbzVerif.Lemmas.RetrieveDelta
open LbzVerif.Lemmas.RetrieveBitmap
open LbzVerif.Lemmas.RetrieveEqns
open LbzVerif.Lemmas.RetrieveSim

/-- From the 16-bit row mask on. -/
def specFromBig (B : List Bool) : Option Hdr :=
  match Basic.takeNat 16 B with
  | none => none
  | some (big0, B1) => specFromRows big0 [] (List.range' 0 16) B1

/-- The whole header as the reference reads it: rand bit, origPtr, then
`specFromBig`. -/
def specHeader (B : List Bool) : Option (Nat × Nat × Hdr) :=
  match Basic.takeNat 1 B with
  | none => none
  | some (r, B1) =>
    match Basic.takeNat 24 B1 with
    | none => none
    | some (idx, B2) =>
      match specFromBig B2 with
      | none => none
      | some h => some (r, idx, h)

theorem specFromBig_eq (B : List Bool) :
    specFromBig B = (Basic.takeNat 16 B).bind fun p => specFromRows p.1 [] (List.range' 0 16) p.2 := by
  unfold specFromBig
  cases Basic.takeNat 16 B <;> rfl

theorem specHeader_eq (B : List Bool) :
    specHeader B = (Basic.takeNat 1 B).bind fun p => (Basic.takeNat 24 p.2).bind fun q =>
      (specFromBig q.2).map fun h => (p.1, q.1, h) := by
  unfold specHeader
  cases Basic.takeNat 1 B with
  | none => rfl
  | some p =>
    obtain ⟨r, B1⟩ := p
    dsimp only [Option.bind_some]
    cases Basic.takeNat 24 B1 with
    | none => rfl
    | some q =>
      obtain ⟨idx, B2⟩ := q
      dsimp only [Option.bind_some]
      cases specFromBig B2 <;> rfl

theorem specFromBig_some {B : List Bool} {h : Hdr} (hs : specFromBig B = some h) :
    HdrWf h ∧ h.rest.length ≤ B.length := by
  rw [specFromBig_eq] at hs
  obtain ⟨p, ht, hs⟩ := Option.bind_eq_some_iff.1 hs
  obtain ⟨c1, c2⟩ := specFromRows_some hs
  have := Basic.takeNat_length ht
  exact ⟨c1 (by simp), by omega⟩

theorem specHeader_some {B : List Bool} {a : Nat × Nat × Hdr} (hs : specHeader B = some a) :
    HdrWf a.2.2 ∧ a.2.2.rest.length ≤ B.length := by
  rw [specHeader_eq] at hs
  obtain ⟨p, h1, hs⟩ := Option.bind_eq_some_iff.1 hs
  obtain ⟨q, h24, hs⟩ := Option.bind_eq_some_iff.1 hs
  obtain ⟨h, hb, rfl⟩ := Option.map_eq_some_iff.1 hs
  obtain ⟨c1, c2⟩ := specFromBig_some hb
  have l1 := Basic.takeNat_length h1
  have l2 := Basic.takeNat_length h24
  exact ⟨c1, by show h.rest.length ≤ B.length; omega⟩

theorem bitmap_spec (c : St) (ws : List Nat) (hpc : c.pc = .bitmapBig) (inv : BufInv c.v c.w) :
    Sim (fun _ => Out.top) (toTop c ws) (specFromBig (bitsOf c ws)) Hdr.rest (fun h s => HdrOk c s h) := by
  refine Sim.need (by rw [hpc]; decide) inv (fun h hh => (specFromBig_some hh).2)
    fun v1 w1 ws1 hw1 inv1 hb1 _ => ?_
  obtain ⟨t16, s16, i16⟩ := take_both { c with v := v1, w := w1 } ws1 16 (by omega) (by show 16 ≤ w1; omega) inv1
  have hlt : peek { c with v := v1, w := w1 } 16 < 2 ^ 16 := peek_lt v1 w1 16 inv1 (by omega)
  rw [step_bitmapBig { c with v := v1, w := w1 } hpc, ← hb1, specFromBig_eq, s16]
  unfold stepBitmapBig
  rw [t16]
  dsimp only [Option.bind_some]
  generalize peek { c with v := v1, w := w1 } 16 = big0 at hlt ⊢
  exact (bitmap_rows_spec 16 { dumped { c with v := v1, w := w1 } 16 with
      big := big0, small := 0, alphaSize := 0, j := 0, cmap := List.replicate 256 0 } ws1 big0 0 [] (by omega)
    ⟨rfl, by show big0 = (big0 <<< 0) % 65536; rw [Nat.shiftLeft_zero]; omega, rfl,
      List.length_replicate .., rfl, Nat.le_refl _⟩
    rfl i16 (by show 16 ≤ w1 - 16; omega) (fun h => absurd rfl h)).mono
    fun h s hk => hdrOk_congr _ c s h hk rfl rfl rfl rfl rfl

/-- From the entry of a fresh call (`S_INIT`) or `NEED(S_BWT_IDX)` — a resumption later in the
header is covered by the lemmas this is built from: the machine arrives at the top of the group
loop iff `specHeader` accepts the unread bits, and then with the reference's values (`HdrOk`)
and unread bits; it runs out of words before that only if fewer than 32 bits follow the header.
If the reference rejects, the machine never gets past the header: error status or out of
words. -/
theorem header_spec_rest (c : St) (ws : List Nat) (hpc : c.pc = .init ∨ c.pc = .bwtIdx)
    (inv : BufInv c.v c.w) :
    Sim (fun _ => Out.top) (toTop c ws) (specHeader (bitsOf c ws)) (fun a => a.2.2.rest)
      (fun a s => HdrOk { c with rand := a.1, bwtIdx := a.2.1 } s a.2.2) := by
  refine Sim.need0 inv (fun a ha => (specHeader_some ha).2) fun c' v1 w1 ws1 hc' hw1 inv1 hb1 _ => ?_
  -- `S_INIT` and `S_BWT_IDX` run the same code; `SAVE()` at the first `NEED` stores `S_BWT_IDX`
  have hs : step { c' with v := v1, w := w1 } = stepBwtIdx { c' with v := v1, w := w1 } := by
    obtain rfl | rfl := hc'
    · obtain h | h := hpc
      · exact step_init _ h
      · exact step_bwtIdx _ h
    · unfold normPc
      split
      · rfl
      · exact step_bwtIdx _ (hpc.resolve_left (by assumption))
  have hf : c'.mtf = c.mtf ∧ c'.trees = c.trees ∧ c'.run = c.run := by
    obtain rfl | rfl := hc'
    · exact ⟨rfl, rfl, rfl⟩
    · unfold normPc
      split <;> exact ⟨rfl, rfl, rfl⟩
  obtain ⟨t1, s1, i1⟩ := take_both { c' with v := v1, w := w1 } ws1 1 (by omega) (by show 1 ≤ w1; omega) inv1
  obtain ⟨t2, s2, i2⟩ := take_both (dumped { c' with v := v1, w := w1 } 1) ws1 24 (by omega)
    (by show 24 ≤ w1 - 1; omega) i1
  rw [hs, ← hb1, specHeader_eq, s1]
  unfold stepBwtIdx
  rw [t1]
  dsimp only [Option.bind_some]
  rw [t2, s2]
  dsimp only [Option.bind_some]
  exact Sim.map ((bitmap_spec { dumped (dumped { c' with v := v1, w := w1 } 1) 24 with
      rand := _, bwtIdx := _, pc := .bitmapBig } ws1 rfl i2).mono
    fun h s hk => hdrOk_congr _ { c with rand := _, bwtIdx := _ } s h hk hf.1.symm hf.2.1.symm hf.2.2.symm rfl rfl)

/-- A call from there that answers OK has read a header the reference accepts and has arrived at
the top of the group loop with the reference's values and unread bits; its answer is that of the
group loop. -/
theorem run_ok_top (c : St) (ws : List Nat) (hpc : c.pc = .init ∨ c.pc = .bwtIdx)
    (inv : BufInv c.v c.w) {s' : St} {rest' : List Nat} (hr : run false c ws = .halt .ok s' rest') :
    ∃ r idx h s rest, specHeader (bitsOf c ws) = some (r, idx, h) ∧ toTop c ws = .top s rest ∧
      HdrOk { c with rand := r, bwtIdx := idx } s h ∧ bitsOf s rest = h.rest ∧ BufInv s.v s.w ∧
      groups false (s.numSel - s.g) s rest = .halt .ok s' rest' := by
  unfold run at hr
  cases hsp : specHeader (bitsOf c ws) with
  | none =>
    cases (header_spec_rest c ws hpc inv).of_none hsp with
    | inl hrej =>
      obtain ⟨r, s, rest, e, hne⟩ := hrej
      rw [e] at hr
      injection hr with h1
      exact absurd h1 hne
    | inr hsu =>
      obtain ⟨s, e⟩ := hsu
      rw [e] at hr
      cases hr
  | some a =>
    cases (header_spec_rest c ws hpc inv).of_some hsp with
    | inr hsu =>
      obtain ⟨⟨s, e⟩, _⟩ := hsu
      rw [e] at hr
      cases hr
    | inl hok =>
      obtain ⟨s, rest, e, hk, hb, i⟩ := hok
      have e : toTop c ws = .top s rest := e
      rw [e] at hr
      exact ⟨a.1, a.2.1, a.2.2, s, rest, rfl, e, hk, hb, i, hr⟩

end LbzVerif.Lemmas.RetrieveHeader

namespace LbzVerif.Lemmas.HeaderBudget
open LbzVerif LbzVerif.Model.Retrieve
open LbzVerif.Lemmas.RetrieveBits LbzVerif.Lemmas.RetrieveDelta LbzVerif.Lemmas.RetrieveSim
open LbzVerif.Lemmas.RetrieveBitmap LbzVerif.Lemmas.RetrieveHeader

theorem header_reaches_top (c : St) (ws : List Nat) (hpc : c.pc = .bwtIdx) (inv : BufInv c.v c.w)
    (r idx : Nat) (h : Hdr) (hsp : specHeader (bitsOf c ws) = some (r, idx, h))
    (h32 : 32 ≤ h.rest.length) :
    ∃ s rest, toTop c ws = .top s rest ∧ HdrOk { c with rand := r, bwtIdx := idx } s h ∧
      bitsOf s rest = h.rest ∧ BufInv s.v s.w := by
  cases (header_spec_rest c ws (Or.inr hpc) inv).of_some hsp with
  | inl hok => exact hok
  | inr hsu => exact absurd hsu.2 (Nat.not_lt.2 h32)

end LbzVerif.Lemmas.HeaderBudget
