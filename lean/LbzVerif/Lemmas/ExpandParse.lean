/-
  Lemmas.ExpandParse — `Gen.parseStep` (the `switch (ps->state)` body of
  `parse()`), one equation per state: the arm the state selects, with the
  translated tests `decide (k ≠ word)` written as conditions on `word`; `Gen.parseAtEof` likewise
  (`eof0`, `eof1`, `eof_instream`).
-/
import LbzVerif.Gen.Parse

namespace LbzVerif.Lemmas.ExpandParse

theorem ite_decide_ne {α : Type} (k w : Nat) (x y : α) :
    (if decide (k ≠ w) = true then x else y) = if w = k then y else x := by
  by_cases h : w = k
  · rw [if_pos h, if_neg (by simp [h])]
  · rw [if_neg h, if_pos (by simpa using Ne.symm h)]

theorem ite_decide_eq {α : Type} (k w : Nat) (x y : α) :
    (if decide (k = w) = true then x else y) = if w = k then x else y := by
  by_cases h : w = k
  · rw [if_pos h, if_pos (by simp [h])]
  · rw [if_neg h, if_neg (by simpa using Ne.symm h)]

/-- `computed_crc = (computed_crc << 1) ^ (computed_crc >> 31) ^ hd->crc` on `uint32_t`. -/
def crcUpd (cc crc : Nat) : Nat :=
  ((((cc <<< 1) % 4294967296) ^^^ (cc >>> 31)) ^^^ crc) % 4294967296

/-- `(hi << 16) | lo` on `uint32_t`, for two 16-bit words. -/
theorem shl16_or (hi lo : Nat) (hh : hi < 65536) (hl : lo < 65536) :
    ((hi <<< 16) % 4294967296 ||| lo) % 4294967296 = hi * 65536 + lo := by
  have h1 : hi <<< 16 = hi * 65536 := by rw [Nat.shiftLeft_eq]
  rw [Nat.mod_eq_of_lt (by omega : hi <<< 16 < 4294967296),
    ← Nat.shiftLeft_add_eq_or_of_lt (by omega : lo < 2 ^ 16), h1]
  omega

/-- `word & 15` for the words "h1" … "h9". -/
theorem levelWord_and15 (w : Nat) (h1 : 0x6831 ≤ w) (h2 : w ≤ 0x6839) : w &&& 15 = w - 0x6830 := by
  have : w &&& 15 = w % 16 := Nat.and_two_pow_sub_one_eq_mod w 4
  omega

-- In each proof `rw [hs]` leaves `if k = 0 then … else if k = 1 then …` with a literal `k`:
-- the tests evaluate, and the goal is, by computation, the arm of state `k`.

theorem ps0 (p : Gen.ParseSt) (wd : Nat) (hs : p.state = 0) :
    Gen.parseStep p wd = if wd = 0x425A then ({ p with state := 1 }, none)
      else ({ p with hdBs100k := 4294967295, hdCrc := 0, state := 48, garbage := 16 }, some 2) := by
  unfold Gen.parseStep
  rw [hs]
  exact ite_decide_ne 0x425A wd _ _

theorem ps1 (p : Gen.ParseSt) (wd : Nat) (hs : p.state = 1) :
    Gen.parseStep p wd = if 0x6831 ≤ wd ∧ wd ≤ 0x6839 then ({ p with bs100k := wd &&& 15, state := 2 }, none)
      else ({ p with hdBs100k := 4294967295, hdCrc := 0, state := 48, garbage := 32 }, some 2) := by
  unfold Gen.parseStep
  rw [hs]
  show (if (decide (0x6839 < wd) || decide (0x6831 > wd)) = true then _ else _) = _
  by_cases h : 0x6831 ≤ wd ∧ wd ≤ 0x6839
  · rw [if_pos h, if_neg (by simp; omega)]
  · rw [if_neg h, if_pos (by simp; omega)]

theorem ps2 (p : Gen.ParseSt) (wd : Nat) (hs : p.state = 2) :
    Gen.parseStep p wd = if wd = 0x1772 then ({ p with state := 7 }, none)
      else if wd = 0x3141 then ({ p with state := 3 }, none) else (p, some 4) := by
  unfold Gen.parseStep
  rw [hs, ← ite_decide_ne 0x3141 wd (p, some 4)]
  exact ite_decide_eq 0x1772 wd _ _

theorem ps3 (p : Gen.ParseSt) (wd : Nat) (hs : p.state = 3) :
    Gen.parseStep p wd = if wd = 0x5926 then ({ p with state := 4 }, none) else (p, some 4) := by
  unfold Gen.parseStep
  rw [hs]
  exact ite_decide_ne 0x5926 wd _ _

theorem ps4 (p : Gen.ParseSt) (wd : Nat) (hs : p.state = 4) :
    Gen.parseStep p wd = if wd = 0x5359 then ({ p with state := 5 }, none) else (p, some 4) := by
  unfold Gen.parseStep
  rw [hs]
  exact ite_decide_ne 0x5359 wd _ _

theorem ps5 (p : Gen.ParseSt) (wd : Nat) (hs : p.state = 5) :
    Gen.parseStep p wd = ({ p with storedCrc := wd % 4294967296, state := 6 }, none) := by
  unfold Gen.parseStep
  rw [hs]
  rfl

theorem ps6 (p : Gen.ParseSt) (wd : Nat) (hs : p.state = 6) :
    Gen.parseStep p wd =
      ({ p with hdCrc := (((p.storedCrc <<< 16) % 4294967296) ||| wd) % 4294967296,
                hdBs100k := p.bs100k,
                computedCrc := crcUpd p.computedCrc ((((p.storedCrc <<< 16) % 4294967296) ||| wd) % 4294967296),
                state := 2 }, some 0) := by
  unfold Gen.parseStep
  rw [hs]
  rfl

theorem ps7 (p : Gen.ParseSt) (wd : Nat) (hs : p.state = 7) :
    Gen.parseStep p wd = if wd = 0x4538 then ({ p with state := 8 }, none) else (p, some 4) := by
  unfold Gen.parseStep
  rw [hs]
  exact ite_decide_ne 0x4538 wd _ _

theorem ps8 (p : Gen.ParseSt) (wd : Nat) (hs : p.state = 8) :
    Gen.parseStep p wd = if wd = 0x5090 then ({ p with state := 9 }, none) else (p, some 4) := by
  unfold Gen.parseStep
  rw [hs]
  exact ite_decide_ne 0x5090 wd _ _

theorem ps9 (p : Gen.ParseSt) (wd : Nat) (hs : p.state = 9) :
    Gen.parseStep p wd = ({ p with storedCrc := wd % 4294967296, state := 10 }, none) := by
  unfold Gen.parseStep
  rw [hs]
  rfl

theorem ps10_any (p : Gen.ParseSt) (wd : Nat) (hs : p.state = 10) :
    Gen.parseStep p wd =
      if (((p.storedCrc <<< 16) % 4294967296) ||| wd) % 4294967296 = p.computedCrc then
        if p.streamMode = true then
          ({ p with storedCrc := (((p.storedCrc <<< 16) % 4294967296) ||| wd) % 4294967296,
                    state := 48, garbage := 0 }, some 2)
        else
          ({ p with storedCrc := (((p.storedCrc <<< 16) % 4294967296) ||| wd) % 4294967296,
                    computedCrc := 0, align := true, state := 0 }, none)
      else ({ p with storedCrc := (((p.storedCrc <<< 16) % 4294967296) ||| wd) % 4294967296 }, some 16) := by
  unfold Gen.parseStep
  rw [hs]
  show (if decide ((((p.storedCrc <<< 16) % 4294967296) ||| wd) % 4294967296 ≠ p.computedCrc) = true
    then _ else _) = _
  by_cases h : (((p.storedCrc <<< 16) % 4294967296) ||| wd) % 4294967296 = p.computedCrc
  · rw [if_pos h, if_neg (by simp [h])]
  · rw [if_neg h, if_pos (by simpa using h)]

theorem ps10 (p : Gen.ParseSt) (wd : Nat) (hs : p.state = 10) (hm : p.streamMode = false) :
    Gen.parseStep p wd =
      if (((p.storedCrc <<< 16) % 4294967296) ||| wd) % 4294967296 = p.computedCrc then
        ({ p with storedCrc := (((p.storedCrc <<< 16) % 4294967296) ||| wd) % 4294967296,
                  computedCrc := 0, align := true, state := 0 }, none)
      else ({ p with storedCrc := (((p.storedCrc <<< 16) % 4294967296) ||| wd) % 4294967296 }, some 16) := by
  rw [ps10_any p wd hs, hm, if_neg Bool.false_ne_true]

theorem eof0 (p : Gen.ParseSt) (hs : p.state = 0) :
    Gen.parseAtEof p = ({ p with state := Gen.PS_ACCEPT, garbage := 0 }, Gen.RV_FINISH) := by
  unfold Gen.parseAtEof Gen.PS_STREAM_MAGIC_1
  rw [if_pos hs]

theorem eof1 (p : Gen.ParseSt) (hs : p.state = 1) :
    Gen.parseAtEof p = ({ p with state := Gen.PS_ACCEPT, garbage := 16 }, Gen.RV_FINISH) := by
  unfold Gen.parseAtEof Gen.PS_STREAM_MAGIC_1 Gen.PS_STREAM_MAGIC_2
  rw [if_neg (by omega), if_pos hs]

theorem eof_instream (p : Gen.ParseSt) (h0 : p.state ≠ 0) (h1 : p.state ≠ 1) :
    Gen.parseAtEof p = (p, Gen.ERR_EOF) := by
  unfold Gen.parseAtEof Gen.PS_STREAM_MAGIC_1 Gen.PS_STREAM_MAGIC_2
  rw [if_neg h0, if_neg h1]

end LbzVerif.Lemmas.ExpandParse
