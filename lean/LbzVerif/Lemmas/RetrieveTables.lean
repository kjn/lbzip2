/-
  Lemmas.RetrieveTables — the "Retrieve decoding tables" part of
  `Model.Retrieve` (all `num_trees` tables: 5-bit start value, the delta loop,
  `make_tree`, up to the top of the group loop), run under `NEED` with any
  suspensions, against the reference `Spec.Delta.table` iterated on the unread
  bits.
-/
import LbzVerif.Lemmas.RetrieveDelta
import LbzVerif.Lemmas.TreeCode
import LbzVerif.Lemmas.MtfRun

namespace LbzVerif.Lemmas.RetrieveTables
open LbzVerif.Model.Retrieve LbzVerif.Lemmas.RetrieveBits LbzVerif.Lemmas.RetrieveValues
open LbzVerif.Lemmas.RetrieveSplit LbzVerif.Lemmas.RetrieveDelta
open LbzVerif.Lemmas.RetrieveEqns
open LbzVerif.Lemmas.RetrieveSim
open LbzVerif.Lemmas.Delta (LensOk)

/-- `tableStart` (5-bit start value, first window) inside a step, then the delta loop under
`NEED`, against the reference `Spec.Delta.table` on the unread bits. -/
theorem table_spec (st : St) (ws : List Nat) (hw : 11 ≤ st.w)
    (inv : BufInv st.v st.w) (ha : 1 ≤ st.alphaSize) (ht : st.t < st.numTrees) :
    Sim (fun _ => toTop) (afterStep ws (tableStart st)) (Spec.Delta.table st.alphaSize (bitsOf st ws)) Prod.snd
      (fun p s => LoopDone st s [] p.1) := by
  have hw64 := inv.wle
  obtain ⟨t5, s5, inv1⟩ := take_both st ws 5 (by omega) (by omega) inv
  -- the state in which the first window is taken
  have hts : tableStart st = deltaWindow { dumped st 5 with j := 0, clCur := peek st 5, clAcc := [] } := by
    unfold tableStart
    rw [if_pos ht, t5]
    exact if_pos (show 0 < st.alphaSize by omega)
  have hdl := delta_window_loop { dumped st 5 with j := 0, clCur := peek st 5, clAcc := [] } ws
    (by show 6 ≤ st.w - 5; omega) inv1 (by show 0 < st.alphaSize; omega)
  unfold LoopSim at hdl
  unfold Spec.Delta.table
  rw [← takeNat_takeNum, s5, hts]
  dsimp only
  cases hr : Spec.Delta.inRange (peek st 5) with
  | false =>
    obtain ⟨m, hm⟩ : ∃ m, st.alphaSize - 0 = m + 1 := ⟨st.alphaSize - 1, by omega⟩
    rw [show Spec.Delta.syms (st.alphaSize - 0) = Spec.Delta.syms (m + 1) by rw [hm],
      Lemmas.Delta.syms_not_inRange m _ _ hr] at hdl
    exact hdl
  | true =>
    rw [if_pos rfl]
    exact hdl.mono fun p s hd => hd.from (sameRest_update st _ _ _ _ _ _) rfl

open LbzVerif.Model in
/-- The reference for `n` tables in a row. -/
def specTables (alpha : Nat) : Nat → List Bool → Option (List (List Nat) × List Bool)
  | 0, b => some ([], b)
  | n + 1, b =>
    match Spec.Delta.table alpha b with
    | none => none
    | some (l, b') =>
      match specTables alpha n b' with
      | none => none
      | some (ls, b'') => some (l :: ls, b'')

/-- `make_tree` for the tables `tabs`, starting with table number `t`. -/
def applyTables : Nat → List Nat → List (Option Model.Canon.Tree) → List (List Nat) →
    Nat × List Nat × List (Option Model.Canon.Tree)
  | t, mtf, trees, [] => (t, mtf, trees)
  | t, mtf, trees, l :: ls =>
    applyTables (t + 1) (mtf.set t (treeCode t l)) (trees.set t (Model.Canon.makeTree l).2) ls

theorem finishTable_eq (c : St) (l : List Nat) (h : c.clAcc = l.reverse) :
    finishTable c = { c with mtf := c.mtf.set c.t (treeCode c.t l),
                             trees := c.trees.set c.t (Model.Canon.makeTree l).2, t := c.t + 1 } := by
  unfold finishTable treeCode
  rw [h, List.reverse_reverse]
  rfl

/-- The state at the top of the group loop, in terms of the state `c` at the
end of the first table's delta loop and the tables read (live fields only). -/
structure TopOk (c s : St) (tabs : List (List Nat)) : Prop where
  pc : s.pc = .prefix
  j : s.j = 0
  g : s.g = 0
  numSel : s.numSel = min c.numSel Gen.selectorBound
  tt : (s.t, s.mtf, s.trees) = applyTables c.t c.mtf c.trees tabs
  run : ∃ rs, Model.MtfDec.initRun (Model.MtfDec.slideOf c.cmap) = some rs ∧
    s.run = { rs with n := c.run.n, out := c.run.out }
  rand : s.rand = c.rand
  bwtIdx : s.bwtIdx = c.bwtIdx
  alphaSize : s.alphaSize = c.alphaSize
  numTrees : s.numTrees = c.numTrees
  selector : s.selector = c.selector
  cmap : s.cmap = c.cmap

theorem specTables_succ (a k : Nat) (B : List Bool) :
    specTables a (k + 1) B =
      (Spec.Delta.table a B).bind fun p => (specTables a k p.2).map fun q => (p.1 :: q.1, q.2) := by
  rw [specTables]
  cases Spec.Delta.table a B with
  | none => rfl
  | some p =>
    obtain ⟨l, b⟩ := p
    dsimp only [Option.bind_some]
    cases specTables a k b <;> rfl

theorem specTables_some (alpha : Nat) : ∀ {n : Nat} {b : List Bool} {p : List (List Nat) × List Bool},
    specTables alpha n b = some p →
    p.1.length = n ∧ (∀ l ∈ p.1, LensOk alpha l) ∧ p.2.length ≤ b.length := by
  intro n
  induction n with
  | zero =>
    intro b p h
    cases h
    exact ⟨rfl, nofun, Nat.le_refl _⟩
  | succ n ih =>
    intro b p h
    rw [specTables_succ] at h
    obtain ⟨p1, ht, h⟩ := Option.bind_eq_some_iff.1 h
    obtain ⟨q, hs, rfl⟩ := Option.map_eq_some_iff.1 h
    obtain ⟨i1, i2, i3⟩ := ih hs
    obtain ⟨t1, t3⟩ := Lemmas.Delta.table_some ht
    exact ⟨congrArg (· + 1) i1, List.forall_mem_cons.2 ⟨t1, i2⟩, Nat.le_trans i3 t3⟩

theorem groupsInit_top (st : St) :
    ∃ rs, Model.MtfDec.initRun (Model.MtfDec.slideOf st.cmap) = some rs ∧
      groupsInit st = .top { st with run := { rs with n := st.run.n, out := st.run.out },
                                     numSel := min st.numSel Gen.selectorBound, g := 0, j := 0, pc := .prefix } := by
  obtain ⟨hn, _⟩ | h := groupsInit_cases st
  · rw [Lemmas.MtfRun.initRun_spec _ (Lemmas.MtfOne.inv_slideOf st.cmap)] at hn
    cases hn
  · exact h

/-- `TopOk` reads of `c` only what `SameRest` keeps. -/
theorem TopOk.from {c c1 s : St} {tabs : List (List Nat)} (h : TopOk c1 s tabs) (hr : SameRest c c1) :
    TopOk c s tabs := by
  refine ⟨h.pc, h.j, h.g, ?_, ?_, ?_, h.rand.trans hr.rand, h.bwtIdx.trans hr.bwtIdx,
    h.alphaSize.trans hr.alphaSize, h.numTrees.trans hr.numTrees, h.selector.trans hr.selector,
    h.cmap.trans hr.cmap⟩
  · rw [h.numSel, hr.numSel]
  · rw [h.tt, hr.t, hr.mtf, hr.trees]
  · obtain ⟨rs, h1, h2⟩ := h.run
    rw [hr.cmap] at h1
    rw [hr.run] at h2
    exact ⟨rs, h1, h2⟩

/-- The group loop entered from `c1` after `make_tree` for its (last) table `l0`. -/
theorem TopOk.last {c c1 : St} {l0 : List Nat} {rs : Model.MtfDec.RunSt} (hc : SameRest c c1)
    (hacc : c1.clAcc = l0.reverse)
    (hrs : Model.MtfDec.initRun (Model.MtfDec.slideOf (finishTable c1).cmap) = some rs) :
    TopOk c { finishTable c1 with
      run := { rs with n := (finishTable c1).run.n, out := (finishTable c1).run.out },
      numSel := min (finishTable c1).numSel Gen.selectorBound, g := 0, j := 0, pc := .prefix } [l0] := by
  rw [finishTable_eq c1 l0 hacc] at hrs ⊢
  refine TopOk.from (c1 := c1) ?_ hc
  exact ⟨rfl, rfl, rfl, rfl, rfl, ⟨rs, hrs, rfl⟩, rfl, rfl, rfl, rfl, rfl, rfl⟩

/-- One more table `l0` (that of `c1`, `make_tree` pending) in front of those read from `s` on. -/
theorem TopOk.step {c c1 s s' : St} {l0 : List Nat} {tabs : List (List Nat)} (h : TopOk s s' tabs)
    (hr : SameRest (finishTable c1) s) (hacc : c1.clAcc = l0.reverse) (hc : SameRest c c1) :
    TopOk c s' (l0 :: tabs) := by
  have h1 := h.from hr
  rw [finishTable_eq c1 l0 hacc] at h1
  exact (show TopOk c1 s' (l0 :: tabs) from
    ⟨h1.pc, h1.j, h1.g, h1.numSel, h1.tt, h1.run, h1.rand, h1.bwtIdx, h1.alphaSize, h1.numTrees,
      h1.selector, h1.cmap⟩).from hc

/-- From the end of a table's delta loop (`make_tree` pending) with `k` more tables to come: the
machine reaches the top of the group loop iff the reference reads `k` tables from the unread
bits, with `make_tree` applied to exactly the reference's length lists. -/
theorem tables_spec : ∀ (k : Nat) (c : St) (ws : List Nat) (lens0 : List Nat),
    c.pc = .deltaTag → c.j = c.alphaSize → c.clAcc = lens0.reverse → BufInv c.v c.w →
    1 ≤ c.alphaSize → c.t + 1 + k = c.numTrees →
    Sim (fun _ => Out.top) (toTop c ws) (specTables c.alphaSize k (bitsOf c ws)) Prod.snd
      (fun p s => TopOk c s (lens0 :: p.1)) := by
  intro k
  induction k with
  | zero =>
    intro c ws lens0 hpc hj hacc inv ha ht
    refine Sim.need (by rw [hpc]; decide) inv (fun p hp => (specTables_some _ hp).2.2)
      fun v1 w1 ws1 hw1 inv1 hb1 _ => ?_
    have hc := sameRest_update c c.pc v1 w1 c.j c.clCur c.clAcc
    have hft := finishTable_eq { c with v := v1, w := w1 } lens0 hacc
    rw [step_deltaTag { c with v := v1, w := w1 } hpc]
    unfold stepDeltaTag
    rw [if_neg (show ¬ c.j < c.alphaSize by omega)]
    unfold tableStart
    rw [if_neg (by rw [hft]; show ¬ c.t + 1 < c.numTrees; omega)]
    obtain ⟨rs, hrs, hgi⟩ := groupsInit_top (finishTable { c with v := v1, w := w1 })
    rw [hgi]
    exact Sim.done _ ws1 rfl (TopOk.last hc hacc hrs) hb1 inv1
  | succ k ih =>
    intro c ws lens0 hpc hj hacc inv ha ht
    refine Sim.need (by rw [hpc]; decide) inv (fun p hp => (specTables_some _ hp).2.2)
      fun v1 w1 ws1 hw1 inv1 hb1 _ => ?_
    have hc := sameRest_update c c.pc v1 w1 c.j c.clCur c.clAcc
    have hft := finishTable_eq { c with v := v1, w := w1 } lens0 hacc
    rw [step_deltaTag { c with v := v1, w := w1 } hpc]
    unfold stepDeltaTag
    rw [if_neg (show ¬ c.j < c.alphaSize by omega), specTables_succ, ← hb1]
    refine Sim.bind (table_spec (finishTable { c with v := v1, w := w1 }) ws1 (by show 11 ≤ w1; omega)
        inv1 ha (by rw [hft]; show c.t + 1 < c.numTrees; omega))
      (fun p q hq => ?_) fun p s ws' hd hb inv' => ?_
    · obtain ⟨q', hs, rfl⟩ := Option.map_eq_some_iff.1 hq
      exact (specTables_some _ hs).2.2
    · have hal : s.alphaSize = c.alphaSize := hd.rest.alphaSize
      have hIH := ih s ws' p.1 hd.pc (hd.j.trans hal.symm) (hd.acc.trans (List.append_nil _)) inv' (by rw [hal]; exact ha)
        (by rw [hd.rest.t, hd.rest.numTrees, hft]; show c.t + 1 + 1 + k = c.numTrees; omega)
      rw [hal, hb] at hIH
      exact Sim.map (hIH.mono fun q s' htk => htk.step hd.rest hacc hc)

end LbzVerif.Lemmas.RetrieveTables
