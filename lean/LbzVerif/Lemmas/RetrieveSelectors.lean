/-
  Lemmas.RetrieveSelectors — the selector loop of `Model.Retrieve` (one unary
  code per step, `NEED(S_SELECTOR_MTF)` in between) followed by all the tables,
  against the references `Spec.Bzip2.readUnary` / `Spec.Delta.table` on the
  unread bits.
-/
import LbzVerif.Lemmas.RetrieveTables

namespace LbzVerif.Lemmas.RetrieveSelectors
open LbzVerif.Model.Retrieve LbzVerif.Lemmas.RetrieveBits LbzVerif.Lemmas.RetrieveValues
open LbzVerif.Lemmas.RetrieveDelta
open LbzVerif.Lemmas.RetrieveTables
open LbzVerif.Lemmas.RetrieveEqns
open LbzVerif.Lemmas.Delta (LensOk)
open LbzVerif.Spec.Bzip2 (readUnary)
open LbzVerif.Lemmas.RetrieveSim

/-- The reference for `k` more selectors (MTF indices) and then all `ng`
tables. -/
def specSelTables (ng alpha : Nat) : Nat → List Bool → Option (List Nat × List (List Nat) × List Bool)
  | 0, B =>
    match specTables alpha ng B with
    | none => none
    | some (tabs, B') => some ([], tabs, B')
  | k + 1, B =>
    match readUnary ng 0 B with
    | .error _ => none
    | .ok (i, B1) =>
      match specSelTables ng alpha k B1 with
      | none => none
      | some (is, tabs, B') => some (i :: is, tabs, B')

/-- The state at the top of the group loop in terms of a state `c` inside the
selector loop, the further selector indices `is` and the tables `tabs`, which start at `t = 0`. -/
def SelTopOk (c s : St) (is : List Nat) (tabs : List (List Nat)) : Prop :=
  TopOk { c with t := 0, selector := is.foldl Array.push c.selector } s tabs

theorem specSelTables_zero (ng a : Nat) (B : List Bool) :
    specSelTables ng a 0 B = (specTables a ng B).map fun p => ([], p.1, p.2) := by
  rw [specSelTables]
  cases specTables a ng B <;> rfl

theorem specSelTables_error (ng a k : Nat) {B : List Bool} {e : Spec.Bzip2.Reject}
    (h : readUnary ng 0 B = .error e) : specSelTables ng a (k + 1) B = none := by
  rw [specSelTables, h]

theorem specSelTables_ok (ng a k : Nat) {B B1 : List Bool} {i : Nat} (h : readUnary ng 0 B = .ok (i, B1)) :
    specSelTables ng a (k + 1) B =
      (specSelTables ng a k B1).map fun q => (i :: q.1, q.2.1, q.2.2) := by
  rw [specSelTables, h]
  dsimp only
  cases specSelTables ng a k B1 <;> rfl

theorem specSelTables_some (ng alpha : Nat) : ∀ {k : Nat} {B : List Bool}
    {p : List Nat × List (List Nat) × List Bool}, specSelTables ng alpha k B = some p →
    p.1.length = k ∧ (0 < ng → ∀ j ∈ p.1, j < ng) ∧ p.2.1.length = ng ∧ (∀ l ∈ p.2.1, LensOk alpha l) ∧
      p.2.2.length ≤ B.length := by
  intro k
  induction k with
  | zero =>
    intro B p h
    rw [specSelTables_zero] at h
    obtain ⟨q, hs, rfl⟩ := Option.map_eq_some_iff.1 h
    obtain ⟨i1, i2, i3⟩ := specTables_some alpha hs
    exact ⟨rfl, fun _ => nofun, i1, i2, i3⟩
  | succ k ih =>
    intro B p h
    cases hu : readUnary ng 0 B with
    | error e => rw [specSelTables_error ng alpha k hu] at h; cases h
    | ok r =>
      obtain ⟨i, B1⟩ := r
      rw [specSelTables_ok ng alpha k hu] at h
      obtain ⟨q, hs, rfl⟩ := Option.map_eq_some_iff.1 h
      obtain ⟨a, b, c, d, e⟩ := ih hs
      exact ⟨congrArg (· + 1) a,
        fun hng => List.forall_mem_cons.2 ⟨Spec.Bzip2.readUnary_lt hng hu, b hng⟩, c, d,
        Nat.le_trans e (Spec.Bzip2.readUnary_reads.2 _ _ hu).2.2.length_le⟩

theorem SelTopOk.from {c c1 s : St} {is : List Nat} {tabs : List (List Nat)} (h : SelTopOk c1 s is tabs)
    (hr : SameRest c c1) : SelTopOk c s is tabs :=
  TopOk.from h ⟨hr.rand, hr.bwtIdx, hr.big, hr.small, hr.alphaSize, rfl, hr.g, hr.numTrees, hr.numSel,
    congrArg (is.foldl Array.push) hr.selector, hr.mtf, hr.trees, hr.cmap, hr.run⟩

def SelSim (o : Out) (k : Nat) (c : St) (ws : List Nat) : Prop :=
  Sim (fun _ => Out.top) o (specSelTables c.numTrees c.alphaSize k (bitsOf c ws)) (fun p => p.2.2)
    (fun p s => SelTopOk c s p.1 p.2.1)

/-- One pass of the selector loop inside a step, given the rest from the next
`NEED(S_SELECTOR_MTF)`. -/
theorem selLoop_spec (k : Nat) (c : St) (ws : List Nat) (hj : c.j + 1 + k = c.numSel)
    (h6 : 6 ≤ c.w) (inv : BufInv c.v c.w) (hn1 : 1 ≤ c.numTrees) (hn6 : c.numTrees ≤ 6)
    (K : ∀ s : St, s.pc = .selectorMtf → s.j = c.j → SameRest { c with selector := s.selector } s →
      BufInv s.v s.w → SelSim (toTop s ws) k s ws) :
    SelSim (afterStep ws (selLoop c)) (k + 1) c ws := by
  unfold SelSim
  have hsv := selector_value c ws h6 inv (by omega) hn1 hn6
  cases hru : readUnary c.numTrees 0 (bitsOf c ws) with
  | error e =>
    rw [hru] at hsv
    rw [specSelTables_error _ _ _ hru, hsv.2]
    exact Sim.reject _ _ _ rfl
  | ok p =>
    obtain ⟨i, B1⟩ := p
    rw [hru] at hsv
    obtain ⟨st', hsl, inv', hb', hsel, hj', _, _, hpc', _, heq'⟩ := hsv
    have hr : SameRest { c with selector := c.selector.push i } st' := by
      rw [heq']
      exact sameRest_update { c with selector := c.selector.push i } _ _ _ _ _ _
    rw [specSelTables_ok _ _ _ hru, hsl]
    have hK := K st' hpc' hj' (by rw [hsel]; exact hr) inv'
    unfold SelSim at hK
    rw [hr.numTrees, hr.alphaSize, hb'] at hK
    exact Sim.map (hK.mono fun q s htk => htk.from hr)

/-- From `NEED(S_SELECTOR_MTF)` with `k` selectors still to read: the machine arrives at the top
of the group loop iff the reference reads `k` unary codes below `num_trees` and then
`num_trees` tables from the unread bits; otherwise ERR_SELECTOR / ERR_DELTA / out of words. -/
theorem selectors_spec : ∀ (k : Nat) (c : St) (ws : List Nat),
    c.pc = .selectorMtf → c.j + 1 + k = c.numSel → BufInv c.v c.w →
    1 ≤ c.numTrees → c.numTrees ≤ 6 → 1 ≤ c.alphaSize →
    SelSim (toTop c ws) k c ws := by
  intro k
  induction k with
  | zero =>
    intro c ws hpc hjk inv hn1 hn6 ha
    unfold SelSim
    refine Sim.need (by rw [hpc]; decide) inv (fun p hp => (specSelTables_some _ _ hp).2.2.2.2)
      fun v1 w1 ws1 hw1 inv1 hb1 _ => ?_
    rw [step_selectorMtf { c with v := v1, w := w1 } hpc]
    unfold stepSelectorMtf selLoop
    rw [if_neg (by show ¬ c.j + 1 < c.numSel; omega)]
    obtain ⟨k', hk'⟩ : ∃ k', c.numTrees = k' + 1 := ⟨c.numTrees - 1, by omega⟩
    rw [specSelTables_zero, show specTables c.alphaSize c.numTrees = specTables c.alphaSize (k' + 1) by rw [hk'],
      specTables_succ, ← hb1]
    refine Sim.map (Sim.bind (table_spec { c with v := v1, w := w1, j := c.j + 1, t := 0 } ws1
        (by show 11 ≤ w1; omega) inv1 ha (by show 0 < c.numTrees; omega))
      (fun p q hq => ?_) fun p st' ws' hd hb inv' => ?_)
    · obtain ⟨q', hs, rfl⟩ := Option.map_eq_some_iff.1 hq
      exact (specTables_some _ hs).2.2
    · have hal : st'.alphaSize = c.alphaSize := hd.rest.alphaSize
      have hIH := tables_spec k' st' ws' p.1 hd.pc (hd.j.trans hal.symm) (hd.acc.trans (List.append_nil _)) inv' (by rw [hal]; exact ha)
        (by rw [hd.rest.t, hd.rest.numTrees]; show 0 + 1 + k' = c.numTrees; omega)
      rw [hal, hb] at hIH
      exact Sim.map (hIH.mono fun q s htk =>
        htk.from (sameRest_trans (sameRest_update { c with t := 0 } _ _ _ _ _ _) hd.rest))
  | succ k ih =>
    intro c ws hpc hjk inv hn1 hn6 ha
    refine Sim.need (by rw [hpc]; decide) inv (fun p hp => (specSelTables_some _ _ hp).2.2.2.2)
      fun v1 w1 ws1 hw1 inv1 hb1 _ => ?_
    rw [step_selectorMtf { c with v := v1, w := w1 } hpc, ← hb1]
    exact (selLoop_spec k { c with v := v1, w := w1, j := c.j + 1 } ws1 (by show c.j + 1 + 1 + k = c.numSel; omega)
      (by show 6 ≤ w1; omega) inv1 hn1 hn6 fun s hpc' hj' hr inv' =>
        ih s ws1 hpc' (by rw [hj', hr.numSel]; show c.j + 1 + 1 + k = c.numSel; omega) inv' (by rw [hr.numTrees]; exact hn1)
          (by rw [hr.numTrees]; exact hn6) (by rw [hr.alphaSize]; exact ha)).mono
      fun q s h => h.from (sameRest_update c _ _ _ _ _ _)

end LbzVerif.Lemmas.RetrieveSelectors
