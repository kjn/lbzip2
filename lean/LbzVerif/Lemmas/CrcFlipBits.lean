/-
  LbzVerif.Lemmas.CrcFlipBits — flipping one bit of a bit list / byte string, and what a
  single flipped bit does to a fixed-width field read with `takeNat`.
-/
import LbzVerif.Lemmas.BitsBasic

namespace LbzVerif.Lemmas.CrcFlipBits
open LbzVerif.Basic

/-- flip the bit at index `i` of a bit list; identity if `i` is out of range -/
def flipAt : List Bool → Nat → List Bool
  | [], _ => []
  | b :: l, 0 => (!b) :: l
  | b :: l, i + 1 => b :: flipAt l i

/-- flip bit `pos` of a byte string (bit 0 = most significant bit of the first byte, the order of
    `bytesToBits`); identity if out of range -/
def flipBit : List UInt8 → Nat → List UInt8
  | [], _ => []
  | b :: l, p => if p < 8 then (b ^^^ UInt8.ofNat (2 ^ (7 - p))) :: l else b :: flipBit l (p - 8)

theorem flipAt_length (l : List Bool) (i : Nat) : (flipAt l i).length = l.length := by
  induction l generalizing i with
  | nil => rfl
  | cons b l ih =>
    cases i with
    | zero => rfl
    | succ i => simp only [flipAt, List.length_cons, ih]

theorem flipBit_length (x : List UInt8) (p : Nat) : (flipBit x p).length = x.length := by
  induction x generalizing p with
  | nil => rfl
  | cons b l ih =>
    simp only [flipBit]
    split
    · rfl
    · simp only [List.length_cons, ih]

theorem flipAt_of_le (l : List Bool) (i : Nat) (h : l.length ≤ i) : flipAt l i = l := by
  induction l generalizing i with
  | nil => rfl
  | cons b l ih =>
    cases i with
    | zero => simp at h
    | succ i =>
      simp only [flipAt]
      rw [ih i (by simpa using h)]

theorem flipAt_ne (l : List Bool) (i : Nat) (h : i < l.length) : flipAt l i ≠ l := by
  induction l generalizing i with
  | nil => simp at h
  | cons b l ih =>
    cases i with
    | zero =>
      simp only [flipAt]
      intro e
      cases b <;> simp at e
    | succ i =>
      simp only [flipAt]
      intro e
      exact ih i (by simpa using h) (List.cons.inj e).2

theorem flipAt_flipAt (l : List Bool) (i : Nat) : flipAt (flipAt l i) i = l := by
  induction l generalizing i with
  | nil => rfl
  | cons b l ih =>
    cases i with
    | zero => simp only [flipAt, Bool.not_not]
    | succ i => simp only [flipAt, ih]

theorem flipAt_append_right (C R : List Bool) (j : Nat) :
    flipAt (C ++ R) (C.length + j) = C ++ flipAt R j := by
  induction C with
  | nil => simp
  | cons c C ih =>
    have : (c :: C).length + j = (C.length + j) + 1 := by simp only [List.length_cons]; omega
    rw [this]
    simp only [List.cons_append, flipAt, ih]

theorem flipAt_append_left (C R : List Bool) (i : Nat) (h : i < C.length) :
    flipAt (C ++ R) i = flipAt C i ++ R := by
  induction C generalizing i with
  | nil => simp at h
  | cons c C ih =>
    cases i with
    | zero => simp only [List.cons_append, flipAt]
    | succ i =>
      simp only [List.cons_append, flipAt]
      rw [ih i (by simpa using h)]

theorem flipAt_drop (l : List Bool) (n j : Nat) :
    (flipAt l (n + j)).drop n = flipAt (l.drop n) j := by
  induction n generalizing l with
  | zero => simp
  | succ n ih =>
    cases l with
    | nil => simp [flipAt]
    | cons b l =>
      have : n + 1 + j = (n + j) + 1 := by omega
      rw [this]
      simp only [flipAt, List.drop_succ_cons]
      exact ih l

theorem flipAt_take (l : List Bool) (n j : Nat) : (flipAt l (n + j)).take n = l.take n := by
  induction n generalizing l with
  | zero => simp
  | succ n ih =>
    cases l with
    | nil => simp [flipAt]
    | cons b l =>
      have : n + 1 + j = (n + j) + 1 := by omega
      rw [this]
      simp only [flipAt, List.take_succ_cons]
      rw [ih l]

theorem byteToBits_flip (b : UInt8) (p : Nat) (hp : p < 8) :
    byteToBits (b ^^^ UInt8.ofNat (2 ^ (7 - p))) = flipAt (byteToBits b) p := by
  have e : (b ^^^ UInt8.ofNat (2 ^ (7 - p))).toNat = b.toNat ^^^ (2 ^ (7 - p)) := by
    rw [UInt8.toNat_xor, UInt8.toNat_ofNat']
    congr 1
    apply Nat.mod_eq_of_lt
    have : 2 ^ (7 - p) ≤ 2 ^ 7 := Nat.pow_le_pow_right (by omega) (by omega)
    omega
  unfold byteToBits
  -- bit `i` of `n ^^^ 2 ^ k` is bit `i` of `n`, negated iff `i = k`
  simp only [e, Nat.testBit_xor, Nat.testBit_two_pow]
  have hcases : p = 0 ∨ p = 1 ∨ p = 2 ∨ p = 3 ∨ p = 4 ∨ p = 5 ∨ p = 6 ∨ p = 7 := by omega
  rcases hcases with rfl | rfl | rfl | rfl | rfl | rfl | rfl | rfl <;> simp [flipAt]

theorem bytesToBits_flipBit (x : List UInt8) (p : Nat) :
    bytesToBits (flipBit x p) = flipAt (bytesToBits x) p := by
  induction x generalizing p with
  | nil => simp only [flipBit, bytesToBits_nil, flipAt]
  | cons b l ih =>
    simp only [flipBit]
    split
    · rename_i hp
      rw [bytesToBits_cons, bytesToBits_cons, byteToBits_flip b p hp,
        flipAt_append_left _ _ _ (by rw [byteToBits_length]; exact hp)]
    · rename_i hp
      rw [bytesToBits_cons, bytesToBits_cons, ih]
      have : p = (byteToBits b).length + (p - 8) := by rw [byteToBits_length]; omega
      conv => rhs; rw [this]
      rw [flipAt_append_right]

theorem flipBit_flipBit (x : List UInt8) (p : Nat) : flipBit (flipBit x p) p = x := by
  apply bytesToBits_injective
  rw [bytesToBits_flipBit, bytesToBits_flipBit, flipAt_flipAt]

theorem takeNat_flip (n : Nat) (bits : Bits) (v : Nat) (rest : Bits)
    (h : takeNat n bits = some (v, rest)) (k : Nat) (hk : k < n) :
    ∃ v', takeNat n (flipAt bits k) = some (v', rest) ∧ v' ≠ v := by
  obtain ⟨C, rfl, rfl, rfl⟩ := takeNat_some_iff.mp h
  refine ⟨bitsToNat (flipAt C k), ?_,
    fun e => flipAt_ne C k hk (bitsToNat_inj _ _ (flipAt_length C k) e)⟩
  rw [flipAt_append_left C rest k hk]
  exact takeNat_some_iff.mpr ⟨_, flipAt_length C k, rfl, rfl⟩

theorem takeNat_flip_after (n : Nat) (bits : Bits) (v : Nat) (rest : Bits)
    (h : takeNat n bits = some (v, rest)) (j : Nat) :
    takeNat n (flipAt bits (n + j)) = some (v, flipAt rest j) := by
  obtain ⟨C, rfl, rfl, rfl⟩ := takeNat_some_iff.mp h
  rw [flipAt_append_right]
  exact takeNat_append C _

end LbzVerif.Lemmas.CrcFlipBits
