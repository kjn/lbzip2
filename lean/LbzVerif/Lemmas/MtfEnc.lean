/-
  Lemmas.MtfEnc — the model of encode.c `do_mtf` (front symbol `u` + array
  `order`, RUN() macro) computes the reference MTF / zero-run encoding.
  `make_map_e` here and the bitmap loop of `retrieve()` (Lemmas/MtfInit) are both proved against
  `sel`: a strictly ascending byte list is the selection of its own 256-bit bitmap (`sorted_eq_sel`).
-/
import LbzVerif.Spec.Mtf
import LbzVerif.Model.MtfEnc
import LbzVerif.Lemmas.MtfSpec
import LbzVerif.Lemmas.ListAux

namespace LbzVerif.Lemmas.MtfEnc
open LbzVerif.Spec.Mtf LbzVerif.Model.MtfEnc LbzVerif.Lemmas.MtfSpec

theorem runEmit_eq_runDigits (k : Nat) : runEmit k = runDigits k := by
  induction k using Nat.strongRecOn with
  | _ k ih =>
    by_cases h0 : k = 0
    · subst h0; rw [runEmit, runDigits_zero]; simp
    · obtain ⟨d, q, hd, rfl, e⟩ := runDigits_pos k h0
      rw [runEmit, if_neg h0, e, Nat.and_one_is_mod, Nat.shiftRight_eq_div_pow, Nat.pow_one,
        show (2 * q + d + 1 - 1) % 2 = d by omega, show (2 * q + d + 1 - 1) / 2 = q by omega,
        ih q (by omega)]

theorem mtfLoop_spec (c : UInt8) : ∀ (B A : List UInt8) (x : UInt8), A ≠ [] → c ∈ x :: B →
    mtfLoop c (A ++ B) (A.length - 1) x =
      some (A ++ (x :: B).eraseIdx ((x :: B).idxOf c), A.length - 1 + (x :: B).idxOf c) := by
  intro B
  induction B with
  | nil =>
    intro A x _ hc
    have : c = x := by simpa using hc
    subst this
    rw [mtfLoop]; simp
  | cons y B ih =>
    intro A x hA hc
    by_cases hcx : c = x
    · subst hcx
      rw [mtfLoop]; simp
    · have hcB : c ∈ y :: B := List.mem_of_ne_of_mem hcx hc
      have hlen : 0 < A.length := List.length_pos_iff.mpr hA
      rw [mtfLoop]
      have hlt : A.length - 1 + 1 < (A ++ y :: B).length := by
        simp only [List.length_append, List.length_cons]; omega
      have hidx : A.length - 1 + 1 = A.length := by omega
      simp only [hcx, if_false, hlt, dite_true]
      have hget : (A ++ y :: B)[A.length - 1 + 1]'hlt = y := by
        simp only [hidx]
        rw [List.getElem_append_right (Nat.le_refl _)]
        simp
      have hset : (A ++ y :: B).set (A.length - 1 + 1) x = (A ++ [x]) ++ B := by
        rw [hidx, List.set_append_right _ _ (Nat.le_refl _)]
        simp
      rw [hget, hset]
      have := ih (A ++ [x]) y (by simp) hcB
      simp only [List.length_append, List.length_cons, List.length_nil] at this
      have e : A.length + (0 + 1) - 1 = A.length - 1 + 1 := by omega
      rw [e] at this
      rw [this]
      rw [idxOf_cons_ne _ (Ne.symm hcx), List.eraseIdx_cons_succ]
      simp only [List.append_assoc, List.cons_append, List.nil_append, Option.some.injEq,
        Prod.mk.injEq, true_and]
      omega

theorem mtfMacro_spec (c u : UInt8) (order : List UInt8) (hcu : c ≠ u) (hc : c ∈ order) :
    mtfMacro c u order =
      some ((u :: order).idxOf c + 1, ((u :: order).eraseIdx ((u :: order).idxOf c))) := by
  obtain ⟨t, B, rfl⟩ := List.exists_cons_of_ne_nil (List.ne_nil_of_mem hc)
  unfold mtfMacro
  simp only [List.getElem?_cons_zero, List.set_cons_zero]
  have := mtfLoop_spec c B [u] t (by simp) hc
  simp only [List.length_cons, List.length_nil, Nat.zero_add, Nat.sub_self,
    List.cons_append, List.nil_append] at this
  rw [this]
  rw [idxOf_cons_ne _ (Ne.symm hcu), List.eraseIdx_cons_succ]

/-- `cmap[b]` of `do_mtf`: the rank `make_map_e` gave byte `b` (0 outside the array) -/
def cmOf (cmap : List UInt8) (b : UInt8) : UInt8 := cmap.getD b.toNat 0

/-- The C list `u :: order` is the image of the reference list `l` followed by other values,
    and holds every value once. -/
structure Rel (cm : UInt8 → UInt8) (l : List UInt8) (cl rest : List UInt8) : Prop where
  eq : cl = l.map cm ++ rest
  nodup : cl.Nodup

theorem Rel.idxOf {cm : UInt8 → UInt8} {l cl rest : List UInt8} (h : Rel cm l cl rest)
    {x : UInt8} (hx : x ∈ l) : cl.idxOf (cm x) = l.idxOf x := by
  obtain ⟨rfl, hnd⟩ := h
  have hp : l.idxOf x < l.length := List.idxOf_lt_length_of_mem hx
  have := hnd.idxOf_getElem (l.idxOf x) (by rw [List.length_append, List.length_map]; omega)
  rwa [List.getElem_append_left (by simpa using hp), List.getElem_map, List.getElem_idxOf hp] at this

theorem Rel.step {cm : UInt8 → UInt8} {l cl rest : List UInt8} (h : Rel cm l cl rest)
    (x : UInt8) (hx : x ∈ l) :
    Rel cm (moveToFront l (l.idxOf x)) (cm x :: cl.eraseIdx (cl.idxOf (cm x))) rest := by
  have hp : l.idxOf x < l.length := List.idxOf_lt_length_of_mem hx
  have hget : l[l.idxOf x]? = some x := by
    rw [List.getElem?_eq_getElem hp, List.getElem_idxOf hp]
  have hmem : cm x ∈ cl := by
    rw [h.eq]; exact List.mem_append_left _ (List.mem_map_of_mem hx)
  refine ⟨?_, ?_⟩
  · rw [h.idxOf hx, h.eq, List.eraseIdx_append_of_lt_length (by simpa using hp)]
    simp [moveToFront, hget, ListAux.map_eraseIdx]
  · rw [← List.erase_eq_eraseIdx_of_idxOf rfl]
    exact (List.perm_cons_erase hmem).nodup_iff.mp h.nodup

theorem loop_spec (cmap : List UInt8) (hcm : cmap.length = 256) (eob : Nat) (rest : List UInt8)
    (block : List UInt8) :
    ∀ (l : List UInt8) (u : UInt8) (order : List UInt8) (k : Nat),
      Rel (cmOf cmap) l (u :: order) rest → (∀ x ∈ block, x ∈ l) →
      loop cmap eob u order k block = some (zrle k (mtfEncode l block) ++ [eob]) := by
  induction block with
  | nil =>
    intro l u order k _ _
    simp [loop, mtfEncode, zrle, runEmit_eq_runDigits]
  | cons x xs ih =>
    intro l u order k hrel hmem
    have hx : x ∈ l := hmem x (List.mem_cons_self ..)
    have hxs : ∀ y ∈ xs, y ∈ l := fun y hy => hmem y (List.mem_cons_of_mem _ hy)
    have hc : cmap[x.toNat]? = some (cmOf cmap x) := by
      have hlt : x.toNat < cmap.length := hcm ▸ UInt8.toNat_lt x
      simp [cmOf, List.getD_eq_getElem?_getD, List.getElem?_eq_getElem hlt]
    have hidx := hrel.idxOf hx
    rw [loop]
    simp only [hc, mtfEncode]
    by_cases hcu : cmOf cmap x = u
    · -- front symbol: the run grows
      rw [hcu, List.idxOf_cons_self] at hidx
      simp only [hcu, if_true, ← hidx, zrle]
      obtain ⟨a, t, rfl⟩ := List.exists_cons_of_ne_nil (List.ne_nil_of_mem hx)
      rw [moveToFront_zero]
      exact ih (a :: t) u order (k + 1) hrel hxs
    · have hcorder : cmOf cmap x ∈ order := by
        have : cmOf cmap x ∈ u :: order := by
          rw [hrel.eq]; exact List.mem_append_left _ (List.mem_map_of_mem hx)
        exact List.mem_of_ne_of_mem hcu this
      simp only [hcu, if_false, mtfMacro_spec _ _ _ hcu hcorder]
      rw [ih _ (cmOf cmap x) _ 0 (hrel.step x hx)
        (fun y hy => (mem_moveToFront _ _ _).mpr (hxs y hy)), ← hidx, idxOf_cons_ne _ (Ne.symm hcu)]
      simp [zrle, runEmit_eq_runDigits]

/-- the number of flags set below `v`: `j` of `make_map_e` when it reaches `i = v` -/
def cnt (f : Nat → Bool) (v : Nat) : Nat := ((List.range v).filter f).length

theorem cnt_zero (f : Nat → Bool) : cnt f 0 = 0 := rfl

theorem makeMapEGo_length : ∀ (l : List Bool) (j : Nat), (makeMapEGo l j).1.length = l.length := by
  intro l
  induction l with
  | nil => intro j; rfl
  | cons k t ih => intro j; simp [makeMapEGo, ih]

/-- `inuse[i]` for the byte set `used` (`Model.MtfEnc.inuseOf` is its list for `i < 256`) -/
def fUsed (used : List UInt8) (i : Nat) : Bool := used.contains (UInt8.ofNat i)

theorem inuseOf_eq (used : List UInt8) : inuseOf used = (List.range' 0 256).map (fUsed used) := by
  simp [inuseOf, fUsed, List.range_eq_range']

theorem makeMapE_length (used : List UInt8) : (makeMapE (inuseOf used)).1.length = 256 := by
  rw [makeMapE, makeMapEGo_length]; simp [inuseOf]

def rank (used : List UInt8) (v : Nat) : Nat := (used.filter (fun x => x.toNat < v)).length

theorem rank_le (used : List UInt8) (v : Nat) : rank used v ≤ used.length := by
  unfold rank; exact List.length_filter_le _ _

/-- the bytes `s … s+len-1` selected by the bitmap `f`, ascending -/
def sel (f : Nat → Bool) (s len : Nat) : List UInt8 :=
  (List.range' s len).filterMap fun v => if f v then some (UInt8.ofNat v) else none

theorem sel_succ (f : Nat → Bool) (s len : Nat) :
    sel f s (len + 1) = (if f s then [UInt8.ofNat s] else []) ++ sel f (s + 1) len := by
  by_cases hf : f s <;> simp [sel, List.range'_succ, hf]

theorem mem_sel {f : Nat → Bool} {s len : Nat} (h : s + len ≤ 256) {x : UInt8} :
    x ∈ sel f s len ↔ s ≤ x.toNat ∧ x.toNat < s + len ∧ f x.toNat = true := by
  unfold sel
  rw [List.mem_filterMap]
  constructor
  · rintro ⟨v, hv, hx⟩
    obtain ⟨h1, h2⟩ := List.mem_range'_1.mp hv
    split at hx
    · rename_i hf
      cases hx
      rw [UInt8.toNat_ofNat', Nat.mod_eq_of_lt (by omega)]
      exact ⟨h1, h2, hf⟩
    · cases hx
  · rintro ⟨h1, h2, hf⟩
    exact ⟨x.toNat, List.mem_range'_1.mpr ⟨h1, h2⟩, by simp [hf]⟩

theorem sel_sorted (f : Nat → Bool) {s len : Nat} (h : s + len ≤ 256) :
    (sel f s len).Pairwise (· < ·) := by
  unfold sel
  rw [List.pairwise_filterMap]
  refine List.Pairwise.imp_of_mem ?_ (List.pairwise_lt_range' (s := s) (n := len))
  intro i j hi hj hij a ha b hb
  have hi' := (List.mem_range'_1.mp hi).2
  have hj' := (List.mem_range'_1.mp hj).2
  split at ha <;> cases ha
  split at hb <;> cases hb
  rw [UInt8.lt_iff_toNat_lt, UInt8.toNat_ofNat', UInt8.toNat_ofNat', Nat.mod_eq_of_lt (by omega),
    Nat.mod_eq_of_lt (by omega)]
  exact hij

theorem sel_length_le (f : Nat → Bool) (s len : Nat) : (sel f s len).length ≤ len :=
  Nat.le_trans (List.length_filterMap_le _ _) (Nat.le_of_eq List.length_range')

theorem sorted_eq_sel (used : List UInt8) (hs : used.Pairwise (· < ·)) :
    used = sel (fUsed used) 0 256 := by
  have hs' := sel_sorted (fUsed used) (s := 0) (len := 256) (Nat.le_refl _)
  have nd : ∀ {l : List UInt8}, l.Pairwise (· < ·) → l.Nodup := fun h =>
    h.imp fun hab he => by subst he; exact absurd hab (UInt8.lt_irrefl _)
  refine List.Perm.eq_of_pairwise (le := (· < ·))
    (fun a b _ _ h1 h2 => absurd (UInt8.lt_trans h1 h2) (UInt8.lt_irrefl _)) hs hs'
    ((List.perm_ext_iff_of_nodup (nd hs) (nd hs')).mpr fun x => ?_)
  rw [mem_sel (Nat.le_refl _)]
  have := x.toNat_lt
  simp only [fUsed, UInt8.ofNat_toNat, List.contains_iff_mem, Nat.zero_le, true_and, Nat.zero_add]
  exact ⟨fun h => ⟨by omega, h⟩, fun h => h.2⟩

theorem sorted_length_le (used : List UInt8) (hs : used.Pairwise (· < ·)) : used.length ≤ 256 :=
  sorted_eq_sel used hs ▸ sel_length_le _ 0 256

theorem makeMapEGo_sel (f : Nat → Bool) : ∀ (len s j : Nat), s + len ≤ 256 →
    (makeMapEGo ((List.range' s len).map f) j).2 = j + (sel f s len).length ∧
    (sel f s len).map (fun x => (makeMapEGo ((List.range' s len).map f) j).1.getD (x.toNat - s) 0) =
      (List.range' j (sel f s len).length).map UInt8.ofNat := by
  intro len
  induction len with
  | zero => intro s j _; simp [makeMapEGo, sel]
  | succ len ih =>
    intro s j h
    obtain ⟨h2, h1⟩ := ih (s + 1) (j + (if f s then 1 else 0)) (by omega)
    rw [List.range'_succ, List.map_cons, makeMapEGo, sel_succ]
    have htail : (sel f (s + 1) len).map (fun x =>
        (UInt8.ofNat j :: (makeMapEGo ((List.range' (s + 1) len).map f)
          (j + (if f s then 1 else 0))).1).getD (x.toNat - s) 0) =
        (List.range' (j + (if f s then 1 else 0)) (sel f (s + 1) len).length).map UInt8.ofNat := by
      rw [← h1]
      apply List.map_congr_left
      intro x hx
      have := (mem_sel (by omega)).mp hx
      rw [show x.toNat - s = (x.toNat - (s + 1)) + 1 by omega, List.getD_cons_succ]
    cases hf : f s
    · simp only [hf, Bool.false_eq_true, if_false, List.nil_append, Nat.add_zero] at h2 htail ⊢
      exact ⟨h2, htail⟩
    · simp only [hf, if_true, List.singleton_append, List.length_cons, List.map_cons] at h2 htail ⊢
      refine ⟨by omega, ?_⟩
      rw [htail, List.range'_succ, List.map_cons, UInt8.toNat_ofNat', Nat.mod_eq_of_lt (by omega),
        Nat.sub_self, List.getD_cons_zero]

theorem ident_eq : (0 : UInt8) :: order0 = (List.range 256).map UInt8.ofNat := by
  rw [List.range_succ_eq_map, List.map_cons, List.map_map]
  rfl

theorem makeMapE_rel (used : List UInt8) (hs : used.Pairwise (· < ·)) :
    (makeMapE (inuseOf used)).2 = used.length ∧
    Rel (cmOf (makeMapE (inuseOf used)).1) used ((0 : UInt8) :: order0)
      ((List.range' used.length (256 - used.length)).map UInt8.ofNat) := by
  have hU := sorted_eq_sel used hs
  obtain ⟨h2, h1⟩ := makeMapEGo_sel (fUsed used) 256 0 0 (Nat.le_refl _)
  rw [← inuseOf_eq, ← makeMapE, ← hU] at h2 h1
  rw [Nat.zero_add] at h2
  have hn : used.length ≤ 256 := hU ▸ sel_length_le _ 0 256
  have hmap : used.map (cmOf (makeMapE (inuseOf used)).1) =
      (List.range' 0 used.length).map UInt8.ofNat := h1
  refine ⟨h2, ?_, ?_⟩
  · rw [hmap, ident_eq, List.range_eq_range', ← List.map_append]
    have := @List.range'_append 0 used.length (256 - used.length) 1
    rw [Nat.one_mul, Nat.zero_add, show used.length + (256 - used.length) = 256 by omega] at this
    rw [this]
  · rw [ident_eq, List.Nodup, List.pairwise_map]
    refine List.Pairwise.imp_of_mem ?_ (List.pairwise_lt_range (n := 256))
    intro a b ha hb hab he
    have := congrArg UInt8.toNat he
    have := List.mem_range.mp ha
    have := List.mem_range.mp hb
    simp only [UInt8.toNat_ofNat'] at *
    omega

theorem doMtf_spec (used block : List UInt8) (hs : used.Pairwise (· < ·))
    (hmem : ∀ x ∈ block, x ∈ used) :
    doMtf used block = some (mtfRle2 used block) := by
  obtain ⟨h2, hrel⟩ := makeMapE_rel used hs
  unfold doMtf doMtfWith mtfRle2
  simp only [h2]
  exact loop_spec _ (makeMapE_length used) _ _ block used 0 order0 0 hrel hmem

end LbzVerif.Lemmas.MtfEnc
