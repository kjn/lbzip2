/-
  Lemmas.IbwtTests — tests: `decode()`'s model against the textbook inverse BWT
  on exhaustively enumerated small last columns and on two words.  What is
  proved for every block is instantiated; what is proved for no block, that the
  successor-vector form `ibwt` agrees with the sorted-matrix form `ibwtNaive`, is
  evaluated by the kernel.  The block "banana" (last column `nnbaaa`, primary
  index 3), evaluated once, serves the examples of the Props files.
-/
import LbzVerif.Lemmas.IbwtRand

namespace LbzVerif.Lemmas.IbwtTests

def allLists (k : Nat) : Nat → List (List UInt8)
  | 0 => [[]]
  | n + 1 => (allLists k n).flatMap (fun l => (List.range k).map (fun b => UInt8.ofNat b :: l))

def agree (L : List UInt8) : Bool :=
  (List.range L.length).all (fun i =>
    Model.Ibwt.nodes false i L == Spec.Ibwt.ibwt L i &&
    Spec.Ibwt.ibwt L i == Spec.Ibwt.ibwtNaive L i)

def ptrsOK (L : List UInt8) : Bool :=
  (List.range L.length).all (fun i =>
    let d := Model.Ibwt.decode false i L (Model.Ibwt.counts L)
    decide (Model.Ibwt.walkMaxPtr d.tt L.length d.rleIndex < L.length))

theorem agree_eq (L : List UInt8) :
    agree L = (List.range L.length).all (fun i => Spec.Ibwt.ibwt L i == Spec.Ibwt.ibwtNaive L i) := by
  rw [Bool.eq_iff_iff, agree, List.all_eq_true, List.all_eq_true]
  refine forall_congr' fun i => forall_congr' fun hi => ?_
  rw [IbwtLink.nodes_false_eq_ibwt L i (List.mem_range.mp hi), beq_self_eq_true, Bool.true_and]

theorem ptrsOK_true (L : List UInt8) : ptrsOK L = true :=
  List.all_eq_true.mpr fun i hi =>
    decide_eq_true (IbwtLink.decode_walk_bound L i (List.mem_range.mp hi))

theorem test_small_alphabet :
    (((List.range 4).drop 1).all (fun n => (allLists 3 n).all (fun L => agree L && ptrsOK L)) &&
     (allLists 2 4).all (fun L => agree L && ptrsOK L) &&
     (allLists 2 5).all (fun L => agree L && ptrsOK L)) = true := by
  simp only [agree_eq, ptrsOK_true, Bool.and_true]
  decide +kernel

/-- TEST: the last column of "banana" (`nnbaaa`, primary index 3) and of
"abracadabra" (`rdarcaaaabb`, primary index 2), all primary indices. -/
theorem test_words :
    agree [110, 110, 98, 97, 97, 97] = true ∧
    Model.Ibwt.nodes false 3 [110, 110, 98, 97, 97, 97] = [98, 97, 110, 97, 110, 97] ∧
    agree [114, 100, 97, 114, 99, 97, 97, 97, 97, 98, 98] = true ∧
    Model.Ibwt.nodes false 2 [114, 100, 97, 114, 99, 97, 97, 97, 97, 98, 98] =
      [97, 98, 114, 97, 99, 97, 100, 97, 98, 114, 97] := by
  rw [agree_eq, agree_eq, IbwtLink.nodes_false_eq_ibwt _ 3 (by decide),
    IbwtLink.nodes_false_eq_ibwt _ 2 (by decide)]
  decide +kernel

theorem test_derand :
    (Model.Ibwt.derandLoop 2000 2000 0 Gen.RAND_THRESH (List.replicate 2000 0)).map (UInt8.ofNat ·) =
      Spec.Ibwt.derand Gen.randTable (List.replicate 2000 0) := by
  have h := IbwtDerand.derandLoop_low (List.replicate 2000 0) List.length_replicate
  rwa [List.map_replicate, funext IbwtDerand.low_eq] at h

theorem test_rand_small :
    ((allLists 2 4).all (fun L => (List.range L.length).all (fun i =>
      Model.Ibwt.nodes true i L == Model.Ibwt.nodes false i L))) = true :=
  List.all_eq_true.mpr fun L hL => List.all_eq_true.mpr fun i hi => by
    have short : ∀ L ∈ allLists 2 4, L.length ≤ Gen.RAND_THRESH := by decide +kernel
    rw [IbwtRand.nodes_true_short L i (List.mem_range.mp hi) (short L hL), beq_self_eq_true]


theorem decode_false_nnbaaa :
    (Model.Ibwt.decode false 3 [110, 110, 98, 97, 97, 97] (Model.Ibwt.counts [110, 110, 98, 97, 97, 97])).tt =
        [878, 1134, 1378, 609, 97, 353] ∧
      (Model.Ibwt.decode false 3 [110, 110, 98, 97, 97, 97] (Model.Ibwt.counts [110, 110, 98, 97, 97, 97])).rleIndex =
        609 := by
  decide +kernel

theorem decode_true_nnbaaa :
    (Model.Ibwt.decode true 3 [110, 110, 98, 97, 97, 97] (Model.Ibwt.counts [110, 110, 98, 97, 97, 97])).tt =
        [354, 609, 878, 1121, 1390, 1633] ∧
      (Model.Ibwt.decode true 3 [110, 110, 98, 97, 97, 97] (Model.Ibwt.counts [110, 110, 98, 97, 97, 97])).rleIndex =
        0 := by
  decide +kernel

end LbzVerif.Lemmas.IbwtTests
