/-
  Lemmas.PrefixRank (namespace `Lemmas.TransmitSym`) — the rank formula of canonical codes:
  `canonCode lens i = F ℓ + r`, where `ℓ = lens[i]`, `F` is the first code of each length
  (`F 1 = 0`, `F (l+1) = 2·(F l + count l)`), and `r` is the number of earlier symbols of the
  same length.  One weighted sum `W w lens l` over the symbols shorter than `l` is behind it:
  `I` (count), `S` (Kraft width) and `F·width` are `W` at three weights.  With it, the reference
  decoder `Spec.Bzip2.decodeSym (mkCode lens)` reads the canonical code word of symbol `i` as `i`;
  `assign_codes` (AssignCanon) and `make_tree` (TreeSound*) rest on the same formula.
-/
import LbzVerif.Spec.Bzip2
import LbzVerif.Spec.Prefix
import LbzVerif.Lemmas.PrefixCanon
import LbzVerif.Lemmas.ListSum

namespace LbzVerif.Lemmas.TransmitSym
open LbzVerif LbzVerif.Basic LbzVerif.Spec.Prefix LbzVerif.Lemmas.PrefixCanon

def cntL (lens : List Nat) (l : Nat) : Nat := lens.count l

/-- first code of length `l` (as `decodeRank` computes it) -/
def F (lens : List Nat) : Nat → Nat
  | 0 => 0
  | l + 1 => 2 * (F lens l + cntL lens l)

/-- Total weight of the symbols shorter than `l`, a symbol of length `x` weighing `w x`.
`make_tree` accumulates it at four weights: `1` (`count[]`, `I` below), `2^(20-x)` (the Kraft
sum; `S` below unfolds to `W width`, which is how the `W_*` lemmas apply to it), `2^(64-x)`
(`base[]`), `2^(10-x)` (the complete part of `start[]`). -/
def W (w : Nat → Nat) (lens : List Nat) (l : Nat) : Nat :=
  (lens.map (fun x => if x < l then w x else 0)).sum

/-- number of symbols shorter than `l` -/
abbrev I (lens : List Nat) (l : Nat) : Nat := W (fun _ => 1) lens l

/-- total width (units of 2^-20) of the symbols shorter than `l` -/
def S (lens : List Nat) (l : Nat) : Nat :=
  (lens.map (fun x => if x < l then width x else 0)).sum

/-- number of symbols before `i` with the same length as `i` -/
def rankIn (lens : List Nat) (i : Nat) : Nat :=
  ((List.range i).filter (fun j => lens[j]! == lens[i]!)).length

theorem split_term (a b j i : Nat) :
    (if (decide (a < b) || (decide (a = b) && decide (j < i))) = true then width a else 0) =
      (if a < b then width a else 0) +
        (if (decide (j < i) && (a == b)) = true then width b else 0) := by
  rcases Nat.lt_trichotomy a b with h | h | h
  · simp [h, Nat.ne_of_lt h]
  · subst h
    simp
  · simp [Nat.not_lt_of_gt h, Nat.ne_of_gt h]

theorem offset_rank (lens : List Nat) (i : Nat) (hi : i < lens.length) :
    offset20 lens i = S lens lens[i]! + rankIn lens i * width lens[i]! := by
  unfold offset20
  have hsplit : (List.range lens.length).map
        (fun j => if precedes lens j i then width lens[j]! else 0) =
      (List.range lens.length).map (fun j =>
        (if lens[j]! < lens[i]! then width lens[j]! else 0) +
        (if (decide (j < i) && (lens[j]! == lens[i]!)) then width lens[i]! else 0)) :=
    List.map_congr_left fun j _ => split_term lens[j]! lens[i]! j i
  rw [hsplit, ListSum.sum_map_add]
  congr 1
  · exact congrArg List.sum (ListAux.map_range_getElem! lens (fun x => if x < lens[i]! then width x else 0))
  · rw [ListSum.sum_ite_filter]
    congr 1
    unfold rankIn
    rw [ListAux.range_split (Nat.le_of_lt hi), List.filter_append, List.length_append]
    have h1 : (List.range i).filter (fun j => decide (j < i) && (lens[j]! == lens[i]!)) =
        (List.range i).filter (fun j => lens[j]! == lens[i]!) := by
      apply List.filter_congr
      intro j hj
      simp [List.mem_range.mp hj]
    have h2 : (List.range' i (lens.length - i)).filter
        (fun j => decide (j < i) && (lens[j]! == lens[i]!)) = [] := by
      rw [List.filter_eq_nil_iff]
      intro j hj
      have := (List.mem_range'_1.mp hj).1
      simp; omega
    rw [h1, h2]; simp

theorem cntL_eq (lens : List Nat) (l : Nat) : cntL lens l = (lens.filter (· == l)).length := by
  rw [cntL, List.count_eq_countP, List.countP_eq_length_filter]

theorem cntL_zero (lens : List Nat) (h : ∀ x ∈ lens, 1 ≤ x) : cntL lens 0 = 0 := by
  unfold cntL
  rw [List.count_eq_zero]
  intro h0
  have := h 0 h0
  omega

theorem W_zero (w : Nat → Nat) (lens : List Nat) : W w lens 0 = 0 :=
  ListSum.sum_map_zero _ _ fun x _ => by simp

theorem W_succ (w : Nat → Nat) (lens : List Nat) (l : Nat) :
    W w lens (l + 1) = W w lens l + cntL lens l * w l := by
  rw [cntL_eq, ← ListSum.sum_ite_filter, W, W, ← ListSum.sum_map_add]
  congr 1
  apply List.map_congr_left
  intro x _
  rcases Nat.lt_trichotomy x l with h | h | h
  · rw [if_pos h, if_pos (Nat.lt_succ_of_lt h), if_neg (by simpa using Nat.ne_of_lt h)]
    rfl
  · subst h
    rw [if_pos (Nat.lt_succ_self x), if_neg (Nat.lt_irrefl x), if_pos (by simp), Nat.zero_add]
  · rw [if_neg (by omega), if_neg (by omega), if_neg (by simpa using Nat.ne_of_gt h)]

theorem W_one (w : Nat → Nat) (lens : List Nat) (h0 : cntL lens 0 = 0) : W w lens 1 = 0 := by
  rw [W_succ, W_zero, h0, Nat.zero_mul]

theorem W_mono (w : Nat → Nat) (lens : List Nat) {a b : Nat} (h : a ≤ b) : W w lens a ≤ W w lens b := by
  apply ListSum.sum_map_le
  intro x _
  by_cases hx : x < a
  · rw [if_pos hx, if_pos (by omega)]; exact Nat.le_refl _
  · rw [if_neg hx]; exact Nat.zero_le _

theorem W_flat (w : Nat → Nat) (lens : List Nat) (a b : Nat) (hab : a ≤ b)
    (h : ∀ x ∈ lens, a ≤ x → b ≤ x) : W w lens a = W w lens b := by
  unfold W
  congr 1
  apply List.map_congr_left
  intro x hx
  by_cases hxa : x < a
  · rw [if_pos hxa, if_pos (by omega)]
  · have := h x hx (by omega)
    rw [if_neg hxa, if_neg (by omega)]

theorem W_top (w : Nat → Nat) (lens : List Nat) (k : Nat) (h : ∀ x ∈ lens, x < k) :
    W w lens k = (lens.map w).sum := by
  unfold W
  congr 1
  exact List.map_congr_left fun x hx => if_pos (h x hx)

theorem W_scale (w w' : Nat → Nat) (c : Nat) (lens : List Nat) (l : Nat)
    (h : ∀ x ∈ lens, x < l → w x = c * w' x) : W w lens l = c * W w' lens l := by
  unfold W
  rw [← ListSum.sum_map_mul_left]
  congr 1
  apply List.map_congr_left
  intro x hx
  show (if x < l then w x else 0) = c * (if x < l then w' x else 0)
  by_cases hxl : x < l
  · rw [if_pos hxl, if_pos hxl, h x hx hxl]
  · rw [if_neg hxl, if_neg hxl, Nat.mul_zero]

theorem W_add (w : Nat → Nat) (lens : List Nat) : ∀ t a,
    W w lens (a + t) = W w lens a + ((List.range' a t).map (fun j => cntL lens j * w j)).sum := by
  intro t
  induction t with
  | zero => intro a; simp
  | succ t ih =>
    intro a
    rw [show a + (t + 1) = (a + 1) + t by omega, ih (a + 1), List.range'_succ, W_succ]
    simp only [List.map_cons, List.sum_cons]
    omega

theorem S_succ (lens : List Nat) (l : Nat) : S lens (l + 1) = S lens l + cntL lens l * width l :=
  W_succ width lens l

theorem S_one (lens : List Nat) (h : ∀ x ∈ lens, 1 ≤ x) : S lens 1 = 0 :=
  W_one width lens (cntL_zero lens h)

theorem S_mono (lens : List Nat) {a b : Nat} (h : a ≤ b) : S lens a ≤ S lens b := W_mono width lens h

theorem I_succ (lens : List Nat) (l : Nat) : I lens (l + 1) = I lens l + cntL lens l :=
  (W_succ _ lens l).trans (by rw [Nat.mul_one])

/-- `I` as the offset of block `1 + m` in the concatenation of the blocks `1, 2, …`. -/
theorem I_one_add (lens : List Nat) (h0 : cntL lens 0 = 0) (m : Nat) :
    I lens (1 + m) = ((List.range' 1 m).map (cntL lens)).sum := by
  have h := W_add (fun _ => 1) lens m 1
  rw [W_one _ lens h0, Nat.zero_add] at h
  simpa only [Nat.mul_one] using h

theorem F_width (lens : List Nat) (h : ∀ x ∈ lens, 1 ≤ x) (l : Nat) (hl : l + 1 ≤ 20) :
    F lens (l + 1) * width (l + 1) = S lens (l + 1) := by
  induction l with
  | zero =>
    simp [F, cntL_zero lens h, S_one lens h]
  | succ l ih =>
    have ih' := ih (by omega)
    rw [S_succ lens (l + 1), ← ih']
    have hw : width (l + 1) = 2 * width (l + 1 + 1) := by
      unfold width
      rw [show 20 - (l + 1) = (20 - (l + 1 + 1)) + 1 by omega, Nat.pow_succ]
      omega
    rw [F, hw]
    generalize F lens (l + 1) = f
    generalize cntL lens (l + 1) = c
    generalize width (l + 1 + 1) = w
    rw [Nat.mul_add, Nat.add_mul, Nat.mul_assoc, Nat.mul_assoc, Nat.mul_left_comm 2 f w,
      Nat.mul_left_comm 2 c w]

theorem canonCode_rank (lens : List Nat) (hc : Complete lens) (i : Nat) (hi : i < lens.length) :
    canonCode lens i = F lens lens[i]! + rankIn lens i := by
  have hm := hc.2 _ (ListAux.getElem!_mem lens i hi)
  have h1 : ∀ x ∈ lens, 1 ≤ x := fun x hx => (hc.2 x hx).1
  obtain ⟨l, hl⟩ : ∃ l, lens[i]! = l + 1 := ⟨lens[i]! - 1, by omega⟩
  have h2 := offset_eq lens i
  rw [offset_rank lens i hi, hl, ← F_width lens h1 l (by omega), ← Nat.add_mul] at h2
  exact Nat.eq_of_mul_eq_mul_right (width_pos _) (by rw [hl]; exact h2)

theorem F_mono (lens : List Nat) (l d : Nat) :
    2 ^ (d + 1) * (F lens l + cntL lens l) ≤ F lens (l + d + 1) := by
  induction d with
  | zero => simp [F]
  | succ d ih =>
    rw [show l + (d + 1) + 1 = (l + d + 1) + 1 by omega, F, Nat.pow_succ]
    have : 2 ^ (d + 1) * 2 * (F lens l + cntL lens l) = 2 * (2 ^ (d + 1) * (F lens l + cntL lens l)) := by
      rw [Nat.mul_comm (2 ^ (d + 1)) 2, Nat.mul_assoc]
    rw [this]
    omega

def countsFrom (lens : List Nat) (l k : Nat) : List Nat := (List.range' l k).map (cntL lens)

theorem testBit_step (w m : Nat) :
    2 * (w / 2 ^ (m + 1)) + Basic.bit (w.testBit m) = w / 2 ^ m := by
  have := bit_step w m
  unfold Spec.Prefix.bit at this
  rw [← this, Nat.testBit_eq_decide_div_mod_eq]
  unfold Basic.bit
  by_cases h : w / 2 ^ m % 2 = 1 <;> simp [h]

theorem countsFrom_succ (lens : List Nat) (l k : Nat) :
    countsFrom lens l (k + 1) = cntL lens l :: countsFrom lens (l + 1) k := rfl

theorem decodeRank_cons (c : Nat) (cs : List Nat) (code first index pos : Nat) (b : Bool)
    (bits : Bits) :
    Spec.Bzip2.decodeRank (c :: cs) code first index pos (b :: bits) =
      if first ≤ 2 * code + Basic.bit b ∧ 2 * code + Basic.bit b < first + c then
        .ok (index + (2 * code + Basic.bit b - first), pos + 1, bits)
      else Spec.Bzip2.decodeRank cs (2 * code + Basic.bit b) (2 * (first + c)) (index + c)
        (pos + 1) bits := rfl

theorem decodeRank_word (lens : List Nat) (w l0 r : Nat) (hw : w = F lens l0 + r)
    (hr : r < cntL lens l0) (rest : Bits) :
    ∀ m l k pos, l + m = l0 → m + 1 ≤ k →
      Spec.Bzip2.decodeRank (countsFrom lens l k) (w / 2 ^ (m + 1)) (F lens l) (I lens l) pos
          (natToBits (m + 1) w ++ rest) = .ok (I lens l0 + r, pos + (m + 1), rest) := by
  intro m
  induction m with
  | zero =>
    intro l k pos hl hk
    obtain ⟨k', rfl⟩ : ∃ k', k = k' + 1 := ⟨k - 1, by omega⟩
    obtain rfl : l = l0 := by omega
    rw [countsFrom_succ, natToBits, List.cons_append, decodeRank_cons, testBit_step, Nat.pow_zero,
      Nat.div_one, if_pos (by omega), hw, Nat.add_sub_cancel_left]
    rfl
  | succ m ih =>
    intro l k pos hl hk
    obtain ⟨k', rfl⟩ : ∃ k', k = k' + 1 := ⟨k - 1, by omega⟩
    have hmono := F_mono lens l m
    rw [show l + m + 1 = l0 by omega] at hmono
    have hge : F lens l + cntL lens l ≤ w / 2 ^ (m + 1) := by
      rw [Nat.le_div_iff_mul_le (Nat.two_pow_pos _), Nat.mul_comm]
      omega
    rw [countsFrom_succ, natToBits, List.cons_append, decodeRank_cons, testBit_step,
      if_neg (by omega)]
    have := ih (l + 1) k' (pos + 1) (by omega) (by omega)
    rw [F, I_succ] at this
    rw [this, Nat.add_assoc, Nat.add_comm 1]

def blk (lens : List Nat) (l : Nat) : List Nat :=
  (List.range lens.length).filter (fun s => lens[s]! == l)

theorem blk_length (lens : List Nat) (l : Nat) : (blk lens l).length = cntL lens l := by
  have h := congrArg (List.countP (· == l)) (ListAux.map_range_getElem! lens id)
  rw [List.countP_map, List.map_id] at h
  rw [blk, cntL, ← List.countP_eq_length_filter, List.count_eq_countP]
  exact h

theorem blk_rank (lens : List Nat) (i : Nat) (hi : i < lens.length) :
    (blk lens lens[i]!)[rankIn lens i]? = some i := by
  unfold blk rankIn
  have hr : List.range lens.length =
      List.range i ++ (i :: List.range' (i + 1) (lens.length - i - 1)) := by
    have h1 : List.range' i (lens.length - i) =
        i :: List.range' (i + 1) (lens.length - i - 1) := by
      obtain ⟨q, hq⟩ : ∃ q, lens.length - i = q + 1 := ⟨lens.length - i - 1, by omega⟩
      rw [hq, List.range'_succ]
      simp
    rw [ListAux.range_split (Nat.le_of_lt hi), h1]
  rw [hr, List.filter_append, List.filter_cons]
  have : (lens[i]! == lens[i]!) = true := by simp
  rw [if_pos this, List.getElem?_append_right (Nat.le_refl _), Nat.sub_self]
  rfl

/-- the lengths `1, 2, …` as `mkCode` and `make_tree` enumerate them -/
theorem perm_eq (lens : List Nat) :
    (Spec.Bzip2.mkCode lens).perm = ((List.range' 1 20).flatMap (blk lens)).toArray := by
  unfold Spec.Bzip2.mkCode blk
  simp only [Spec.Bzip2.maxLen]
  congr 1
  rw [ListAux.range_succ_map]
  apply ListAux.flatMap_congr'
  intro l _
  apply List.filter_congr
  intro s _
  simp

theorem counts_eq (lens : List Nat) : (Spec.Bzip2.mkCode lens).counts = countsFrom lens 1 20 := by
  unfold Spec.Bzip2.mkCode countsFrom cntL
  simp only [Spec.Bzip2.maxLen]
  rw [ListAux.range_succ_map]

theorem decodeSym_canon (lens : List Nat) (hc : Complete lens) (i : Nat) (hi : i < lens.length)
    (pos : Nat) (rest : Bits) :
    Spec.Bzip2.decodeSym (Spec.Bzip2.mkCode lens) pos
        (natToBits lens[i]! (canonCode lens i) ++ rest) = .ok (i, pos + lens[i]!, rest) := by
  have hm := hc.2 _ (ListAux.getElem!_mem lens i hi)
  have h1 : ∀ x ∈ lens, 1 ≤ x := fun x hx => (hc.2 x hx).1
  obtain ⟨m, hl⟩ : ∃ m, lens[i]! = m + 1 := ⟨lens[i]! - 1, by omega⟩
  have hrank := canonCode_rank lens hc i hi
  have hlt := canonCode_lt lens hc i hi
  have hr : rankIn lens i < cntL lens lens[i]! := by
    have h := blk_rank lens i hi
    rw [← blk_length]
    have := (List.getElem?_eq_some_iff.mp h)
    exact this.1
  have hI1 : I lens 1 = 0 := W_one _ lens (cntL_zero lens h1)
  have hF1 : F lens 1 = 0 := by simp [F, cntL_zero lens h1]
  have hd := decodeRank_word lens (canonCode lens i) lens[i]! (rankIn lens i) hrank hr rest
    m 1 20 pos (by omega) (by omega)
  rw [← hl, Nat.div_eq_of_lt hlt, hF1, hI1] at hd
  unfold Spec.Bzip2.decodeSym
  rw [counts_eq, hd]
  simp only
  have hIl : I lens lens[i]! = ((List.range' 1 m).map (cntL lens)).sum := by
    rw [hl, Nat.add_comm m 1, I_one_add lens (cntL_zero lens h1)]
  have hp : (Spec.Bzip2.mkCode lens).perm[I lens lens[i]! + rankIn lens i]? = some i := by
    rw [perm_eq, List.getElem?_toArray, hIl,
      ListAux.flatMap_range'_index _ _ (blk_length lens) m 1 20 (rankIn lens i) (by omega)
        (by rw [show 1 + m = lens[i]! by omega]; exact hr),
      show 1 + m = lens[i]! by omega]
    exact blk_rank lens i hi
  rw [hp]

end LbzVerif.Lemmas.TransmitSym
