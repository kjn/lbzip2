/-
  Lemmas.CompressInspect — the per-block rules of C02 on the block records the
  strict inspector produces for a file of `Model.Compress` (`reportsOf`,
  Lemmas.CompressFile).
-/
import LbzVerif.Model.Compress
import LbzVerif.Lemmas.CompressCut

namespace LbzVerif.Lemmas.CompressInspect
open LbzVerif LbzVerif.Basic LbzVerif.Model.Compress LbzVerif.Model.Transmit
open LbzVerif.Lemmas.CompressFile LbzVerif.Lemmas.CompressCut LbzVerif.Lemmas.CompressBlock
open LbzVerif.Lemmas.TransmitCompose LbzVerif.Spec.Bzip2

/-- The producer-side rules of C02 for one block record: decoded-RLE size
    within the level's capacity, not randomised, `origPtr < nblock`, 2…6 tables,
    every table (used or not) over the block's alphabet, with lengths 1…20 and
    Kraft-complete, 1…18002 selectors each naming a table. -/
def BlockRules (level : Nat) (r : BlockReport) : Prop :=
  r.block.level = level ∧
  1 ≤ r.nblock ∧ r.nblock ≤ level * 100000 ∧
  r.block.rand = false ∧
  r.block.origPtr < r.nblock ∧
  2 ≤ r.block.nGroups ∧ r.block.nGroups ≤ 6 ∧ r.block.tables.length = r.block.nGroups ∧
  (∀ t ∈ r.block.tables, t.length = r.block.alphaSize ∧ (∀ x ∈ t, 1 ≤ x ∧ x ≤ 20) ∧
    kraftComplete t = true) ∧
  1 ≤ r.block.selectors.length ∧ r.block.selectors.length ≤ 18002 ∧
  (∀ s ∈ r.block.selectors, s < r.block.nGroups)

theorem reportsOf_mem (level : Nat) (items : List Item) :
    ∀ pos, ∀ r ∈ reportsOf level pos items, ∃ p, ∃ it ∈ items, r = reportOf level p it := by
  induction items with
  | nil => intro pos r hr; simp [reportsOf] at hr
  | cons it rest ih =>
    intro pos r hr
    simp only [reportsOf, List.mem_cons] at hr
    rcases hr with rfl | hr
    · exact ⟨pos, it, List.mem_cons_self .., rfl⟩
    · obtain ⟨p, jt, hj, e⟩ := ih _ r hr
      exact ⟨p, jt, List.mem_cons_of_mem _ hj, e⟩

theorem reportsOf_length (level : Nat) (items : List Item) :
    ∀ pos, (reportsOf level pos items).length = items.length := by
  induction items with
  | nil => intro pos; rfl
  | cons it rest ih => intro pos; simp [reportsOf, ih]

theorem report_rules (level : Nat) (h9 : level ≤ 9) (choose : List UInt8 → Choice)
    (b : List UInt8) (hne : b ≠ []) (hfit : (Spec.rle1 b).length ≤ level * 100000)
    (hok : ChoicesOK (Spec.rle1 b) (choose (Spec.rle1 b))) (pos : Nat) :
    BlockRules level (reportOf level pos ⟨compressBlock choose b, b, (Spec.rle1 b).length⟩) := by
  have hitem := blockOK_compressBlock level h9 choose b hne hfit hok
  have hw : WF (compressBlock choose b) := hitem.wf
  have hc : Coded (compressBlock choose b) := hitem.coded
  obtain ⟨hidx, hLlen⟩ := bwtOK_facts hok.1
  have hpos : 0 < (Spec.rle1 b).length := by omega
  have hns := numSelectors_lt hw
  have hsl := expectedBlock_selectors_length hw level pos
  refine ⟨rfl, hpos, hfit, rfl, ?_, hw.trees_range.1, hw.trees_range.2, hw.lens_len, ?_, ?_, ?_,
    ?_⟩
  · show (choose (Spec.rle1 b)).idx < (Spec.rle1 b).length
    omega
  · intro t ht
    have ht' : t ∈ (compressBlock choose b).lens := ht
    obtain ⟨h1, h2⟩ := hw.lens_ok t ht'
    refine ⟨?_, h2, Lemmas.TransmitGroups.kraftComplete_of_complete t (hc.complete t ht')⟩
    rw [h1, hc.alpha_eq]
    rfl
  · show 1 ≤ (expectedBlock level pos (compressBlock choose b)).selectors.length
    rw [hsl]; exact hns.2
  · show (expectedBlock level pos (compressBlock choose b)).selectors.length ≤ 18002
    rw [hsl]; exact hns.1
  · intro s hs
    have hs' : s ∈ (compressBlock choose b).selectors ++
        List.replicate (Model.Canon.dummySelectors (costBase (compressBlock choose b)))
          ((compressBlock choose b).selectors.getLastD 0) := hs
    show s < (compressBlock choose b).numTrees
    rcases List.mem_append.mp hs' with h | h
    · exact hw.sel_lt s h
    · rw [List.eq_of_mem_replicate h]
      apply hw.sel_lt
      rw [List.getLastD_eq_getLast?, List.getLast?_eq_some_getLast (selectors_ne hw)]
      exact List.getLast_mem _

end LbzVerif.Lemmas.CompressInspect
