/-
  Lemmas.ScanOcc — from `findAcc 0` to the Spec notions `occursAt` /
  `firstOcc` (assembled in `Props.C14.scan_correct`).
-/
import LbzVerif.Lemmas.ScanAuto

namespace LbzVerif.Lemmas.ScanOcc

open LbzVerif.Model.Scan LbzVerif.Spec.Scan LbzVerif.Lemmas.ScanBits
  LbzVerif.Lemmas.ScanAuto LbzVerif.Lemmas.ScanTabs

theorem occursAt_iff (bits : List Bool) (i : Nat) :
    occursAt bits i ↔ 80 ≤ i ∧ i ≤ bits.length ∧ P <:+ bits.take (i - 32) := by
  unfold occursAt trailLen
  constructor
  · rintro ⟨hi, pre, post, he, hp⟩
    have hlen : i = pre.length + 48 + 32 := by
      have := congrArg List.length he
      simp [P_length, hp] at this
      omega
    refine ⟨by omega, hi, ?_⟩
    have : bits.take (i - 32) = pre ++ P := by
      have h1 : bits.take (i - 32) = (bits.take i).take (i - 32) := by
        rw [List.take_take]; congr 1; omega
      rw [h1, he, List.take_append]
      have h2 : (pre ++ P).length = i - 32 := by simp [P_length]; omega
      rw [List.take_of_length_le (by omega), h2]
      simp
    rw [this]
    exact List.suffix_append _ _
  · rintro ⟨h80, hi, pre, hpre⟩
    refine ⟨hi, pre, (bits.drop (i - 32)).take 32, ?_, ?_⟩
    · rw [hpre]
      have : bits.take i = bits.take (i - 32 + 32) := by congr 1; omega
      rw [this, List.take_add]
    · simp; omega

theorem occursAt_drop (bits : List Bool) (i j : Nat) (hj : occursAt bits j) (h : i + 80 ≤ j) :
    occursAt (bits.drop i) (j - i) := by
  obtain ⟨-, j2, pre, hpre⟩ := (occursAt_iff _ _).mp hj
  refine (occursAt_iff _ _).mpr ⟨by omega, by simp; omega, ?_⟩
  have hlen : pre.length + 48 = j - 32 := by
    have := congrArg List.length hpre
    simp [P_length] at this
    omega
  have : (bits.drop i).take (j - i - 32) = pre.drop i ++ P := by
    rw [show j - i - 32 = (j - 32) - i by omega, ← List.drop_take, ← hpre, List.drop_append]
    have : i - pre.length = 0 := by omega
    rw [this, List.drop_zero]
  rw [this]
  exact List.suffix_append _ _

theorem suffix_len (bits : List Bool) (k : Nat) (h : P <:+ bits.take k) : 48 ≤ k := by
  have := h.length_le
  simp [P_length] at this
  omega

theorem findAcc_zero_occ (tail : List Bool) :
    match findAcc 0 tail with
    | some k =>
      if k + 32 ≤ tail.length then firstOcc tail (k + 32)
      else ∀ i, ¬ occursAt tail i
    | none => ∀ i, ¬ occursAt tail i := by
  have h := findAcc_zero tail
  cases hf : findAcc 0 tail with
  | some k =>
    rw [hf] at h
    obtain ⟨h1, h2⟩ := h
    have hk := suffix_len tail k h1
    have hge : ∀ i, occursAt tail i → k ≤ i - 32 ∧ 80 ≤ i ∧ i ≤ tail.length := by
      intro i hi
      obtain ⟨j1, j2, j3⟩ := (occursAt_iff _ _).mp hi
      exact ⟨Nat.le_of_not_lt (fun hlt => h2 _ hlt j3), j1, j2⟩
    simp only
    split
    · rename_i hfit
      refine ⟨(occursAt_iff _ _).mpr ⟨by omega, hfit, by simpa using h1⟩, ?_⟩
      intro j hj
      have := hge j hj
      omega
    · rename_i hfit
      intro i hi
      have := hge i hi
      omega
  | none =>
    rw [hf] at h
    simp only
    intro i hi
    obtain ⟨j1, j2, j3⟩ := (occursAt_iff _ _).mp hi
    exact h (i - 32) (by omega) j3

end LbzVerif.Lemmas.ScanOcc
