/-
  Lemmas.ExpandBits — the parser bitstream of `Model.Expand` (`Cur`: 64-bit buffer + unread words)
  is a FIFO of the bits of the zero-padded input.  `bitsC c` = the unread bits; `need16` /
  `>>> 48` / `dumpC 16` read exactly the next 16 of them, `alignC` drops `|bits| % 8` of them,
  `need16 = none` iff fewer than 16 are left.  The words of the padded input hold the bits of the
  input followed by `8 · missing` zero bits; `finishCheck` is the test "the garbage starts at or
  before the real end of the data" (`finishCheck_eq`).
-/
import LbzVerif.Model.Expand
import LbzVerif.Lemmas.RetrieveBits
import LbzVerif.Lemmas.ListAux

namespace LbzVerif.Lemmas.ExpandBits
open LbzVerif.Model.Expand LbzVerif.Lemmas.RetrieveBits LbzVerif.Basic
open LbzVerif.Model.Retrieve (refillV dumpV)

/-- The unread bits: the `live` top bits of `buff`, then the words from `data` to `limit`. -/
def bitsC (c : Cur) : List Bool := bufBits c.v c.w ++ c.ws.flatMap wordBits

theorem bitsC_eq_bitsOf (c : Cur) :
    bitsC c = bitsOf (Model.Retrieve.St.start c.v c.w) c.ws := rfl

theorem bitsC_length (c : Cur) : (bitsC c).length = c.size := by
  unfold bitsC Cur.size
  rw [List.length_append, bufBits_length, ListAux.length_flatMap_const _ 32 wordBits_length]

theorem need16_none (c : Cur) (h : need16 c = none) : c.size < 16 := by
  unfold need16 at h
  split at h
  · cases h
  · split at h
    · rename_i hws
      unfold Cur.size
      rw [hws]
      simp
      omega
    · cases h

theorem need16_some (c c1 : Cur) (inv : BufInv c.v c.w) (h : need16 c = some c1) :
    bitsC c1 = bitsC c ∧ BufInv c1.v c1.w ∧ 16 ≤ c1.w := by
  unfold need16 at h
  split at h
  · injection h with h
    subst h
    exact ⟨rfl, inv, by assumption⟩
  · split at h
    · cases h
    · rename_i hw x ws hws
      injection h with h
      subst h
      refine ⟨?_, (refill_bits c.v c.w x (by omega) inv).2, by simp⟩
      unfold bitsC
      rw [hws]
      exact refill_append c.v c.w x (by omega) inv ws

theorem word16 (c : Cur) (inv : BufInv c.v c.w) (h16 : 16 ≤ c.w) :
    c.v >>> 48 = bitsToNat ((bitsC c).take 16) ∧ bitsC (dumpC c 16) = (bitsC c).drop 16 ∧
    BufInv (dumpC c 16).v (dumpC c 16).w ∧ (dumpC c 16).w ≤ 48 := by
  have hw := inv.wle
  refine ⟨peek_append c.v c.w 16 h16 inv (c.ws.flatMap wordBits), ?_,
    (dump_bits c.v c.w 16 h16 inv).2, by show c.w - 16 ≤ 48; omega⟩
  -- on the folded goal `exact` makes the unifier unfold `List.drop 16` and `bufBits`
  unfold bitsC dumpC
  exact dump_append c.v c.w 16 h16 inv (c.ws.flatMap wordBits)

theorem read16 (c : Cur) (inv : BufInv c.v c.w) :
    match need16 c with
    | none => (bitsC c).length < 16
    | some c1 =>
      16 ≤ (bitsC c).length ∧ c1.v >>> 48 = bitsToNat ((bitsC c).take 16) ∧
      bitsC (dumpC c1 16) = (bitsC c).drop 16 ∧
      BufInv (dumpC c1 16).v (dumpC c1 16).w ∧ (dumpC c1 16).w ≤ 48 := by
  cases h : need16 c with
  | none =>
    simp only
    rw [bitsC_length]
    exact need16_none c h
  | some c1 =>
    simp only
    obtain ⟨e, i, h16⟩ := need16_some c c1 inv h
    obtain ⟨a1, a2, a3, a4⟩ := word16 c1 i h16
    rw [e] at a1 a2
    refine ⟨?_, a1, a2, a3, a4⟩
    rw [← e, bitsC_length]
    unfold Cur.size
    omega

/-- Byte boundaries are counted from the END: the padded input is a whole number of bytes. -/
theorem align_bits (c : Cur) (inv : BufInv c.v c.w) :
    bitsC (alignC c) = (bitsC c).drop ((bitsC c).length % 8) ∧
    BufInv (alignC c).v (alignC c).w ∧ (alignC c).w ≤ c.w := by
  have hk : c.w % 8 ≤ c.w := Nat.mod_le _ _
  have hl : (bitsC c).length % 8 = c.w % 8 := by
    rw [bitsC_length]
    unfold Cur.size
    omega
  rw [hl]
  exact ⟨dump_append c.v c.w _ hk inv _, (dump_bits c.v c.w _ hk inv).2, Nat.sub_le _ _⟩

theorem word_eq (a b c d : UInt8) :
    word a b c d = ((a.toNat * 2 ^ 8 + b.toNat) * 2 ^ 8 + c.toNat) * 2 ^ 8 + d.toNat := by
  unfold word
  rw [show (24 : Nat) = 8 + 8 + 8 from rfl, show (16 : Nat) = 8 + 8 from rfl,
    Nat.shiftLeft_add, Nat.shiftLeft_add, Nat.shiftLeft_add,
    ← Nat.shiftLeft_or_distrib, ← Nat.shiftLeft_or_distrib, ← Nat.shiftLeft_or_distrib,
    ← Nat.shiftLeft_add_eq_or_of_lt b.toNat_lt, ← Nat.shiftLeft_add_eq_or_of_lt c.toNat_lt,
    ← Nat.shiftLeft_add_eq_or_of_lt d.toNat_lt]
  simp only [Nat.shiftLeft_eq]

/-- Both sides are 32 bits with the same value. -/
theorem wordBits_word (a b c d : UInt8) :
    wordBits (word a b c d) = byteToBits a ++ byteToBits b ++ byteToBits c ++ byteToBits d := by
  have ha := a.toNat_lt; have hb := b.toNat_lt; have hc := c.toNat_lt; have hd := d.toNat_lt
  apply bitsToNat_inj
  · simp [wordBits_length, byteToBits_length]
  · rw [wordBits_eq, bitsToNat_natToBits, word_eq, List.append_assoc, List.append_assoc,
      bitsToNat_byte_append, bitsToNat_byte_append, bitsToNat_byte_append, bitsToNat_byteToBits]
    simp only [List.length_append, byteToBits_length]
    omega

theorem toWords_bits : ∀ (n : Nat) (l : List UInt8), l.length = 4 * n →
    (toWords l).flatMap wordBits = bytesToBits l := by
  intro n
  induction n with
  | zero =>
    intro l h
    have : l = [] := List.length_eq_zero_iff.mp (by omega)
    subst this
    simp [toWords, bytesToBits_nil]
  | succ n ih =>
    intro l h
    match l, h with
    | a :: b :: c :: d :: rest, h =>
      have hr : rest.length = 4 * n := by simp only [List.length_cons] at h; omega
      rw [toWords, List.flatMap_cons, ih rest hr, wordBits_word]
      simp only [bytesToBits_cons, List.append_assoc]

theorem toWords_length : ∀ (n : Nat) (l : List UInt8), l.length = 4 * n → (toWords l).length = n := by
  intro n l h
  have := congrArg List.length (toWords_bits n l h)
  rw [ListAux.length_flatMap_const _ 32 wordBits_length, bytesToBits_length] at this
  omega

theorem missingOf_lt (n : Nat) : missingOf n < 4 := by unfold missingOf; omega

theorem padded_length (rest : List UInt8) :
    (padded rest).length = 4 * ((rest.length + 3) / 4) := by
  unfold padded missingOf
  rw [List.length_append, List.length_replicate]
  omega

theorem bytesToBits_zeros (k : Nat) :
    bytesToBits (List.replicate k (0 : UInt8)) = List.replicate (8 * k) false := by
  induction k with
  | zero => simp [bytesToBits_nil]
  | succ k ih =>
    rw [List.replicate_succ, bytesToBits_cons, ih]
    have : byteToBits 0 = List.replicate 8 false := by decide
    rw [this, List.replicate_append_replicate]
    congr 1; omega

theorem padded_bits (rest : List UInt8) :
    (toWords (padded rest)).flatMap wordBits =
      bytesToBits rest ++ List.replicate (8 * missingOf rest.length) false := by
  rw [toWords_bits _ _ (padded_length rest)]
  unfold padded
  rw [bytesToBits_append, bytesToBits_zeros]

theorem bitsC_start (rest : List UInt8) :
    bitsC ⟨0, 0, toWords (padded rest)⟩ =
      bytesToBits rest ++ List.replicate (8 * missingOf rest.length) false := by
  unfold bitsC
  rw [padded_bits]
  rfl

theorem finishCheck_eq (m g : Nat) (c : Cur) (acc : List UInt8) (hm : m < 4) :
    finishCheck m g c acc =
      if c.size + g < 8 * m then .error (.data Gen.ERR_EOF) else .ok acc := by
  unfold finishCheck Cur.size
  simp only
  by_cases h32 : 32 ≤ c.w + g
  · simp only [h32, if_true]
    rw [if_neg (by simp), if_neg (by omega)]
  · simp only [h32, if_false]
    cases hws : c.ws with
    | nil =>
      simp only [List.isEmpty_nil, true_and, List.length_nil, Nat.mul_zero, Nat.add_zero]
    | cons x ws =>
      simp only [List.isEmpty_cons, Bool.false_eq_true, false_and, if_false, List.length_cons]
      rw [if_neg (by omega)]

end LbzVerif.Lemmas.ExpandBits
