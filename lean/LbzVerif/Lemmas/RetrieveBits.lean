/-
  Lemmas.RetrieveBits — the buffer facts of Lemmas/BitBuf.lean for the machine's state `St`: the
  unread bits of a configuration (`bitsOf`) do not change with a refill, and a configuration can
  hold a suffix of the unread bits of another (`SufC`).
-/
import LbzVerif.Lemmas.RetrieveSplit
import LbzVerif.Lemmas.BitBuf

namespace LbzVerif.Lemmas.RetrieveBits
open LbzVerif LbzVerif.Model.Retrieve LbzVerif.Lemmas.RetrieveSplit LbzVerif.Lemmas.RetrieveEqns

theorem refill_st_bits (st : St) (x : Nat) (hw : st.w < 32) (inv : BufInv st.v st.w) :
    bufBits (refill st x).v (refill st x).w = bufBits st.v st.w ++ Basic.natToBits 32 x ∧
      BufInv (refill st x).v (refill st x).w := by
  rw [← wordBits_eq]
  exact refill_bits st.v st.w x hw inv

-- 0xA0000000_00000000 with 3 live bits, then the word 0x80000001
example : bufBits 0xA000000000000000 3 = [true, false, true] ∧
    bufBits (refillV 0xA000000000000000 3 0x80000001) 35 =
      [true, false, true] ++ wordBits 0x80000001 ∧
    bufBits (dumpV 0xA000000000000000 2) 1 = [true] := by decide

/-- All unread bits of a configuration: the buffer's, then the segment's. -/
def bitsOf (st : St) (ws : List Nat) : List Bool := bufBits st.v st.w ++ ws.flatMap wordBits

/-- `(st', ws')` holds a suffix of the unread bits of `(st, ws)`. -/
def SufC (st : St) (ws : List Nat) (st' : St) (ws' : List Nat) : Prop :=
  BufInv st'.v st'.w ∧ ∃ k, bitsOf st' ws' = (bitsOf st ws).drop k

theorem sufC_refl (st : St) (ws : List Nat) (inv : BufInv st.v st.w) : SufC st ws st ws :=
  ⟨inv, 0, by simp⟩

theorem sufC_trans {a : St} {wa : List Nat} {b : St} {wb : List Nat} {c : St} {wc : List Nat}
    (h1 : SufC a wa b wb) (h2 : SufC b wb c wc) : SufC a wa c wc := by
  obtain ⟨_, k1, e1⟩ := h1
  obtain ⟨i2, k2, e2⟩ := h2
  exact ⟨i2, k1 + k2, by rw [e2, e1, List.drop_drop]⟩

theorem bitsOf_nil_length (st : St) : (bitsOf st []).length = st.w := by
  simp [bitsOf, bufBits_length]

theorem bitsOf_length_ge (st : St) (ws : List Nat) : st.w ≤ (bitsOf st ws).length := by
  unfold bitsOf
  rw [List.length_append, bufBits_length]
  omega

theorem bitsOf_refill (st : St) (x : Nat) (ws : List Nat) (hw : st.w < 32) (inv : BufInv st.v st.w) :
    bitsOf (refill st x) ws = bitsOf st (x :: ws) :=
  refill_append st.v st.w x hw inv ws

theorem sufC_refill (st : St) (x : Nat) (ws : List Nat) (hw : st.w < 32) (inv : BufInv st.v st.w) :
    SufC st (x :: ws) (refill st x) ws :=
  ⟨(refill_bits st.v st.w x hw inv).2, 0, bitsOf_refill st x ws hw inv⟩

/-- `SufC` looks at the buffer of the configuration it starts from only. -/
theorem SufC.src {a a' b : St} {wa wb : List Nat} (h : SufC a' wa b wb)
    (hv : a'.v = a.v) (hw : a'.w = a.w) : SufC a wa b wb := by
  unfold SufC bitsOf at *
  rw [← hv, ← hw]
  exact h

end LbzVerif.Lemmas.RetrieveBits
