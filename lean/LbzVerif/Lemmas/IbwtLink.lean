/-
  Lemmas.IbwtLink — the list `decode()` has built, and its traversal.  The loop
  invariant (`Ibwt.link_inv`) says what slot `pos L i` holds; `pos L` is onto
  `[0, n)` (`IbwtSort.pos_surj`), so that is every cell (`link_correct`): each keeps its
  byte and has a pointer below `n`.  Hence the traversal `emit()` performs stays inside
  `tt[0, n)` (`decode_walk_bound`) and is "follow the successor vector" for the stored
  pointers (`nodes_eq_follow`), which are `Spec.Ibwt.succVec` (`nodes_false_eq_ibwt`).
-/
import LbzVerif.Lemmas.IbwtSort

namespace LbzVerif.Lemmas.IbwtLink

open LbzVerif.Model.Ibwt
open LbzVerif.Lemmas.Ibwt
open LbzVerif.Lemmas.IbwtSort
open LbzVerif.Spec.Ibwt (succVec)

theorem link_correct (L : List UInt8) (ftab0 : List Nat) (hf : ftab0.length = 256)
    (hc : ∀ b, b < 256 → ftab0.getD b 0 = cntLt L b) :
    let tt := (link (L.map (·.toNat)) ftab0 L.length).1
    tt.length = L.length ∧
      (∀ i, i < L.length → tt.getD (pos L i) 0 = byteAt L (pos L i) + i * 256) ∧
      (∀ q, q < L.length → tt.getD q 0 % 256 = byteAt L q ∧ tt.getD q 0 >>> 8 < L.length) := by
  have h := link_inv L ftab0 hf hc
  have h2 : ∀ i, i < L.length → (link (L.map (·.toNat)) ftab0 L.length).1.getD (pos L i) 0 =
      byteAt L (pos L i) + i * 256 := by
    intro i hi
    rw [h.tt _ (pos_lt L i hi), S_pos L i hi L.length (Nat.le_refl _)]
    simp [hi]
  refine ⟨h.ttLen, h2, ?_⟩
  -- every slot is `pos L i` for some `i < n`, which is what it holds
  intro q hq
  obtain ⟨i, hi, rfl⟩ := pos_surj L q hq
  have hb := byteAt_lt L (pos L i)
  rw [h2 i hi, Nat.shiftRight_eq_div_pow]
  constructor <;> omega

theorem link_ptr (L : List UInt8) (ftab0 : List Nat) (hf : ftab0.length = 256)
    (hc : ∀ b, b < 256 → ftab0.getD b 0 = cntLt L b) (i : Nat) (hi : i < L.length) :
    (link (L.map (·.toNat)) ftab0 L.length).1.getD (pos L i) 0 >>> 8 = i := by
  have hb := byteAt_lt L (pos L i)
  rw [(link_correct L ftab0 hf hc).2.1 i hi, Nat.shiftRight_eq_div_pow]
  omega

theorem walkMaxPtr_lt (tt : List Nat) (n : Nat) (hn : 0 < n)
    (h : ∀ q, q < n → tt.getD q 0 >>> 8 < n) :
    ∀ (m p : Nat), p >>> 8 < n → walkMaxPtr tt m p < n := by
  intro m
  induction m with
  | zero => intro p _; simpa [walkMaxPtr] using hn
  | succ m ih =>
    intro p hp
    simp only [walkMaxPtr]
    have := ih (tt.getD (p >>> 8) 0) (h _ hp)
    omega

theorem decode_walk_bound (L : List UInt8) (idx : Nat) (hidx : idx < L.length) :
    let d := decode false idx L (counts L)
    walkMaxPtr d.tt L.length d.rleIndex < L.length := by
  obtain ⟨hfl, hfc⟩ := cumulate_counts L
  obtain ⟨_, _, hq⟩ := link_correct L (cumulate 0 (counts L)) hfl hfc
  simp only [decode, Bool.false_eq_true, if_false]
  exact walkMaxPtr_lt _ L.length (by omega) (fun q hq' => (hq q hq').2) _ _ (hq idx hidx).2

theorem getD_map_shr8 (tt : List Nat) (q : Nat) :
    (tt.map (· >>> 8)).getD q 0 = tt.getD q 0 >>> 8 :=
  ListAux.getD_map (· >>> 8) tt q 0

theorem walk_eq_follow (L : List UInt8) (tt : List Nat)
    (h : ∀ q, q < L.length → tt.getD q 0 % 256 = byteAt L q ∧ tt.getD q 0 >>> 8 < L.length) :
    ∀ (m q0 : Nat), q0 < L.length →
      walk tt m (tt.getD q0 0) = Spec.Ibwt.follow L (tt.map (· >>> 8)) m q0 := by
  intro m
  induction m with
  | zero => intro q0 _; simp [walk, Spec.Ibwt.follow]
  | succ m ih =>
    intro q0 hq0
    obtain ⟨_, hp⟩ := h q0 hq0
    obtain ⟨hb, _⟩ := h _ hp
    simp only [walk, Spec.Ibwt.follow, getD_map_shr8]
    rw [ih _ hp, hb]
    simp [byteAt]

theorem nodes_eq_follow (L : List UInt8) (idx : Nat) (hidx : idx < L.length) :
    ∃ T : List Nat, T.length = L.length ∧ (∀ i, i < L.length → T.getD (pos L i) 0 = i) ∧
      nodes false idx L = Spec.Ibwt.follow L T L.length idx := by
  obtain ⟨hfl, hfc⟩ := cumulate_counts L
  obtain ⟨hlen, _, hq⟩ := link_correct L (cumulate 0 (counts L)) hfl hfc
  refine ⟨(link (L.map (·.toNat)) (cumulate 0 (counts L)) L.length).1.map (· >>> 8),
    by simp [hlen], ?_, ?_⟩
  · intro i hi
    rw [getD_map_shr8, link_ptr L _ hfl hfc i hi]
  · simp only [nodes, decode, Bool.false_eq_true, if_false]
    exact walk_eq_follow L _ hq L.length idx hidx

theorem nodes_false_eq_ibwt (L : List UInt8) (idx : Nat) (hidx : idx < L.length) :
    nodes false idx L = Spec.Ibwt.ibwt L idx := by
  obtain ⟨T, _, hT, hn⟩ := nodes_eq_follow L idx hidx
  rw [hn]
  exact follow_congr L T (succVec L) L.length (eq_succVec_of_pos L (T.getD · 0) hT)
    (succVec_getD_lt L) L.length idx hidx

end LbzVerif.Lemmas.IbwtLink
