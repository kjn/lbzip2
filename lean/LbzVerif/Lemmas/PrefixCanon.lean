/-
  Lemmas.PrefixCanon — the interval argument for canonical codes.

  For a complete length list the code word of symbol `i` is the top `ℓᵢ` bits
  of `offset20 i`, and the intervals `[offset20 i, offset20 i + width ℓᵢ)` are
  pairwise disjoint sub-intervals of `[0, 2^20)`, each aligned to its width.
  From this: the reference decoder finds no symbol on a proper prefix of a
  code word and exactly symbol `i` on the whole code word.
-/
import LbzVerif.Spec.Prefix
import LbzVerif.Lemmas.ListAux
import LbzVerif.Lemmas.ListSum

namespace LbzVerif.Lemmas.PrefixCanon
open LbzVerif.Spec.Prefix

theorem precedes_iff (lens : List Nat) (j i : Nat) :
    precedes lens j i = true ↔ lens[j]! < lens[i]! ∨ (lens[j]! = lens[i]! ∧ j < i) := by
  simp [precedes]

theorem width_pos (l : Nat) : 0 < width l := Nat.two_pow_pos _

theorem two_pow_mul {a b c : Nat} (h : a + b = c) : 2 ^ a * 2 ^ b = 2 ^ c := by
  rw [← Nat.pow_add, h]

theorem offset_step (lens : List Nat) (i j : Nat) (hj : j < lens.length)
    (hp : precedes lens j i = true) :
    offset20 lens j + width lens[j]! ≤ offset20 lens i := by
  apply ListSum.sum_indicator_add_le lens.length j (fun x => width lens[x]!) (precedes lens · j)
    (precedes lens · i) hj (by simp [precedes]) hp
  intro x hx
  have h1 := (precedes_iff lens x j).mp hx
  have h2 := (precedes_iff lens j i).mp hp
  apply (precedes_iff lens x i).mpr
  omega

theorem offset_top (lens : List Nat) (i : Nat) (hi : i < lens.length) :
    offset20 lens i + width lens[i]! ≤ kraft20 lens := by
  rw [kraft20, ← ListAux.map_range_getElem! lens width]
  have := ListSum.sum_indicator_add_le lens.length i (fun x => width lens[x]!) (precedes lens · i)
    (fun _ => true) hi (by simp [precedes]) rfl (fun _ _ => rfl)
  simpa [offset20] using this

theorem width_dvd_offset (lens : List Nat) (i : Nat) : width lens[i]! ∣ offset20 lens i := by
  unfold offset20
  apply ListSum.dvd_sum_map
  intro x _
  by_cases hp : precedes lens x i = true
  · have h := (precedes_iff lens x i).mp hp
    simp only [hp, if_true]
    unfold width
    apply Nat.pow_dvd_pow
    omega
  · simp [hp]

theorem offset_eq (lens : List Nat) (i : Nat) :
    canonCode lens i * width lens[i]! = offset20 lens i :=
  Nat.div_mul_cancel (width_dvd_offset lens i)

theorem disjoint (lens : List Nat) (i j : Nat) (hi : i < lens.length) (hj : j < lens.length)
    (hne : i ≠ j) :
    offset20 lens j + width lens[j]! ≤ offset20 lens i ∨
      offset20 lens i + width lens[i]! ≤ offset20 lens j := by
  by_cases h : precedes lens j i = true
  · exact Or.inl (offset_step lens i j hj h)
  · right
    apply offset_step lens j i hi
    apply (precedes_iff lens i j).mpr
    have := mt (precedes_iff lens j i).mpr h
    omega

theorem canonCode_lt (lens : List Nat) (hc : Complete lens) (i : Nat) (hi : i < lens.length) :
    canonCode lens i < 2 ^ lens[i]! := by
  have h1 := offset_top lens i hi
  have h2 := offset_eq lens i
  have hm := hc.2 _ (ListAux.getElem!_mem lens i hi)
  rw [hc.1] at h1
  have hw := width_pos lens[i]!
  have e : 2 ^ lens[i]! * width lens[i]! = 2 ^ 20 := two_pow_mul (by omega)
  rw [← h2, ← e] at h1
  have h3 : canonCode lens i * width lens[i]! < 2 ^ lens[i]! * width lens[i]! := by omega
  exact (Nat.mul_lt_mul_right hw).mp h3

theorem findSym_self (lens : List Nat) (i : Nat) (hi : i < lens.length) :
    findSym lens lens[i]! (canonCode lens i) = some i := by
  unfold findSym
  apply ListAux.find?_unique
  · exact List.mem_range.mpr hi
  · simp
  · intro b hb hpb
    have hb' := List.mem_range.mp hb
    simp only [Bool.and_eq_true, decide_eq_true_eq] at hpb
    by_cases hne : b = i
    · exact hne
    · exfalso
      have h1 := offset_eq lens b
      have h2 := offset_eq lens i
      rw [hpb.1, hpb.2] at h1
      have hw := width_pos lens[i]!
      have := disjoint lens i b hi hb' (fun h => hne h.symm)
      rw [hpb.1] at this
      omega

theorem div_interval (c p w : Nat) (hp : 0 < p) (hw : 0 < w) :
    c / p * (p * w) ≤ c * w ∧ c * w < c / p * (p * w) + p * w := by
  rw [← Nat.mul_assoc, ← Nat.add_mul]
  refine ⟨Nat.mul_le_mul_right _ (Nat.div_mul_le_self c p), (Nat.mul_lt_mul_right hw).mpr ?_⟩
  have := Nat.lt_mul_div_succ c hp
  rwa [Nat.mul_add, Nat.mul_one, Nat.mul_comm] at this

theorem findSym_prefix (lens : List Nat) (hc : Complete lens) (i : Nat) (hi : i < lens.length)
    (m : Nat) (hm0 : 0 < m) (hm : m ≤ lens[i]!) :
    findSym lens (lens[i]! - m) (canonCode lens i / 2 ^ m) = none := by
  unfold findSym
  rw [List.find?_eq_none]
  intro b hb hpb
  have hb' := List.mem_range.mp hb
  simp only [Bool.and_eq_true, decide_eq_true_eq] at hpb
  have hne : i ≠ b := by
    intro h; subst h; omega
  have hl20 := (hc.2 _ (ListAux.getElem!_mem lens i hi)).2
  -- the interval of `b` is `2^m` times as wide as that of `i` and contains its start
  have hwb : width lens[b]! = 2 ^ m * width lens[i]! := by
    rw [hpb.1]
    exact (two_pow_mul (by omega)).symm
  have h := div_interval (canonCode lens i) (2 ^ m) (width lens[i]!) (Nat.two_pow_pos m)
    (width_pos _)
  rw [← hpb.2, ← hwb, offset_eq, offset_eq] at h
  have hwi := width_pos lens[i]!
  have := disjoint lens i b hi hb' hne
  omega

theorem bit_step (c m : Nat) : 2 * (c / 2 ^ (m + 1)) + (bit c m).toNat = c / 2 ^ m := by
  unfold bit
  rw [Nat.pow_succ, ← Nat.div_div_eq_div_mul]
  by_cases h : c / 2 ^ m % 2 = 1
  · simp only [h, decide_true, Bool.toNat_true]; omega
  · simp only [h, decide_false, Bool.toNat_false]; omega

theorem decodeAux_cons (lens : List Nat) (fuel k v : Nat) (b : Bool) (bs : List Bool) :
    decodeAux lens (fuel + 1) k v (b :: bs) =
      match findSym lens (k + 1) (2 * v + b.toNat) with
      | some i => some (i, bs)
      | none => decodeAux lens fuel (k + 1) (2 * v + b.toNat) bs := rfl

theorem decodeAux_word (lens : List Nat) (hc : Complete lens) (i : Nat) (hi : i < lens.length)
    (r : List Bool) :
    ∀ m fuel, m + 1 ≤ lens[i]! → m + 1 ≤ fuel →
      decodeAux lens fuel (lens[i]! - (m + 1)) (canonCode lens i / 2 ^ (m + 1))
        (bitsMSB (m + 1) (canonCode lens i) ++ r) = some (i, r) := by
  intro m
  induction m with
  | zero =>
    intro fuel h1 h2
    obtain ⟨f, rfl⟩ : ∃ f, fuel = f + 1 := ⟨fuel - 1, by omega⟩
    rw [bitsMSB, List.cons_append, decodeAux_cons, bit_step, Nat.pow_zero, Nat.div_one,
      show lens[i]! - (0 + 1) + 1 = lens[i]! by omega, findSym_self lens i hi]
    rfl
  | succ m ih =>
    intro fuel h1 h2
    obtain ⟨f, rfl⟩ : ∃ f, fuel = f + 1 := ⟨fuel - 1, by omega⟩
    rw [bitsMSB, List.cons_append, decodeAux_cons, bit_step,
      show lens[i]! - (m + 1 + 1) + 1 = lens[i]! - (m + 1) by omega,
      findSym_prefix lens hc i hi (m + 1) (by omega) (by omega)]
    exact ih f (by omega) (by omega)
theorem decodeSym_encodeSym (lens : List Nat) (hc : Complete lens) (i : Nat) (hi : i < lens.length)
    (r : List Bool) : decodeSym lens (encodeSym lens i ++ r) = some (i, r) := by
  have hl := hc.2 _ (ListAux.getElem!_mem lens i hi)
  unfold decodeSym encodeSym
  obtain ⟨m, hm⟩ : ∃ m, lens[i]! = m + 1 := ⟨lens[i]! - 1, by omega⟩
  have h := decodeAux_word lens hc i hi r m 20 (by omega) (by omega)
  have hlt := canonCode_lt lens hc i hi
  rw [← hm, Nat.sub_self, Nat.div_eq_of_lt hlt] at h
  exact h

end LbzVerif.Lemmas.PrefixCanon
