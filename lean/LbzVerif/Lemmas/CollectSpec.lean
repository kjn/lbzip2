/-
  Lemmas.CollectSpec — the reference machine `canon` against the specification:
  its state is a representation `repr` of the specification's encoder state,
  `push` is `stepSt` on it, and the one test of `canon` is "the run-length
  encoding of the bytes accepted so far plus this byte still fits into `cap`".
-/
import LbzVerif.Lemmas.CollectSplit
import LbzVerif.Lemmas.Rle1Len

namespace LbzVerif.Lemmas.CollectSpec
open LbzVerif.Spec LbzVerif.Model LbzVerif.Lemmas.Rle1Len LbzVerif.Lemmas.CollectCanon

theorem finish_eq (s : CollectState) : finish s = close s.block s.rle := by
  unfold finish close; cases s.rle <;> rfl

/-- The C block and `rle_state` that stand for the specification's encoder state: the
block holds the closed runs and up to four copies of the open run (its count byte is
still missing). -/
def repr (st : RunSt) : List UInt8 × Rle :=
  (st.out ++ List.replicate (min st.r 4) st.c, if st.r = 0 then .idle else .run st.r st.c)

theorem close_repr (st : RunSt) : close (repr st).1 (repr st).2 = encSt st := by
  rcases st with ⟨out, c, r⟩
  simp only [repr, encSt, flush, close]
  by_cases h0 : r = 0
  · subst h0; simp
  · simp only [h0, if_false]
    by_cases h4 : r ≥ 4
    · simp [h4, show min r 4 = 4 by omega, List.replicate]
    · simp [h4, show min r 4 = r by omega]

theorem push_repr (st : RunSt) (x : UInt8) :
    push (repr st).1 (repr st).2 x = repr (stepSt st x) := by
  have hc := close_repr st
  rcases st with ⟨out, c, r⟩
  by_cases h0 : r = 0
  · subst h0
    rw [stepSt_zero, ← hc]
    simp [repr, push, close]
  · by_cases hx : x = c
    · subst hx
      rw [stepSt_same]
      by_cases hmax : r + 1 = maxRun
      · have hm : maxRun = 259 := rfl
        have : ¬ r < 4 := by omega
        simp [repr, push, h0, hmax, this, flush, hm, show min r 4 = 4 by omega,
          List.replicate]
      · have hm : ¬ r + 1 = MAX_RUN_LENGTH := hmax
        by_cases h4 : r < 4
        · simp [repr, push, h0, hmax, h4, show min r 4 = r by omega,
            show min (r + 1) 4 = r + 1 by omega, List.replicate_succ']
        · simp [repr, push, h0, hmax, h4, show min r 4 = 4 by omega,
            show min (r + 1) 4 = 4 by omega]
    · rw [stepSt_ne hx, ← hc]
      simp [repr, push, h0, hx]

theorem close_eq_of_le {cap : Nat} {blk : List UInt8} {rle : Rle}
    (h : (close blk rle).length ≤ cap) (hn : blk.length ≥ cap) : close blk rle = blk := by
  cases rle with
  | run n c =>
    simp only [close] at h ⊢
    split
    · rename_i h4; rw [if_pos h4] at h; simp at h; omega
    · rfl
  | _ => rfl

theorem repr_ne_full (st : RunSt) : (repr st).2 ≠ .full := by
  unfold repr; split <;> simp

theorem canon_spec (cap : Nat) (p : List UInt8) : ∀ crc st,
    lenSt st ≤ cap →
    ∃ k, k + (canon cap (repr st).1 (repr st).2 crc p).2 = p.length ∧
      lenSt ((p.take k).foldl stepSt st) ≤ cap ∧
      (k < p.length → cap < lenSt ((p.take (k + 1)).foldl stepSt st)) ∧
      finish (canon cap (repr st).1 (repr st).2 crc p).1 = encSt ((p.take k).foldl stepSt st) ∧
      (canon cap (repr st).1 (repr st).2 crc p).1.crc = crcFold crc (p.take k) := by
  induction p with
  | nil =>
    intro crc st hfit
    refine ⟨0, ?_, hfit, by simp, ?_, ?_⟩
    · simp only [canon]; split <;> rfl
    · rw [finish_eq, ← close_repr]
      simp only [canon, List.take_nil, List.foldl_nil]
      split
      · rename_i hn
        exact (close_eq_of_le (by rw [close_repr, ← lenSt_eq]; exact hfit) hn).symm
      · rfl
    · simp only [canon]; split <;> rfl
  | cons x p ih =>
    intro crc st hfit
    simp only [canon, push_repr st x, close_repr, ← lenSt_eq, repr_ne_full, ne_eq,
      not_false_eq_true, true_and]
    by_cases hacc : lenSt (stepSt st x) ≤ cap
    · rw [if_pos hacc]
      obtain ⟨k, hk, h1, h2, h3, h4⟩ := ih (crcStep crc x) (stepSt st x) hacc
      exact ⟨k + 1, by simp only [List.length_cons]; omega, by simpa using h1,
        fun hk' => by simpa using h2 (by simp only [List.length_cons] at hk'; omega),
        by simpa using h3, by simpa [crcFold] using h4⟩
    · rw [if_neg hacc]
      refine ⟨0, by simp [done], by simpa using hfit, fun _ => by simpa using Nat.lt_of_not_le hacc,
        ?_, by simp [done, crcFold]⟩
      rw [finish_eq]
      simp [done, close]

end LbzVerif.Lemmas.CollectSpec

