/-
  Lemmas.ScanLps — the generic border argument behind Knuth–Morris–Pratt:
  the longest pattern prefix that is a suffix of `w ++ [b]` only depends on the
  longest pattern prefix that is a suffix of `w`, and on `b`.
  Independent of the concrete pattern and of the scanner tables.
-/
import LbzVerif.Spec.Scan

namespace LbzVerif.Lemmas.ScanLps

open LbzVerif.Spec.Scan

variable (pat w w' : List Bool)

theorem lpsFrom_le (n : Nat) : lpsFrom pat w n ≤ n := by
  induction n with
  | zero => simp [lpsFrom]
  | succ k ih => unfold lpsFrom; split <;> omega

theorem lpsFrom_suffix (n : Nat) : pat.take (lpsFrom pat w n) <:+ w := by
  induction n with
  | zero => simp [lpsFrom]
  | succ k ih =>
    unfold lpsFrom
    split
    · rename_i h; exact List.isSuffixOf_iff_suffix.mp h
    · exact ih

theorem lpsFrom_max (n k : Nat) (hk : k ≤ n) (h : pat.take k <:+ w) :
    k ≤ lpsFrom pat w n := by
  induction n with
  | zero => omega
  | succ m ih =>
    unfold lpsFrom
    split
    · exact hk
    · rename_i hns
      rcases Nat.lt_or_ge k (m + 1) with hlt | hge
      · exact ih (by omega)
      · have : k = m + 1 := by omega
        subst this
        exact absurd (List.isSuffixOf_iff_suffix.mpr h) hns

theorem lpsFrom_congr (n : Nat)
    (h : ∀ k ≤ n, pat.take k <:+ w ↔ pat.take k <:+ w') :
    lpsFrom pat w n = lpsFrom pat w' n := by
  induction n with
  | zero => simp [lpsFrom]
  | succ m ih =>
    have ih' := ih (fun k hk => h k (by omega))
    have hm := h (m + 1) (Nat.le_refl _)
    unfold lpsFrom
    simp only [List.isSuffixOf_iff_suffix]
    by_cases hc : pat.take (m + 1) <:+ w
    · simp [hc, hm.mp hc]
    · have hc' : ¬ pat.take (m + 1) <:+ w' := fun x => hc (hm.mpr x)
      simp [hc, hc', ih']

theorem concat_suffix_concat (x y : List Bool) (a b : Bool) :
    x ++ [a] <:+ y ++ [b] ↔ a = b ∧ x <:+ y := by
  rw [← List.reverse_prefix]
  simp only [List.reverse_append, List.reverse_cons, List.reverse_nil,
    List.nil_append, List.cons_append]
  rw [List.cons_prefix_cons, List.reverse_prefix]

theorem take_succ_suffix_concat (j : Nat) (hj : j < pat.length) (b : Bool) :
    pat.take (j + 1) <:+ w ++ [b] ↔ pat[j] = b ∧ pat.take j <:+ w := by
  rw [List.take_succ_eq_append_getElem hj]
  exact concat_suffix_concat _ _ _ _

theorem lpsFrom_step (n : Nat) (hn : n ≤ pat.length) (b : Bool) :
    lpsFrom pat (w ++ [b]) n =
      lpsFrom pat (pat.take (lpsFrom pat w n) ++ [b]) n := by
  apply lpsFrom_congr
  intro k hk
  cases k with
  | zero => simp
  | succ j =>
    have hj : j < pat.length := by omega
    rw [take_succ_suffix_concat pat w j hj b,
      take_succ_suffix_concat pat _ j hj b]
    have hs := lpsFrom_suffix pat w n
    constructor
    · rintro ⟨hb, hsuf⟩
      refine ⟨hb, ?_⟩
      have hle : j ≤ lpsFrom pat w n := lpsFrom_max pat w n j (by omega) hsuf
      have hsn := lpsFrom_le pat w n
      apply List.suffix_of_suffix_length_le hsuf hs
      simp only [List.length_take]
      omega
    · rintro ⟨hb, hsuf⟩
      exact ⟨hb, hsuf.trans hs⟩

end LbzVerif.Lemmas.ScanLps
