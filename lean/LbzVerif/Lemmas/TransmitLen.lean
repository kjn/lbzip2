/-
  Lemmas.TransmitLen — the number of bits each part of `transmit()` writes,
  and that the total is what `encode()` computed as `cost`.
-/
import LbzVerif.Model.Transmit
import LbzVerif.Lemmas.SpecBasic
import LbzVerif.Props.C02
import LbzVerif.Lemmas.ListAux
import LbzVerif.Lemmas.ListSum

namespace LbzVerif.Lemmas.TransmitLen
open LbzVerif LbzVerif.Basic LbzVerif.Model.Canon LbzVerif.Model.Transmit
open LbzVerif.Lemmas.ListAux LbzVerif.Lemmas.ListSum
export LbzVerif.Lemmas.ListAux (map_range_getD)

theorem send_length (n v : Nat) : (send n v).length = n := natToBits_length n v

theorem treePad_le {b : EncBlock} (h : WF b) : b.treePad ≤ 3 := by
  rw [h.pad_eq]; exact (Props.C02.pad_mod8 _).2.1

theorem alphaSize_pos (b : EncBlock) : 1 ≤ b.alphaSize := by
  unfold EncBlock.alphaSize; omega

theorem mtfv_length_pos {b : EncBlock} (h : b.mtfv ≠ []) : 1 ≤ b.mtfv.length :=
  List.length_pos_iff.mpr h

theorem _root_.LbzVerif.Model.Transmit.WF.trees_range {b : EncBlock} (h : WF b) :
    2 ≤ b.numTrees ∧ b.numTrees ≤ 6 :=
  ⟨h.trees_ge, h.trees_le⟩

theorem _root_.LbzVerif.Model.Transmit.WF.table {b : EncBlock} (h : WF b) {t : Nat}
    (ht : t < b.numTrees) :
    ∃ a0 rest, b.lens.getD t [] = a0 :: rest ∧ (a0 :: rest).length = b.alphaSize ∧
      ∀ c ∈ a0 :: rest, 1 ≤ c ∧ c ≤ 20 := by
  have hok := h.lens_ok _ (getD_mem [] (h.lens_len ▸ ht))
  cases hq : b.lens.getD t [] with
  | nil =>
    have hpos := alphaSize_pos b
    rw [hq, List.length_nil] at hok
    omega
  | cons a0 rest =>
    rw [hq] at hok
    exact ⟨a0, rest, rfl, hok.1, hok.2⟩

theorem selLoop_length (p : Nat) (cs : List Nat) : (selLoop p cs).length = cs.length := by
  induction cs generalizing p with
  | nil => rfl
  | cons c cs ih => simp [selLoop, ih]

theorem selectorMtf_length {b : EncBlock} (h : WF b) : b.selectorMtf.length = b.numSelectors := by
  rw [h.selMtf_eq, h.nsel_eq]
  simp [selectorMtfOf, selLoop_length, h.sel_len]

theorem headerBits_length (b : EncBlock) : (headerBits b).length = 105 := by
  simp [headerBits, send_length]

theorem bodyBits_eq (b : EncBlock) :
    bodyBits b =
      send 32 (b.crc ^^^ 0xFFFFFFFF) ++ send 1 0 ++ send 24 b.bwtIdx ++ bitmapBits b.cmap ++
        send 3 b.numTrees ++ send 15 b.numSelectors ++ selectorBits b ++
        (List.range b.numTrees).flatMap (tableBits b) ++ (List.range b.ns).flatMap (groupBits b) := by
  unfold bodyBits transmitBits headerBits
  simp only [List.append_assoc]
  rw [← List.append_assoc (send 24 _) (send 24 _), List.drop_left' (by simp [send_length])]

theorem packRow_ne_zero (cmap : List Bool) (i : Nat) :
    (packRow cmap i != 0) = (List.range 16).any (fun j => cmap.getD (16 * i + j) false) := by
  rw [Bool.eq_iff_iff]
  simp only [bne_iff_ne, ne_eq, packRow, bitsToNat, bitsToNatAux_eq_zero, true_and,
    List.all_map, List.any_eq_true, List.all_eq_true, Function.comp, beq_iff_eq,
    Classical.not_forall, Bool.not_eq_false, exists_prop]

theorem bitmapBits_length (cmap : List Bool) : (bitmapBits cmap).length = bitmapCost cmap := by
  unfold bitmapBits bitmapCost
  rw [List.length_append, send_length, List.length_flatMap, Nat.add_comm]
  have hm : (List.range 16).map (fun a =>
        (if packRow cmap a != 0 then send 16 (packRow cmap a) else []).length) =
      (List.range 16).map (fun i =>
        (if (List.range 16).any (fun j => cmap.getD (16 * i + j) false) then 1 else 0) <<< 4) := by
    apply List.map_congr_left
    intro i _
    rw [packRow_ne_zero]
    split <;> simp [send_length]
  rw [hm]

theorem bitmapCost_mod (cmap : List Bool) : bitmapCost cmap % 8 = 0 := by
  unfold bitmapCost
  have := dvd_sum_map (List.range 16) (fun i =>
      (if (List.range 16).any (fun j => cmap.getD (16 * i + j) false) then 1 else 0) <<< 4) 8
    (by intro x _; split <;> decide)
  omega

theorem selectorBits_length (b : EncBlock) (h : b.selectorMtf.length = b.numSelectors) :
    (selectorBits b).length = (b.selectorMtf.map (· + 1)).sum := by
  simp only [selectorBits, List.length_flatMap, send_length]
  rw [← h, map_range_getD b.selectorMtf 0 (fun x => 1 + x)]
  congr 1
  apply List.map_congr_left
  intro a _
  omega

theorem flatten_replicate_length (n : Nat) (w : Bits) :
    (List.replicate n w).flatten.length = n * w.length := by
  simp [List.length_flatten, List.sum_replicate_nat]

theorem deltaCode_length (a c : Nat) : (deltaCode a c).length = 2 * absDiff a c + 1 := by
  simp only [deltaCode, List.length_append, flatten_replicate_length, send_length, absDiff]
  omega

theorem deltaLoop_length (a : Nat) (cs : List Nat) :
    (deltaLoop a cs).length = 2 * deltaSum (a :: cs) + cs.length := by
  induction cs generalizing a with
  | nil => simp [deltaLoop, deltaSum]
  | cons c cs ih =>
    simp only [deltaLoop, List.length_append, deltaCode_length, ih, deltaSum, List.length_cons]
    omega

theorem tableRow_self (len : List Nat) : tableRow len.length len = len :=
  range_getD_self len 0

theorem deltaSum_cons_self (a : Nat) (cs : List Nat) :
    deltaSum (a :: a :: cs) = deltaSum (a :: cs) := by
  simp [deltaSum, absDiff]

theorem groupBits_length (b : EncBlock) (gr : Nat) : (groupBits b gr).length = groupCost b gr := by
  simp [groupBits, groupCost, List.length_flatMap, send_length]

theorem selector_sum {b : EncBlock} (h : WF b) :
    (b.selectorMtf.map (· + 1)).sum =
      ((b.selectorMtf.take b.ns).map (· + 1)).sum + dummySelectors (costBase b) := by
  have hl : (selectorMtfOf b.selectors).length = b.ns := by
    simp [selectorMtfOf, selLoop_length, h.sel_len]
  generalize hd : dummySelectors (costBase b) = d
  have he := h.selMtf_eq
  rw [hd] at he
  rw [he, List.take_left' hl]
  simp [List.sum_append, List.sum_replicate_nat]

/-- Bits of one table: its cost, plus `2·tree_pad` for the first table. -/
theorem tableBits_length {b : EncBlock} (h : WF b) {t : Nat} (ht : t < b.numTrees) :
    (tableBits b t).length =
      tableCost (b.lens.getD t []) + (if t = 0 then 2 * b.treePad else 0) := by
  obtain ⟨a0, rest, hl, has, -⟩ := h.table ht
  have hp := treePad_le h
  simp only [tableBits, hl, List.length_append, send_length]
  rw [← has, tableRow_self, deltaLoop_length]
  simp only [List.getD_cons_zero, tableCost, List.length_cons]
  split
  · have hd : deltaSum (paddedStart a0 b.treePad :: a0 :: rest) =
        b.treePad + deltaSum (a0 :: rest) := by
      simp only [deltaSum, absDiff, paddedStart]
      split <;> omega
    rw [hd]; omega
  · rw [deltaSum_cons_self]; omega

theorem startValue_range {a0 pad : Nat} (t : Nat) (ha : 1 ≤ a0 ∧ a0 ≤ 20) (hp : pad ≤ 3) :
    1 ≤ (if t = 0 then paddedStart a0 pad else a0) ∧
      (if t = 0 then paddedStart a0 pad else a0) ≤ 20 := by
  split
  · have := Props.C02.treePad_in_range a0 pad ha.1 ha.2 hp
    exact ⟨this.1, this.2.1⟩
  · exact ha

theorem tables_sum {b : EncBlock} (h : WF b) :
    ((List.range b.numTrees).map (fun t => (tableBits b t).length)).sum =
      (b.lens.map tableCost).sum + 2 * b.treePad := by
  have hm : (List.range b.numTrees).map (fun t => (tableBits b t).length) =
      (List.range b.numTrees).map
        (fun t => tableCost (b.lens.getD t []) + (if t = 0 then 2 * b.treePad else 0)) :=
    List.map_congr_left fun t ht => tableBits_length h (List.mem_range.mp ht)
  rw [hm, sum_map_add, sum_range_indicator _ 0 _ (by have := h.trees_range; omega)]
  rw [← h.lens_len, map_range_getD b.lens [] tableCost]

theorem transmitBits_length {b : EncBlock} (h : WF b) : (transmitBits b).length = cost b := by
  have h1 := headerBits_length b
  have h2 := bitmapBits_length b.cmap
  have h3 := selectorBits_length b (selectorMtf_length h)
  have h4 := selector_sum h
  have h5 := tables_sum h
  have h6 : ((List.range b.ns).map (fun gr => (groupBits b gr).length)).sum =
      ((List.range b.ns).map (groupCost b)).sum := by
    congr 1
    apply List.map_congr_left
    intro gr _
    exact groupBits_length b gr
  have h7 := (Props.C02.pad_mod8 (costBase b)).2.2
  rw [← h.pad_eq] at h7
  simp only [transmitBits, List.length_append, List.length_flatMap, send_length, h1, h2, h3, h4,
    h5, h6]
  unfold cost
  rw [h7]
  unfold costBase gpcCost
  omega

theorem cost_mod8 (b : EncBlock) : cost b % 8 = 0 := by
  unfold cost
  have h1 := (Props.C02.pad_mod8 (costBase b)).1
  have h2 := (Props.C02.pad_mod8 (costBase b)).2.2
  have h3 := bitmapCost_mod b.cmap
  omega

end LbzVerif.Lemmas.TransmitLen
