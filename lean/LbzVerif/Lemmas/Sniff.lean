/-
  Lemmas.Sniff — what `work()` reads before it decides: `xread` delivers exactly the bytes asked
  for whatever the sizes of the `read(2)` calls, and the sniff chooses decompression iff the
  input starts with `BZh1` … `BZh9` (`hasHeader`, `headerLevel`, `sniff_decision`).
-/
import LbzVerif.Model.Copy

namespace LbzVerif.Lemmas.Copy

open LbzVerif.Gen LbzVerif.Model.Copy

theorem readSize_le (h v a : Nat) : readSize h v a ≤ v ∧ readSize h v a ≤ a := by
  unfold readSize
  omega

theorem readSize_eq_zero (h v a : Nat) (hv : v ≠ 0) : readSize h v a = 0 ↔ a = 0 := by
  unfold readSize
  omega

theorem xreadGo_spec (fuel : Nat) : ∀ (inp : List UInt8) (vacant : Nat) (frag : List Nat),
    vacant ≤ fuel →
    (xreadGo fuel inp vacant frag).got = inp.take vacant ∧
    (xreadGo fuel inp vacant frag).rest = inp.drop vacant ∧
    (xreadGo fuel inp vacant frag).vacant = vacant - inp.length := by
  induction fuel with
  | zero =>
    intro inp vacant frag h
    have : vacant = 0 := by omega
    subst this
    simp [xreadGo]
  | succ fuel ih =>
    intro inp vacant frag h
    unfold xreadGo
    by_cases hv : vacant = 0
    · subst hv
      simp
    · rw [if_neg hv]
      have hle := readSize_le (frag.headD vacant) vacant inp.length
      by_cases hr : readSize (frag.headD vacant) vacant inp.length = 0
      · simp only [hr, if_true]
        have : inp.length = 0 := (readSize_eq_zero _ _ _ hv).1 hr
        have : inp = [] := List.eq_nil_of_length_eq_zero this
        subst this
        simp
      · simp only [hr, if_false]
        generalize hrd : readSize (frag.headD vacant) vacant inp.length = rd at hle hr
        obtain ⟨h1, h2, h3⟩ := ih (inp.drop rd) (vacant - rd) frag.tail (by omega)
        have e : vacant = rd + (vacant - rd) := by omega
        refine ⟨?_, ?_, ?_⟩
        · rw [h1]
          conv => rhs; rw [e, List.take_add]
        · rw [h2, List.drop_drop]
          congr 1
          omega
        · rw [h3, List.length_drop]
          omega

theorem xread_spec (inp : List UInt8) (vacant : Nat) (frag : List Nat) :
    (xread inp vacant frag).got = inp.take vacant ∧
    (xread inp vacant frag).rest = inp.drop vacant ∧
    (xread inp vacant frag).vacant = vacant - inp.length :=
  xreadGo_spec vacant inp vacant frag (Nat.le_refl _)

def hasHeader : List UInt8 → Bool
  | b0 :: b1 :: b2 :: b3 :: _ =>
    b0.toNat == 0x42 && b1.toNat == 0x5A && b2.toNat == 0x68 &&
      (Nat.ble 0x31 b3.toNat && Nat.ble b3.toNat 0x39)
  | _ => false

def headerLevel : List UInt8 → Nat
  | _ :: _ :: _ :: b3 :: _ => b3.toNat - 0x30
  | _ => 0

theorem isMagic_iff (inp : List UInt8) :
    isMagic (inp.take sniffLen) (sniffLen - inp.length) = hasHeader inp := by
  match inp with
  | [] => rfl
  | [_] => rfl
  | [_, _] => rfl
  | [_, _, _] => rfl
  | b0 :: b1 :: b2 :: b3 :: rest =>
    have h0 := b0.toNat_lt
    have h1 := b1.toNat_lt
    have h2 := b2.toNat_lt
    have h3 := b3.toNat_lt
    simp only [sniffLen, List.take_succ_cons, List.take_zero, List.length_cons, isMagic, be32,
      hasHeader, sniffMagicBase, sniffLo, sniffHi]
    rw [Bool.eq_iff_iff]
    simp only [Bool.and_eq_true, beq_iff_eq, Nat.ble_eq]
    omega

theorem hasHeader_iff (inp : List UInt8) :
    hasHeader inp = true ↔
      ∃ b3 rest, inp = 0x42 :: 0x5A :: 0x68 :: b3 :: rest ∧ 0x31 ≤ b3.toNat ∧ b3.toNat ≤ 0x39 := by
  constructor
  · intro hh
    match inp, hh with
    | b0 :: b1 :: b2 :: b3 :: rest, hh =>
      simp only [hasHeader, Bool.and_eq_true, beq_iff_eq, Nat.ble_eq] at hh
      obtain ⟨⟨⟨h0, h1⟩, h2⟩, h3, h4⟩ := hh
      have e0 : b0 = 0x42 := UInt8.toNat_inj.mp h0
      have e1 : b1 = 0x5A := UInt8.toNat_inj.mp h1
      have e2 : b2 = 0x68 := UInt8.toNat_inj.mp h2
      exact ⟨b3, rest, by rw [e0, e1, e2], h3, h4⟩
  · rintro ⟨b3, rest, rfl, h3, h4⟩
    simp only [hasHeader, Bool.and_eq_true, beq_iff_eq, Nat.ble_eq]
    exact ⟨⟨⟨rfl, rfl⟩, rfl⟩, h3, h4⟩

theorem sniff_decision (inp : List UInt8) (frag : List Nat) (force stdout : Bool) :
    (sniff inp frag force stdout).1 =
      if hasHeader inp then .decompress (headerLevel inp)
      else if force && stdout then .copy (inp.take 4) else .fail := by
  obtain ⟨h1, _, h3⟩ := xread_spec inp sniffLen frag
  simp only [sniff, decision, h1, h3, isMagic_iff]
  by_cases hh : hasHeader inp = true
  · rw [if_pos hh, if_pos hh]
    obtain ⟨b3, rest, rfl, hlo, _⟩ := (hasHeader_iff inp).mp hh
    have e : be32 (List.take sniffLen (0x42 :: 0x5A :: 0x68 :: b3 :: rest)) =
        0x42 * 2 ^ 24 + 0x5A * 2 ^ 16 + 0x68 * 2 ^ 8 + b3.toNat := rfl
    have e2 : headerLevel (0x42 :: 0x5A :: 0x68 :: b3 :: rest) = b3.toNat - 0x30 := rfl
    have e3 : sniffMagicBase = 1113221168 := rfl
    rw [e, e2, e3]
    apply congrArg Decision.decompress
    omega
  · rw [if_neg hh, if_neg hh]
    rfl

end LbzVerif.Lemmas.Copy
