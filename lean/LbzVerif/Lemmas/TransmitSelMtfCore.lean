/-
  Lemmas.TransmitSelMtfCore — the finite core of `selectorMtf_spec`: one step
  of the branch-free selector MTF of `encode()` (MTF state packed into the
  nibbles of a 32-bit word, `0x543210` initially) agrees with one ordinary
  move-to-front step, for EVERY arrangement of the six table numbers and
  every selector value.  720 arrangements × 6 values, enumerated by `sweep` and evaluated by
  the kernel.
  The count of trailing zeros is kept out of the sweep: the word it is taken
  of is determined by the mask, and there are only six masks.
  A module of its own (declaring into the namespace of TransmitSelMtf.lean) so that the
  sweep is re-checked only when `Model.Transmit` changes, not with every edit of the lifting.
-/
import LbzVerif.Model.Transmit

namespace LbzVerif.Lemmas.TransmitSelMtf
open LbzVerif LbzVerif.Model.Transmit

/-- MTF list → packed state: front element in the lowest nibble. -/
def pack : List Nat → Nat
  | [] => 0
  | x :: xs => x + 16 * pack xs

/-- One ordinary move-to-front step: `c` moved to the front. -/
def mtfNext (l : List Nat) (c : Nat) : List Nat := c :: l.eraseIdx (l.idxOf c)

/-- The mask `l` of `selStep`. -/
def selMask (p c : Nat) : Nat :=
  let v := p ^^^ ((0x111111 * c) % M32)
  let z := ((v + 0xEEEEEF) % M32) &&& 0x888888
  z ^^^ ((z + M32 - 1) % M32)

theorem selStep_snd (p c : Nat) :
    (selStep p c).2 = ((ctz32 ((M32 - 1) ^^^ selMask p c) >>> 2) + 256 - 1) % 256 := rfl

theorem ctz32_not_ones : ∀ k ≤ 32, ctz32 ((M32 - 1) ^^^ (2 ^ k - 1)) = k := by decide +kernel

/-- The mask covers the nibbles up to and including the one that holds `c`,
    and the new state is the packed moved list. -/
def stepOK (l : List Nat) (c : Nat) : Bool :=
  selMask (pack l) c == 2 ^ (4 * l.idxOf c + 4) - 1 && (selStep (pack l) c).1 == pack (mtfNext l c)

/-- `f` at the six table numbers (cheaper for the kernel than `(List.range 6).all f`) -/
def all6 (f : Nat → Bool) : Bool := f 0 && f 1 && f 2 && f 3 && f 4 && f 5

/-- `stepOK` for every arrangement that puts `n` further distinct table numbers in front of `l`,
    and every selector value; bit `a` of `m` says that `a` occurs in `l`. -/
def sweep : Nat → Nat → List Nat → Bool
  | 0, _, l => all6 (stepOK l)
  | n + 1, m, l => all6 fun a => m.testBit a || sweep n (m ||| 2 ^ a) (a :: l)

theorem sweep_true : sweep 6 0 [] = true := by decide +kernel

end LbzVerif.Lemmas.TransmitSelMtf
