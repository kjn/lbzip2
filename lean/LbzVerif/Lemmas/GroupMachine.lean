/-
  Lemmas.GroupMachine — the group loop of `Model.Retrieve` (slow branch:
  `selectTree`, then `NEED(S_PREFIX)` + table lookup + symbol action per
  symbol, possibly suspended) computes `GroupDefs.groupsRef` on the unread
  bits: same verdict, same run state, same unread bits — unless the words run
  out (`group_machine` for one group, `groups_machine` for the loop).  Same "iff
  with escape" pattern as `RetrieveDelta.delta_loop`.
-/
import LbzVerif.Lemmas.GroupPure
import LbzVerif.Lemmas.TreeSound
import LbzVerif.Lemmas.RetrieveHeader
import LbzVerif.Lemmas.RetrieveFast

namespace LbzVerif.Lemmas.GroupMachine
open LbzVerif.Model.Retrieve LbzVerif.Spec.Prefix
open LbzVerif.Model.MtfDec (RunSt)
open LbzVerif.Model
open LbzVerif.Lemmas.RetrieveBits LbzVerif.Lemmas.RetrieveValues LbzVerif.Lemmas.RetrieveSplit
open LbzVerif.Lemmas.RetrieveEqns LbzVerif.Lemmas.RetrieveSim
open LbzVerif.Lemmas.RetrieveFast LbzVerif.Lemmas.RetrieveDelta LbzVerif.Lemmas.RetrieveTables
open LbzVerif.Lemmas.GroupDefs LbzVerif.Lemmas.TreeSound
open LbzVerif.Lemmas.TransmitSym LbzVerif.Lemmas.TreeCode

/-- On a legal buffer with at least 32 (at most 63) live bits the table lookup
and the oracle's bit-by-bit decoder read the same symbol from the unread bits. -/
theorem window_decode (lens : List Nat) (hc : Complete lens) (hn : lens.length ≤ 258) (v w : Nat)
    (inv : BufInv v w) (hw32 : 32 ≤ w) (hw63 : w ≤ 63) (R : List Bool) :
    ∃ i l p, Canon.lookup (Canon.mkTree lens) v = some (Canon.renumber lens.length i, l) ∧ 1 ≤ l ∧ l ≤ 20 ∧
      Spec.Bzip2.decodeSym (Spec.Bzip2.mkCode lens) 0 (bufBits v w ++ R) =
        .ok (i, p, (bufBits v w ++ R).drop l) := by
  obtain ⟨l, r, i, hd, hl⟩ := lookup_sound lens hc hn v (window_lt v w inv hw63)
  have l20 := hd.l20
  refine ⟨i, l, 0 + l, hl, hd.l1, l20, ?_⟩
  have hsplit : bufBits v w = Basic.natToBits lens[i]! (canonCode lens i) ++ (bufBits v w).drop l := by
    rw [hd.len, ← top_bits_code lens v l r i hd, ← take_bits v w l (by omega) inv, List.take_append_drop]
  rw [List.drop_append_of_le_length (by rw [bufBits_length]; omega)]
  conv => lhs; rw [hsplit, List.append_assoc]
  have := decodeSym_canon lens hc i hd.i_lt 0 ((bufBits v w).drop l ++ R)
  rw [hd.len] at this
  rw [hd.len]
  exact this

/-- The call ended at `eob:` in a state with run state `rs'`, unread bits `B'` and the header's
`rand` and `bwtIdx`. -/
def EobOk (rand idx : Nat) (r : Halt) (s : St) (ws' : List Nat) (rs' : RunSt) (B' : List Bool) : Prop :=
  ∃ σ : St, eobFinish σ = .done r s ∧ σ.run = rs' ∧ σ.rand = rand ∧ σ.bwtIdx = idx ∧
    bitsOf σ ws' = B'

/-- What `toTop` makes of a group, in terms of `groupRef`'s outcome. -/
def GroupOk (st1 : St) (o : Out) : GOut → Prop
  | .top rs' B' => ∃ v' w' ws', o = .top { slowSt st1 0 v' w' rs' with g := st1.g + 1 } ws' ∧
      BufInv v' w' ∧ w' ≤ 63 ∧ bufBits v' w' ++ ws'.flatMap wordBits = B'
  | .eob rs' B' => ∃ r s ws', o = .halt r s ws' ∧ EobOk st1.rand st1.bwtIdx r s ws' rs' B'
  | .stop r => ∃ ws', o = .halt r St.blank ws'
  | .trunc => False

def unreadG : GOut → List Bool
  | .top _ B' => B'
  | .eob _ B' => B'
  | _ => []

/-- If the run over the group ends with unread bits `B'`, fewer than 32 of them. -/
def Short (o : GOut) : Prop := (unreadG o).length < 32

theorem groupRef_len (lens : List Nat) : ∀ (k : Nat) (rs : RunSt) (B : List Bool),
    (unreadG (groupRef lens k rs B)).length ≤ B.length := by
  intro k
  induction k with
  | zero => intro rs B; exact Nat.le_refl _
  | succ k ih =>
    intro rs B
    rw [groupRef]
    cases hd : Spec.Bzip2.decodeSym (Spec.Bzip2.mkCode lens) 0 B with
    | error e => exact Nat.zero_le _
    | ok q =>
      obtain ⟨i, p, B1⟩ := q
      have hl := ((@Spec.Bzip2.decodeSym_reads (Spec.Bzip2.mkCode lens) 0 B).2 _ _ _ hd).2.length_le
      simp only
      cases symStep rs (Canon.renumber lens.length i) with
      | eob => exact hl
      | stop r => exact Nat.zero_le _
      | cont rs' => exact Nat.le_trans (ih rs' B1) hl

theorem group_machine (lens : List Nat) (hc : Complete lens) (hn : lens.length ≤ 258) :
    ∀ (st1 : St) (j v w : Nat) (ws : List Nat) (rs : RunSt),
      st1.trees.getD st1.t none = some (Canon.mkTree lens) →
      j < Gen.GROUP_SIZE → BufInv v w → w ≤ 63 →
      (Suspended (toTop (slowSt st1 j v w rs) ws) ∧
          Short (groupRef lens (Gen.GROUP_SIZE - j) rs (bufBits v w ++ ws.flatMap wordBits))) ∨
        GroupOk st1 (toTop (slowSt st1 j v w rs) ws)
          (groupRef lens (Gen.GROUP_SIZE - j) rs (bufBits v w ++ ws.flatMap wordBits)) := by
  intro st1 j v w ws rs hT
  induction w, ws using need_sites_ind generalizing j v rs with
  | _ w ws ih =>
  intro hj inv hw63
  have hgs : Gen.GROUP_SIZE = 50 := rfl
  have hnorm : normPc (slowSt st1 j v w rs) = slowSt st1 j v w rs := normPc_of_ne_init _ (fun h => Pc.noConfusion h)
  by_cases hw : w < 32
  · cases ws with
    | nil =>
      refine Or.inl ⟨⟨_, by rw [toTop_at_need _ (by exact hw) hnorm]⟩, ?_⟩
      refine Nat.lt_of_le_of_lt (groupRef_len _ _ _ _) ?_
      simp [bufBits_length]; exact hw
    | cons x ws1 =>
      have ht : toTop (slowSt st1 j v w rs) (x :: ws1) =
          toTop (slowSt st1 j (refillV v w x) (w + 32) rs) ws1 := by
        rw [toTop_at_need _ (by exact hw) hnorm]; rfl
      have inv' := (refill_bits v w x hw inv).2
      rw [ht, ← refill_append v w x hw inv ws1]
      exact ih (w + 32) ws1 (by simp only [List.length_cons]; omega) j _ rs hj inv' (by omega)
  · have hw32 : 32 ≤ w := by omega
    obtain ⟨i, l, p, hlook, l1, l20, hdec⟩ :=
      window_decode lens hc hn v w inv hw32 hw63 (ws.flatMap wordBits)
    obtain ⟨k, hk⟩ : ∃ k, Gen.GROUP_SIZE - j = k + 1 := ⟨Gen.GROUP_SIZE - j - 1, by omega⟩
    rw [slow_body st1 _ hT j v w ws rs hw32, symBody, hlook, hk, groupRef, hdec]
    simp only
    rw [if_neg (by omega)]
    have inv' := (dump_bits v w l (by omega) inv).2
    have hb' := (dump_append v w l (by omega) inv (ws.flatMap wordBits)).symm
    cases hsym : symStep rs (Canon.renumber lens.length i) with
    | eob =>
      right
      simp only
      obtain ⟨r, s, he⟩ := eobFinish_done (slowSt st1 j (dumpV v l) (w - l) rs)
      rw [he]
      exact ⟨r, s, ws, rfl, slowSt st1 j (dumpV v l) (w - l) rs, he, rfl, rfl, rfl, hb'.symm⟩
    | stop r => exact Or.inr ⟨ws, rfl⟩
    | cont rs' =>
      simp only
      by_cases hj1 : j + 1 < Gen.GROUP_SIZE
      · rw [if_pos hj1, hb']
        have hk' : Gen.GROUP_SIZE - (j + 1) = k := by omega
        have := ih (w - l) ws (by omega) (j + 1) (dumpV v l) rs' hj1 inv' (by omega)
        rw [hk'] at this
        exact this
      · rw [if_neg hj1]
        have hk0 : k = 0 := by omega
        subst hk0
        right
        rw [groupRef]
        exact ⟨dumpV v l, w - l, ws, rfl, inv', by omega, hb'.symm⟩

/-- What `groups` makes of the loop, in terms of `groupsRef`'s outcome. -/
def GroupsOk (rand idx : Nat) (o : RunOut) : GsOut → Prop
  | .ok rs' B' => ∃ r s ws', o = .halt r s ws' ∧ EobOk rand idx r s ws' rs' B'
  | .stop r => ∃ ws', o = .halt r St.blank ws'
  | .trunc => False

/-- The state at the top of the group loop against the reference's view:
`tabs` the tables, `js` the selector codes still to use, `M` the MTF list of
table numbers. -/
structure GInv (tabs : List (List Nat)) (st : St) (js M : List Nat) : Prop where
  trees : ∀ t, t < tabs.length → st.trees.getD t none = (Canon.makeTree (tabs.getD t [])).2
  mtf : st.mtf = M.map (fun t => treeCode t (tabs.getD t [])) ++
    List.replicate (Gen.MAX_TREES - M.length) 0
  sel : ∀ k, k < js.length → st.selector.getD (st.g + k) 0 = js.getD k 0
  n : js.length = st.numSel - st.g
  inv : BufInv st.v st.w
  w63 : st.w ≤ 63

def unreadGs : GsOut → List Bool
  | .ok _ B' => B'
  | _ => []

def ShortS (o : GsOut) : Prop := (unreadGs o).length < 32

theorem after_group_len (f : RunSt → List Bool → GsOut)
    (hf : ∀ rs B, (unreadGs (f rs B)).length ≤ B.length) (o : GOut) :
    (unreadGs (GroupPure.afterGroup f o)).length ≤ (unreadG o).length := by
  cases o with
  | top rs' B' => exact hf rs' B'
  | eob rs' B' => exact Nat.le_refl _
  | stop r => exact Nat.zero_le _
  | trunc => exact Nat.zero_le _

theorem groupsRef_len (tabs : List (List Nat)) : ∀ (js M : List Nat) (rs : RunSt) (B : List Bool),
    (unreadGs (groupsRef tabs js M rs B)).length ≤ B.length := by
  intro js
  induction js with
  | nil => intro M rs B; exact Nat.zero_le _
  | cons j js ih =>
    intro M rs B
    rw [groupsRef]
    cases Spec.Bzip2.moveToFront M j with
    | none => exact Nat.zero_le _
    | some q =>
      obtain ⟨t, M'⟩ := q
      simp only
      split
      · exact Nat.le_trans (after_group_len (groupsRef tabs js M') (ih M') _)
          (groupRef_len (tabs.getD t []) Gen.GROUP_SIZE rs B)
      · exact Nat.zero_le _

theorem GInv.next {tabs : List (List Nat)} {st : St} {j : Nat} {js M : List Nat}
    (hI : GInv tabs st (j :: js) M) (hjM : j < M.length)
    (htc : treeCode M[j] (tabs.getD M[j] []) = M[j])
    (hlen : (M[j] :: M.eraseIdx j).length = M.length) {v' w' : Nat} {rs' : RunSt}
    (inv' : BufInv v' w') (hw' : w' ≤ 63) :
    GInv tabs { slowSt (selected st j M[j]) 0 v' w' rs' with g := st.g + 1 } js
      (M[j] :: M.eraseIdx j) := by
  refine ⟨hI.trees, ?_, ?_, ?_, inv', hw'⟩
  · show M[j] :: st.mtf.eraseIdx j = _
    rw [hI.mtf, List.eraseIdx_append_of_lt_length (by rw [List.length_map]; exact hjM),
      ListAux.map_eraseIdx, List.map_cons, htc, hlen, List.cons_append]
  · intro k hk
    have := hI.sel (k + 1) (by simp; omega)
    show st.selector.getD (st.g + 1 + k) 0 = _
    rw [show st.g + 1 + k = st.g + (k + 1) by omega, this]
    rfl
  · have := hI.n
    simp only [List.length_cons] at this
    show js.length = st.numSel - (st.g + 1)
    omega

theorem groups_machine (tabs : List (List Nat)) (N : Nat) :
    ∀ (js : List Nat) (st : St) (ws : List Nat) (M : List Nat), GInv tabs st js M →
      GroupPure.GWf tabs N js M →
      ((∃ s, groups false js.length st ws = .susp s) ∧
          ShortS (groupsRef tabs js M st.run (bitsOf st ws))) ∨
        GroupsOk st.rand st.bwtIdx (groups false js.length st ws)
          (groupsRef tabs js M st.run (bitsOf st ws)) := by
  intro js
  induction js with
  | nil =>
    intro st ws M _ _
    right
    rw [groupsRef]
    exact ⟨ws, rfl⟩
  | cons j js ih =>
    intro st ws M hI hW
    have hjM : j < M.length := hW.js j (List.mem_cons_self ..)
    have hsel0 : st.selector.getD st.g 0 = j := by simpa using hI.sel 0 (by simp)
    have hmv := GroupPure.mtf_isSome M j hjM
    obtain ⟨htm, hW'⟩ := hW.step hmv
    have htl := hW.tl
    have hlen2 := (GroupPure.mtf_some M j _ _ hmv).2.2.1
    obtain ⟨hlN, hlr⟩ := GroupPure.tab_ok tabs N hW.tok _ htm
    have hl258 : (tabs.getD M[j] []).length ≤ 258 := by have := hW.tok.n256; omega
    have hmtfj : st.mtf.getD j 0 = treeCode M[j] (tabs.getD M[j] []) := by
      rw [hI.mtf, List.getD_eq_getElem?_getD,
        List.getElem?_append_left (by rw [List.length_map]; exact hjM), List.getElem?_map,
        List.getElem?_eq_getElem hjM]
      rfl
    have hselT := selectTree_eq st j _ hsel0 hmtfj
    rw [List.length_cons, groups, groupsRef, hmv, hselT]
    simp only
    by_cases hcpl : Complete (tabs.getD M[j] [])
    · obtain ⟨htc, hmk⟩ := treeCode_complete M[j] _ hlr hl258 hcpl
      rw [if_pos hcpl, htc, if_neg (by omega)]
      simp only [Bool.false_eq_true, false_and, if_false]
      have hg := group_machine _ hcpl hl258 (selected st j M[j]) 0 st.v st.w ws st.run
        (show st.trees.getD M[j] none = _ by rw [hI.trees _ htm, hmk]) (by decide) hI.inv hI.w63
      have hst : ({ selected st j M[j] with pc := Pc.prefix, j := 0 } : St) =
          slowSt (selected st j M[j]) 0 st.v st.w st.run := rfl
      have hbits : bufBits st.v st.w ++ ws.flatMap wordBits = bitsOf st ws := rfl
      rw [hst]
      rw [Nat.sub_zero, hbits] at hg
      obtain ⟨⟨s, e⟩, hsh⟩ | hok := hg
      · -- the words ran out inside the group
        rw [e]
        exact Or.inl ⟨⟨s, rfl⟩, Nat.lt_of_le_of_lt (after_group_len _ (groupsRef_len tabs js _) _) hsh⟩
      · cases hgr : groupRef (tabs.getD M[j] []) Gen.GROUP_SIZE st.run (bitsOf st ws) with
        | trunc => rw [hgr] at hok; exact absurd hok id
        | stop r =>
          rw [hgr] at hok
          obtain ⟨ws', e⟩ := hok
          rw [e]
          exact Or.inr ⟨ws', rfl⟩
        | eob rs' B' =>
          rw [hgr] at hok
          obtain ⟨r, s, ws', e, hE⟩ := hok
          rw [e]
          exact Or.inr ⟨r, s, ws', rfl, hE⟩
        | top rs' B' =>
          rw [hgr] at hok
          obtain ⟨v', w', ws', e, inv', hw', hb'⟩ := hok
          rw [e]
          simp only
          subst hb'
          exact ih _ ws' (M[j] :: M.eraseIdx j) (hI.next hjM htc hlen2 inv' hw') hW'
    · rw [if_neg hcpl, if_pos (treeCode_incomplete M[j] _ hlr hl258 hcpl)]
      exact Or.inr ⟨ws, rfl⟩

end LbzVerif.Lemmas.GroupMachine
