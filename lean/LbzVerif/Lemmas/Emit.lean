/-
  Lemmas.Emit — what a suspended `emit()` still has to produce.  `meaningOut st` /
  `meaningBad st` read a decoder state between calls as the rest of the reference
  output and its verdict; `CallOK` says that a call result is right against them.
  `loop_ok` establishes `CallOK` at every label of the main loop; the entry points of the
  `switch` are those labels again (`loop_E0` … `loop_D3`), which gives `emit_ok` for
  one call and `run_ok` for a sequence of calls, judged as the one call `asCall`
  makes of it.
-/
import LbzVerif.Model.Emit

namespace LbzVerif.Lemmas.Emit

open LbzVerif.Model.Emit

/-- Output of run-length decoding `xs` when the current run is `k` copies of `p`
long (`k = 4`: the count byte is due; `k = 0`: no run yet). -/
def unOut (p : UInt8) (k : Nat) : List UInt8 → List UInt8
  | [] => []
  | b :: bs =>
    if k = 4 then List.replicate b.toNat p ++ unOut p 0 bs
    else if k ≠ 0 ∧ b = p then b :: unOut p (k + 1) bs
    else b :: unOut b 1 bs

theorem unOut_length_le : ∀ (xs : List UInt8) (p : UInt8) (k : Nat),
    (unOut p k xs).length ≤ 255 * xs.length := by
  intro xs
  induction xs with
  | nil => intro p k; simp [unOut]
  | cons b bs ih =>
    intro p k
    have hb : b.toNat ≤ 255 := by have := b.toNat_lt; omega
    unfold unOut
    split
    · have := ih p 0
      rw [List.length_append, List.length_replicate, List.length_cons]; omega
    · split
      · have := ih p (k + 1)
        rw [List.length_cons, List.length_cons]; omega
      · have := ih b 1
        rw [List.length_cons, List.length_cons]; omega

/-- Does the input end right after four equal bytes? -/
def unBad (p : UInt8) (k : Nat) : List UInt8 → Bool
  | [] => decide (k = 4)
  | b :: bs =>
    if k = 4 then unBad p 0 bs
    else if k ≠ 0 ∧ b = p then unBad p (k + 1) bs
    else unBad b 1 bs

theorem unOut_zero (p q : UInt8) (xs : List UInt8) : unOut p 0 xs = unOut q 0 xs := by
  cases xs <;> simp [unOut]

theorem unBad_zero (p q : UInt8) (xs : List UInt8) : unBad p 0 xs = unBad q 0 xs := by
  cases xs <;> simp [unBad]

theorem map_ite {α β : Type} (c : Bool) (l : α) (f : α → β) :
    (if c then none else some l).map f = if c then none else some (f l) := by
  cases c <;> rfl

theorem go_eq : ∀ (xs : List UInt8) (p : UInt8) (k : Nat),
    Spec.UnRle1.go p k xs = if unBad p k xs then none else some (unOut p k xs) := by
  intro xs
  induction xs with
  | nil => intro p k; by_cases h : k = 4 <;> simp [Spec.UnRle1.go, unBad, unOut, h]
  | cons b bs ih =>
    intro p k
    simp only [Spec.UnRle1.go, unBad, unOut, ih, map_ite]
    split
    · rfl
    · split <;> rfl

/-- Every `rle_state` has a pending byte `c` except state 0. -/
def meaningOut (st : St) : List UInt8 :=
  match st.state with
  | 0 => unOut st.d 0 st.xs
  | 5 => unOut st.d 0 (st.c :: st.xs)
  | k => unOut st.d k (st.c :: st.xs)

/-- Will the block, read on from this state, end right after four equal bytes (ERR_RUNLEN)? -/
def meaningBad (st : St) : Bool :=
  match st.state with
  | 0 => unBad st.d 0 st.xs
  | 5 => unBad st.d 0 (st.c :: st.xs)
  | k => unBad st.d k (st.c :: st.xs)

/-- Between calls: `rle_avail` counts the nodes not yet read, has not wrapped, and `rle_state` is
one of the six resume points. -/
def Inv (st : St) : Prop :=
  st.a = st.xs.length ∧ st.a < M1 ∧ st.state ≤ 5

/-- The call result `r`, produced from a point where the remaining reference
output is `O` (verdict `B`), the CRC register is `s` and `m` bytes are free, is
right: MORE = exactly `m` bytes written and the rest is the meaning of the saved
state; OK / ERR_RUNLEN = all of `O` written. -/
def CallOK (r : Ret) (O : List UInt8) (B : Bool) (s : UInt32) (m : Nat) : Prop :=
  match r.status with
  | .more => O = r.out ++ meaningOut r.st ∧ B = meaningBad r.st ∧ r.out.length = m ∧
      r.st.crc = crcBytes s r.out ∧ Inv r.st
  | .ok => O = r.out ∧ B = false ∧ r.crc = crcBytes s r.out ^^^ 0xFFFFFFFF ∧ r.out.length ≤ m
  | .errRunlen => O = r.out ∧ B = true ∧ r.out.length ≤ m
  | .abort => False

/-! The result is written with its fields, so that the conclusions come out in the terms of whatever
record the fields were taken from. -/

section
variable {out : List UInt8} {f : Status} {st : St} {left : Nat} {crc : UInt32}
  {O : List UInt8} {B : Bool} {s : UInt32} {m : Nat}

theorem CallOK.more (h : CallOK ⟨out, f, st, left, crc⟩ O B s m) (hf : f = .more) :
    O = out ++ meaningOut st ∧ B = meaningBad st ∧ out.length = m ∧
      st.crc = crcBytes s out ∧ Inv st := by
  subst hf
  exact h

theorem CallOK.ok (h : CallOK ⟨out, f, st, left, crc⟩ O B s m) (hf : f = .ok) :
    O = out ∧ B = false ∧ crc = crcBytes s out ^^^ 0xFFFFFFFF ∧ out.length ≤ m := by
  subst hf
  exact h

theorem CallOK.errRunlen (h : CallOK ⟨out, f, st, left, crc⟩ O B s m) (hf : f = .errRunlen) :
    O = out ∧ B = true ∧ out.length ≤ m := by
  subst hf
  exact h

theorem CallOK.ne_abort (h : CallOK ⟨out, f, st, left, crc⟩ O B s m) : f ≠ .abort := by
  intro hf
  subst hf
  exact h

theorem CallOK.done (h : CallOK ⟨out, f, st, left, crc⟩ O B s m) (hf : f ≠ .more) :
    O = out ∧ f = if B then .errRunlen else .ok := by
  cases f with
  | more => exact absurd rfl hf
  | ok =>
    obtain ⟨h1, h2, _⟩ := h.ok rfl
    exact ⟨h1, by rw [h2]; rfl⟩
  | errRunlen =>
    obtain ⟨h1, h2, _⟩ := h.errRunlen rfl
    exact ⟨h1, by rw [h2]; rfl⟩
  | abort => exact absurd rfl h.ne_abort

end

theorem crcBytes_append (s : UInt32) (l1 l2 : List UInt8) :
    crcBytes s (l1 ++ l2) = crcBytes (crcBytes s l1) l2 := by
  simp [crcBytes, List.foldl_append]

theorem CallOK_prepend {r : Ret} {O : List UInt8} {B : Bool} {s : UInt32} {m : Nat} (pre : List UInt8)
    (h : CallOK r O B (crcBytes s pre) m) :
    CallOK { r with out := pre ++ r.out } (pre ++ O) B s (pre.length + m) := by
  unfold CallOK at *
  cases hs : r.status <;> simp only [hs] at h ⊢
  · obtain ⟨h1, h2, h3, h4⟩ := h
    exact ⟨by rw [h1], h2, by rw [h3, crcBytes_append], by simp only [List.length_append]; omega⟩
  · obtain ⟨h1, h2, h3, h4, h5⟩ := h
    exact ⟨by rw [h1, List.append_assoc], h2, by simp only [List.length_append, h3],
      by rw [h4, crcBytes_append], h5⟩
  · obtain ⟨h1, h2, h3⟩ := h
    exact ⟨by rw [h1], h2, by simp only [List.length_append]; omega⟩

theorem CallOK_outN {r : Ret} {O : List UInt8} {B : Bool} {s : UInt32} {m : Nat} (n : Nat) (b : UInt8)
    (h : CallOK r O B (crcBytes s (List.replicate n b)) m) :
    CallOK (outN n b r) (List.replicate n b ++ O) B s (m + n) := by
  have := CallOK_prepend (List.replicate n b) h
  rwa [List.length_replicate, Nat.add_comm] at this

theorem CallOK_out1 {r : Ret} {O : List UInt8} {B : Bool} {s : UInt32} {m : Nat} (x : UInt8)
    (h : CallOK r O B (crcStep s x) m) : CallOK (out1 x r) (x :: O) B s (m + 1) :=
  CallOK_outN 1 x h

/-- Remaining output at a label of the main loop. -/
def lblOut (lbl : Lbl) (L : Loc) : List UInt8 :=
  match lbl with
  | .D _ => unOut L.c 1 L.xs
  | .E2 => unOut L.d 2 L.xs
  | .E3 => unOut L.d 3 L.xs
  | .E4 => unOut L.d 4 L.xs
  | .E0 => unOut L.d 0 L.xs

def lblBad (lbl : Lbl) (L : Loc) : Bool :=
  match lbl with
  | .D _ => unBad L.c 1 L.xs
  | .E2 => unBad L.d 2 L.xs
  | .E3 => unBad L.d 3 L.xs
  | .E4 => unBad L.d 4 L.xs
  | .E0 => unBad L.d 0 L.xs

theorem CallOK_finish_ok (L : Loc) (h : L.m ≠ M1) : CallOK (finish M1 L) [] false L.s L.m := by
  simp [CallOK, finish, h, crcBytes]

theorem CallOK_finish_more (xs : List UInt8) (a k : Nat) (c d : UInt8) (s : UInt32)
    (hi : Inv ⟨k, s, xs, a, c, d⟩) :
    CallOK (finish a ⟨xs, M1, c, d, s, k⟩) (meaningOut ⟨k, s, xs, a, c, d⟩)
      (meaningBad ⟨k, s, xs, a, c, d⟩) s 0 := by
  simp [CallOK, finish, crcBytes, hi]

theorem CallOK_retErr (L : Loc) (m : Nat) : CallOK (retErr L) [] true L.s m := by
  simp [CallOK, retErr]

theorem sub_ofNat_toNat (x : UInt8) (m : Nat) (h : m < x.toNat) :
    (x - UInt8.ofNat m).toNat = x.toNat - m := by
  have hx : x.toNat < 256 := x.toNat_lt
  have hm : (UInt8.ofNat m).toNat = m := by
    simp [UInt8.toNat_ofNat']; omega
  have hle : UInt8.ofNat m ≤ x := by
    rw [UInt8.le_iff_toNat_le, hm]; omega
  rw [UInt8.toNat_sub_of_le _ _ hle, hm]

theorem replicate_split (x : UInt8) (m : Nat) (d : UInt8) (h : m < x.toNat) :
    List.replicate x.toNat d =
      List.replicate m d ++ List.replicate (x - UInt8.ofNat m).toNat d := by
  rw [sub_ofNat_toNat x m h, List.replicate_append_replicate]
  congr 1; omega

theorem CallOK_lit {p x : UInt8} {k : Nat} {xs : List UInt8} {s : UInt32} {m : Nat} {r₁ r₂ : Ret}
    (h0 : k ≠ 0) (h4 : k ≠ 4)
    (h₁ : CallOK r₁ (unOut x 1 xs) (unBad x 1 xs) (crcStep s x) m)
    (h₂ : CallOK r₂ (unOut p (k + 1) xs) (unBad p (k + 1) xs) (crcStep s x) m) :
    CallOK (out1 x (if x ≠ p then r₁ else r₂)) (unOut p k (x :: xs)) (unBad p k (x :: xs)) s
      (m + 1) := by
  simp only [unOut, unBad, if_neg h4]
  by_cases hx : x = p
  · simpa [hx, h0] using CallOK_out1 x h₂
  · simpa [hx] using CallOK_out1 x h₁

theorem loop_ok : ∀ (a : Nat) (lbl : Lbl) (L : Loc),
    a = L.xs.length → a ≤ M1 → L.m < M1 →
    CallOK (loop lbl a L) (lblOut lbl L) (lblBad lbl L) L.s L.m := by
  intro a
  induction a with
  | zero =>
    intro lbl L hl _ hm
    have hx : L.xs = [] := List.length_eq_zero_iff.mp hl.symm
    have hne : L.m ≠ M1 := by omega
    cases lbl <;> simp only [loop, lblOut, lblBad, hx, unOut, unBad]
    case E4 => simpa using CallOK_retErr L L.m
    all_goals simpa using CallOK_finish_ok L hne
  | succ a ih =>
    intro lbl L hl ha hm
    obtain ⟨xs, m, c, d, s, state⟩ := L
    simp only at hl hm
    match xs, hl with
    | x :: xs', hl =>
      have hl' : a = xs'.length := by simpa using hl
      have ha' : a < M1 := by omega
      -- no room for `x`: the call returns MORE in state `k`, `x` pending
      have stop : ∀ (k : Nat) (c d : UInt8) (s : UInt32), k ≤ 5 →
          CallOK (finish a ⟨xs', M1, c, d, s, k⟩) (meaningOut ⟨k, s, xs', a, c, d⟩)
            (meaningBad ⟨k, s, xs', a, c, d⟩) s 0 :=
        fun k c d s h5 => CallOK_finish_more xs' a k c d s ⟨hl', ha', h5⟩
      -- `x` has been written and the loop goes on at `lbl'`
      have next : ∀ (lbl' : Lbl) (m' : Nat) (c d : UInt8), m' < M1 →
          CallOK (loop lbl' a ⟨xs', m', c, d, crcStep s x, state⟩)
            (lblOut lbl' ⟨xs', m', c, d, crcStep s x, state⟩)
            (lblBad lbl' ⟨xs', m', c, d, crcStep s x, state⟩) (crcStep s x) m' :=
        fun lbl' m' c d hm' => ih lbl' ⟨xs', m', c, d, crcStep s x, state⟩ hl' (by omega) hm'
      cases lbl with
      | D k =>
        simp only [loop, lblOut, lblBad, List.headD_cons, List.tail_cons]
        cases m with
        | zero => exact stop 1 x c s (by decide)
        | succ m =>
          exact CallOK_lit (by decide) (by decide) (next (.D _) m x c (by omega))
            (next .E2 m x c (by omega))
      | E2 =>
        simp only [loop, lblOut, lblBad, List.headD_cons, List.tail_cons]
        cases m with
        | zero => exact stop 2 x d s (by decide)
        | succ m =>
          exact CallOK_lit (by decide) (by decide) (next (.D 0) m x d (by omega))
            (next .E3 m x d (by omega))
      | E3 =>
        simp only [loop, lblOut, lblBad, List.headD_cons, List.tail_cons]
        cases m with
        | zero => exact stop 3 x d s (by decide)
        | succ m =>
          exact CallOK_lit (by decide) (by decide) (next (.D 0) m x d (by omega))
            (next .E4 m x d (by omega))
      | E4 =>
        simp only [loop, lblOut, lblBad, List.headD_cons, List.tail_cons, unOut, unBad, if_true]
        by_cases hlt : m < x.toNat
        · simp only [hlt, if_true]
          have := CallOK_outN m d
            (stop 4 (x - UInt8.ofNat m) d (crcBytes s (List.replicate m d)) (by decide))
          simp only [meaningOut, meaningBad, unOut, unBad, if_true, Nat.zero_add] at this
          rw [← List.append_assoc, ← replicate_split x m d hlt] at this
          exact this
        · simp only [hlt, if_false]
          have hxm : x.toNat ≤ m := by omega
          have := ih .E0 ⟨xs', m - x.toNat, 255, d, crcBytes s (List.replicate x.toNat d), state⟩
            hl' (by omega) (by simp; omega)
          have := CallOK_outN x.toNat d this
          simp only [lblOut, lblBad, Nat.sub_add_cancel hxm] at this
          exact this
      | E0 =>
        simp only [loop, lblOut, lblBad, List.headD_cons, List.tail_cons]
        cases m with
        | zero => exact stop 5 x d s (by decide)
        | succ m =>
          simp only [unOut, unBad]
          exact CallOK_out1 x (next (.D 0) m x d (by omega))


theorem post_eq (a : Nat) (L : Loc) (ha : a < M1) (hm : L.m < M1) :
    post a L = loop (.D 0) a L := by
  have h1 : a ≠ M1 := by omega
  have h2 : L.m ≠ M1 := by omega
  simp only [post, h1, h2, ne_eq, not_false_eq_true, and_self, if_true]

theorem loop_E0 (a : Nat) (L : Loc) (ha : a ≤ M1) (hm : L.m < M1) :
    loop .E0 a L = case0 a L := by
  obtain ⟨xs, m, c, d, s, state⟩ := L
  cases a with
  | zero => simp [loop, case0, post]
  | succ a =>
    cases m with
    | zero => rfl
    | succ m =>
      simp only [loop, case0, case5]
      rw [post_eq a _ (by omega) (by simp only at hm ⊢; omega)]

theorem loop_E4 (a : Nat) (L : Loc) (ha : a < M1) (hm : L.m < M1) :
    loop .E4 (a + 1) L = case4 a { L with c := L.xs.headD 0, xs := L.xs.tail } := by
  obtain ⟨xs, m, c, d, s, state⟩ := L
  simp only [loop, case4]
  rw [loop_E0 a _ (by omega) (by simp only at hm ⊢; omega)]

theorem loop_E3 (a : Nat) (L : Loc) (ha : a < M1) (hm : L.m < M1) :
    loop .E3 (a + 1) L = case3 a { L with c := L.xs.headD 0, xs := L.xs.tail } := by
  obtain ⟨xs, m, c, d, s, state⟩ := L
  cases m with
  | zero => rfl
  | succ m =>
    simp only at hm
    simp only [loop, case3]
    rw [post_eq a _ ha (by simp only; omega)]
    cases a with
    | zero => rfl
    | succ a => rw [loop_E4 a _ (by omega) (by simp only; omega)]

theorem loop_E2 (a : Nat) (L : Loc) (ha : a < M1) (hm : L.m < M1) :
    loop .E2 (a + 1) L = case2 a { L with c := L.xs.headD 0, xs := L.xs.tail } := by
  obtain ⟨xs, m, c, d, s, state⟩ := L
  cases m with
  | zero => rfl
  | succ m =>
    simp only at hm
    simp only [loop, case2]
    rw [post_eq a _ ha (by simp only; omega)]
    cases a with
    | zero => simp [loop, post]
    | succ a => rw [loop_E3 a _ (by omega) (by simp only; omega)]

theorem loop_D3 (a : Nat) (L : Loc) (ha : a < M1) (hm : L.m < M1) (hst : L.state = 1) :
    loop (.D 3) (a + 1) L =
      case1 a { L with d := L.c, c := L.xs.headD 0, xs := L.xs.tail } := by
  obtain ⟨xs, m, c, d, s, state⟩ := L
  simp only at hst
  subst hst
  cases m with
  | zero => rfl
  | succ m =>
    simp only at hm
    simp only [loop, case1, Nat.lt_irrefl, if_false]
    rw [post_eq a _ ha (by simp only; omega)]
    cases a with
    | zero => simp [loop, post]
    | succ a => rw [loop_E2 a _ (by omega) (by simp only; omega)]

theorem fixup_ok {r : Ret} {O : List UInt8} {B : Bool} {s : UInt32} {m : Nat} (st : St)
    (size : Nat) (h : CallOK r O B s m) :
    CallOK (match r.status with
       | .errRunlen => { r with st := st, left := size }
       | .ok => { r with st := { st with a := r.st.a } }
       | _ => r) O B s m := by
  unfold CallOK at *
  cases hs : r.status <;> simp only [hs] at h ⊢ <;> exact h

theorem M1_lt : M1 < 2 ^ 32 := by decide

theorem resume_ok {lbl : Lbl} {a : Nat} {L : Loc} {r : Ret} (e : loop lbl a L = r)
    (hl : a = L.xs.length) (ha : a ≤ M1) (hm : L.m < M1) :
    CallOK r (lblOut lbl L) (lblBad lbl L) L.s L.m :=
  e ▸ loop_ok a lbl L hl ha hm

/-- In state `k ≥ 1` the call is the main loop entered with the pending byte `c` put back in front
of the list. -/
theorem emit_ok (st : St) (size : Nat) (hi : Inv st) (hs : size < M1) :
    CallOK (emit st size) (meaningOut st) (meaningBad st) st.crc size := by
  obtain ⟨state, crc, xs, a, c, d⟩ := st
  obtain ⟨hl, ha, h5⟩ := hi
  simp only at hl ha h5
  have hmod : size % 2 ^ 32 = size := Nat.mod_eq_of_lt (by have := M1_lt; omega)
  have hl1 : a + 1 = (c :: xs).length := by simp [hl]
  unfold emit
  simp only [hmod]
  match state, h5 with
  | 0, _ =>
    exact fixup_ok _ _
      (resume_ok (loop_E0 a ⟨xs, size, c, d, crc, 0⟩ (by omega) hs) hl (by omega) hs)
  | 1, _ =>
    exact fixup_ok _ _
      (resume_ok (loop_D3 a ⟨c :: xs, size, d, d, crc, 1⟩ ha hs rfl) hl1 (by omega) hs)
  | 2, _ =>
    exact fixup_ok _ _
      (resume_ok (loop_E2 a ⟨c :: xs, size, c, d, crc, 2⟩ ha hs) hl1 (by omega) hs)
  | 3, _ =>
    exact fixup_ok _ _
      (resume_ok (loop_E3 a ⟨c :: xs, size, c, d, crc, 3⟩ ha hs) hl1 (by omega) hs)
  | 4, _ =>
    exact fixup_ok _ _
      (resume_ok (loop_E4 a ⟨c :: xs, size, c, d, crc, 4⟩ ha hs) hl1 (by omega) hs)
  | 5, _ =>
    exact fixup_ok _ _
      (resume_ok (loop_E0 (a + 1) ⟨c :: xs, size, c, d, crc, 5⟩ (by omega) hs) hl1 (by omega) hs)
  | n + 6, h => omega

def asCall (q : Run) : Ret :=
  { out := q.bytes, status := q.final, st := q.st, left := 0, crc := q.crc }

theorem CallOK.mono {r : Ret} {O : List UInt8} {B : Bool} {s : UInt32} {m m' : Nat}
    (h : CallOK r O B s m) (hm : r.status ≠ .more) (hle : m ≤ m') : CallOK r O B s m' := by
  unfold CallOK at *
  cases hf : r.status <;> simp only [hf] at h hm ⊢
  · obtain ⟨h1, h2, h3, h4⟩ := h
    exact ⟨h1, h2, h3, by omega⟩
  · exact absurd rfl hm
  · obtain ⟨h1, h2, h3⟩ := h
    exact ⟨h1, h2, by omega⟩

theorem run_ok : ∀ (sizes : List Nat) (st : St), Inv st → (∀ z ∈ sizes, z < M1) →
    CallOK (asCall (run st sizes)) (meaningOut st) (meaningBad st) st.crc sizes.sum := by
  intro sizes
  induction sizes with
  | nil =>
    intro st hi _
    simp [run, CallOK, asCall, Run.bytes, crcBytes, hi]
  | cons sz rest ih =>
    intro st hi hz
    have hR := emit_ok st sz hi (hz sz (by simp))
    simp only [run]
    generalize emit st sz = r at hR ⊢
    obtain ⟨out, f, st', left, crc⟩ := r
    by_cases hmore : f = .more
    · simp only [hmore, if_true]
      obtain ⟨h1, h2, h3, h4, h5⟩ := hR.more hmore
      have hq := ih st' h5 (fun z hz' => hz z (by simp [hz']))
      rw [h4] at hq
      have := CallOK_prepend _ hq
      rw [h3] at this
      rw [h1, h2, List.sum_cons]
      exact this
    · simp only [hmore, if_false]
      simpa [CallOK, asCall, Run.bytes] using hR.mono hmore (m' := (sz :: rest).sum) (by simp)

/-- A run that stops with MORE has filled every buffer. -/
theorem run_ne_more (st : St) (hi : Inv st) (sizes : List Nat) (h : ∀ z ∈ sizes, z < M1)
    (hbig : (meaningOut st).length < sizes.sum) : (run st sizes).final ≠ .more := by
  intro hf
  obtain ⟨a1, _, a3, _⟩ := (run_ok sizes st hi h).more hf
  rw [a1, List.length_append, a3] at hbig
  omega

theorem init_Inv (xs : List UInt8) (h : xs.length < M1) : Inv (St.init xs) := by
  simp [Inv, St.init, h]

theorem run_init_ok (xs : List UInt8) (hx : xs.length < M1) (sizes : List Nat)
    (hs : ∀ z ∈ sizes, z < M1) :
    CallOK (asCall (run (St.init xs) sizes)) (unOut 0 0 xs) (unBad 0 0 xs) 0xFFFFFFFF sizes.sum :=
  run_ok sizes (St.init xs) (init_Inv xs hx) hs

end LbzVerif.Lemmas.Emit
