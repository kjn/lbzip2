/-
  Lemmas.TreeSoundArith — where a 20-bit window falls among the code intervals.
  For a complete length list the intervals `[offset20 i, offset20 i + width ℓᵢ)`
  tile `[0, 2^20)`; this file makes the tiling explicit in the form `make_tree`
  uses (`Dec`, `dec_exists`): with `S ℓ` = total width of the symbols shorter than `ℓ`
  (`TransmitSym.S`), every 20-bit value `x` lies in exactly one band
  `S ℓ ≤ x < S (ℓ+1)`, the `r = (x − S ℓ) / 2^(20−ℓ)`-th symbol of length `ℓ`
  (in index order) is the symbol whose code word is the top `ℓ` bits of `x`.
-/
import LbzVerif.Spec.Prefix
import LbzVerif.Lemmas.PrefixCanon
import LbzVerif.Lemmas.PrefixRank

namespace LbzVerif.Lemmas.TreeSoundArith
open LbzVerif.Spec.Prefix LbzVerif.Lemmas.PrefixCanon LbzVerif.Lemmas.TransmitSym

/-- No symbol of length `≥ k`. -/
def TailZero (lens : List Nat) (k : Nat) : Prop := ∀ j, k ≤ j → j ≤ 20 → cntL lens j = 0

theorem S_tail (lens : List Nat) (k : Nat) (hk : k ≤ 21) (ht : TailZero lens k) :
    S lens k = S lens 21 := by
  apply W_flat width lens k 21 hk
  intro x hx hkx
  apply Classical.byContradiction
  intro h
  exact absurd hx (List.count_eq_zero.mp (ht x hkx (by omega)))

theorem S21 (lens : List Nat) (hc : Complete lens) : S lens 21 = 2 ^ 20 := by
  rw [← hc.1]
  exact W_top width lens 21 fun x hx => by have := (hc.2 x hx).2; omega

theorem S_lt_of_cnt (lens : List Nat) (k j : Nat) (hkj : k ≤ j) (hc : cntL lens j ≠ 0) :
    S lens k + width j ≤ S lens (j + 1) := by
  have h1 := S_mono lens hkj
  rw [S_succ]
  have : width j ≤ cntL lens j * width j := Nat.le_mul_of_pos_left _ (by omega)
  omega

theorem band_exists (lens : List Nat) (hc : Complete lens) (x : Nat) (hx : x < 2 ^ 20) :
    ∃ l, 1 ≤ l ∧ l ≤ 20 ∧ S lens l ≤ x ∧ x < S lens (l + 1) := by
  have htop := S21 lens hc
  have hone : S lens 1 = 0 := S_one lens fun y hy => (hc.2 y hy).1
  have : ∀ n, x < S lens (n + 1) → ∃ l, 1 ≤ l ∧ l ≤ n ∧ S lens l ≤ x ∧ x < S lens (l + 1) := by
    intro n
    induction n with
    | zero =>
      intro h
      rw [hone] at h
      omega
    | succ n ih =>
      intro h
      by_cases hn : x < S lens (n + 1)
      · obtain ⟨l, a, b, c, d⟩ := ih hn
        exact ⟨l, a, by omega, c, d⟩
      · exact ⟨n + 1, by omega, Nat.le_refl _, by omega, h⟩
  exact this 20 (by rw [htop]; exact hx)

theorem blk_nodup (lens : List Nat) (l : Nat) : (blk lens l).Nodup := by
  unfold blk
  exact List.Pairwise.filter _ List.nodup_range

theorem blk_get (lens : List Nat) (l r : Nat) (hr : r < cntL lens l) :
    ∃ i, (blk lens l)[r]? = some i ∧ i < lens.length ∧ lens[i]! = l ∧ rankIn lens i = r := by
  have hlen : r < (blk lens l).length := by rw [blk_length]; exact hr
  refine ⟨(blk lens l)[r], List.getElem?_eq_getElem hlen, ?_⟩
  have hmem : (blk lens l)[r] ∈ blk lens l := List.getElem_mem hlen
  generalize hi : (blk lens l)[r] = i at hmem
  unfold blk at hmem
  rw [List.mem_filter] at hmem
  obtain ⟨m1, m2⟩ := hmem
  have hil : i < lens.length := List.mem_range.mp m1
  have hl : lens[i]! = l := by simpa using m2
  refine ⟨hil, hl, ?_⟩
  have hb := blk_rank lens i hil
  rw [hl] at hb
  obtain ⟨h2, e2⟩ := List.getElem?_eq_some_iff.mp hb
  have : (blk lens l)[rankIn lens i] = (blk lens l)[r] := by rw [e2, hi]
  exact (List.getElem_inj (blk_nodup lens l)).mp this

/-- `x` (20 bits) lies in band `l`, at the `r`-th symbol of that length, which
is symbol `i`. -/
structure Dec (lens : List Nat) (x l r i : Nat) : Prop where
  l1 : 1 ≤ l
  l20 : l ≤ 20
  lo : S lens l ≤ x
  hi : x < S lens (l + 1)
  r_eq : r = (x - S lens l) / width l
  r_lt : r < cntL lens l
  i_eq : (blk lens l)[r]? = some i
  i_lt : i < lens.length
  len : lens[i]! = l
  rank : rankIn lens i = r
  code : canonCode lens i = x / width l

theorem dec_exists (lens : List Nat) (hc : Complete lens) (x : Nat) (hx : x < 2 ^ 20) :
    ∃ l r i, Dec lens x l r i := by
  obtain ⟨l, l1, l20, lo, hi⟩ := band_exists lens hc x hx
  have hw := width_pos l
  have hr : (x - S lens l) / width l < cntL lens l := by
    rw [Nat.div_lt_iff_lt_mul hw]
    rw [S_succ] at hi
    omega
  obtain ⟨i, e, il, len, rk⟩ := blk_get lens l _ hr
  refine ⟨l, _, i, l1, l20, lo, hi, rfl, hr, e, il, len, rk, ?_⟩
  have h1 : ∀ y ∈ lens, 1 ≤ y := fun y hy => (hc.2 y hy).1
  obtain ⟨m, hm⟩ : ∃ m, l = m + 1 := ⟨l - 1, by omega⟩
  have hF : F lens l * width l = S lens l := by rw [hm]; exact F_width lens h1 m (by omega)
  rw [canonCode_rank lens hc i il, len, rk]
  have : x = F lens l * width l + (x - S lens l) := by omega
  conv => rhs; rw [this]
  rw [Nat.mul_comm, Nat.mul_add_div hw]

theorem dec_len_unique (lens : List Nat) (x l r i l' r' i' : Nat) (h : Dec lens x l r i)
    (h' : Dec lens x l' r' i') : l = l' := by
  by_cases hlt : l < l'
  · have := S_mono lens (show l + 1 ≤ l' by omega)
    have := h.hi
    have := h'.lo
    omega
  · by_cases hgt : l' < l
    · have := S_mono lens (show l' + 1 ≤ l by omega)
      have := h'.hi
      have := h.lo
      omega
    · omega

end LbzVerif.Lemmas.TreeSoundArith
