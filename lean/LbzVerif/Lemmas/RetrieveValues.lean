/-
  Lemmas.RetrieveValues — the values `Model.Retrieve` reads are the values the
  references read from the same bits.  `TAKE(x, k)` on a legal buffer is
  `Basic.takeNat k` on the unread bits, the primitive of `Spec.Bzip2.parseBlock`;
  `PEEK(6)` is `Model.Delta.peek6`; one iteration of the delta loop is
  `Model.Delta.stepLen` / `tL` on that window (`deltaWindow_eq`; by `Lemmas.Delta.core` at most
  three steps of the bit-by-bit reference); one selector, `table[PEEK(6)]`, is the unary code of
  `Spec.Bzip2.readUnary`.
-/
import LbzVerif.Lemmas.RetrieveCall
import LbzVerif.Lemmas.SpecBasic
import LbzVerif.Lemmas.TransmitParse
import LbzVerif.Lemmas.Delta

namespace LbzVerif.Lemmas.RetrieveValues
open LbzVerif LbzVerif.Model.Retrieve LbzVerif.Lemmas.RetrieveBits LbzVerif.Lemmas.RetrieveEqns
open LbzVerif.Basic

theorem take_both (st : St) (ws : List Nat) (k : Nat) (hk1 : 1 ≤ k) (hk : k ≤ st.w) (inv : BufInv st.v st.w) :
    take st k = some (peek st k, dumped st k) ∧
    Basic.takeNat k (bitsOf st ws) = some (peek st k, bitsOf (dumped st k) ws) ∧
    BufInv (dumped st k).v (dumped st k).w :=
  ⟨take_ok st k hk1 hk, take_append st.v st.w k hk inv _, (dump_bits st.v st.w k hk inv).2⟩

theorem foldl_eq_bitsToNatAux (l : List Bool) : ∀ a : Nat,
    l.foldl (fun acc b => 2 * acc + (if b then 1 else 0)) a = bitsToNatAux a l := by
  induction l with
  | nil => intro a; rfl
  | cons b r ih =>
    intro a
    simp only [List.foldl_cons, bitsToNatAux]
    exact ih _

theorem toNum_eq_bitsToNat (l : List Bool) : Model.Delta.toNum l = bitsToNat l :=
  foldl_eq_bitsToNatAux l 0

theorem takeNat_takeNum (n : Nat) (bits : List Bool) :
    takeNat n bits = Spec.Delta.takeNum n bits := by
  rw [takeNat_def, Spec.Delta.takeNum, ← toNum_eq_bitsToNat]
  rfl

theorem win_take : ∀ (n : Nat) (bits : List Bool), n ≤ bits.length →
    Model.Delta.win n bits = bits.take n := by
  intro n
  induction n with
  | zero => intro bits _; simp [Model.Delta.win]
  | succ n ih =>
    intro bits h
    cases bits with
    | nil => simp at h
    | cons b r =>
      simp only [Model.Delta.win, List.take_succ_cons]
      rw [ih r (by simpa using h)]

theorem peek6_value (st : St) (ws : List Nat) (h6 : 6 ≤ st.w) (inv : BufInv st.v st.w) :
    peek st 6 = Model.Delta.peek6 (bitsOf st ws) := by
  unfold Model.Delta.peek6
  rw [win_take 6 _ (Nat.le_trans h6 (bitsOf_length_ge st ws)),
    toNum_eq_bitsToNat]
  exact peek_append st.v st.w 6 h6 inv _

/-- The unread bits after `DUMP(k)`, whatever else the step has assigned. -/
theorem bitsOf_dump (st : St) (k : Nat) (ws : List Nat) (hw : k ≤ st.w) (inv : BufInv st.v st.w) {s : St}
    (hv : s.v = dumpV st.v k) (hsw : s.w = st.w - k) :
    bitsOf s ws = (bitsOf st ws).drop k ∧ BufInv s.v s.w := by
  unfold bitsOf
  rw [hv, hsw]
  exact ⟨dump_append _ _ k hw inv _, (dump_bits _ _ k hw inv).2⟩

/-- One iteration of the machine's delta loop on a legal buffer with a whole window in it, in
the shape of its body (and of `Lemmas.Delta.syms_window`). -/
theorem deltaWindow_eq (st : St) (ws : List Nat) (h6 : 6 ≤ st.w) (inv : BufInv st.v st.w) :
    deltaWindow st =
      match Model.Delta.stepLen st.clCur (Model.Delta.peek6 (bitsOf st ws)) with
      | none => errS Gen.ERR_DELTA
      | some c' =>
        if Model.Delta.tL (Model.Delta.peek6 (bitsOf st ws)) ≠ 6 then
          .cont { st with
            v := dumpV st.v (Model.Delta.tL (Model.Delta.peek6 (bitsOf st ws)))
            w := st.w - Model.Delta.tL (Model.Delta.peek6 (bitsOf st ws))
            j := st.j + 1, clAcc := c' :: st.clAcc, clCur := c', pc := .deltaTag }
        else
          .cont { st with
            v := dumpV st.v (Model.Delta.tL (Model.Delta.peek6 (bitsOf st ws)))
            w := st.w - Model.Delta.tL (Model.Delta.peek6 (bitsOf st ws))
            clCur := c', pc := .deltaTag } := by
  obtain ⟨hl1, hl6⟩ := Lemmas.Delta.tL_bounds (bitsOf st ws)
  unfold deltaWindow
  simp only [peek6_value st ws h6 inv]
  cases Model.Delta.stepLen st.clCur (Model.Delta.peek6 (bitsOf st ws)) with
  | none => rfl
  | some c' =>
    dsimp only
    by_cases hl : Model.Delta.tL (Model.Delta.peek6 (bitsOf st ws)) ≠ 6
    · rw [if_pos hl, if_pos hl, dump_ok _ _ hl1 (by show _ ≤ st.w; omega)]
    · rw [if_neg hl, if_neg hl, dump_ok _ _ hl1 (by show _ ≤ st.w; omega)]

open LbzVerif.Spec.Bzip2 (readUnary Reject)

theorem readUnary_bad (n : Nat) : ∀ (m k : Nat) (r : List Bool), 1 ≤ m → n ≤ k + m →
    readUnary n k (List.replicate m true ++ r) = .error .badSelector := by
  intro m
  induction m with
  | zero => intro k r h; omega
  | succ m ih =>
    intro k r _ h
    simp only [List.replicate_succ, List.cons_append, readUnary]
    by_cases hk : k + 1 < n
    · rw [if_pos hk]
      exact ih (k + 1) r (by omega) (by omega)
    · rw [if_neg hk]

/-- The table `table[64]` of decode.c on a 6-bit window: position of the first
zero bit (7 = none), i.e. the window is that many ones minus one, then a zero. -/
theorem firstZero_spec : ∀ b1 b2 b3 b4 b5 b6 : Bool,
    let wb := [b1, b2, b3, b4, b5, b6]
    let z := Gen.firstZero.getD (Model.Delta.toNum wb) 0
    1 ≤ z ∧ z ≤ 7 ∧ (z ≤ 6 → wb = List.replicate (z - 1) true ++ false :: wb.drop z) ∧
      (z = 7 → wb = List.replicate 6 true) := by
  decide

/-- One pass of the selector loop body against `readUnary num_trees 0` on the unread bits, in
both directions (`selector[j] = k - 1`; bad-selector iff ERR_SELECTOR); with 6 live bits the
reference cannot run out of bits. -/
theorem selector_value (st : St) (ws : List Nat) (h6 : 6 ≤ st.w) (inv : BufInv st.v st.w)
    (hj : st.j < st.numSel) (hn1 : 1 ≤ st.numTrees) (hn6 : st.numTrees ≤ 6) :
    match readUnary st.numTrees 0 (bitsOf st ws) with
    | .ok (i, B') =>
      ∃ st', selLoop st = .cont st' ∧ BufInv st'.v st'.w ∧ bitsOf st' ws = B' ∧
        st'.selector = st.selector.push i ∧ st'.j = st.j ∧ st'.numSel = st.numSel ∧
        st'.numTrees = st.numTrees ∧ st'.pc = .selectorMtf ∧ st'.w < st.w ∧
        st' = { st with v := st'.v, w := st'.w, selector := st.selector.push i, pc := .selectorMtf }
    | .error e => e = .badSelector ∧ selLoop st = errS Gen.ERR_SELECTOR := by
  have hk : peek st 6 = Model.Delta.peek6 (bitsOf st ws) := peek6_value st ws h6 inv
  obtain ⟨b1, b2, b3, b4, b5, b6, hwin⟩ := Lemmas.Delta.win6_cases (bitsOf st ws)
  have hlen : 6 ≤ (bitsOf st ws).length := Nat.le_trans h6 (bitsOf_length_ge st ws)
  have htake : (bitsOf st ws).take 6 = [b1, b2, b3, b4, b5, b6] := by
    rw [← win_take 6 _ hlen]
    exact hwin
  have hB : bitsOf st ws = [b1, b2, b3, b4, b5, b6] ++ (bitsOf st ws).drop 6 := by
    rw [← htake, List.take_append_drop]
  have hz := firstZero_spec b1 b2 b3 b4 b5 b6
  simp only at hz
  have hkz : Gen.firstZero.getD (peek st 6) 0 =
      Gen.firstZero.getD (Model.Delta.toNum [b1, b2, b3, b4, b5, b6]) 0 := by
    rw [hk]
    unfold Model.Delta.peek6
    rw [hwin]
  generalize hzdef : Gen.firstZero.getD (Model.Delta.toNum [b1, b2, b3, b4, b5, b6]) 0 = z at hz hkz
  obtain ⟨z1, z7, zle, zeq⟩ := hz
  generalize hR : (bitsOf st ws).drop 6 = R at hB
  generalize hwb : [b1, b2, b3, b4, b5, b6] = wb at hB zle zeq
  have hwl : wb.length = 6 := by rw [← hwb]; rfl
  unfold selLoop
  rw [if_pos hj]
  simp only [hkz]
  by_cases hgt : z > st.numTrees
  · -- at least `num_trees` ones at the front: both reject
    rw [if_pos hgt]
    have hones : ∃ r, bitsOf st ws = List.replicate (z - 1) true ++ r := by
      by_cases h7 : z = 7
      · refine ⟨R, ?_⟩
        rw [hB, zeq h7, h7]
      · have h6' : z ≤ 6 := by omega
        refine ⟨false :: (wb.drop z ++ R), ?_⟩
        rw [hB]
        conv => lhs; rw [zle h6']
        simp
    obtain ⟨r, hr⟩ := hones
    rw [hr, readUnary_bad st.numTrees (z - 1) 0 r (by omega) (by omega)]
    exact ⟨rfl, rfl⟩
  · rw [if_neg hgt]
    have h6' : z ≤ 6 := by omega
    have hform : bitsOf st ws = List.replicate (z - 1) true ++ false :: (wb.drop z ++ R) := by
      rw [hB]
      conv => lhs; rw [zle h6']
      simp
    have hdrop : (bitsOf st ws).drop z = wb.drop z ++ R := by
      rw [hB, List.drop_append_of_le_length (by omega)]
    have hd := dump_ok st z z1 (by omega)
    obtain ⟨e, i⟩ := bitsOf_dump st z ws (by omega) inv
      (s := { st with v := dumpV st.v z, w := st.w - z }) rfl rfl
    rw [hd]
    rw [hdrop] at e
    rw [hform, Lemmas.TransmitParse.readUnary_ones st.numTrees 0 (z - 1) _ (by omega)]
    simp only [Nat.zero_add]
    exact ⟨_, rfl, i, e, rfl, rfl, rfl, rfl, rfl, (by show st.w - z < st.w; omega), rfl⟩

end LbzVerif.Lemmas.RetrieveValues
