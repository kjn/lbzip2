/-
  Lemmas.MtfInit — the bitmap loop of `retrieve()` leaves the bytes in use, in
  ascending order, at `imtf_slide[CMAP_BASE …]`; hence `retrieveSyms` (bitmap
  loop + symbol loop) equals the reference `unMtfRle2` (`Props.C05.Mtf.retrieveSyms_sound`).
-/
import LbzVerif.Spec.Mtf
import LbzVerif.Model.MtfEnc
import LbzVerif.Model.MtfDec
import LbzVerif.Lemmas.MtfEnc
import LbzVerif.Lemmas.MtfOne
import LbzVerif.Lemmas.MtfRun

namespace LbzVerif.Lemmas.MtfInit
open LbzVerif.Model.MtfDec LbzVerif.Model.MtfEnc LbzVerif.Lemmas.MtfEnc LbzVerif.Lemmas.MtfOne
  LbzVerif.Lemmas.MtfRun LbzVerif.Spec.Mtf

def usedList : List Bool → Nat → List UInt8
  | [], _ => []
  | b :: r, j => (if b then [UInt8.ofNat j] else []) ++ usedList r (j + 1)

theorem take_set_succ (l : List UInt8) (a : Nat) (x : UInt8) (h : a < l.length) :
    (l.set a x).take (a + 1) = l.take a ++ [x] := by
  rw [List.take_succ_eq_append_getElem (by rw [List.length_set]; exact h),
    List.take_set_of_le (Nat.le_refl a), List.getElem_set_self]

theorem bitmapLoop_used : ∀ (bits : List Bool) (j : Nat) (acc : List UInt8) (a : Nat),
    a + bits.length ≤ acc.length →
    (bitmapLoop bits j acc a).2 = a + (usedList bits j).length ∧
    (bitmapLoop bits j acc a).1.length = acc.length ∧
    (bitmapLoop bits j acc a).1.take (a + (usedList bits j).length) = acc.take a ++ usedList bits j := by
  intro bits
  induction bits with
  | nil => intro j acc a _; simp [bitmapLoop, usedList]
  | cons b r ih =>
    intro j acc a h
    simp only [List.length_cons] at h
    rw [bitmapLoop]
    have hlen : (acc.set a (UInt8.ofNat j)).length = acc.length := by simp
    cases b with
    | false =>
      simp only [Bool.false_eq_true, if_false, Nat.add_zero, usedList, List.nil_append]
      obtain ⟨i1, i2, i3⟩ := ih (j + 1) (acc.set a (UInt8.ofNat j)) a (by rw [hlen]; omega)
      exact ⟨i1, by rw [i2, hlen], by rw [i3, List.take_set_of_le (Nat.le_refl a)]⟩
    | true =>
      simp only [if_true, usedList, List.singleton_append, List.length_cons]
      obtain ⟨i1, i2, i3⟩ := ih (j + 1) (acc.set a (UInt8.ofNat j)) (a + 1) (by rw [hlen]; omega)
      refine ⟨by rw [i1]; omega, by rw [i2, hlen], ?_⟩
      have : a + ((usedList r (j + 1)).length + 1) = a + 1 + (usedList r (j + 1)).length := by omega
      rw [this, i3, take_set_succ acc a _ (by omega)]
      simp

theorem usedList_map (f : Nat → Bool) (d : Nat) : ∀ (n s : Nat),
    usedList ((List.range' s n).map f) (d + s) =
      (List.range' s n).filterMap (fun k => if f k then some (UInt8.ofNat (d + k)) else none) := by
  intro n
  induction n with
  | zero => intro s; rfl
  | succ n ih =>
    intro s
    rw [List.range'_succ, List.map_cons, List.filterMap_cons, usedList]
    have := ih (s + 1)
    rw [show d + (s + 1) = d + s + 1 by omega] at this
    rw [this]
    cases f s <;> simp

theorem usedList_sel (f : Nat → Bool) (n s : Nat) :
    usedList ((List.range' s n).map f) s = sel f s n := by
  have := usedList_map f 0 n s
  simp only [Nat.zero_add] at this
  exact this

theorem initSlide_spec (used : List UInt8) (hs : used.Pairwise (· < ·)) :
    (initSlide (inuseOf used)).2 = used.length ∧
    Inv (initSlide (inuseOf used)).1 ∧
    ∃ junk, abs (initSlide (inuseOf used)).1 = used ++ junk := by
  obtain ⟨h2, hlen, ht⟩ := bitmapLoop_used (inuseOf used) 0 (List.replicate 256 0) 0
    (by rw [inuseOf_eq, List.length_map, List.length_range', List.length_replicate]; omega)
  rw [inuseOf_eq, usedList_sel, ← sorted_eq_sel used hs, ← inuseOf_eq, Nat.zero_add] at h2 ht
  refine ⟨h2, inv_slideOf _, ?_⟩
  show ∃ junk, abs (slideOf (bitmapLoop (inuseOf used) 0 (List.replicate 256 0) 0).1) = _
  rw [abs_slideOf _ (hlen.trans List.length_replicate)]
  exact ⟨_, by rw [← List.take_append_drop used.length (bitmapLoop _ 0 _ 0).1, ht]; rfl⟩

/-- `retrieveSyms` once `initRun` is known to succeed.  The definition is unfolded as a
function (`f = @retrieveSyms`) and the slide generalised before anything is compared: between
`retrieveSyms inuse syms limit` and its body the kernel would unfold the matcher first and
evaluate `initRun` through the `CMAP_BASE` cells in front of the bitmap bytes. -/
theorem retrieveSyms_eq (inuse : List Bool) (syms : List Nat) (limit : Nat) (st : RunSt) :
    initRun (initSlide inuse).1 = some st →
    retrieveSyms inuse syms limit = consume limit st (syms.map (internalSym (initSlide inuse).2)) := by
  suffices h : ∀ f, f = @retrieveSyms → initRun (initSlide inuse).1 = some st →
      f inuse syms limit = consume limit st (syms.map (internalSym (initSlide inuse).2)) from
    h _ rfl
  intro f hf
  delta retrieveSyms at hf
  subst hf
  dsimp only
  generalize initSlide inuse = i
  intro h
  simp only [h]

end LbzVerif.Lemmas.MtfInit
