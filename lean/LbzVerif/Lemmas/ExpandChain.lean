/-
  Lemmas.ExpandChain — `Model.Expand.go` at the two anchor states of the parser automaton
  (2: inside a stream, in front of a block or the end-of-stream marker; 0: between streams), as a
  function of the unread bits, for EVERY fuel and EVERY input.  Only the answer is described, not
  the error (`okOf`): then one equation per anchor says both what a good run must have read and
  what `go` does on good input (`go2`, `go0`), and too little fuel or too few bits are just the
  `none` branch.  The word in front (`wordC`) and the bitstream behind it (`adv`) are functions of
  the bitstream, so the five words of a 48-bit magic and a 32-bit CRC are `wordC` of `c`, `adv c`
  … `adv4 c` and are the reference's two fields (`adv5_spec`).  The five-word walk is the same
  for a block header and an end-of-stream marker (`go_field`); steps are chained by `guard_comp`.
-/
import LbzVerif.Lemmas.ExpandStep
import LbzVerif.Spec.Bzip2

namespace LbzVerif.Lemmas.ExpandChain
open LbzVerif.Model.Expand LbzVerif.Lemmas.RetrieveBits LbzVerif.Basic
open LbzVerif.Lemmas.ExpandBits LbzVerif.Lemmas.ExpandStep LbzVerif.Lemmas.ExpandParse

def okOf {ε α : Type} : Except ε α → Option α
  | .ok a => some a
  | .error _ => none

@[simp] theorem okOf_error {ε α : Type} (e : ε) : okOf (.error e : Except ε α) = none := rfl

theorem okOf_eq_some {ε α : Type} {x : Except ε α} {a : α} : okOf x = some a ↔ x = .ok a := by
  cases x <;> simp [okOf]

abbrev wordC (c : Cur) : Nat := bitsToNat ((bitsC c).take 16)

/-- `parser_bs` after `bits_need(bs, 16)` and `bits_dump(bs, 16)` (the head of `parse()`'s loop) -/
def adv (c : Cur) : Cur := dumpC ((need16 c).getD c) 16

theorem adv_spec (c : Cur) (inv : BufInv c.v c.w) (h : 16 ≤ (bitsC c).length) :
    bitsC (adv c) = (bitsC c).drop 16 ∧ BufInv (adv c).v (adv c).w ∧ (adv c).w ≤ 48 ∧
    ∀ m f p acc, go m (f + 1) p c acc =
      after m f (Gen.parseStep { p with align := false } (wordC c)) (adv c) acc := by
  have hr := read16 c inv
  unfold adv
  cases hn : need16 c with
  | none => rw [hn] at hr; simp only at hr; omega
  | some c1 =>
    rw [hn] at hr
    obtain ⟨_, a1, a2, a3, a4⟩ := hr
    refine ⟨a2, a3, a4, fun m f p acc => ?_⟩
    rw [go_succ, hn]
    simp only [Option.getD_some]
    rw [a1]

theorem go_step (m f : Nat) (p : Gen.ParseSt) (c : Cur) (acc : List UInt8) (inv : BufInv c.v c.w)
    (h0 : p.state ≠ 0) (h1 : p.state ≠ 1) :
    okOf (go m f p c acc) =
      if 1 ≤ f ∧ 16 ≤ (bitsC c).length then
        okOf (after m (f - 1) (Gen.parseStep { p with align := false } (wordC c)) (adv c) acc)
      else none := by
  cases f with
  | zero => rw [go]; simp
  | succ f =>
    by_cases h : 16 ≤ (bitsC c).length
    · rw [if_pos ⟨by omega, h⟩, (adv_spec c inv h).2.2.2]
      rfl
    · rw [if_neg (by omega), go_eof m f p c acc inv (by omega)]
      unfold atEof
      rw [eof_instream p h0 h1]
      simp [Gen.ERR_EOF, Gen.RV_FINISH]

/-- Two guarded steps in a row; the second is only looked at where the first guard holds (there
the invariant of the next bitstream is available). -/
theorem guard_comp {α : Type} {G G' : Prop} [Decidable G] [Decidable G'] {x y z : Option α}
    (h1 : x = if G then y else none) (h2 : G → y = if G' then z else none) :
    x = if G ∧ G' then z else none := by
  by_cases g : G
  · rw [h1, if_pos g, h2 g]
    by_cases g' : G'
    · rw [if_pos g', if_pos ⟨g, g'⟩]
    · rw [if_neg g', if_neg (fun h => g' h.2)]
  · rw [h1, if_neg g, if_neg (fun h => g h.1)]

theorem go_magic_step (m f : Nat) (p : Gen.ParseSt) (c : Cur) (acc : List UInt8) (k next : Nat)
    (inv : BufInv c.v c.w) (hs : 2 ≤ p.state)
    (hps : ∀ (q : Gen.ParseSt) (wd : Nat), q.state = p.state →
      Gen.parseStep q wd = if wd = k then ({ q with state := next }, none) else (q, some 4)) :
    okOf (go m f p c acc) =
      if (1 ≤ f ∧ 16 ≤ (bitsC c).length) ∧ wordC c = k then
        okOf (go m (f - 1) { p with align := false, state := next } (adv c) acc)
      else none := by
  refine guard_comp (go_step m f p c acc inv (by omega) (by omega)) fun _ => ?_
  rw [hps { p with align := false } _ rfl]
  by_cases hw : wordC c = k
  · rw [if_pos hw, if_pos hw, after_none _ _ _ _ _ rfl]
  · rw [if_neg hw, if_neg hw, after_err _ _ _ _ _ _ (by decide) (by decide)]
    rfl

theorem go_store_step (m f : Nat) (p : Gen.ParseSt) (c : Cur) (acc : List UInt8) (next : Nat)
    (inv : BufInv c.v c.w) (hs : 2 ≤ p.state)
    (hps : ∀ (q : Gen.ParseSt) (wd : Nat), q.state = p.state →
      Gen.parseStep q wd = ({ q with storedCrc := wd % 4294967296, state := next }, none)) :
    okOf (go m f p c acc) =
      if 1 ≤ f ∧ 16 ≤ (bitsC c).length then
        okOf (go m (f - 1)
          { p with align := false, storedCrc := wordC c % 4294967296, state := next } (adv c) acc)
      else none := by
  rw [go_step m f p c acc inv (by omega) (by omega), hps { p with align := false } _ rfl,
    after_none _ _ _ _ _ rfl]


theorem ite_none_congr {α : Type} {G G' : Prop} [Decidable G] [Decidable G'] {z z' : Option α}
    (hG : G ↔ G') (hz : z = z') :
    (if G then z else none) = if G' then z' else none := by
  by_cases g : G'
  · rw [if_pos g, if_pos (hG.mpr g), hz]
  · rw [if_neg g, if_neg (fun h => g (hG.mp h))]

theorem adv_len (c : Cur) (inv : BufInv c.v c.w) (h : 16 ≤ (bitsC c).length) :
    (bitsC (adv c)).length = (bitsC c).length - 16 := by
  rw [(adv_spec c inv h).1, List.length_drop]

abbrev adv2 (c : Cur) : Cur := adv (adv c)
abbrev adv3 (c : Cur) : Cur := adv (adv2 c)
abbrev adv4 (c : Cur) : Cur := adv (adv3 c)
abbrev adv5 (c : Cur) : Cur := adv (adv4 c)

/-- the 32-bit field behind a 48-bit magic -/
abbrev fieldCrc (c : Cur) : Nat := wordC (adv3 c) * 65536 + wordC (adv4 c)

theorem wordC_lt (c : Cur) : wordC c < 65536 := bitsToNat_take_lt (bitsC c) 16

abbrev magicOf (c : Cur) : Nat := wordC c * 2 ^ 32 + wordC (adv c) * 2 ^ 16 + wordC (adv2 c)

theorem adv5_spec (c : Cur) (inv : BufInv c.v c.w) (h : 80 ≤ (bitsC c).length) :
    takeNat 48 (bitsC c) = some (magicOf c, (bitsC c).drop 48) ∧
    takeNat 32 ((bitsC c).drop 48) = some (fieldCrc c, bitsC (adv5 c)) ∧
    BufInv (adv5 c).v (adv5 c).w ∧ (adv5 c).w ≤ 48 := by
  obtain ⟨e1, i1, _, _⟩ := adv_spec c inv (by omega)
  obtain ⟨e2, i2, _, _⟩ := adv_spec (adv c) i1 (by rw [e1, List.length_drop]; omega)
  rw [e1, List.drop_drop] at e2
  obtain ⟨e3, i3, _, _⟩ := adv_spec (adv2 c) i2 (by rw [e2, List.length_drop]; omega)
  rw [e2, List.drop_drop] at e3
  obtain ⟨e4, i4, _, _⟩ := adv_spec (adv3 c) i3 (by rw [e3, List.length_drop]; omega)
  rw [e3, List.drop_drop] at e4
  obtain ⟨e5, i5, w5, _⟩ := adv_spec (adv4 c) i4 (by rw [e4, List.length_drop]; omega)
  rw [e4, List.drop_drop] at e5
  have h32 := split32 ((bitsC c).drop 48) (by rw [List.length_drop]; omega)
  simp only [List.drop_drop, Nat.reduceAdd] at h32
  refine ⟨?_, ?_, i5, w5⟩
  · rw [split48 (bitsC c) (by omega)]
    show _ = some (bitsToNat ((bitsC c).take 16) * 2 ^ 32 + bitsToNat ((bitsC (adv c)).take 16) * 2 ^ 16 +
      bitsToNat ((bitsC (adv2 c)).take 16), _)
    rw [e1, e2]
  · rw [h32]
    show _ = some (bitsToNat ((bitsC (adv3 c)).take 16) * 65536 +
      bitsToNat ((bitsC (adv4 c)).take 16), bitsC (adv5 c))
    rw [e3, e4, e5]


/-- From state 2 the first word `k1` of a magic leads to `s1`; `k2` is expected in `s1`, `k3` in `s2`, the high
half of the 32-bit field is stored in `s3`, the low half handed to `s4`.  One walk for both magics. -/
theorem go_field (m f : Nat) (p : Gen.ParseSt) (c : Cur) (acc : List UInt8)
    (k1 k2 k3 s1 s2 s3 s4 : Nat) (inv : BufInv c.v c.w) (hs : p.state = 2) (hw : wordC c = k1)
    (n1 : 2 ≤ s1) (n2 : 2 ≤ s2) (n3 : 2 ≤ s3) (n4 : 2 ≤ s4)
    (hp1 : Gen.parseStep { p with align := false } k1 = ({ p with align := false, state := s1 }, none))
    (hp2 : ∀ (q : Gen.ParseSt) (wd : Nat), q.state = s1 →
      Gen.parseStep q wd = if wd = k2 then ({ q with state := s2 }, none) else (q, some 4))
    (hp3 : ∀ (q : Gen.ParseSt) (wd : Nat), q.state = s2 →
      Gen.parseStep q wd = if wd = k3 then ({ q with state := s3 }, none) else (q, some 4))
    (hp4 : ∀ (q : Gen.ParseSt) (wd : Nat), q.state = s3 →
      Gen.parseStep q wd = ({ q with storedCrc := wd % 4294967296, state := s4 }, none)) :
    okOf (go m f p c acc) =
      if (5 ≤ f ∧ 80 ≤ (bitsC c).length) ∧ wordC (adv c) = k2 ∧ wordC (adv2 c) = k3 then
        okOf (after m (f - 5)
          (Gen.parseStep { p with align := false, state := s4,
                                  storedCrc := wordC (adv3 c) % 4294967296 } (wordC (adv4 c)))
          (adv5 c) acc)
      else none := by
  have i1 := fun h => (adv_spec c inv h).2.1
  have l1 := adv_len c inv
  have i2 := fun h h' => (adv_spec (adv c) (i1 h) h').2.1
  have l2 : ∀ h, _ → (bitsC (adv2 c)).length = _ := fun h => adv_len (adv c) (i1 h)
  have i3 := fun h h' h'' => (adv_spec (adv2 c) (i2 h h') h'').2.1
  have l3 : ∀ h h', _ → (bitsC (adv3 c)).length = _ := fun h h' => adv_len (adv2 c) (i2 h h')
  have i4 := fun h h' h'' h3 => (adv_spec (adv3 c) (i3 h h' h'') h3).2.1
  have l4 : ∀ h h' h'', _ → (bitsC (adv4 c)).length = _ :=
    fun h h' h'' => adv_len (adv3 c) (i3 h h' h'')
  have e0 : okOf (go m f p c acc) = if 1 ≤ f ∧ 16 ≤ (bitsC c).length then
      okOf (go m (f - 1) { p with align := false, state := s1 } (adv c) acc) else none := by
    rw [go_step m f p c acc inv (by omega) (by omega), hw, hp1, after_none _ _ _ _ _ rfl]
  rw [guard_comp (guard_comp (guard_comp (guard_comp e0
    (fun g => go_magic_step m (f - 1) _ (adv c) acc k2 s2 (i1 g.2) n1 hp2))
    (fun g => go_magic_step m (f - 1 - 1) _ (adv2 c) acc k3 s3 (i2 g.1.2 g.2.1.2) n2 hp3))
    (fun g => go_store_step m (f - 1 - 1 - 1) _ (adv3 c) acc s4 (i3 g.1.1.2 g.1.2.1.2 g.2.1.2) n3 hp4))
    (fun g => go_step m (f - 1 - 1 - 1 - 1) _ (adv4 c) acc (i4 g.1.1.1.2 g.1.1.2.1.2 g.1.2.1.2 g.2.2)
      (by show s4 ≠ 0; omega) (by show s4 ≠ 1; omega))]
  refine ite_none_congr ⟨?_, ?_⟩ ?_
  · rintro ⟨⟨⟨⟨⟨_, a⟩, ⟨_, b⟩, w1⟩, ⟨_, d⟩, w2⟩, _, e⟩, _, e'⟩
    have := l1 a
    have := l2 a b
    have := l3 a b d
    have := l4 a b d e
    exact ⟨⟨by omega, by omega⟩, w1, w2⟩
  · rintro ⟨⟨hf, hl⟩, w1, w2⟩
    have := l1 (by omega)
    have := l2 (by omega) (by omega)
    have := l3 (by omega) (by omega) (by omega)
    have := l4 (by omega) (by omega) (by omega) (by omega)
    exact ⟨⟨⟨⟨⟨by omega, by omega⟩, ⟨by omega, by omega⟩, w1⟩, ⟨by omega, by omega⟩, w2⟩,
      by omega, by omega⟩, by omega, by omega⟩
  · rw [show f - 1 - 1 - 1 - 1 - 1 = f - 5 by omega]

/-- the automaton behind a block header with CRC `crc` (high half `hi`) -/
def pBlock (p : Gen.ParseSt) (hi crc : Nat) : Gen.ParseSt :=
  { p with align := false, state := 2, storedCrc := hi, hdCrc := crc, hdBs100k := p.bs100k,
           computedCrc := crcUpd p.computedCrc crc }

/-- the automaton behind an end-of-stream marker whose CRC `crc` was right -/
def pEos (p : Gen.ParseSt) (crc : Nat) : Gen.ParseSt :=
  { p with align := true, state := 0, storedCrc := crc, computedCrc := 0 }

theorem go2 (m f : Nat) (p : Gen.ParseSt) (c : Cur) (acc : List UInt8) (inv : BufInv c.v c.w)
    (hs : p.state = 2) (hm : p.streamMode = false) :
    okOf (go m f p c acc) =
      if 5 ≤ f ∧ 80 ≤ (bitsC c).length then
        if magicOf c = Spec.Bzip2.blockMagic then
          match blockAt p.bs100k (fieldCrc c) (adv5 c) with
          | .error _ => none
          | .ok (out, c6) =>
            okOf (go m (f - 5) (pBlock p (wordC (adv3 c) % 4294967296) (fieldCrc c)) c6 (acc ++ out))
        else if magicOf c = Spec.Bzip2.eosMagic then
          if fieldCrc c = p.computedCrc then
            okOf (go m (f - 5) (pEos p (fieldCrc c)) (alignC (adv5 c)) acc)
          else none
        else none
      else none := by
  have hs' : ({ p with align := false } : Gen.ParseSt).state = 2 := hs
  have hj := join_eq _ _ (wordC_lt (adv3 c)) (wordC_lt (adv4 c))
  unfold join at hj
  have t1 := wordC_lt c
  have t2 := wordC_lt (adv c)
  have t3 := wordC_lt (adv2 c)
  unfold magicOf Spec.Bzip2.blockMagic Spec.Bzip2.eosMagic
  by_cases hb : wordC c = 0x3141
  · rw [go_field m f p c acc 0x3141 0x5926 0x5359 3 4 5 6 inv hs hb (by decide) (by decide)
      (by decide) (by decide) (by rw [ps2 _ _ hs', if_neg (by decide), if_pos rfl]) ps3 ps4 ps5,
      ps6 _ _ rfl, after_ok _ _ _ _ _ rfl]
    by_cases hG : 5 ≤ f ∧ 80 ≤ (bitsC c).length
    · by_cases hw : wordC (adv c) = 0x5926 ∧ wordC (adv2 c) = 0x5359
      · rw [if_pos ⟨hG, hw⟩, if_pos hG, if_pos (by omega : _ = 0x314159265359)]
        simp only [hj]
        cases blockAt p.bs100k (fieldCrc c) (adv5 c) <;> rfl
      · rw [if_neg (fun h => hw h.2), if_pos hG, if_neg (by omega : ¬ _ = 0x314159265359),
          if_neg (by omega : ¬ _ = 0x177245385090)]
    · rw [if_neg (fun h => hG h.1), if_neg hG]
  · by_cases he : wordC c = 0x1772
    · rw [go_field m f p c acc 0x1772 0x4538 0x5090 7 8 9 10 inv hs he (by decide) (by decide)
        (by decide) (by decide) (by rw [ps2 _ _ hs', if_pos rfl]) ps7 ps8 ps9,
        ps10 { p with align := false, state := 10, storedCrc := wordC (adv3 c) % 4294967296 } _ rfl hm]
      simp only [hj]
      by_cases hG : 5 ≤ f ∧ 80 ≤ (bitsC c).length
      · by_cases hw : wordC (adv c) = 0x4538 ∧ wordC (adv2 c) = 0x5090
        · rw [if_pos ⟨hG, hw⟩, if_pos hG, if_neg (by omega : ¬ _ = 0x314159265359),
            if_pos (by omega : _ = 0x177245385090)]
          by_cases hc : fieldCrc c = p.computedCrc
          · simp only [if_pos hc]
            exact congrArg okOf (after_none_align _ _ _ _ _ rfl)
          · simp only [if_neg hc, after_err _ _ _ 16 _ _ (by decide) (by decide), okOf_error]
        · rw [if_neg (fun h => hw h.2), if_pos hG, if_neg (by omega : ¬ _ = 0x314159265359),
            if_neg (by omega : ¬ _ = 0x177245385090)]
      · rw [if_neg (fun h => hG h.1), if_neg hG]
    · rw [go_step m f p c acc inv (by omega) (by omega), ps2 _ _ hs', if_neg he, if_neg hb,
        after_err _ _ _ _ _ _ (by decide) (by decide)]
      by_cases hG : 5 ≤ f ∧ 80 ≤ (bitsC c).length
      · rw [if_pos hG, if_neg (by omega : ¬ _ = 0x314159265359),
          if_neg (by omega : ¬ _ = 0x177245385090)]
        split <;> rfl
      · rw [if_neg hG]
        split <;> rfl

theorem small2 (m f : Nat) (p : Gen.ParseSt) (c : Cur) (acc : List UInt8) (inv : BufInv c.v c.w)
    (hs : p.state = 2) (hm : p.streamMode = false) (h : (bitsC c).length < 80) :
    okOf (go m f p c acc) = none := by
  rw [go2 m f p c acc inv hs hm, if_neg (by omega)]

theorem okOf_finish (m g : Nat) (c : Cur) (acc : List UInt8) (hm3 : m < 4) :
    okOf (finishCheck m g c acc) =
      if 8 * m ≤ (bitsC c).length + g then some acc else none := by
  rw [bitsC_length]
  rw [finishCheck_eq _ _ _ _ hm3]
  by_cases h : c.size + g < 8 * m
  · rw [if_pos h, if_neg (by omega)]
    rfl
  · rw [if_neg h, if_pos (by omega)]
    rfl

/-- a stream header in front: "BZ", "h1"…"h9" -/
abbrev isHdr (c : Cur) : Prop :=
  32 ≤ (bitsC c).length ∧ wordC c = 0x425A ∧ 0x6831 ≤ wordC (adv c) ∧ wordC (adv c) ≤ 0x6839

/-- The fuel suffices for trailing garbage.  One iteration is enough when fewer than 16 bits are
left (FINISH from `bits_need`) or the first word is not "BZ" (FINISH from the automaton); after a
"BZ" the second word costs a second iteration. -/
abbrev fuelOk (f : Nat) (c : Cur) : Prop :=
  2 ≤ f ∨ f = 1 ∧ ¬ (16 ≤ (bitsC c).length ∧ wordC c = 0x425A)

theorem go0 (m f : Nat) (p : Gen.ParseSt) (c : Cur) (acc : List UInt8) (inv : BufInv c.v c.w)
    (hs : p.state = 0) (hm3 : m < 4) :
    okOf (go m f p c acc) =
      if isHdr c then
        if 2 ≤ f then
          okOf (go m (f - 2)
            { p with align := false, state := 2, bs100k := wordC (adv c) - 0x6830 } (adv2 c) acc)
        else none
      else if 8 * m ≤ (bitsC c).length ∧ fuelOk f c then some acc else none := by
  have hs' : ({ p with align := false } : Gen.ParseSt).state = 0 := hs
  cases f with
  | zero =>
    rw [go]
    split
    · rfl
    · exact (if_neg (fun h : 8 * m ≤ (bitsC c).length ∧ fuelOk 0 c => by
        rcases h.2 with h | h <;> omega)).symm
  | succ f =>
    by_cases h16 : 16 ≤ (bitsC c).length
    · obtain ⟨_, i1, _, e1⟩ := adv_spec c inv h16
      have l1 := adv_len c inv h16
      rw [e1, ps0 _ _ hs']
      by_cases hw : wordC c = 0x425A
      · rw [if_pos hw, after_none _ _ _ _ _ rfl]
        cases f with
        | zero =>
          rw [go]
          split
          · rfl
          · exact (if_neg (fun h : 8 * m ≤ (bitsC c).length ∧ fuelOk (0 + 1) c => by
              rcases h.2 with h | h
              · omega
              · exact h.2 ⟨h16, hw⟩)).symm
        | succ f =>
          by_cases h32 : 16 ≤ (bitsC (adv c)).length
          · obtain ⟨_, _, _, e2⟩ := adv_spec (adv c) i1 h32
            have l2 := adv_len (adv c) i1 h32
            rw [e2, ps1 _ _ rfl]
            by_cases hr : 0x6831 ≤ wordC (adv c) ∧ wordC (adv c) ≤ 0x6839
            · rw [if_pos hr, after_none _ _ _ _ _ rfl,
                if_pos (show isHdr c from ⟨by omega, hw, hr.1, hr.2⟩),
                if_pos (by omega : 2 ≤ f + 1 + 1), levelWord_and15 _ hr.1 hr.2]
              rfl
            · rw [if_neg hr, after_finish _ _ _ _ _ rfl, okOf_finish _ _ _ _ hm3,
                if_neg (fun h : isHdr c => hr ⟨h.2.2.1, h.2.2.2⟩)]
              dsimp only
              exact ite_none_congr ⟨fun h => ⟨by omega, .inl (by omega)⟩,
                fun h => by have := h.1; omega⟩ rfl
          · rw [go_eof m f _ (adv c) acc i1 (by omega), atEof1 _ _ _ _ rfl, okOf_finish _ _ _ _ hm3,
              if_neg (fun h : isHdr c => by have := h.1; omega)]
            exact ite_none_congr ⟨fun h => ⟨by omega, .inl (by omega)⟩,
              fun h => by have := h.1; omega⟩ rfl
      · rw [if_neg hw, after_finish _ _ _ _ _ rfl, okOf_finish _ _ _ _ hm3,
          if_neg (fun h : isHdr c => hw h.2.1)]
        dsimp only
        exact ite_none_congr ⟨fun h => ⟨by omega, by
            by_cases h2 : 2 ≤ f + 1
            · exact .inl h2
            · exact .inr ⟨by omega, fun h => hw h.2⟩⟩,
          fun h => by have := h.1; omega⟩ rfl
    · rw [go_eof m f p c acc inv (by omega), atEof0 _ _ _ _ hs, okOf_finish _ _ _ _ hm3,
        if_neg (fun h : isHdr c => by have := h.1; omega)]
      exact ite_none_congr ⟨fun h => ⟨by omega, by
          by_cases h2 : 2 ≤ f + 1
          · exact .inl h2
          · exact .inr ⟨by omega, fun h => h16 h.1⟩⟩,
        fun h => by have := h.1; omega⟩ rfl


/-- Fewer unread bits than the padding: the last stream was completed by padding bits. -/
theorem small0 (m f : Nat) (p : Gen.ParseSt) (c : Cur) (acc : List UInt8) (inv : BufInv c.v c.w)
    (hs : p.state = 0) (hm3 : m < 4) (h : (bitsC c).length < 8 * m) :
    okOf (go m f p c acc) = none := by
  rw [go0 m f p c acc inv hs hm3, if_neg (fun h : isHdr c => by have := h.1; omega),
    if_neg (fun h => by have := h.1; omega)]

end LbzVerif.Lemmas.ExpandChain
