/-
  Lemmas.BwtInverseLF — the LF-mapping argument, stated without any text.
  `Matrix M m`: rows of the same length `m ≥ 1`, sorted by `key`, closed under
  rotation (`M.map rotr` is a permutation of `M`).  With `L` its last column and
  `S = succVec L` (the positions of `L` in stable order of their byte, the
  successor vector of the textbook inverse BWT): rotating row `S[j]` one step to
  the right gives row `j` (`lf_eq`); following `S` from row `q` for `k ≤ m` steps,
  reading `L`, spells the first `k` bytes of row `q` (`follow_row`); for a square
  matrix `Spec.Ibwt.ibwt L idx` is row `idx` (`ibwt_matrix`).
-/
import LbzVerif.Lemmas.BwtInverseKey
import LbzVerif.Lemmas.IbwtSort

namespace LbzVerif.Lemmas.BwtInverse
open LbzVerif.Spec.Ibwt (succVec follow isort)
open LbzVerif.Lemmas.IbwtSort
open LbzVerif.Lemmas.Ibwt (byteAt)

def lastCol (M : List (List UInt8)) : List UInt8 := M.map (fun r => r.getLastD 0)

/-- The point is `closed`: rotating every row one step to the right gives the same rows again.
The sorted rotations of a text are such a matrix. -/
structure Matrix (M : List (List UInt8)) (m : Nat) : Prop where
  pos : 1 ≤ m
  rows : ∀ r ∈ M, r.length = m
  sorted : M.Pairwise (fun a b => key a ≤ key b)
  closed : (M.map rotr).Perm M

theorem lastCol_length (M : List (List UInt8)) : (lastCol M).length = M.length := by
  simp [lastCol]

theorem lastCol_getD (M : List (List UInt8)) (p : Nat) (hp : p < M.length) :
    (lastCol M).getD p 0 = (M.getD p []).getLastD 0 := by
  simp [lastCol, List.getD_eq_getElem?_getD, List.getElem?_map, List.getElem?_eq_getElem hp]

theorem key_rotr_le (r r' : List UInt8) (m : Nat) (hm : 1 ≤ m) (h : r.length = m)
    (h' : r'.length = m)
    (hc : (r.getLastD 0).toNat < (r'.getLastD 0).toNat ∨
      ((r.getLastD 0).toNat = (r'.getLastD 0).toNat ∧ key r ≤ key r')) :
    key (rotr r) ≤ key (rotr r') := by
  have e := ListAux.eq_dropLast_append_getLastD (0 : UInt8) (l := r)
    (List.ne_nil_of_length_pos (by omega))
  have e' := ListAux.eq_dropLast_append_getLastD (0 : UInt8) (l := r')
    (List.ne_nil_of_length_pos (by omega))
  have hk : key r = key r.dropLast * 256 + (r.getLastD 0).toNat := by
    conv => lhs; rw [e]
    exact key_snoc _ _
  have hk' : key r' = key r'.dropLast * 256 + (r'.getLastD 0).toNat := by
    conv => lhs; rw [e']
    exact key_snoc _ _
  have hl : r.dropLast.length = r'.dropLast.length := by
    simp only [List.length_dropLast]; omega
  simp only [rotr, key_cons]
  rw [← hl]
  have b1 := key_lt r.dropLast
  have b2 := key_lt r'.dropLast
  rw [← hl] at b2
  rcases hc with hc | ⟨hc, hle⟩
  · have := mul_add_lt _ _ _ _ hc b1
    omega
  · rw [hc]
    omega

/-- The LF mapping.  The list `A = [rotr (M[S[0]]), rotr (M[S[1]]), …]` is sorted
(for two rows with different last bytes the rotated rows start with these
bytes; for equal last bytes `S` keeps the row order, `M` is sorted, and
`X·c ≤ X'·c ⟹ c·X ≤ c·X'`), and it is a permutation of `M`; two sorted
permutations of one another are equal.  No tie-breaking between equal rows is
involved, so periodic texts (several equal rotations) need no special care. -/
theorem lf_eq {M : List (List UInt8)} {m : Nat} (h : Matrix M m) :
    (succVec (lastCol M)).map (fun p => rotr (M.getD p [])) = M := by
  have hlen := lastCol_length M
  have hS := succVec_perm (lastCol M)
  rw [hlen] at hS
  have hmemS : ∀ p ∈ succVec (lastCol M), p < M.length := fun p hp =>
    List.mem_range.mp (hS.mem_iff.mp hp)
  refine List.Perm.eq_of_pairwise (le := fun a b => key a ≤ key b) ?_ ?_ h.sorted ?_
  · intro a b ha hb hab hba
    have hk := Nat.le_antisymm hab hba
    obtain ⟨p, hp, rfl⟩ := List.mem_map.mp ha
    have hrow := h.rows _ (ListAux.getD_mem [] (hmemS p hp))
    apply key_inj _ _ _ hk
    rw [rotr_length _ (List.ne_nil_of_length_pos (by have := h.pos; omega)), hrow, h.rows b hb]
  · rw [List.pairwise_map]
    have hpw : (succVec (lastCol M)).Pairwise (fun a b => ltB (lastCol M) a b = true) :=
      isort_pairwise (lastCol M) _ List.pairwise_lt_range
    refine List.Pairwise.imp_of_mem ?_ hpw
    intro p p' hp hp' hlt
    have hpl := hmemS p hp
    have hpl' := hmemS p' hp'
    have m1 := ListAux.getD_mem (l := M) [] hpl
    have m2 := ListAux.getD_mem (l := M) [] hpl'
    rw [ltB_iff] at hlt
    simp only [byteAt, lastCol_getD M p hpl, lastCol_getD M p' hpl'] at hlt
    apply key_rotr_le _ _ m h.pos (h.rows _ m1) (h.rows _ m2)
    rcases hlt with hlt | ⟨heq, hpp⟩
    · exact Or.inl hlt
    · refine Or.inr ⟨heq, ?_⟩
      rw [ListAux.getD_of_lt [] hpl, ListAux.getD_of_lt [] hpl']
      exact (List.pairwise_iff_getElem.mp h.sorted) p p' hpl hpl' hpp
  · refine ((hS.map _).trans ?_).trans h.closed
    rw [ListAux.map_range_getD M [] rotr]

theorem lf_step {M : List (List UInt8)} {m : Nat} (h : Matrix M m) (q : Nat) (hq : q < M.length) :
    (succVec (lastCol M)).getD q 0 < M.length ∧
    M.getD ((succVec (lastCol M)).getD q 0) [] = rotl (M.getD q []) := by
  have hlen := lastCol_length M
  have hq' : (succVec (lastCol M)).getD q 0 < M.length := by
    have := succVec_getD_lt (lastCol M) q (by rw [hlen]; exact hq)
    rwa [hlen] at this
  refine ⟨hq', ?_⟩
  have hSl : q < (succVec (lastCol M)).length := by rw [succVec_length, hlen]; exact hq
  have hget := congrArg (fun l => l.getD q []) (lf_eq h)
  simp only [List.getD_eq_getElem?_getD, List.getElem?_map, List.getElem?_eq_getElem hSl,
    Option.map_some, Option.getD_some] at hget
  have hrow := h.rows _ (ListAux.getD_mem [] hq')
  have hne := List.ne_nil_of_length_pos (hrow ▸ h.pos)
  have e : (succVec (lastCol M)).getD q 0 = (succVec (lastCol M))[q] := ListAux.getD_of_lt 0 hSl
  rw [e]
  rw [e] at hne
  have := congrArg rotl hget
  rw [rotl_rotr _ (by simpa [List.getD_eq_getElem?_getD] using hne)] at this
  simpa [List.getD_eq_getElem?_getD] using this

theorem follow_row {M : List (List UInt8)} {m : Nat} (h : Matrix M m) :
    ∀ (k q : Nat), q < M.length → k ≤ m →
      follow (lastCol M) (succVec (lastCol M)) k q = (M.getD q []).take k := by
  intro k
  induction k with
  | zero => intro q _ _; simp [follow]
  | succ k ih =>
    intro q hq hk
    obtain ⟨hq', hrot⟩ := lf_step h q hq
    have hrow := h.rows _ (ListAux.getD_mem [] hq)
    simp only [follow]
    rw [ih _ hq' (by omega), lastCol_getD M _ hq', hrot]
    cases hr : M.getD q [] with
    | nil => rw [hr] at hrow; simp at hrow; omega
    | cons c X =>
      rw [hr] at hrow
      rw [getLastD_rotl]
      simp only [rotl, List.take_succ_cons]
      rw [List.take_append_of_le_length (by simp only [List.length_cons] at hrow; omega)]

theorem ibwt_matrix {M : List (List UInt8)} {m : Nat} (h : Matrix M m) (hN : M.length = m)
    (idx : Nat) (hidx : idx < M.length) :
    Spec.Ibwt.ibwt (lastCol M) idx = M.getD idx [] := by
  unfold Spec.Ibwt.ibwt
  rw [lastCol_length, follow_row h M.length idx hidx (by omega)]
  have hrow := h.rows _ (ListAux.getD_mem [] hidx)
  rw [List.take_of_length_le (by omega)]

end LbzVerif.Lemmas.BwtInverse
