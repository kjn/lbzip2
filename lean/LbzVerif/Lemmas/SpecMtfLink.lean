/-
  Lemmas.SpecMtfLink — the two reference definitions of the inverse MTF /
  zero-run stage agree:
    * `Spec.Mtf.unMtfRle2`   (symbol list with the end-of-block symbol, state
      machine `unGo`, eager accounting of run bytes), and
    * `Spec.Bzip2.unMtfRle2` (symbol list without EOB, tail-recursive
      `unMtfRle2Go` with an `Array` accumulator and a lazily flushed run).
  Also (`go_ok`): every symbol of an accepted block contributes at least one
  byte, the block fits the capacity, and the capacity matters no further.
-/
import LbzVerif.Spec.Mtf
import LbzVerif.Spec.Bzip2
import LbzVerif.Lemmas.MtfSpec

namespace LbzVerif.Lemmas.SpecMtfLink
open LbzVerif.Spec.Bzip2

theorem pushN_toList {α : Type} (acc : Array α) (b : α) (n : Nat) :
    (pushN acc b n).toList = acc.toList ++ List.replicate n b := by
  induction n generalizing acc with
  | zero => simp [pushN]
  | succ n ih =>
    simp only [pushN, ih, Array.toList_push, List.append_assoc, List.singleton_append]
    rw [List.replicate_succ]

theorem pushN_size {α : Type} (acc : Array α) (b : α) (n : Nat) :
    (pushN acc b n).size = acc.size + n := by
  rw [← Array.length_toList, pushN_toList]; simp

def okList : Except Reject (Array UInt8) → Option (List UInt8)
  | .ok a => some a.toList
  | .error _ => none

theorem go_overflow (cap : Nat) (ss : List Nat) (l : List UInt8) (run w : Nat) (out : Array UInt8)
    (h : cap < out.size + run) : okList (unMtfRle2Go cap ss l run w out) = none := by
  induction ss generalizing run w with
  | nil =>
    unfold unMtfRle2Go
    rw [if_neg (by omega)]; rfl
  | cons s ss ih =>
    unfold unMtfRle2Go
    by_cases hs : s ≤ 1
    · simp only [hs, if_true]
      split
      · exact ih _ _ (by omega)
      · rfl
    · rw [if_neg hs, if_neg (by omega)]; rfl

theorem moveToFront_eq (l : List UInt8) (p : Nat) (b : UInt8) (h : l[p]? = some b) :
    Spec.Bzip2.moveToFront l p = some (b, Spec.Mtf.moveToFront l p) := by
  simp [Spec.Bzip2.moveToFront, Spec.Mtf.moveToFront, h]

/-- The Mtf side has already emitted the pending run, so its remaining output is prefixed by the
flushed output and the run. -/
theorem go_link (N cap : Nat) (ss : List Nat) (hs : ∀ s ∈ ss, s ≠ N + 1)
    (l : List UInt8) (hl : l.length = N) (hN : 1 ≤ N) (run w : Nat) (out : Array UInt8)
    (hfit : out.size + run ≤ cap) :
    okList (unMtfRle2Go cap ss l run w out) =
      (Spec.Mtf.unGo (N + 1) cap l (out.size + run) w (ss ++ [N + 1])).map
        (fun r => out.toList ++ List.replicate run (l.headD 0) ++ r) := by
  induction ss generalizing l run w out with
  | nil =>
    unfold unMtfRle2Go
    rw [if_pos hfit]
    simp [Spec.Mtf.unGo, okList, pushN_toList]
  | cons s ss ih =>
    have hs' : ∀ t ∈ ss, t ≠ N + 1 := fun t ht => hs t (List.mem_cons_of_mem _ ht)
    have hse : s ≠ N + 1 := hs s (List.mem_cons_self ..)
    obtain ⟨b, tl, rfl⟩ := List.exists_cons_of_length_pos (by omega : 0 < l.length)
    unfold unMtfRle2Go
    simp only [List.cons_append]
    unfold Spec.Mtf.unGo
    rw [if_neg hse]
    by_cases h1 : s ≤ 1
    · have h2 : s < 2 := by omega
      rw [if_pos h1, if_pos h2]
      simp only []
      by_cases hk : out.size + (run + (s + 1) * w) ≤ cap
      · have hr : run + (s + 1) * w ≤ cap := by omega
        rw [if_pos hr, if_neg (by omega)]
        rw [ih hs' (b :: tl) hl _ _ out hk]
        rw [show out.size + (run + (s + 1) * w) = out.size + run + (s + 1) * w by omega]
        simp only [Option.map_map]
        congr 1
        funext r
        simp [← List.replicate_append_replicate, List.headD]
      · have hov : out.size + run + (s + 1) * w > cap := by omega
        rw [if_pos hov]
        split
        · rw [go_overflow _ _ _ _ _ _ (by omega)]; rfl
        · rfl
    · have h2 : ¬ s < 2 := by omega
      rw [if_neg h1, if_neg h2]
      by_cases hlt : s < N + 1
      · rw [if_pos hlt]
        have hp : s - 1 < (b :: tl).length := by omega
        have hget : (b :: tl)[s - 1]? = some ((b :: tl)[s - 1]) := List.getElem?_eq_getElem hp
        generalize (b :: tl)[s - 1] = c at hget
        rw [hget, moveToFront_eq _ _ _ hget]
        simp only []
        by_cases hk : out.size + run + 1 ≤ cap
        · rw [if_pos hk, if_neg (by omega)]
          have hl' := Lemmas.MtfSpec.moveToFront_length (b :: tl) (s - 1)
          rw [ih hs' _ (hl'.trans hl) 0 1 _ (by simp [pushN_size]; omega)]
          simp only [Array.size_push, pushN_size, Nat.add_zero, Option.map_map]
          congr 1
          funext r
          simp [pushN_toList, List.headD]
        · rw [if_neg hk, if_pos (by omega)]; rfl
      · rw [if_neg hlt]
        have hnone : Spec.Bzip2.moveToFront (b :: tl) (s - 1) = none := by
          unfold Spec.Bzip2.moveToFront
          rw [List.getElem?_eq_none (by omega)]
        rw [hnone]
        split <;> rfl

theorem unMtfRle2_link (used : List UInt8) (hu : used ≠ []) (cap : Nat) (syms : List Nat)
    (hs : ∀ s ∈ syms, s ≠ used.length + 1) :
    Spec.Mtf.unMtfRle2 used (syms ++ [used.length + 1]) cap =
      match Spec.Bzip2.unMtfRle2 used cap syms with
      | .ok a => some a.toList
      | .error _ => none := by
  have hN : 1 ≤ used.length := List.length_pos_iff.mpr hu
  have h := go_link used.length cap syms hs used rfl hN 0 1 #[] (by simp)
  unfold Spec.Mtf.unMtfRle2 Spec.Bzip2.unMtfRle2
  simp only [List.size_toArray, List.length_nil, Nat.add_zero,
    List.replicate_zero, List.append_nil, List.nil_append] at h
  change _ = okList (unMtfRle2Go cap syms used 0 1 #[])
  rw [h]
  simp

/-- The hypotheses of `unMtfRle2_link` hold on a concrete block; both sides
evaluate to the same eight bytes. -/
example : Spec.Mtf.unMtfRle2 [97, 98, 99] ([1, 2, 3, 0, 0, 3] ++ [[97, 98, 99].length + 1]) 900000 =
      match Spec.Bzip2.unMtfRle2 [97, 98, 99] 900000 [1, 2, 3, 0, 0, 3] with
      | .ok a => some a.toList
      | .error _ => none :=
  unMtfRle2_link [97, 98, 99] (by decide) 900000 [1, 2, 3, 0, 0, 3] (by decide)

example : Spec.Mtf.unMtfRle2 [97, 98, 99] ([1, 2, 3, 0, 0, 3] ++ [4]) 900000
    = some [97, 97, 98, 99, 99, 99, 99, 97] := by decide

example : (match Spec.Bzip2.unMtfRle2 [97, 98, 99] 900000 [1, 2, 3, 0, 0, 3] with
      | .ok a => some a.toList
      | .error _ => none) = some [97, 97, 98, 99, 99, 99, 99, 97] := by decide

theorem go_cons_ok {cap s : Nat} {ss : List Nat} {l : List UInt8} {run w : Nat} {out a : Array UInt8}
    (h : unMtfRle2Go cap (s :: ss) l run w out = .ok a) :
    (s ≤ 1 ∧ run + (s + 1) * w ≤ cap ∧
        unMtfRle2Go cap ss l (run + (s + 1) * w) (2 * w) out = .ok a) ∨
      (¬ s ≤ 1 ∧ out.size + run + 1 ≤ cap ∧ ∃ b mtf, moveToFront l (s - 1) = some (b, mtf) ∧
        unMtfRle2Go cap ss mtf 0 1 ((pushN out (l.headD 0) run).push b) = .ok a) := by
  unfold unMtfRle2Go at h
  split at h
  · simp only [] at h
    split at h
    · exact Or.inl ⟨‹_›, ‹_›, h⟩
    · cases h
  · split at h
    · simp only [] at h
      split at h
      · cases h
      · exact Or.inr ⟨‹_›, ‹_›, _, _, ‹_›, h⟩
    · cases h

theorem go_ok (cap : Nat) (ss : List Nat) (l : List UInt8) (run w : Nat) (out a : Array UInt8)
    (hw : 1 ≤ w) (h : unMtfRle2Go cap ss l run w out = .ok a) :
    out.size + run + ss.length ≤ a.size ∧ a.size ≤ cap ∧
      ∀ cap', a.size ≤ cap' → unMtfRle2Go cap' ss l run w out = .ok a := by
  induction ss generalizing l run w out with
  | nil =>
    unfold unMtfRle2Go at h
    split at h
    · cases h
      rw [pushN_size]
      refine ⟨by simp, ‹_›, fun cap' hc => ?_⟩
      unfold unMtfRle2Go
      rw [if_pos hc]
    · cases h
  | cons s ss ih =>
    rcases go_cons_ok h with ⟨hs, _, h'⟩ | ⟨hs, _, b, mtf, hmv, h'⟩
    · obtain ⟨h1, h2, h3⟩ := ih _ _ _ _ (by omega) h'
      have hk : 1 ≤ (s + 1) * w := Nat.mul_pos (by omega) hw
      refine ⟨by simp only [List.length_cons]; omega, h2, fun cap' hc => ?_⟩
      unfold unMtfRle2Go
      rw [if_pos hs]
      dsimp only
      rw [if_pos (by omega)]
      exact h3 cap' hc
    · obtain ⟨h1, h2, h3⟩ := ih _ _ _ _ (Nat.le_refl 1) h'
      simp only [Array.size_push, pushN_size] at h1
      refine ⟨by simp only [List.length_cons]; omega, h2, fun cap' hc => ?_⟩
      unfold unMtfRle2Go
      rw [if_neg hs, if_pos (by omega)]
      dsimp only
      rw [hmv]
      exact h3 cap' hc

theorem unMtfRle2_size_ge (used : List UInt8) (cap : Nat) (syms : List Nat) (a : Array UInt8)
    (h : Spec.Bzip2.unMtfRle2 used cap syms = .ok a) : syms.length ≤ a.size ∧ a.size ≤ cap := by
  have := go_ok cap syms used 0 1 _ a (Nat.le_refl 1) h
  simp at this
  omega

example : ∃ a, Spec.Bzip2.unMtfRle2 [97, 98, 99] 900000 [1, 2, 3, 0, 0, 3] = .ok a ∧ a.size = 8 :=
  ⟨_, rfl, by decide⟩

/-- The stage does not depend on the capacity as long as the block fits: `retrieve()` works with
900000 (MAX_BLOCK_SIZE), the oracle's `decodeBlock` with `level × 100000` (lbzip2 makes that test
in expand.c, after the retriever). -/
theorem unMtfRle2_cap_mono (used : List UInt8) (cap cap' : Nat) (syms : List Nat) (tt : Array UInt8)
    (h : unMtfRle2 used cap syms = .ok tt) (hc : tt.size ≤ cap') :
    unMtfRle2 used cap' syms = .ok tt :=
  (go_ok cap syms used 0 1 _ tt (Nat.le_refl 1) h).2.2 cap' hc

example : unMtfRle2 [97, 98, 99] 900000 [1, 2, 3, 0, 0, 3] = unMtfRle2 [97, 98, 99] 8 [1, 2, 3, 0, 0, 3] := by
  decide

end LbzVerif.Lemmas.SpecMtfLink
