/-
  Lemmas about `Naming.xformRows` for ANY suffix table of the shape
  "pairwise suffix-incomparable check rows, then one catch-all row" — the
  facts `Props.C17` needs are then obtained by `decide` on the generated table,
  so they survive a reordering of the check rows in main.c.
-/
import LbzVerif.Model.Naming

namespace LbzVerif.Lemmas.CliNaming
open LbzVerif.Model.Naming
open LbzVerif.Model.Cli (Tok)

/-- the C test `len >= compr_len && strcmp(name + len - compr_len, compr) == 0` -/
theorem match_iff_suffix (compr name : Tok) :
    (decide (compr.length ≤ name.length)
      && name.drop (name.length - compr.length) == compr) = true ↔ compr <:+ name := by
  simp only [Bool.and_eq_true, decide_eq_true_eq, beq_iff_eq]
  exact ⟨fun ⟨_, h⟩ => List.suffix_iff_eq_drop.mpr h.symm,
    fun h => ⟨h.length_le, (List.suffix_iff_eq_drop.mp h).symm⟩⟩

theorem take_append_of_suffix {compr name : Tok} (h : compr <:+ name) :
    name.take (name.length - compr.length) ++ compr = name :=
  List.suffix_iff_eq_append.mp h

/-- two rows never match the same name -/
def Excl (a b : Tok × Tok × Bool) : Prop := ¬ a.1 <:+ b.1 ∧ ¬ b.1 <:+ a.1

instance (a b : Tok × Tok × Bool) : Decidable (Excl a b) := by unfold Excl; infer_instance

theorem xformRows_cons (r : Tok × Tok × Bool) (rs) (name : Tok) (w : Bool) :
    xformRows (r :: rs) name w =
      if (r.2.2 || w) = true ∧ r.1 <:+ name then
        some (name.take (name.length - r.1.length) ++ r.2.1)
      else xformRows rs name w := by
  obtain ⟨c, d, k⟩ := r
  simp only [xformRows, ← match_iff_suffix c name, Bool.and_eq_true, and_assoc]

theorem xformRows_chk (rows tail : List (Tok × Tok × Bool)) (name : Tok) (w : Bool)
    (hchk : ∀ r ∈ rows, r.2.2 = true) (hex : rows.Pairwise Excl)
    (r : Tok × Tok × Bool) (hr : r ∈ rows) (hs : r.1 <:+ name) :
    xformRows (rows ++ tail) name w
      = some (name.take (name.length - r.1.length) ++ r.2.1) := by
  induction rows with
  | nil => cases hr
  | cons h t ih =>
    rw [List.pairwise_cons] at hex
    by_cases hh : h.1 <:+ name
    · -- the head matches: it must be the row
      have hk : (h.2.2 || w) = true := by simp [hchk h (List.mem_cons_self)]
      rw [List.cons_append, xformRows_cons, if_pos ⟨hk, hh⟩]
      rcases List.mem_cons.mp hr with rfl | hrt
      · rfl
      · have := hex.1 r hrt
        rcases List.suffix_or_suffix_of_suffix hh hs with h1 | h1
        · exact absurd h1 this.1
        · exact absurd h1 this.2
    · rw [List.cons_append, xformRows_cons, if_neg fun hc => hh hc.2]
      rcases List.mem_cons.mp hr with rfl | hrt
      · exact absurd hs hh
      · exact ih (fun r hr => hchk r (List.mem_cons_of_mem _ hr)) hex.2 hrt

/-- No check row matches: the catch-all row (asked for an output name), or
nothing (asked whether the name is compressed). -/
theorem xformRows_none (rows : List (Tok × Tok × Bool)) (dflt name : Tok)
    (hno : ∀ r ∈ rows, ¬ r.1 <:+ name) (w : Bool) :
    xformRows (rows ++ [([], dflt, false)]) name w =
      if w = true then some (name ++ dflt) else none := by
  induction rows with
  | nil =>
    rw [List.nil_append, xformRows_cons]
    cases w <;> simp [xformRows]
  | cons h t ih =>
    rw [List.cons_append, xformRows_cons, if_neg fun hc => hno h List.mem_cons_self hc.2]
    exact ih fun r hr => hno r (List.mem_cons_of_mem _ hr)

structure Shape (table : List (Tok × Tok × Bool)) (dflt : Tok) : Prop where
  split : table = table.dropLast ++ [([], dflt, false)]
  chk : ∀ r ∈ table.dropLast, r.2.2 = true
  excl : table.dropLast.Pairwise Excl

theorem Shape.of_row {table dflt} (S : Shape table dflt) (name : Tok) (w : Bool)
    (r : Tok × Tok × Bool) (hr : r ∈ table.dropLast) (hs : r.1 <:+ name) :
    xformRows table name w = some (name.take (name.length - r.1.length) ++ r.2.1) := by
  rw [S.split]
  exact xformRows_chk _ _ name w S.chk S.excl r hr hs

theorem Shape.of_none {table dflt} (S : Shape table dflt) (name : Tok)
    (hno : ∀ r ∈ table.dropLast, ¬ r.1 <:+ name) :
    xformRows table name true = some (name ++ dflt) ∧ xformRows table name false = none := by
  rw [S.split]
  exact ⟨xformRows_none _ dflt name hno true, xformRows_none _ dflt name hno false⟩

theorem Shape.isSome_iff {table dflt} (S : Shape table dflt) (name : Tok) :
    (xformRows table name false).isSome = true ↔ ∃ r ∈ table.dropLast, r.1 <:+ name := by
  constructor
  · intro h
    by_cases hex : ∃ r ∈ table.dropLast, r.1 <:+ name
    · exact hex
    · have := (S.of_none name (fun r hr hs => hex ⟨r, hr, hs⟩)).2
      rw [this] at h
      cases h
  · rintro ⟨r, hr, hs⟩
    rw [S.of_row name false r hr hs]
    rfl

theorem Shape.total {table dflt} (S : Shape table dflt) (name : Tok) :
    (xformRows table name true).isSome = true := by
  by_cases hex : ∃ r ∈ table.dropLast, r.1 <:+ name
  · obtain ⟨r, hr, hs⟩ := hex
    rw [S.of_row name true r hr hs]
    rfl
  · rw [(S.of_none name (fun r hr hs => hex ⟨r, hr, hs⟩)).1]
    rfl

end LbzVerif.Lemmas.CliNaming
