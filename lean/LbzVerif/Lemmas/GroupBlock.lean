/-
  Lemmas.GroupBlock — from the header to the group loop and from the group loop to the symbols:
  what `header_spec_rest` delivers starts `GroupMachine.groups_machine`; the symbol loop over
  `syms ++ [EOB]` = all actions continue, then the checks of `eobFinish`; `n = |out|` along the
  symbol actions.
-/
import LbzVerif.Lemmas.GroupMachine
import LbzVerif.Lemmas.RetrieveSpecLink
import LbzVerif.Lemmas.RetrieveOk

namespace LbzVerif.Lemmas.GroupBlock
open LbzVerif.Model.Retrieve
open LbzVerif.Model.MtfDec (RunSt)
open LbzVerif.Model
open LbzVerif.Lemmas.RetrieveBits LbzVerif.Lemmas.RetrieveSplit
open LbzVerif.Lemmas.RetrieveTables
open LbzVerif.Lemmas.RetrieveSelectors LbzVerif.Lemmas.RetrieveBitmap LbzVerif.Lemmas.RetrieveHeader
open LbzVerif.Lemmas.GroupDefs LbzVerif.Lemmas.GroupMachine LbzVerif.Lemmas.RetrieveOk
open LbzVerif.Lemmas.RetrieveEqns

theorem gwf_of_hdrWf {h : Hdr} (hwf : HdrWf h) :
    GroupPure.GWf h.tabs h.used.length h.sels (List.range h.ng) :=
  ⟨⟨hwf.used1, hwf.used256, hwf.tabsOk⟩, by rw [hwf.tabsLen]; exact hwf.ng6,
    fun t ht => by rw [hwf.tabsLen]; exact List.mem_range.mp ht,
    fun j hj => by rw [List.length_range]; exact hwf.selsLt j hj⟩

/-- One step of `applyTables`, for either of the two lists it fills: writing entry `t` widens
the window of entries that come from the tables by one. -/
theorem set_window {α : Type} (F : Nat → List Nat → α) (l : List Nat) (ls : List (List Nat))
    (t : Nat) (L : List α) (d : α) (ht : t < L.length) (i : Nat) :
    (if t + 1 ≤ i ∧ i < t + 1 + ls.length then F i (ls.getD (i - (t + 1)) [])
      else (L.set t (F t l)).getD i d) =
    if t ≤ i ∧ i < t + (l :: ls).length then F i ((l :: ls).getD (i - t) []) else L.getD i d := by
  by_cases hi : i = t
  · subst hi
    rw [if_neg (by omega), if_pos (by simp), ListAux.getD_set_eq _ _ _ _ ht, Nat.sub_self]
    rfl
  · rw [ListAux.getD_set_ne _ _ _ _ _ (fun e => hi e.symm)]
    by_cases hr : t + 1 ≤ i ∧ i < t + 1 + ls.length
    · rw [if_pos hr, if_pos (by simp only [List.length_cons]; omega)]
      obtain ⟨m, hm⟩ : ∃ m, i - t = m + 1 := ⟨i - t - 1, by omega⟩
      rw [hm, List.getD_cons_succ, show i - (t + 1) = m by omega]
    · rw [if_neg hr, if_neg (by simp only [List.length_cons]; omega)]

theorem applyTables_spec : ∀ (ls : List (List Nat)) (t : Nat) (mtf : List Nat)
    (trees : List (Option Canon.Tree)), t + ls.length ≤ mtf.length → t + ls.length ≤ trees.length →
    (applyTables t mtf trees ls).2.1.length = mtf.length ∧
    (∀ i, (applyTables t mtf trees ls).2.1.getD i 0 =
      if t ≤ i ∧ i < t + ls.length then treeCode i (ls.getD (i - t) []) else mtf.getD i 0) ∧
    (∀ i, (applyTables t mtf trees ls).2.2.getD i none =
      if t ≤ i ∧ i < t + ls.length then (Canon.makeTree (ls.getD (i - t) [])).2 else trees.getD i none) := by
  intro ls
  induction ls with
  | nil =>
    intro t mtf trees _ _
    refine ⟨rfl, fun i => ?_, fun i => ?_⟩
    · show mtf.getD i 0 = _
      rw [if_neg (by simp)]
    · show trees.getD i none = _
      rw [if_neg (by simp)]
  | cons l ls ih =>
    intro t mtf trees h1 h2
    simp only [List.length_cons] at h1 h2
    rw [applyTables]
    obtain ⟨b, c, d⟩ := ih (t + 1) (mtf.set t (treeCode t l)) (trees.set t (Canon.makeTree l).2)
      (by rw [List.length_set]; omega) (by rw [List.length_set]; omega)
    refine ⟨by rw [b, List.length_set], fun i => ?_, fun i => ?_⟩
    · rw [c i]
      exact set_window treeCode l ls t mtf 0 (by omega) i
    · rw [d i]
      exact set_window (fun _ l => (Canon.makeTree l).2) l ls t trees none (by omega) i

theorem getD_range_map_pad (f : Nat → Nat) (n m i : Nat) :
    ((List.range n).map f ++ List.replicate m 0).getD i 0 = if i < n then f i else 0 := by
  rw [List.getD_eq_getElem?_getD]
  by_cases h : i < n
  · rw [if_pos h, List.getElem?_append_left (by simp; exact h), List.getElem?_map,
      List.getElem?_range h]
    rfl
  · rw [if_neg h, List.getElem?_append_right (by simp; omega), List.getElem?_replicate]
    split <;> rfl

/-- The state `header_spec_rest` delivers satisfies the invariant of the group loop, with the
selector codes the clamped `num_selectors` leaves. -/
theorem ginv_of_hdrOk (c s : St) (h : Hdr) (hk : HdrOk c s h) (hw : HdrWf h)
    (hm : c.mtf = List.replicate Gen.MAX_TREES 0) (htr : c.trees = List.replicate Gen.MAX_TREES none)
    (inv : BufInv s.v s.w) (w63 : s.w ≤ 63) :
    GInv h.tabs s (h.sels.take s.numSel) (List.range h.ng) := by
  have h6 : Gen.MAX_TREES = 6 := rfl
  have hng6 := hw.ng6
  have hat := applyTables_spec h.tabs 0 c.mtf c.trees
    (by rw [hm, List.length_replicate, hw.tabsLen]; omega)
    (by rw [htr, List.length_replicate, hw.tabsLen]; omega)
  rw [← hk.tt] at hat
  obtain ⟨hlen, hmtf, htrees⟩ := hat
  simp only at hlen hmtf htrees
  refine ⟨?_, ?_, ?_, ?_, inv, w63⟩
  · intro t ht
    rw [htrees t, if_pos (by omega), Nat.sub_zero]
  · apply ListAux.ext_getD 0
    · rw [hlen, hm]
      simp
      omega
    · intro i _
      rw [hmtf i, Nat.zero_add, hw.tabsLen, getD_range_map_pad, Nat.sub_zero]
      by_cases hlt : i < h.ng
      · rw [if_pos ⟨Nat.zero_le _, hlt⟩, if_pos hlt]
      · rw [if_neg (by omega), if_neg hlt, hm, List.getD_eq_getElem?_getD, List.getElem?_replicate]
        split <;> rfl
  · intro k hk'
    rw [hk.g, Nat.zero_add, hk.sel, List.foldl_push_eq_append', Array.getD_eq_getD_getElem?]
    simp only [List.length_take] at hk'
    simp [List.getD_eq_getElem?_getD, List.getElem?_take]
    rw [if_pos (by omega)]
  · rw [List.length_take, hk.g, hw.selsLen, hk.numSel]
    omega

theorem symLoop_of_fold : ∀ (ss : List Nat) (rs rs' : RunSt), symFold rs ss = some rs' →
    symLoop rs (ss ++ [0]) =
      if rs'.run > Gen.MAX_BLOCK_SIZE - rs'.n then .overflow
      else .ok (MtfDec.flush rs').out.reverse (MtfDec.flush rs').ftab := by
  intro ss
  induction ss with
  | nil =>
    intro rs rs' h
    simp only [symFold, Option.some.injEq] at h
    subst h
    rw [List.nil_append, symLoop, (Lemmas.GroupPure.symStep_eob rs 0).2 rfl]
  | cons s ss ih =>
    intro rs rs' h
    rw [symFold] at h
    rw [List.cons_append, symLoop]
    cases hs : symStep rs s with
    | eob => rw [hs] at h; cases h
    | stop r => rw [hs] at h; cases h
    | cont rs1 => rw [hs] at h; exact ih rs1 rs' h

theorem fold_of_symLoop : ∀ (ss : List Nat) (rs : RunSt) (out : List UInt8) (ftab : List Nat),
    (∀ s ∈ ss, s ≠ 0) → symLoop rs (ss ++ [0]) = .ok out ftab → ∃ rs', symFold rs ss = some rs' := by
  intro ss
  induction ss with
  | nil => intro rs out ftab _ _; exact ⟨rs, rfl⟩
  | cons s ss ih =>
    intro rs out ftab hne h
    rw [List.cons_append, symLoop] at h
    rw [symFold]
    cases hs : symStep rs s with
    | eob => exact absurd ((Lemmas.GroupPure.symStep_eob rs s).1 hs) (hne s (List.mem_cons_self ..))
    | stop r =>
      rw [hs] at h
      simp only at h
      split at h <;> cases h
    | cont rs1 =>
      rw [hs] at h
      exact ih rs1 out ftab (fun x hx => hne x (List.mem_cons_of_mem _ hx)) h

/-- `tt - ds->tt` is the number of bytes written. -/
def NOut (rs : RunSt) : Prop := rs.n = rs.out.length

theorem nOut_flush (rs : RunSt) (h : NOut rs) : NOut (MtfDec.flush rs) := by
  unfold NOut MtfDec.flush at *
  simp [h]
  omega

theorem nOut_step (rs rs' : RunSt) (s : Nat) (h : NOut rs) (hs : symStep rs s = .cont rs') : NOut rs' := by
  unfold symStep at hs
  split at hs
  · cases hs
  · split at hs
    · split at hs
      · cases hs
      · injection hs with hs
        subst hs
        exact h
    · split at hs
      · cases hs
      · simp only at hs
        split at hs
        · cases hs
        · injection hs with hs
          subst hs
          exact nOut_flush rs h

theorem nOut_fold : ∀ (ss : List Nat) (rs rs' : RunSt), NOut rs → symFold rs ss = some rs' → NOut rs' := by
  intro ss
  induction ss with
  | nil =>
    intro rs rs' h e
    simp only [symFold, Option.some.injEq] at e
    subst e
    exact h
  | cons s ss ih =>
    intro rs rs' h e
    rw [symFold] at e
    cases hs : symStep rs s with
    | eob => rw [hs] at e; cases e
    | stop r => rw [hs] at e; cases e
    | cont rs1 => rw [hs] at e; exact ih rs1 rs' (nOut_step rs rs1 s h hs) e

theorem nOut_size {rs rs' : RunSt} {xs : List Nat} (h0 : NOut rs) (hfold : symFold rs xs = some rs')
    {tt : Array UInt8} (hout : tt.toList = (MtfDec.flush rs').out.reverse) :
    tt.size = (MtfDec.flush rs').n := by
  rw [nOut_flush _ (nOut_fold _ _ _ h0 hfold), ← Array.length_toList, hout, List.length_reverse]

end LbzVerif.Lemmas.GroupBlock
