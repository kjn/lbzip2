/-
  Lemmas.TreeCode — what `make_tree` leaves in `mtf[t]` for a table (`treeCode`): the table's own
  number if its code is complete, else the error code that the group loop reports when a selector
  picks the table (`selectTree`: `t ≥ MAX_TREES`).  The header files store it, the group loop reads
  it; `treeCode` is declared in the namespace of the header files, `Lemmas.RetrieveTables`.
-/
import LbzVerif.Lemmas.PrefixTree

namespace LbzVerif.Lemmas.RetrieveTables
open LbzVerif

def treeCode (t : Nat) (l : List Nat) : Nat :=
  match (Model.Canon.makeTree l).1 with
  | .ok => t
  | .incomplete => Gen.ERR_INCOMPLT
  | .oversubscribed => Gen.ERR_PREFIX

end LbzVerif.Lemmas.RetrieveTables

namespace LbzVerif.Lemmas.TreeCode
open LbzVerif LbzVerif.Model LbzVerif.Spec.Prefix
open LbzVerif.Lemmas.RetrieveTables (treeCode)

theorem treeCode_complete (t : Nat) (lens : List Nat) (hr : ∀ l ∈ lens, 1 ≤ l ∧ l ≤ 20)
    (hn : lens.length ≤ 258) (hc : Complete lens) :
    treeCode t lens = t ∧ (Canon.makeTree lens).2 = some (Canon.mkTree lens) := by
  have hv := (PrefixTree.verdict_ok_iff lens hr hn).mpr hc
  unfold treeCode Canon.makeTree
  rw [hv]
  exact ⟨rfl, rfl⟩

theorem treeCode_incomplete (t : Nat) (lens : List Nat) (hr : ∀ l ∈ lens, 1 ≤ l ∧ l ≤ 20)
    (hn : lens.length ≤ 258) (hc : ¬ Complete lens) : Gen.MAX_TREES ≤ treeCode t lens := by
  have hv : Canon.verdict lens ≠ .ok := fun h => hc ((PrefixTree.verdict_ok_iff lens hr hn).mp h)
  unfold treeCode Canon.makeTree
  cases hvv : Canon.verdict lens with
  | ok => exact absurd hvv hv
  | incomplete => show Gen.MAX_TREES ≤ Gen.ERR_INCOMPLT; decide
  | oversubscribed => show Gen.MAX_TREES ≤ Gen.ERR_PREFIX; decide

end LbzVerif.Lemmas.TreeCode
