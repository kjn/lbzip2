/-
  Lemmas.ScanAuto — the bit automaton run on bit strings:
  `findAcc s bits` = number of bits read until `mini_dfa` first reaches ACCEPT.
  Connects it (a) to the pattern through `lps` (Spec side) and (b) to the
  absorbing runs that `big_dfa` performs.
-/
import LbzVerif.Lemmas.ScanLps
import LbzVerif.Lemmas.ScanTabs
import LbzVerif.Lemmas.ScanBits

namespace LbzVerif.Lemmas.ScanAuto

open LbzVerif.Model.Scan LbzVerif.Spec.Scan LbzVerif.Lemmas.ScanLps
  LbzVerif.Lemmas.ScanTabs LbzVerif.Lemmas.ScanBits

def findAcc : Nat → List Bool → Option Nat
  | _, [] => none
  | s, b :: bs =>
    if mini s b = accept then some 1 else (findAcc (mini s b) bs).map (· + 1)

/-- State after reading `bits` (meaningful while ACCEPT is not reached). -/
def run (s : Nat) (bits : List Bool) : Nat := bits.foldl mini s

theorem findAcc_bounds (s : Nat) (bits : List Bool) (k : Nat)
    (h : findAcc s bits = some k) : 1 ≤ k ∧ k ≤ bits.length := by
  induction bits generalizing s k with
  | nil => simp [findAcc] at h
  | cons b t ih =>
    unfold findAcc at h
    split at h
    · cases h; simp
    · cases hf : findAcc (mini s b) t with
      | none => simp [hf] at h
      | some k' =>
        simp [hf] at h
        have := ih _ _ hf
        subst h
        simp; omega

theorem findAcc_append (s : Nat) (a b : List Bool) :
    findAcc s (a ++ b) =
      match findAcc s a with
      | some k => some k
      | none => (findAcc (run s a) b).map (· + a.length) := by
  induction a generalizing s with
  | nil => simp [findAcc, run]
  | cons x t ih =>
    simp only [List.cons_append, findAcc]
    split
    · rfl
    · rw [ih]
      cases hf : findAcc (mini s x) t with
      | some k => simp
      | none =>
        simp only [Option.map_none, run, List.foldl_cons, List.length_cons]
        cases findAcc (List.foldl mini (mini s x) t) b with
        | none => rfl
        | some k => simp; omega

theorem findAcc_append_none {s : Nat} {a : List Bool} (h : findAcc s a = none) (b : List Bool) :
    findAcc s (a ++ b) = (findAcc (run s a) b).map (· + a.length) := by
  rw [findAcc_append, h]

theorem run_append (s : Nat) (a b : List Bool) : run s (a ++ b) = run (run s a) b := by
  simp [run]

theorem run_lt (s : Nat) (bits : List Bool) (hs : s < 48)
    (h : findAcc s bits = none) : run s bits < 48 := by
  induction bits generalizing s with
  | nil => simpa [run]
  | cons b t ih =>
    unfold findAcc at h
    split at h
    · cases h
    · rename_i hne
      have hle := mini_le s hs b
      rw [accept_eq] at hne
      have : mini s b < 48 := by omega
      simp only [run, List.foldl_cons]
      exact ih _ this (Option.map_eq_none_iff.mp h)

theorem absRun_accept (bits : List Bool) : bits.foldl miniAbs 48 = 48 := by
  induction bits with
  | nil => rfl
  | cons b t ih =>
    simp only [List.foldl_cons]
    have : miniAbs 48 b = 48 := by simp [miniAbs, accept_eq]
    rw [this, ih]

theorem absRun_eq (s : Nat) (bits : List Bool) (hs : s < 48) :
    bits.foldl miniAbs s = if (findAcc s bits).isSome then 48 else run s bits := by
  induction bits generalizing s with
  | nil => simp [findAcc, run]
  | cons b t ih =>
    have hne : s ≠ accept := by rw [accept_eq]; omega
    simp only [List.foldl_cons, findAcc, miniAbs, hne, if_false]
    by_cases hm : mini s b = accept
    · simp only [hm, if_true, Option.isSome_some]
      rw [accept_eq]; exact absRun_accept t
    · have hle := mini_le s hs b
      have hlt : mini s b < 48 := by rw [accept_eq] at hm; omega
      rw [ih _ hlt]
      simp only [hm, if_false, Option.isSome_map, run, List.foldl_cons]

theorem absRun_le (s : Nat) (bits : List Bool) (hs : s ≤ 48) :
    bits.foldl miniAbs s ≤ 48 := by
  rcases Nat.lt_or_ge s 48 with h | h
  · rw [absRun_eq s bits h]
    split
    · exact Nat.le_refl _
    · rename_i hn
      exact Nat.le_of_lt (run_lt s bits h (Option.not_isSome_iff_eq_none.mp hn))
  · have : s = 48 := by omega
    rw [this, absRun_accept]; exact Nat.le_refl _

theorem big_eq (s c : Nat) (hs : s ≤ 48) (hc : c < 256) :
    big s c = (bitsMSB 8 c).foldl miniAbs s ∧ big s c ≤ 48 := by
  have h := ScanTabs.big_rows s (by omega) c hc
  exact ⟨h, h ▸ absRun_le _ _ hs⟩

theorem wordStep_eq (s w : Nat) (hs : s ≤ 48) (hw : w < 2 ^ 32) :
    wordStep s w = (bitsMSB 32 w).foldl miniAbs s := by
  have h256 : ∀ x : Nat, x % 256 < 256 := fun x => Nat.mod_lt _ (by decide)
  have h24 : w >>> 24 < 256 := by
    rw [Nat.shiftRight_eq_div_pow]
    exact Nat.div_lt_of_lt_mul hw
  obtain ⟨e1, l1⟩ := big_eq s _ hs h24
  obtain ⟨e2, l2⟩ := big_eq _ _ l1 (h256 (w >>> 16))
  obtain ⟨e3, l3⟩ := big_eq _ _ l2 (h256 (w >>> 8))
  obtain ⟨e4, -⟩ := big_eq _ _ l3 (h256 w)
  rw [bitsMSB_word, List.foldl_append, List.foldl_append, List.foldl_append, ← e1, ← e2, ← e3,
    ← e4]
  rfl

theorem wordStep_spec (s w : Nat) (hs : s < 48) (hw : w < 2 ^ 32) :
    wordStep s w =
      if (findAcc s (bitsMSB 32 w)).isSome then 48 else run s (bitsMSB 32 w) := by
  rw [wordStep_eq s w (by omega) hw, absRun_eq s _ hs]

theorem P_take_all : P.take 48 = P := by
  rw [List.take_of_length_le]; rw [P_length]; exact Nat.le_refl _

theorem lps_le (w : List Bool) : lps w ≤ 48 := lpsFrom_le P w 48

theorem lps_eq_48_iff (w : List Bool) : lps w = 48 ↔ P <:+ w := by
  constructor
  · intro h
    have := lpsFrom_suffix P w 48
    unfold lps patLen at h
    rw [h, P_take_all] at this
    exact this
  · intro h
    have h1 := lpsFrom_max P w 48 48 (Nat.le_refl _) (by rw [P_take_all]; exact h)
    have h2 := lps_le w
    unfold lps patLen at *
    omega

theorem mini_lps (w : List Bool) (b : Bool) (h : lps w < 48) :
    mini (lps w) b = lps (w ++ [b]) := by
  rw [mini_eq_delta _ h b]
  exact (lpsFrom_step P w patLen (by decide) b).symm

theorem findAcc_lps (w bits : List Bool) (h : lps w < 48) :
    match findAcc (lps w) bits with
    | some k => P <:+ w ++ bits.take k ∧ ∀ j, j < k → ¬ P <:+ w ++ bits.take j
    | none => ∀ j, j ≤ bits.length → ¬ P <:+ w ++ bits.take j := by
  have hw : ¬ P <:+ w := by
    rw [← lps_eq_48_iff]; omega
  induction bits generalizing w with
  | nil =>
    intro j _
    simpa using hw
  | cons b t ih =>
    simp only [findAcc]
    rw [mini_lps w b h]
    -- a prefix of `b :: t` is empty or `b` followed by a prefix of `t`
    have hsplit : ∀ j, (w ++ [b]) ++ t.take j = w ++ (b :: t).take (j + 1) := by
      intro j
      rw [List.take_succ_cons, List.append_assoc]
      rfl
    by_cases hacc : lps (w ++ [b]) = accept
    · simp only [hacc, if_true]
      rw [accept_eq, lps_eq_48_iff] at hacc
      refine ⟨by simpa using hacc, ?_⟩
      intro j hj
      have : j = 0 := by omega
      subst this
      simpa using hw
    · simp only [hacc, if_false]
      have hlt : lps (w ++ [b]) < 48 := by
        have := lps_le (w ++ [b]); rw [accept_eq] at hacc; omega
      have ih' := ih (w ++ [b]) hlt (by rw [← lps_eq_48_iff]; omega)
      cases hf : findAcc (lps (w ++ [b])) t with
      | some k =>
        rw [hf] at ih'
        simp only [Option.map_some]
        refine ⟨by rw [← hsplit]; exact ih'.1, ?_⟩
        intro j hj
        cases j with
        | zero => simpa using hw
        | succ j' => rw [← hsplit]; exact ih'.2 j' (by omega)
      | none =>
        rw [hf] at ih'
        simp only [Option.map_none]
        intro j hj
        cases j with
        | zero => simpa using hw
        | succ j' =>
          rw [← hsplit]
          exact ih' j' (by simpa using hj)

theorem lps_nil : lps [] = 0 := by decide

theorem findAcc_zero (bits : List Bool) :
    match findAcc 0 bits with
    | some k => P <:+ bits.take k ∧ ∀ j, j < k → ¬ P <:+ bits.take j
    | none => ∀ j, j ≤ bits.length → ¬ P <:+ bits.take j := by
  have h := findAcc_lps [] bits (by rw [lps_nil]; decide)
  rw [lps_nil] at h
  exact h

end LbzVerif.Lemmas.ScanAuto
