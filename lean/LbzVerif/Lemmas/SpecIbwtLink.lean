/-
  Lemmas.SpecIbwtLink — the oracle's inverse BWT (`Spec.Bzip2.ibwt`:
  counting sort `ibwtPerm` over arrays, then `ibwtWalk`) is the textbook
  `Spec.Ibwt.ibwt` (stable insertion sort `succVec`, then `follow`), for every
  last column and every primary index below its length.

  Route: `bucketStarts l` = the cumulated byte counts (`cntLt`); the counting
  sort stores `i` at slot `pos L i` (same invariant as the list construction of
  `decode()`); `pos` is onto and inverted by `succVec` (Lemmas/IbwtSort.lean),
  so `(ibwtPerm l).toList = succVec l.toList`; the two walks are the same
  recursion.
-/
import LbzVerif.Spec.Bzip2
import LbzVerif.Lemmas.IbwtSort

namespace LbzVerif.Lemmas.SpecIbwtLink

open LbzVerif.Model.Ibwt
open LbzVerif.Lemmas.Ibwt
open LbzVerif.Lemmas.IbwtSort
open LbzVerif.Spec.Ibwt (succVec follow)

theorem arr_getD_set_eq (a : Array Nat) (i v : Nat) (h : i < a.size) :
    (a.setIfInBounds i v).getD i 0 = v := by
  simp [Array.getD_eq_getD_getElem?, h]

theorem arr_getD_set_ne (a : Array Nat) (i j v : Nat) (h : i ≠ j) :
    (a.setIfInBounds i v).getD j 0 = a.getD j 0 := by
  simp [Array.getD_eq_getD_getElem?, h]

theorem arr_getD_toList {α : Type} (a : Array α) (i : Nat) (d : α) :
    a.toList.getD i d = a.getD i d := by
  simp [Array.getD_eq_getD_getElem?, List.getD_eq_getElem?_getD]

/-- The counting step of `bucketStarts`. -/
def cstep (c : Array Nat) (b : UInt8) : Array Nat :=
  c.setIfInBounds b.toNat (c.getD b.toNat 0 + 1)

theorem count_fold : ∀ (L : List UInt8) (c : Array Nat), c.size = 256 →
    (L.foldl cstep c).size = 256 ∧
      ∀ v, v < 256 → (L.foldl cstep c).getD v 0 = c.getD v 0 + cntEq L v := by
  intro L
  induction L with
  | nil => intro c hc; exact ⟨hc, fun v _ => by simp [cntEq_nil]⟩
  | cons x xs ih =>
    intro c hc
    have hx : x.toNat < 256 := x.toNat_lt
    obtain ⟨h1, h2⟩ := ih (cstep c x) (by simp [cstep, hc])
    simp only [List.foldl_cons]
    refine ⟨h1, fun v hv => ?_⟩
    rw [h2 v hv, cntEq_cons]
    by_cases hxv : x.toNat = v
    · subst hxv
      rw [cstep, arr_getD_set_eq _ _ _ (by omega)]
      simp; omega
    · rw [cstep, arr_getD_set_ne _ _ _ _ hxv]
      simp [hxv]

/-- The prefix-sum step of `bucketStarts`. -/
def pstep (acc : Array Nat × Nat) (c : Nat) : Array Nat × Nat := (acc.1.push acc.2, acc.2 + c)

theorem prefix_fold : ∀ (cs : List Nat) (acc : Array Nat) (s : Nat),
    (cs.foldl pstep (acc, s)).1.toList = acc.toList ++ cumulate s cs := by
  intro cs
  induction cs with
  | nil => intro acc s; simp [cumulate]
  | cons c cs ih =>
    intro acc s
    simp only [List.foldl_cons, pstep, ih, cumulate]
    simp

theorem bucketStarts_toList (l : Array UInt8) :
    (Spec.Bzip2.bucketStarts l).toList = cumulate 0 (counts l.toList) := by
  have hc := count_fold l.toList (Array.replicate 256 0) (by simp)
  have hcounts : (l.toList.foldl cstep (Array.replicate 256 0)).toList = counts l.toList := by
    rw [counts_eq, ← ListAux.range_getD_self (l.toList.foldl cstep _).toList 0, Array.length_toList,
      hc.1]
    refine List.map_congr_left fun v hv => ?_
    have hv' : v < 256 := List.mem_range.mp hv
    rw [arr_getD_toList, hc.2 v hv']
    simp [Array.getD_eq_getD_getElem?, hv']
  show ((l.foldl cstep (Array.replicate 256 0)).foldl pstep (Array.mkEmpty 256, 0)).1.toList = _
  rw [← Array.foldl_toList, ← Array.foldl_toList, prefix_fold, hcounts]
  simp

theorem bucketStarts_spec (l : Array UInt8) :
    (Spec.Bzip2.bucketStarts l).size = 256 ∧
      ∀ b, b < 256 → (Spec.Bzip2.bucketStarts l).getD b 0 = cntLt l.toList b := by
  obtain ⟨h1, h2⟩ := cumulate_counts l.toList
  have := bucketStarts_toList l
  constructor
  · rw [← Array.length_toList, this, h1]
  · intro b hb
    rw [← arr_getD_toList, this, h2 b hb]

/-- The placement step of `ibwtPerm`. -/
def sstep (s : Array Nat × Array Nat × Nat) (b : UInt8) : Array Nat × Array Nat × Nat :=
  let p := s.1.getD b.toNat 0
  (s.1.setIfInBounds b.toNat (p + 1), s.2.1.setIfInBounds p s.2.2, s.2.2 + 1)

structure PlacedTo (L : List UInt8) (s : Array Nat × Array Nat × Nat) (k : Nat) : Prop where
  stSize : s.1.size = 256
  /-- the bucket starts, each advanced once per position placed in it -/
  st : ∀ b, b < 256 → s.1.getD b 0 = cntLt L b + cntEq (L.take k) b
  outSize : s.2.1.size = L.length
  /-- position `j` stands in its slot of the stably sorted first column -/
  out : ∀ j, j < k → s.2.1.getD (pos L j) 0 = j
  ctr : s.2.2 = k

theorem sstep_inv (L : List UInt8) (s : Array Nat × Array Nat × Nat) (k : Nat)
    (hk : k < L.length) (h : PlacedTo L s k) : PlacedTo L (sstep s (L.getD k 0)) (k + 1) := by
  have hb : byteAt L k < 256 := byteAt_lt L k
  have hp : s.1.getD (byteAt L k) 0 = pos L k := by rw [h.st _ hb]; rfl
  have hpl := pos_lt L k hk
  have hbk : (L.getD k 0).toNat = byteAt L k := rfl
  simp only [sstep, hbk, hp, h.ctr]
  refine ⟨by simp [h.stSize], ?_, by simp [h.outSize], ?_, rfl⟩
  · exact bucket_step L k hk (s.1.getD · 0) _ h.st
      (by rw [arr_getD_set_eq _ _ _ (by rw [h.stSize]; exact hb), hp])
      (fun b hbb => arr_getD_set_ne _ _ _ _ hbb)
  · intro j hj
    by_cases hjk : j = k
    · subst hjk
      exact arr_getD_set_eq _ _ _ (by rw [h.outSize]; exact hpl)
    · have hne : pos L k ≠ pos L j :=
        fun e => hjk (pos_inj L j k (by omega) hk e.symm)
      rw [arr_getD_set_ne _ _ _ _ hne]
      exact h.out j (by omega)

theorem sfold_inv (L : List UInt8) (s : Array Nat × Array Nat × Nat) (h0 : PlacedTo L s 0) :
    ∀ k, k ≤ L.length → PlacedTo L ((L.take k).foldl sstep s) k := by
  intro k
  induction k with
  | zero => intro _; simpa using h0
  | succ k ih =>
    intro hk
    rw [take_succ_getD L k (by omega), List.foldl_append]
    exact sstep_inv L _ k (by omega) (ih (by omega))

theorem ibwtPerm_spec (l : Array UInt8) :
    (Spec.Bzip2.ibwtPerm l).size = l.size ∧
      ∀ i, i < l.size → (Spec.Bzip2.ibwtPerm l).getD (pos l.toList i) 0 = i := by
  obtain ⟨b1, b2⟩ := bucketStarts_spec l
  have h0 : PlacedTo l.toList (Spec.Bzip2.bucketStarts l, Array.replicate l.size 0, 0) 0 :=
    ⟨b1, fun b hb => by rw [b2 b hb]; simp [cntEq_nil], by simp, fun j hj => by omega, rfl⟩
  have h := sfold_inv l.toList _ h0 l.toList.length (Nat.le_refl _)
  rw [List.take_length] at h
  have e : Spec.Bzip2.ibwtPerm l =
      (l.toList.foldl sstep (Spec.Bzip2.bucketStarts l, Array.replicate l.size 0, 0)).2.1 := by
    unfold Spec.Bzip2.ibwtPerm
    rw [← Array.foldl_toList]
    rfl
  rw [e]
  exact ⟨by simpa using h.outSize, fun i hi => h.out i (by simpa using hi)⟩

theorem ibwtPerm_toList (l : Array UInt8) :
    (Spec.Bzip2.ibwtPerm l).toList = succVec l.toList := by
  obtain ⟨h1, h2⟩ := ibwtPerm_spec l
  refine ListAux.ext_getD 0 (by simp [h1, succVec_length]) fun q hq => ?_
  exact eq_succVec_of_pos l.toList ((Spec.Bzip2.ibwtPerm l).toList.getD · 0)
    (fun i hi => by rw [arr_getD_toList]; exact h2 i (by simpa using hi)) q (by simpa [h1] using hq)

theorem ibwtWalk_toList (l : Array UInt8) (t : Array Nat) : ∀ (m q : Nat) (acc : Array UInt8),
    (Spec.Bzip2.ibwtWalk l t m (t.getD q 0) acc).toList =
      acc.toList ++ follow l.toList t.toList m q := by
  intro m
  induction m with
  | zero => intro q acc; simp [Spec.Bzip2.ibwtWalk, follow]
  | succ m ih =>
    intro q acc
    simp only [Spec.Bzip2.ibwtWalk, follow]
    rw [ih (t.getD q 0)]
    simp

theorem bzip2_ibwt_eq (l : Array UInt8) (idx : Nat) :
    Spec.Bzip2.ibwt l idx =
      if idx < l.size then some (Spec.Ibwt.ibwt l.toList idx).toArray else none := by
  unfold Spec.Bzip2.ibwt
  by_cases h : idx < l.size
  · simp only [h, if_true]
    congr 1
    apply Array.toList_inj.mp
    rw [ibwtWalk_toList, ibwtPerm_toList]
    simp [Spec.Ibwt.ibwt]
  · simp [h]

end LbzVerif.Lemmas.SpecIbwtLink
