/-
  Lemmas.RetrieveSim — `Sim`: a run of `toTop` compared with a reference parser on the unread
  bits, with the rules to compose such comparisons along the suspension points; the header
  chain (RetrieveDelta … RetrieveHeader) is stated with it.
-/
import LbzVerif.Lemmas.RetrieveCall

namespace LbzVerif.Lemmas.RetrieveSim
open LbzVerif LbzVerif.Model.Retrieve LbzVerif.Lemmas.RetrieveEqns LbzVerif.Lemmas.RetrieveSplit
open LbzVerif.Lemmas.RetrieveBits LbzVerif.Lemmas.RetrieveCall

theorem drain_fuel : ∀ (f1 f2 : Nat) (st : St), st.w < f1 → st.w < f2 →
    drain f1 st = drain f2 st := by
  intro f1
  induction f1 with
  | zero => intro f2 st h; omega
  | succ f1 ih =>
    intro f2 st h1 h2
    cases f2 with
    | zero => omega
    | succ f2 =>
      unfold drain
      split
      · rfl
      · cases step st with
        | cont st' =>
          simp only
          split
          · exact ih f2 st' (by omega) (by omega)
          · rfl
        | top st' => rfl
        | done r st' => rfl

def afterStep (ws : List Nat) : Step → Out
  | .cont st' => toTop st' ws
  | .top st' => .top st' ws
  | .done r st' => .halt r st' ws

/-- With 32 live bits `NEED` goes straight to the step; a step that goes on has dumped a bit
(`step_cont_lt`), so the test of `drain` passes. -/
theorem toTop_step (st : St) (ws : List Nat) (hw : 32 ≤ st.w) :
    toTop st ws = afterStep ws (step st) := by
  rw [toTop_eq, drain, if_neg (by omega)]
  cases hs : step st with
  | cont st' =>
    have hlt := step_cont_lt hs
    dsimp only [afterStep]
    rw [if_pos hlt, drain_fuel st.w (st'.w + 1) st' hlt (by omega), ← toTop_eq]
  | top st' => rfl
  | done r st' => rfl

/-- Induction for loops over `NEED` sites, on the buffer fill and the words still to come: a step
only dumps (`step_cont_lt`) and a refill trades a word for 32 bits, so `64 * ws.length + w` falls
from one site to the next (any weight above 32 per word would do; 64 is the buffer width). -/
theorem need_sites_ind {motive : Nat → List Nat → Prop} (w : Nat) (ws : List Nat)
    (h : ∀ w ws, (∀ w1 ws1, 64 * ws1.length + w1 < 64 * ws.length + w → motive w1 ws1) → motive w ws) :
    motive w ws := by
  generalize hm : 64 * ws.length + w = m
  induction m using Nat.strongRecOn generalizing w ws with
  | _ m ih => exact h w ws fun w1 ws1 hlt => ih _ (hm ▸ hlt) w1 ws1 rfl

def Rejected (o : Out) : Prop := ∃ r s rest, o = .halt r s rest ∧ r ≠ .ok
def Suspended (o : Out) : Prop := ∃ s, o = .susp s

/-- The run `o` does what the reference result `r` says.  If the reference
returns `a`, leaving the bits `rest a`, the run arrives at `R a s ws` (`toTop`:
a later suspension point; `Out.top`: the top of the group loop; the shape may
depend on the answer) in a state with `Q a s` and exactly those bits unread —
unless it runs out of words first, which can happen only if fewer than 32 bits
follow what the reference read.  If the reference rejects, the run ends with an
error status or runs out of words. -/
def Sim {α : Type} (R : α → St → List Nat → Out) (o : Out) (r : Option α) (rest : α → List Bool)
    (Q : α → St → Prop) : Prop :=
  match r with
  | some a => (∃ s ws, o = R a s ws ∧ Q a s ∧ bitsOf s ws = rest a ∧ BufInv s.v s.w) ∨
      (Suspended o ∧ (rest a).length < 32)
  | none => Rejected o ∨ Suspended o

section
variable {α β : Type} {R : α → St → List Nat → Out} {o : Out}

theorem Sim.done {a : α} {rest : α → List Bool} {Q : α → St → Prop} (s : St) (ws : List Nat)
    (ho : o = R a s ws) (hq : Q a s) (hb : bitsOf s ws = rest a) (inv : BufInv s.v s.w) :
    Sim R o (some a) rest Q :=
  Or.inl ⟨s, ws, ho, hq, hb, inv⟩

theorem Sim.reject {rest : α → List Bool} {Q : α → St → Prop} (e : Nat) (s : St) (ws : List Nat)
    (ho : o = .halt (.err e) s ws) : Sim R o none rest Q :=
  Or.inl ⟨_, _, _, ho, nofun⟩

theorem Sim.mono {r : Option α} {rest : α → List Bool} {Q Q' : α → St → Prop}
    (h : Sim R o r rest Q) (hQ : ∀ a s, Q a s → Q' a s) : Sim R o r rest Q' := by
  cases r with
  | none => exact h
  | some a => exact Or.imp (fun ⟨s, ws, e, q, b, i⟩ => ⟨s, ws, e, hQ a s q, b, i⟩) id h

theorem Sim.map {R : β → St → List Nat → Out} {r : Option α} {f : α → β} {rest : β → List Bool}
    {Q : β → St → Prop}
    (h : Sim (fun a => R (f a)) o r (fun a => rest (f a)) (fun a s => Q (f a) s)) :
    Sim R o (r.map f) rest Q := by
  cases r <;> exact h

/-- The reference reads `r1` and goes on with `k`; the run reaches the point
`R1 a s ws` where `r1` ends (a suspension point, or a place inside a step) and
goes on from there. -/
theorem Sim.bind {R1 : α → St → List Nat → Out} {R : β → St → List Nat → Out} {r1 : Option α}
    {rest1 : α → List Bool} {Q1 : α → St → Prop} {k : α → Option β}
    {rest : β → List Bool} {Q : β → St → Prop} (h1 : Sim R1 o r1 rest1 Q1)
    (hk : ∀ a b, k a = some b → (rest b).length ≤ (rest1 a).length)
    (h2 : ∀ a s ws, Q1 a s → bitsOf s ws = rest1 a → BufInv s.v s.w →
      Sim R (R1 a s ws) (k a) rest Q) :
    Sim R o (r1.bind k) rest Q := by
  cases r1 with
  | none => exact h1
  | some a =>
    show Sim R o (k a) rest Q
    cases h1 with
    | inl h =>
      obtain ⟨s, ws, e, q, b, i⟩ := h
      rw [e]
      exact h2 a s ws q b i
    | inr h =>
      cases hka : k a with
      | none => exact Or.inr h.1
      | some b => exact Or.inr ⟨h.1, Nat.lt_of_le_of_lt (hk a b hka) h.2⟩

theorem Sim.of_some {r : Option α} {rest : α → List Bool} {Q : α → St → Prop} (h : Sim R o r rest Q)
    {a : α} (e : r = some a) :
    (∃ s ws, o = R a s ws ∧ Q a s ∧ bitsOf s ws = rest a ∧ BufInv s.v s.w) ∨
      (Suspended o ∧ (rest a).length < 32) := by
  subst e
  exact h

theorem Sim.of_none {r : Option α} {rest : α → List Bool} {Q : α → St → Prop} (h : Sim R o r rest Q)
    (e : r = none) : Rejected o ∨ Suspended o := by
  subst e
  exact h

/-- A run from a `NEED` site: `NEED` either runs out of words — then fewer than
32 bits are unread, and the reference cannot leave more — or goes on with one
step with at least 32 live bits: from `c` itself if it had them, from `normPc c` after a refill.
The last premise of `h` is the measure of `need_sites_ind`. -/
theorem Sim.need0 {c : St} {ws : List Nat} {r : Option α} {rest : α → List Bool} {Q : α → St → Prop}
    (inv : BufInv c.v c.w)
    (hlen : ∀ a, r = some a → (rest a).length ≤ (bitsOf c ws).length)
    (h : ∀ c' v1 w1 ws1, c' = c ∨ c' = normPc c → 32 ≤ w1 → BufInv v1 w1 →
      bitsOf { c' with v := v1, w := w1 } ws1 = bitsOf c ws → 64 * ws1.length + w1 ≤ 64 * ws.length + c.w →
      Sim R (afterStep ws1 (step { c' with v := v1, w := w1 })) r rest Q) :
    Sim R (toTop c ws) r rest Q := by
  by_cases hw : c.w < 32
  · have hd : drain (c.w + 1) c = .need (normPc c) := by rw [drain, if_pos hw]
    rw [toTop_eq, hd]
    cases ws with
    | nil =>
      have hs : Suspended (.susp (normPc c)) := ⟨_, rfl⟩
      cases r with
      | none => exact Or.inr hs
      | some a =>
        have := hlen a rfl
        rw [bitsOf_nil_length] at this
        exact Or.inr ⟨hs, by omega⟩
    | cons x ws1 =>
      obtain ⟨ev, ew⟩ := normPc_vw c
      have hr : refill (normPc c) x = { normPc c with v := refillV c.v c.w x, w := c.w + 32 } := by
        unfold refill
        rw [ev, ew]
      dsimp only
      rw [hr, toTop_step _ _ (by show 32 ≤ c.w + 32; omega)]
      refine h (normPc c) (refillV c.v c.w x) (c.w + 32) ws1 (Or.inr rfl) (by omega)
        (refill_bits c.v c.w x hw inv).2 ?_ (by simp only [List.length_cons]; omega)
      exact bitsOf_refill c x ws1 hw inv
  · rw [toTop_step c ws (by omega)]
    exact h c c.v c.w ws (Or.inl rfl) (by omega) inv rfl (Nat.le_refl _)

theorem Sim.need {c : St} {ws : List Nat} {r : Option α} {rest : α → List Bool} {Q : α → St → Prop}
    (hpc : c.pc ≠ .init) (inv : BufInv c.v c.w)
    (hlen : ∀ a, r = some a → (rest a).length ≤ (bitsOf c ws).length)
    (h : ∀ v1 w1 ws1, 32 ≤ w1 → BufInv v1 w1 →
      bitsOf { c with v := v1, w := w1 } ws1 = bitsOf c ws → 64 * ws1.length + w1 ≤ 64 * ws.length + c.w →
      Sim R (afterStep ws1 (step { c with v := v1, w := w1 })) r rest Q) :
    Sim R (toTop c ws) r rest Q :=
  Sim.need0 inv hlen fun c' v1 w1 ws1 hc' => by
    have e : c' = c := hc'.elim id fun e => e.trans (normPc_of_ne_init c hpc)
    rw [e]
    exact h v1 w1 ws1

end

end LbzVerif.Lemmas.RetrieveSim
