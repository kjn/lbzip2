/-
  Lemmas.CompressWitness — non-vacuity witnesses for Props.C01.Roundtrip and Props.C02.Inspect:
  the contract `ChoicesOK` holds for `Model.Compress.simpleChoice` (naive BWT, two copies of the
  dummy table) on the blocks of the witness input of Props.C04.Blocks, `5 5 5 5 5 6 6` with
  capacity 4: `5 5 5 | 5 5 6 6` (`--sequential`, chunks of 2) and `5 5 5 | 5 | 5 6 6` (default
  mode, chunks of 4).  The block lists are evaluated by the kernel; the contract is not: it
  holds for every non-empty block by `Lemmas.CompressSimple.simpleChoice_ok_rle`, and the
  driver evaluates it on every campaign case (checks/w23_roundtrip.py).
-/
import LbzVerif.Model.Compress
import LbzVerif.Lemmas.CompressSimple
import LbzVerif.Lemmas.CompressCut

namespace LbzVerif.Lemmas.CompressWitness
open LbzVerif LbzVerif.Model.Compress

def xInput : List UInt8 := [5, 5, 5, 5, 5, 6, 6]

theorem xCut : cutBlocks 4 2 true xInput = [[5, 5, 5], [5, 5, 6, 6]] ∧
    cutBlocks 4 4 false xInput = [[5, 5, 5], [5], [5, 6, 6]] := by decide +kernel

theorem xChoices_seq : ∀ b ∈ cutBlocks 4 2 true xInput,
    ChoicesOK (Spec.rle1 b) (simpleChoice (Spec.rle1 b)) :=
  Lemmas.CompressCut.simpleChoice_ok_cut 4 2 true xInput

theorem xChoices_non : ∀ b ∈ cutBlocks 4 4 false xInput,
    ChoicesOK (Spec.rle1 b) (simpleChoice (Spec.rle1 b)) :=
  Lemmas.CompressCut.simpleChoice_ok_cut 4 4 false xInput

end LbzVerif.Lemmas.CompressWitness
