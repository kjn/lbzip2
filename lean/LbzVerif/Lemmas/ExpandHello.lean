/-
  Lemmas.ExpandHello — the two closed runs behind the non-vacuity examples of the whole-file
  properties, each evaluated once by the kernel: `Model.Expand.expandFile` on the 37-byte file
  `bzip2 -9` makes of "a" (`expandFile_aBz2`; `decide +kernel` runs sniff, parser automaton,
  retriever, inverse BWT, emitter and the CRC tests), and the reference `Spec.Bzip2.decodeFile` on
  libbz2's "hello" (`decodeFile_helloBz2`).
-/
import LbzVerif.Model.Expand
import LbzVerif.Lemmas.SpecBasic

namespace LbzVerif.Lemmas.ExpandHello

/-- `printf a | bzip2 -9` -/
def aBz2 : List UInt8 :=
  [0x42, 0x5a, 0x68, 0x39, 0x31, 0x41, 0x59, 0x26, 0x53, 0x59, 0x19, 0x93, 0x9b, 0x6b, 0x00, 0x00,
   0x00, 0x01, 0x00, 0x20, 0x00, 0x20, 0x00, 0x21, 0x18, 0x46, 0x82, 0xee, 0x48, 0xa7, 0x0a, 0x12,
   0x03, 0x32, 0x73, 0x6d, 0x60]

theorem expandFile_aBz2 : Model.Expand.expandFile aBz2 = .ok [97] := by
  decide +kernel

end LbzVerif.Lemmas.ExpandHello

namespace LbzVerif.Spec.Bzip2
open LbzVerif.Basic

/-- `bz2.compress(b"hello", 9)` as written by libbz2 1.0.8. -/
def helloBz2 : List UInt8 := [66, 90, 104, 57, 49, 65, 89, 38, 83, 89, 25, 49, 101, 61, 0, 0, 0, 129, 0, 2, 68, 160, 0, 33, 154, 104, 51, 77, 7, 51, 139, 185, 34, 156, 40, 72, 12, 152, 178, 158, 128]

/-- The form to evaluate on a concrete file: the kernel works on the list, not on the array-based `bytesToBits`. -/
theorem decodeFile_flatMap (data : List UInt8) : decodeFile data =
    if data.isEmpty then .error .empty
    else
      match takeNat 32 (data.flatMap byteToBits) with
      | none => .error .badMagic
      | some (w, bits) =>
        match headerLevel w with
        | none => .error .badMagic
        | some level =>
          match decodeStreams false (data.length + 1) (data.length + 1) level 0 bits {} with
          | .error e => .error e
          | .ok acc => .ok acc.out.toList := by
  rw [← bytesToBits_eq]
  unfold decodeFile walkFile
  by_cases h : data.isEmpty = true
  · rw [if_pos h, if_pos h]
  · rw [if_neg h, if_neg h]
    dsimp only
    cases takeNat 32 (bytesToBits data) with
    | none => rfl
    | some r =>
      dsimp only
      cases headerLevel r.1 with
      | none => rfl
      | some level => rfl

theorem decodeFile_helloBz2 : decodeFile helloBz2 = .ok [104, 101, 108, 108, 111] :=
  (decodeFile_flatMap helloBz2).trans (by decide +kernel)

end LbzVerif.Spec.Bzip2
