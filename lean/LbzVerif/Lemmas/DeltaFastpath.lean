/-
  Lemmas.DeltaFastpath — small arithmetic models of `retrieve()`.
  `refills w lens` / `bufOK`: the bit-buffer accounting of
  the fast decoding path
      for (j = 0; j < GROUP_SIZE; j++) { NEED_FAST(); …; DUMP(k); … }
  with `NEED_FAST`: `if (w < 32) { v |= word << (64 - (w += 32)); next++; }` and
  `DUMP(k)`: `w -= k` (`w` = live bits, `lens` = the code lengths `k` of the group).
  `Acc` / `accStep`: the run accumulator (`run`, `shift`, `tt - ds->tt`) with the
  `run <= MAX_BLOCK_SIZE` gate and the `run > tt_limit - tt` overflow test.
-/
import LbzVerif.Gen.Consts
import LbzVerif.Gen.DecodeTab

namespace LbzVerif.Lemmas.DeltaFastpath

/-- Words fetched by `NEED_FAST` while decoding symbols of lengths `lens`,
starting with `w` live bits. -/
def refills : Nat → List Nat → Nat
  | _, [] => 0
  | w, k :: ks =>
    if w < 32 then 1 + refills (w + 32 - k) ks else refills (w - k) ks

/-- Every `DUMP(k)` finds `k ≤ w`, and `w ≤ 63` throughout. -/
def bufOK : Nat → List Nat → Prop
  | w, [] => w ≤ 63
  | w, k :: ks =>
    w ≤ 63 ∧
      (if w < 32 then k ≤ w + 32 ∧ bufOK (w + 32 - k) ks else k ≤ w ∧ bufOK (w - k) ks)

theorem sum_le (l : List Nat) (b : Nat) (h : ∀ k ∈ l, k ≤ b) : l.sum ≤ b * l.length := by
  induction l with
  | nil => simp
  | cons x xs ih =>
    have hx := h x (by simp)
    have := ih (fun k hk => h k (by simp [hk]))
    simp only [List.sum_cons, List.length_cons, Nat.mul_add]
    omega

/-- Bit conservation, tight form: the last word is fetched BEFORE the last
symbol is dumped. -/
theorem refills_le : ∀ (lens : List Nat) (w : Nat), w ≤ 63 → (∀ k ∈ lens, k ≤ 32) →
    32 * refills w lens + w ≤ 63 + lens.dropLast.sum := by
  intro lens
  induction lens with
  | nil =>
    intro w hw _
    simp [refills]
    omega
  | cons k ks ih =>
    intro w hw hk
    have hk0 : k ≤ 32 := hk k (by simp)
    have hks : ∀ x ∈ ks, x ≤ 32 := fun x hx => hk x (by simp [hx])
    cases ks with
    | nil =>
      simp only [refills, List.dropLast_singleton, List.sum_nil]
      split <;> omega
    | cons k2 ks2 =>
      simp only [List.dropLast_cons_cons, List.sum_cons]
      rw [refills]
      split
      · have := ih (w + 32 - k) (by omega) hks
        omega
      · have := ih (w - k) (by omega) hks
        omega

theorem bufOK_of_le : ∀ (lens : List Nat) (w : Nat), w ≤ 63 → (∀ k ∈ lens, k ≤ 32) →
    bufOK w lens := by
  intro lens
  induction lens with
  | nil => intro w hw _; exact hw
  | cons k ks ih =>
    intro w hw hk
    have hk0 : k ≤ 32 := hk k (by simp)
    have hks : ∀ x ∈ ks, x ≤ 32 := fun x hx => hk x (by simp [hx])
    refine ⟨hw, ?_⟩
    split
    · exact ⟨by omega, ih _ (by omega) hks⟩
    · exact ⟨by omega, ih _ (by omega) hks⟩

inductive Sym
  | runA
  | runB
  | other        -- an MTF value 1…255
  deriving DecidableEq, Repr

/-- `n = tt - ds->tt`, `run`, `shift`. -/
structure Acc where
  n : Nat
  run : Nat
  shift : Nat
  deriving DecidableEq, Repr

/-- One non-EOB symbol; `none` = `ERR_OVERFLOW`.
    `if (IS_RUN(s) && run <= MAX_BLOCK_SIZE) { run += RUN(s) << shift++; continue; }
     if (run > tt_limit - tt) return ERR_OVERFLOW;
     … write run copies …; shift = 0; run = 1;` -/
def accStep (a : Acc) (s : Sym) : Option Acc :=
  if s ≠ .other ∧ a.run ≤ Gen.MAX_BLOCK_SIZE then
    some { a with run := a.run + ((if s = .runA then 1 else 2) <<< a.shift), shift := a.shift + 1 }
  else if a.run > Gen.MAX_BLOCK_SIZE - a.n then none
  else some { n := a.n + a.run, run := 1, shift := 0 }

def accRun : Acc → List Sym → Option Acc
  | a, [] => some a
  | a, s :: ss => match accStep a s with
    | none => none
    | some a' => accRun a' ss

/-- Invariant: the block never exceeds `MAX_BLOCK_SIZE`, the run is at least
`2^shift - 1` (so the shift stays small while RUN symbols are accepted). -/
def AccInv (a : Acc) : Prop :=
  a.n ≤ Gen.MAX_BLOCK_SIZE ∧ 2 ^ a.shift ≤ a.run + 1

theorem accStep_inv (a a' : Acc) (s : Sym) (hi : AccInv a) (h : accStep a s = some a') :
    AccInv a' ∧ a.n + a.run + 1 ≤ a'.n + a'.run := by
  unfold accStep at h
  obtain ⟨h1, h2⟩ := hi
  split at h
  · rename_i hc
    simp only [Option.some.injEq] at h
    subst h
    have hp : 0 < 2 ^ a.shift := Nat.two_pow_pos _
    simp only [AccInv, Nat.shiftLeft_eq, Nat.pow_succ]
    split <;> exact ⟨⟨h1, by omega⟩, by omega⟩
  · split at h
    · simp at h
    · rename_i hc
      simp only [Option.some.injEq] at h
      subst h
      simp only [AccInv, Gen.MAX_BLOCK_SIZE] at *
      exact ⟨⟨by omega, by simp⟩, by omega⟩

/-- Potential argument: after `j` symbols, `n + run ≥ j` (plus the start). -/
theorem accRun_count : ∀ (ss : List Sym) (a a' : Acc), AccInv a → accRun a ss = some a' →
    AccInv a' ∧ a.n + a.run + ss.length ≤ a'.n + a'.run := by
  intro ss
  induction ss with
  | nil =>
    intro a a' hi h
    simp [accRun] at h
    subst h
    exact ⟨hi, by simp⟩
  | cons s ss ih =>
    intro a a' hi h
    simp only [accRun] at h
    cases hs : accStep a s with
    | none => simp [hs] at h
    | some a1 =>
      simp only [hs] at h
      obtain ⟨hi1, hc1⟩ := accStep_inv a a1 s hi hs
      obtain ⟨hi2, hc2⟩ := ih a1 a' hi1 h
      exact ⟨hi2, by simp only [List.length_cons]; omega⟩

end LbzVerif.Lemmas.DeltaFastpath
