/-
  Lemmas.SortBy — `Spec.Ibwt.isort` sorts, for any comparator `le` that decides a
  transitive relation `R` on the elements of the list.  The development's other
  insertion sorts (`Spec.Prefix.sortDesc`, the rotation sort of
  `Model.Compress.naiveBwt`) are instances of `isort`, the position queues of
  `Model.SchedC` (`insI`, `insW`) of `insertBy`.  Also: `n` strictly increasing
  numbers below `n` are `0, …, n-1`.
-/
import LbzVerif.Model.Ibwt

namespace LbzVerif.Lemmas.SortBy
open LbzVerif.Spec.Ibwt (insertBy isort)

theorem insertBy_perm {α : Type} (le : α → α → Bool) (x : α) :
    ∀ l : List α, (insertBy le x l).Perm (x :: l) := by
  intro l
  induction l with
  | nil => exact List.Perm.refl _
  | cons y ys ih =>
    simp only [insertBy]
    split
    · exact List.Perm.refl _
    · exact ((List.Perm.cons y ih).trans (List.Perm.swap x y ys))

theorem isort_perm {α : Type} (le : α → α → Bool) : ∀ l : List α, (isort le l).Perm l := by
  intro l
  induction l with
  | nil => exact List.Perm.refl _
  | cons x xs ih =>
    simp only [isort]
    exact (insertBy_perm le x _).trans (List.Perm.cons x ih)

variable {α : Type} {le : α → α → Bool} {R : α → α → Prop}

theorem insertBy_sorted (htrans : ∀ a b c, R a b → R b c → R a c) (x : α) :
    ∀ l : List α, (∀ y ∈ l, le x y = true → R x y) → (∀ y ∈ l, le x y = false → R y x) →
      l.Pairwise R → (insertBy le x l).Pairwise R := by
  intro l
  induction l with
  | nil => intro _ _ _; simp [insertBy]
  | cons y ys ih =>
    intro h1 h2 hp
    have hy := List.pairwise_cons.mp hp
    simp only [insertBy]
    cases hle : le x y with
    | true =>
      have hxy := h1 y List.mem_cons_self hle
      refine List.pairwise_cons.mpr ⟨?_, hp⟩
      intro z hz
      rcases List.mem_cons.mp hz with rfl | hz
      · exact hxy
      · exact htrans _ _ _ hxy (hy.1 z hz)
    | false =>
      have hyx := h2 y List.mem_cons_self hle
      refine List.pairwise_cons.mpr ⟨?_, ih (fun z hz => h1 z (List.mem_cons_of_mem _ hz))
        (fun z hz => h2 z (List.mem_cons_of_mem _ hz)) hy.2⟩
      intro z hz
      rcases List.mem_cons.mp ((insertBy_perm le x ys).mem_iff.mp hz) with rfl | hz
      · exact hyx
      · exact hy.1 z hz

theorem isort_sorted (htrans : ∀ a b c, R a b → R b c → R a c) :
    ∀ l : List α, (∀ x ∈ l, ∀ y ∈ l, le x y = true → R x y) →
      (∀ x ∈ l, ∀ y ∈ l, le x y = false → R y x) → (isort le l).Pairwise R := by
  intro l
  induction l with
  | nil => intro _ _; simp [isort]
  | cons x xs ih =>
    intro h1 h2
    have hmem : ∀ y ∈ isort le xs, y ∈ x :: xs := fun y hy =>
      List.mem_cons_of_mem _ ((isort_perm le xs).mem_iff.mp hy)
    exact insertBy_sorted htrans x _ (fun y hy => h1 x List.mem_cons_self y (hmem y hy))
      (fun y hy => h2 x List.mem_cons_self y (hmem y hy))
      (ih (fun a ha b hb => h1 a (List.mem_cons_of_mem _ ha) b (List.mem_cons_of_mem _ hb))
        (fun a ha b hb => h2 a (List.mem_cons_of_mem _ ha) b (List.mem_cons_of_mem _ hb)))

theorem getElem_of_increasing (l : List Nat) (h : l.Pairwise (· < ·))
    (hb : ∀ x ∈ l, x < l.length) (q : Nat) (hq : q < l.length) : l[q] = q := by
  have step : ∀ d i (hi : i + d < l.length), l[i] + d ≤ l[i + d] := by
    intro d
    induction d with
    | zero => intro i hi; exact Nat.le_refl _
    | succ d ih =>
      intro i hi
      have h1 := ih i (by omega)
      have h2 := List.pairwise_iff_getElem.mp h (i + d) (i + d + 1) (by omega) hi (by omega)
      exact Nat.succ_le_of_lt (Nat.lt_of_le_of_lt h1 h2)
  have lo := step q 0 (by omega)
  have hi := step (l.length - 1 - q) q (by omega)
  have top := hb _ (List.getElem_mem (show q + (l.length - 1 - q) < l.length by omega))
  simp only [Nat.zero_add] at lo
  omega

end LbzVerif.Lemmas.SortBy
