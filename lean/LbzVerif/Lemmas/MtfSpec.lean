/-
  Lemmas.MtfSpec — the reference decoder inverts the reference encoder
  (Spec.Mtf): bijective base-2 run lengths by strong induction, move-to-front
  by list induction; and the range of the encoder's symbols.
-/
import LbzVerif.Spec.Mtf

namespace LbzVerif.Lemmas.MtfSpec
open LbzVerif.Spec.Mtf

theorem weight_digit (w q d : Nat) : (d + 1) * w + 2 * w * q = w * (2 * q + d + 1) := by grind

theorem runDigits_zero : runDigits 0 = [] := by
  rw [runDigits]; simp

theorem runDigits_odd (n : Nat) (h0 : n ≠ 0) (h : n % 2 = 1) :
    runDigits n = 0 :: runDigits ((n - 1) / 2) := by
  rw [runDigits]; simp [h0, h]

theorem runDigits_even (n : Nat) (h0 : n ≠ 0) (h : n % 2 ≠ 1) :
    runDigits n = 1 :: runDigits ((n - 2) / 2) := by
  rw [runDigits]; simp [h0, h]

theorem runDigits_pos (n : Nat) (h0 : n ≠ 0) :
    ∃ d q, d < 2 ∧ n = 2 * q + d + 1 ∧ runDigits n = d :: runDigits q := by
  by_cases h : n % 2 = 1
  · exact ⟨0, (n - 1) / 2, by omega, by omega, runDigits_odd n h0 h⟩
  · exact ⟨1, (n - 2) / 2, by omega, by omega, runDigits_even n h0 h⟩

theorem runDigits_lt_two (n : Nat) : ∀ d ∈ runDigits n, d < 2 := by
  induction n using Nat.strongRecOn with
  | _ n ih =>
    by_cases h0 : n = 0
    · subst h0; simp [runDigits_zero]
    · obtain ⟨d, q, hd, hn, e⟩ := runDigits_pos n h0
      rw [e]
      intro x hx
      rcases List.mem_cons.mp hx with rfl | hx
      · exact hd
      · exact ih q (by omega) x hx

theorem runValue_runDigits (n w : Nat) : runValue w (runDigits n) = w * n := by
  induction n using Nat.strongRecOn generalizing w with
  | _ n ih =>
    by_cases h0 : n = 0
    · subst h0; simp [runDigits_zero, runValue]
    · obtain ⟨d, q, _, hn, e⟩ := runDigits_pos n h0
      rw [e, runValue, ih q (by omega), hn, weight_digit]

theorem unGo_weight_irrel (eob limit : Nat) (l : List UInt8) (n w w' : Nat) (ss : List Nat)
    (h : ∀ s, ss.head? = some s → 2 ≤ s ∨ s = eob) :
    unGo eob limit l n w ss = unGo eob limit l n w' ss := by
  cases ss with
  | nil => simp [unGo]
  | cons s ss =>
    have hs := h s rfl
    unfold unGo
    by_cases he : s = eob
    · simp [he]
    · have h2 : ¬ s < 2 := by omega
      simp [he, h2]

theorem unGo_digit (eob limit : Nat) (heob : 2 ≤ eob) (b : UInt8) (l : List UInt8) (d : Nat)
    (hd : d < 2) (n w : Nat) (ss : List Nat) (hfit : n + (d + 1) * w ≤ limit) :
    unGo eob limit (b :: l) n w (d :: ss) =
      (unGo eob limit (b :: l) (n + (d + 1) * w) (2 * w) ss).map
        (List.replicate ((d + 1) * w) b ++ ·) := by
  rw [unGo, if_neg (by omega), if_pos hd]
  dsimp only
  rw [if_neg (by omega)]

theorem unGo_runDigits (eob limit : Nat) (heob : 2 ≤ eob) (b : UInt8) (l : List UInt8)
    (k : Nat) : ∀ (n w : Nat) (rest : List Nat), n + w * k ≤ limit →
    ∃ w', unGo eob limit (b :: l) n w (runDigits k ++ rest) =
      (unGo eob limit (b :: l) (n + w * k) w' rest).map (List.replicate (w * k) b ++ ·) := by
  induction k using Nat.strongRecOn with
  | _ k ih =>
    intro n w rest hfit
    by_cases h0 : k = 0
    · subst h0
      refine ⟨w, ?_⟩
      cases h : unGo eob limit (b :: l) n w rest <;> simp [runDigits_zero, h]
    · obtain ⟨d, q, hd, rfl, e⟩ := runDigits_pos k h0
      have hw := weight_digit w q d
      obtain ⟨w', hw'⟩ := ih q (by omega) (n + (d + 1) * w) (2 * w) rest (by omega)
      refine ⟨w', ?_⟩
      rw [e, List.cons_append, unGo_digit eob limit heob b l d hd n w _ (by omega), hw', ← hw,
        ← Nat.add_assoc, Option.map_map]
      congr 1
      funext r
      simp only [Function.comp, ← List.replicate_append_replicate, List.append_assoc]

theorem moveToFront_length (l : List UInt8) (p : Nat) : (moveToFront l p).length = l.length := by
  unfold moveToFront
  cases h : l[p]? with
  | none => rfl
  | some b =>
    have hp : p < l.length := (List.getElem?_eq_some_iff.mp h).1
    simp [List.length_eraseIdx, hp]; omega

theorem mem_moveToFront (l : List UInt8) (p : Nat) (x : UInt8) :
    x ∈ moveToFront l p ↔ x ∈ l := by
  unfold moveToFront
  cases h : l[p]? with
  | none => simp
  | some b =>
    obtain ⟨hp, hb⟩ := List.getElem?_eq_some_iff.mp h
    constructor
    · intro hx
      rcases List.mem_cons.mp hx with rfl | hx
      · rw [← hb]; exact List.getElem_mem hp
      · exact List.mem_of_mem_eraseIdx hx
    · intro hx
      by_cases hxb : x = b
      · simp [hxb]
      · apply List.mem_cons_of_mem
        rw [List.mem_eraseIdx_iff_getElem]
        obtain ⟨i, hi, hxi⟩ := List.getElem_of_mem hx
        refine ⟨i, hi, ?_, hxi⟩
        intro hip
        subst hip
        exact hxb (hxi.symm.trans hb)

theorem idxOf_cons_ne {x c : UInt8} (l : List UInt8) (h : x ≠ c) :
    (x :: l).idxOf c = l.idxOf c + 1 := by
  rw [List.idxOf_cons, beq_false_of_ne h, cond_false]

theorem moveToFront_zero (b : UInt8) (l : List UInt8) : moveToFront (b :: l) 0 = b :: l := by
  simp [moveToFront]

theorem unGo_zrle (N limit : Nat) (block : List UInt8) :
    ∀ (l : List UInt8) (k n : Nat), l.length = N → (∀ x ∈ block, x ∈ l) →
      (k = 0 ∨ l ≠ []) → n + k + block.length ≤ limit →
      unGo (N + 1) limit l n 1 (zrle k (mtfEncode l block) ++ [N + 1]) =
        some (List.replicate k (l.headD 0) ++ block) := by
  induction block with
  | nil =>
    intro l k n hl _ hk hfit
    simp only [mtfEncode, zrle, List.append_nil, List.length_nil, Nat.add_zero] at *
    rcases hk with rfl | hne
    · simp [runDigits_zero, unGo]
    · obtain ⟨b, t, rfl⟩ := List.exists_cons_of_ne_nil hne
      have hN : 2 ≤ N + 1 := by simp at hl; omega
      obtain ⟨w', h1⟩ := unGo_runDigits (N + 1) limit hN b t k n 1 [N + 1] (by omega)
      rw [h1]
      simp [unGo]
  | cons x xs ih =>
    intro l k n hl hmem hk hfit
    have hx : x ∈ l := hmem x (List.mem_cons_self ..)
    obtain ⟨b, t, rfl⟩ := List.exists_cons_of_ne_nil (List.ne_nil_of_mem hx)
    have hN : 2 ≤ N + 1 := by simp at hl; omega
    simp only [List.length_cons] at hfit
    simp only [mtfEncode]
    by_cases hxb : b = x
    · -- position 0: the run grows
      subst hxb
      rw [List.idxOf_cons_self, moveToFront_zero]
      simp only [zrle]
      rw [ih (b :: t) (k + 1) n hl (fun y hy => hmem y (List.mem_cons_of_mem _ hy))
        (Or.inr (by simp)) (by omega)]
      simp [List.replicate_succ', List.append_assoc]
    ·
      have hp : t.idxOf x < t.length :=
        List.idxOf_lt_length_of_mem (List.mem_of_ne_of_mem (Ne.symm hxb) hx)
      rw [idxOf_cons_ne t hxb]
      simp only [zrle]
      obtain ⟨w', h1⟩ := unGo_runDigits (N + 1) limit hN b t k n 1
        ((t.idxOf x + 2) :: (zrle 0 (mtfEncode (moveToFront (b :: t) (t.idxOf x + 1)) xs) ++ [N + 1]))
        (by omega)
      simp only [List.append_assoc, List.cons_append]
      rw [h1]
      have hlen : t.length + 1 = N := by simpa using hl
      have hget : (b :: t)[t.idxOf x + 1]? = some x := by
        simp [List.getElem?_eq_getElem hp]
      rw [unGo, if_neg (by omega), if_neg (by omega), if_pos (by omega),
        show t.idxOf x + 2 - 1 = t.idxOf x + 1 from rfl, hget]
      dsimp only
      rw [if_neg (by omega), ih (moveToFront (b :: t) (t.idxOf x + 1)) 0 (n + 1 * k + 1)
        (by rw [moveToFront_length]; exact hl)
        (fun y hy => (mem_moveToFront _ _ _).mpr (hmem y (List.mem_cons_of_mem _ hy)))
        (Or.inl rfl) (by omega)]
      simp

theorem unMtfRle2_mtfRle2 (used block : List UInt8) (limit : Nat)
    (hmem : ∀ x ∈ block, x ∈ used) (hfit : block.length ≤ limit) :
    unMtfRle2 used (mtfRle2 used block) limit = some block := by
  unfold unMtfRle2 mtfRle2
  have := unGo_zrle used.length limit block used 0 0 rfl hmem (Or.inl rfl) (by omega)
  simpa using this

theorem mtfEncode_lt (block : List UInt8) : ∀ (l : List UInt8), (∀ x ∈ block, x ∈ l) →
    ∀ p ∈ mtfEncode l block, p < l.length := by
  induction block with
  | nil => intro l _ p hp; simp [mtfEncode] at hp
  | cons x xs ih =>
    intro l hmem p hp
    simp only [mtfEncode, List.mem_cons] at hp
    rcases hp with rfl | hp
    · exact List.idxOf_lt_length_of_mem (hmem x (List.mem_cons_self ..))
    · have := ih (moveToFront l (l.idxOf x))
        (fun y hy => (mem_moveToFront _ _ _).mpr (hmem y (List.mem_cons_of_mem _ hy)))
        p hp
      rwa [moveToFront_length] at this

theorem zrle_le (N : Nat) (hN : 1 ≤ N) (k : Nat) (ps : List Nat) (h : ∀ p ∈ ps, p < N) :
    ∀ s ∈ zrle k ps, s ≤ N := by
  induction ps generalizing k with
  | nil =>
    intro s hs
    have := runDigits_lt_two k s (by simpa [zrle] using hs)
    omega
  | cons p ps ih =>
    have hps : ∀ q ∈ ps, q < N := fun q hq => h q (List.mem_cons_of_mem _ hq)
    cases p with
    | zero => intro s hs; exact ih (k + 1) hps s (by simpa [zrle] using hs)
    | succ p =>
      intro s hs
      simp only [zrle, List.mem_append, List.mem_cons] at hs
      rcases hs with hs | rfl | hs
      · have := runDigits_lt_two k s hs; omega
      · have := h (p + 1) (List.mem_cons_self ..); omega
      · exact ih 0 hps s hs

theorem mtfRle2_le (used block : List UInt8) (hmem : ∀ x ∈ block, x ∈ used) :
    ∀ s ∈ mtfRle2 used block, s ≤ used.length + 1 := by
  intro s hs
  simp only [mtfRle2, List.mem_append, List.mem_singleton] at hs
  rcases hs with h | rfl
  · exact zrle_le (used.length + 1) (Nat.succ_pos _) 0 _
      (fun p hp => Nat.lt_succ_of_lt (mtfEncode_lt block used hmem p hp)) s h
  · omega

end LbzVerif.Lemmas.MtfSpec
