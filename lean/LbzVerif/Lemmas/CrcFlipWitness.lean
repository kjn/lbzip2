/-
  Lemmas.CrcFlipWitness — kernel-evaluated instances for Props.C15.File: the CRC
  fields of the real one-block file `aBz2` ("a", `bzip2 -9`, 37 bytes) and of
  `aBz2` followed by an empty stream, and what the model of `lbzip2 -d` and the
  reference answer when one bit of a block CRC / of a stream CRC is flipped.
  (`decide +kernel` runs the whole decompressor model: alone in its module.)
-/
import LbzVerif.Lemmas.CrcFlipMain
import LbzVerif.Lemmas.ExpandHello

namespace LbzVerif.Lemmas.CrcFlipWitness
open LbzVerif.Lemmas.CrcFlipMain LbzVerif.Lemmas.CrcFlipBits LbzVerif.Lemmas.ExpandHello

/-- `aBz2` followed by the 14-byte stream `bzip2` makes of the empty input (level 1) -/
def twoStreams : List UInt8 :=
  aBz2 ++ [0x42, 0x5a, 0x68, 0x31, 0x17, 0x72, 0x45, 0x38, 0x50, 0x90, 0, 0, 0, 0]

theorem crcFields_aBz2 : crcFields aBz2 = [.block 80, .stream 259] :=
  (crcFields_flatMap aBz2).trans (by decide +kernel)

theorem crcFields_twoStreams :
    crcFields twoStreams = [.block 80, .stream 259, .stream 376] :=
  (crcFields_flatMap twoStreams).trans (by decide +kernel)

theorem expandFile_twoStreams : Model.Expand.expandFile twoStreams = .ok [97] := by decide +kernel

theorem flip_block_aBz2 :
    Model.Expand.expandFile (flipBit aBz2 (80 + 5)) = .error (.block Gen.ERR_BLKCRC) := by
  decide +kernel

theorem flip_stream_aBz2 :
    Model.Expand.expandFile (flipBit aBz2 (259 + 31)) = .error (.data Gen.ERR_STRMCRC) := by
  decide +kernel

theorem flip_stream2_twoStreams :
    Model.Expand.expandFile (flipBit twoStreams (376 + 0)) = .error (.data Gen.ERR_STRMCRC) := by
  decide +kernel

end LbzVerif.Lemmas.CrcFlipWitness
