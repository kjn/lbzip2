/-
  Lemmas.CompressFile — the reference decoder / inspector (`Spec.Bzip2.walkFile`)
  run over a file of the shape `Model.Compress.assemble` writes:

      header ++ block₁ ++ … ++ blockₙ ++ eos-magic ++ combined CRC

  where every block is the `transmit()` image of a well-formed, coded encoder
  state whose parsed form decodes to known bytes (`BlockOK`).  Blocks start at
  arbitrary bit offsets as far as `decodeBlocks` is concerned (it works on the
  bit list); byte alignment is only used for the padding rule at the end.
-/
import LbzVerif.Model.Compress
import LbzVerif.Lemmas.CompressBits
import LbzVerif.Props.C01.Transmit
import LbzVerif.Props.C02.Transmit

namespace LbzVerif.Lemmas.CompressFile
open LbzVerif LbzVerif.Basic LbzVerif.Model.Compress LbzVerif.Model.Transmit
open LbzVerif.Lemmas.TransmitCompose LbzVerif.Lemmas.TransmitLen LbzVerif.Lemmas.CompressBits
open LbzVerif.Spec.Bzip2

/-- an encoder state, the plaintext of its block, and the block size `nblock` -/
structure Item where
  enc : EncBlock
  plain : List UInt8
  nblock : Nat

/-- What the file-level argument needs to know about one block. -/
structure BlockOK (level : Nat) (it : Item) : Prop where
  wf : WF it.enc
  coded : Coded it.enc
  dec : ∀ start, decodeBlock (expectedBlock level start it.enc) =
    .ok { nblock := it.nblock, bytes := it.plain.toArray }

/-- the inspector's record of one block starting at bit `pos` -/
def reportOf (level pos : Nat) (it : Item) : BlockReport :=
  { block := expectedBlock level pos it.enc, nblock := it.nblock, size := it.plain.length,
    freqs := tableFreqs (expectedBlock level pos it.enc) }

def reportsOf (level : Nat) : Nat → List Item → List BlockReport
  | _, [] => []
  | pos, it :: rest => reportOf level pos it :: reportsOf level (pos + cost it.enc) rest

/-- the reference decoder's running combined CRC over the blocks -/
def ccOf (cc : UInt32) (items : List Item) : UInt32 :=
  items.foldl (fun a it => combine a (UInt32.ofNat (it.enc.crc ^^^ 0xFFFFFFFF))) cc

/-- what `transmit()` wrote for the blocks, one after the other -/
def bitsOf (items : List Item) : Bits := items.flatMap (fun it => transmitBits it.enc)
/-- their length in bits (`8 · Σ out_expect_len`) -/
def costOf (items : List Item) : Nat := (items.map (fun it => cost it.enc)).sum
/-- the input bytes the blocks were made of -/
def plainOf (items : List Item) : List UInt8 := items.flatMap (fun it => it.plain)

theorem bitsOf_cons (it : Item) (rest : List Item) :
    bitsOf (it :: rest) = transmitBits it.enc ++ bitsOf rest := List.flatMap_cons

theorem costOf_cons (it : Item) (rest : List Item) :
    costOf (it :: rest) = cost it.enc + costOf rest := rfl

theorem plainOf_cons (it : Item) (rest : List Item) :
    plainOf (it :: rest) = it.plain ++ plainOf rest := List.flatMap_cons

theorem decodeBlocks_items (strict : Bool) (level : Nat) (items : List Item)
    (hok : ∀ it ∈ items, BlockOK level it) :
    ∀ (fuel pos : Nat) (tail : Bits) (cc : UInt32) (out : Array UInt8)
      (reps : Array BlockReport),
    decodeBlocks strict level (items.length + fuel) pos (bitsOf items ++ tail) cc out reps =
      decodeBlocks strict level fuel (pos + costOf items) tail (ccOf cc items)
        (out ++ (plainOf items).toArray)
        (if strict then reps ++ (reportsOf level pos items).toArray else reps) := by
  induction items with
  | nil =>
    intro fuel pos tail cc out reps
    simp [bitsOf, costOf, ccOf, plainOf, reportsOf]
  | cons it rest ih =>
    intro fuel pos tail cc out reps
    have hit := hok it (List.mem_cons_self ..)
    have hrest : ∀ jt ∈ rest, BlockOK level jt := fun jt hj => hok jt (List.mem_cons_of_mem _ hj)
    have hfuel : (it :: rest).length + fuel = (rest.length + fuel) + 1 := by
      simp only [List.length_cons]
      omega
    have hstrict : (if strict then strictBlockCheck (expectedBlock level pos it.enc) else .ok ()) =
        .ok () := by
      cases strict
      · rfl
      · exact Props.C02.Transmit.transmit_strictBlockCheck it.enc hit.wf hit.coded level pos
    rw [hfuel, bitsOf_cons, List.append_assoc, decodeBlocks,
      takeNat_magic it.enc (bitsOf rest ++ tail)]
    simp only [if_true,
      Props.C01.Transmit.parse_transmit it.enc hit.wf hit.coded level pos (bitsOf rest ++ tail),
      hstrict, hit.dec pos]
    rw [ih hrest, costOf_cons, plainOf_cons, ← List.append_toArray, ← Array.append_assoc,
      ← Nat.add_assoc]
    cases strict
    · rfl
    · simp only [if_true]
      rw [List.push_append_toArray]
      rfl

theorem decodeBlocks_eos (strict : Bool) (level fuel pos stored : Nat) (hs : stored < 2 ^ 32)
    (rest : Bits) (cc : UInt32) (out : Array UInt8) (reps : Array BlockReport) :
    decodeBlocks strict level (fuel + 1) pos
        (natToBits 48 eosMagic ++ natToBits 32 stored ++ rest) cc out reps =
      if stored = cc.toNat then .ok (pos + 80, rest, stored, out, reps)
      else .error .streamCrc := by
  rw [decodeBlocks, List.append_assoc, takeNat_natToBits]
  have h1 : ¬ eosMagic = blockMagic := by decide
  have h2 : eosMagic % 2 ^ 48 = eosMagic := by decide
  simp only [h2, h1, if_false, if_true, takeNat_natToBits, Nat.mod_eq_of_lt hs]

/-- `Model.Compress.assemble` over abstract items: `write_header`, the block bytes, `write_trailer`
    with `stored` as combined CRC -/
def fileOf (level : Nat) (items : List Item) (stored : Nat) : List UInt8 :=
  headerBytes level ++ items.flatMap (fun it => blockBytes it.enc) ++ trailerBytes stored

theorem blocks_bits (items : List Item) (hw : ∀ it ∈ items, WF it.enc) :
    bytesToBits (items.flatMap (fun it => blockBytes it.enc)) = bitsOf items := by
  induction items with
  | nil => simp [bitsOf, bytesToBits_nil]
  | cons it rest ih =>
    rw [List.flatMap_cons, bytesToBits_append, bitsOf_cons,
      blockBytes_bits it.enc (hw it (List.mem_cons_self ..)),
      ih (fun jt hj => hw jt (List.mem_cons_of_mem _ hj))]

theorem cost_ge (b : EncBlock) : 48 ≤ cost b := by
  unfold cost costBase
  omega

theorem blocks_length (items : List Item) (hw : ∀ it ∈ items, WF it.enc) :
    8 * (items.flatMap (fun it => blockBytes it.enc)).length = costOf items ∧
    items.length ≤ (items.flatMap (fun it => blockBytes it.enc)).length ∧
    costOf items % 8 = 0 := by
  induction items with
  | nil => simp [costOf]
  | cons it rest ih =>
    have h1 := blockBytes_length it.enc (hw it (List.mem_cons_self ..))
    have h2 := ih (fun jt hj => hw jt (List.mem_cons_of_mem _ hj))
    have h3 := cost_ge it.enc
    have h4 := cost_mod8 it.enc
    simp only [List.flatMap_cons, List.length_append, List.length_cons, costOf, List.map_cons,
      List.sum_cons] at h2 ⊢
    omega

theorem walkFile_fileOf (strict : Bool) (level : Nat) (h1 : 1 ≤ level) (h9 : level ≤ 9)
    (items : List Item) (hok : ∀ it ∈ items, BlockOK level it) (stored : Nat)
    (hstored : stored = (ccOf 0 items).toNat) :
    walkFile strict (fileOf level items stored) =
      .ok { out := (plainOf items).toArray,
            streams := if strict then
                #[{ level := level, startBit := 0,
                    endBit := 8 * (fileOf level items stored).length,
                    storedCrc := stored, blocks := reportsOf level 32 items }]
              else #[] } := by
  have hw : ∀ it ∈ items, WF it.enc := fun it h => (hok it h).wf
  obtain ⟨hlen8, hlenle, hmod⟩ := blocks_length items hw
  have hslt : stored < 2 ^ 32 := by
    rw [hstored]
    exact UInt32.toNat_lt _
  have hflen : (fileOf level items stored).length =
      4 + (items.flatMap (fun it => blockBytes it.enc)).length + 10 := by
    simp only [fileOf, List.length_append, headerBytes_length, trailerBytes_length]
  have hne : (fileOf level items stored).isEmpty = false :=
    List.isEmpty_eq_false_iff.mpr (List.length_pos_iff.mp (by omega))
  unfold walkFile
  rw [hne]
  simp only [Bool.false_eq_true, if_false]
  have hbits : takeNat 32 (bytesToBits (fileOf level items stored)) =
      some (0x425A6830 + level,
        bitsOf items ++ (natToBits 48 eosMagic ++ natToBits 32 stored ++ [])) := by
    unfold fileOf
    rw [List.append_assoc, header_take level h9, bytesToBits_append, blocks_bits items hw,
      trailerBytes_bits, List.append_nil]
  rw [hbits]
  simp only [headerLevel_header level h1 h9]
  rw [decodeStreams]
  have hfuel : (fileOf level items stored).length + 1 =
      items.length + (((fileOf level items stored).length - items.length) + 1) := by omega
  rw [hfuel, decodeBlocks_items strict level items hok, decodeBlocks_eos _ _ _ _ _ hslt,
    if_pos (by rw [hstored])]
  simp only []
  have hpos : 0 + 32 + costOf items + 80 = 8 * (fileOf level items stored).length := by
    rw [hflen]
    omega
  have hpad : (8 - (0 + 32 + costOf items + 80) % 8) % 8 = 0 := by omega
  rw [hpad]
  simp only [List.drop_zero, Nat.add_zero, List.isEmpty_nil, if_true]
  cases strict
  · simp only [Bool.false_eq_true, if_false]
    have : takeNat 32 ([] : Bits) = none := rfl
    rw [this]
    simp
  · simp only [if_true, hpos]
    congr 1
    congr 1
    · simp
    · apply Array.toList_inj.mp
      simp

end LbzVerif.Lemmas.CompressFile
