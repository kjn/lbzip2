/-
  Lemmas.PrefixOptTable — the memoised tables of `Spec.Prefix.optSorted`
  contain exactly the values of the recursion `Lemmas.PrefixOpt.optN`.
-/
import LbzVerif.Spec.Prefix
import LbzVerif.Lemmas.PrefixOpt

namespace LbzVerif.Lemmas.PrefixOptTable
open LbzVerif.Spec.Prefix LbzVerif.Lemmas.PrefixOpt

/-- `F` on every suffix of `gs`, longest first. -/
def sufMap (F : List Nat → Option Nat) : List Nat → List (Option Nat)
  | [] => [F []]
  | g :: gs => F (g :: gs) :: sufMap F gs

theorem sufMap_head (F : List Nat → Option Nat) (gs : List Nat) :
    (sufMap F gs).headD none = F gs := by
  cases gs <;> rfl

theorem sufMap_congr (F G : List Nat → Option Nat) (gs : List Nat)
    (h : ∀ s, s.length ≤ gs.length → F s = G s) : sufMap F gs = sufMap G gs := by
  induction gs with
  | nil => simp [sufMap, h [] (Nat.le_refl _)]
  | cons g t ih =>
    simp only [sufMap]
    rw [h (g :: t) (Nat.le_refl _), ih (fun s hs => h s (by simp; omega))]

theorem row0_eq (d : Nat) (B : Nat → List Nat → Option Nat) (gs : List Nat) :
    row0 gs = sufMap (optRow d B 0) gs := by
  induction gs with
  | nil => rfl
  | cons g t ih => simp [row0, sufMap, optRow, ih]

theorem rowNone_eq (gs : List Nat) : rowNone gs = sufMap (fun _ => none) gs := by
  induction gs with
  | nil => rfl
  | cons g t ih => simp [rowNone, sufMap, ih]

theorem combine_eq (d : Nat) (B : Nat → List Nat → Option Nat) (m : Nat) (gs : List Nat) :
    combine d gs (sufMap (optRow d B m) gs) (sufMap (B (2 * (m + 1))) gs)
      = sufMap (optRow d B (m + 1)) gs := by
  induction gs with
  | nil => simp [combine, sufMap, optRow]
  | cons g t ih =>
    simp only [combine, sufMap, List.tail_cons, List.headD_cons, sufMap_head, optRow, ih]

/-- More open nodes than symbols left can never be closed. -/
theorem optRow_prune (d : Nat) (B : Nat → List Nat → Option Nat)
    (hB : ∀ m s, s.length < m → B m s = none) :
    ∀ gs m, gs.length < m → optRow d B m gs = none := by
  intro gs
  induction gs with
  | nil => intro m hm; cases m with
    | zero => omega
    | succ m => rfl
  | cons g t ih =>
    intro m hm
    cases m with
    | zero => omega
    | succ m =>
      simp only [optRow]
      rw [ih m (by simpa using hm), hB _ _ (by simp at hm ⊢; omega)]
      rfl

theorem optN_prune (L : Nat) : ∀ h m gs, gs.length < m → optN L h m gs = none := by
  intro h
  induction h with
  | zero => intro m gs hm; exact optRow_prune L _ (fun _ _ _ => rfl) gs m hm
  | succ h ih => intro m gs hm; exact optRow_prune _ _ ih gs m hm

/-- The list of rows `T` tabulates the value function `B` over the suffixes of
`g` (rows beyond the end of the list read as all-infeasible). -/
def TableOK (T : List (List (Option Nat))) (B : Nat → List Nat → Option Nat) (g : List Nat) : Prop :=
  ∀ j, T.getD j (rowNone g) = sufMap (B j) g

theorem buildRows_eq (d : Nat) (g : List Nat) (T : List (List (Option Nat)))
    (B : Nat → List Nat → Option Nat) (hT : TableOK T B g) :
    ∀ k m0, buildRows d g T k (m0 + 1) (sufMap (optRow d B m0) g)
      = (List.range k).map (fun i => sufMap (optRow d B (m0 + 1 + i)) g) := by
  intro k
  induction k with
  | zero => intro m0; rfl
  | succ k ih =>
    intro m0
    simp only [buildRows]
    rw [hT (2 * (m0 + 1)), combine_eq, ih (m0 + 1)]
    rw [List.range_succ_eq_map, List.map_cons, List.map_map]
    congr 1
    apply List.map_congr_left
    intro i _
    simp only [Function.comp]
    congr 2
    omega

theorem level_ok (d : Nat) (g : List Nat) (T : List (List (Option Nat)))
    (B : Nat → List Nat → Option Nat) (hT : TableOK T B g)
    (hB : ∀ m s, s.length < m → B m s = none) :
    TableOK (level d g T) (optRow d B) g := by
  intro j
  unfold level
  cases j with
  | zero => rw [List.getD_cons_zero]; exact row0_eq d B g
  | succ i =>
    rw [List.getD_cons_succ, row0_eq d B g, buildRows_eq d g T B hT g.length 0]
    rw [List.getD_eq_getElem?_getD, List.getElem?_map]
    by_cases hi : i < g.length
    · rw [List.getElem?_range hi]
      simp only [Option.map_some, Option.getD_some]
      congr 2
      omega
    · rw [List.getElem?_eq_none (by simpa using Nat.le_of_not_lt hi)]
      simp only [Option.map_none, Option.getD_none]
      rw [rowNone_eq]
      apply sufMap_congr
      intro s hs
      exact (optRow_prune d B hB s (i + 1) (by omega)).symm

theorem tableFrom_ok (L : Nat) (g : List Nat) : ∀ h, TableOK (tableFrom L g h) (optN L h) g := by
  intro h
  induction h with
  | zero =>
    have h0 : TableOK [] (fun _ _ => none) g := by
      intro j; simp [rowNone_eq]
    exact level_ok L g [] _ h0 (fun _ _ _ => rfl)
  | succ h ih => exact level_ok _ g _ _ ih (optN_prune L h)

theorem optSorted_eq (g : List Nat) (L : Nat) (hL : 1 ≤ L) :
    optSorted g L = optN L (L - 1) 2 g := by
  unfold optSorted
  rw [if_neg (by omega), tableFrom_ok L g (L - 1) 2, sufMap_head]

end LbzVerif.Lemmas.PrefixOptTable
