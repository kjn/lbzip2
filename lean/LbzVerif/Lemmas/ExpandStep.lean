/-
  Lemmas.ExpandStep — one iteration of `Model.Expand.go` on the level of the
  unread bits (`go_succ`, `go_eof`), the values of 16-bit chunks
  of 48- and 32-bit fields (`split48`, `split32`).
-/
import LbzVerif.Lemmas.ExpandBits
import LbzVerif.Lemmas.ExpandParse

namespace LbzVerif.Lemmas.ExpandStep
open LbzVerif.Model.Expand LbzVerif.Lemmas.RetrieveBits LbzVerif.Basic
open LbzVerif.Lemmas.ExpandBits LbzVerif.Lemmas.ExpandParse

/-- `go` once a word has been consumed: `r` = the answer of `Gen.parseStep`, `c2` = the bitstream after `bits_dump(16)`. -/
def after (m f : Nat) (r : Gen.ParseSt × Option Nat) (c2 : Cur) (acc : List UInt8) :
    Except Err (List UInt8) :=
  match r.2 with
  | none => go m f r.1 (if r.1.align then alignC c2 else c2) acc
  | some rv =>
    if rv = Gen.RV_OK then
      match blockAt r.1.hdBs100k r.1.hdCrc (if r.1.align then alignC c2 else c2) with
      | .error e => .error e
      | .ok (out, c4) => go m f r.1 c4 (acc ++ out)
    else if rv = Gen.RV_FINISH then
      finishCheck m r.1.garbage (if r.1.align then alignC c2 else c2) acc
    else .error (failCode rv)

def atEof (m : Nat) (p : Gen.ParseSt) (c : Cur) (acc : List UInt8) : Except Err (List UInt8) :=
  if (Gen.parseAtEof p).2 = Gen.RV_FINISH then finishCheck m (Gen.parseAtEof p).1.garbage c acc
  else .error (failCode (Gen.parseAtEof p).2)

theorem after_none (m f : Nat) (q : Gen.ParseSt) (c2 : Cur) (acc : List UInt8)
    (ha : q.align = false) : after m f (q, none) c2 acc = go m f q c2 acc := by
  simp only [after, ha, Bool.false_eq_true, if_false]

theorem after_none_align (m f : Nat) (q : Gen.ParseSt) (c2 : Cur) (acc : List UInt8)
    (ha : q.align = true) : after m f (q, none) c2 acc = go m f q (alignC c2) acc := by
  simp only [after, ha, if_true]

theorem after_ok (m f : Nat) (q : Gen.ParseSt) (c2 : Cur) (acc : List UInt8)
    (ha : q.align = false) :
    after m f (q, some 0) c2 acc =
      match blockAt q.hdBs100k q.hdCrc c2 with
      | .error e => .error e
      | .ok (out, c4) => go m f q c4 (acc ++ out) := by
  simp only [after, ha, Gen.RV_OK, Bool.false_eq_true, if_false, if_true]

theorem after_finish (m f : Nat) (q : Gen.ParseSt) (c2 : Cur) (acc : List UInt8)
    (ha : q.align = false) :
    after m f (q, some 2) c2 acc = finishCheck m q.garbage c2 acc := by
  simp (config := {decide := true}) only [after, ha, Bool.false_eq_true, if_false, if_true]

theorem after_err (m f : Nat) (q : Gen.ParseSt) (rv : Nat) (c2 : Cur) (acc : List UInt8)
    (h0 : rv ≠ Gen.RV_OK) (h2 : rv ≠ Gen.RV_FINISH) :
    after m f (q, some rv) c2 acc = .error (failCode rv) := by
  simp only [after, if_neg h0, if_neg h2]

theorem go_succ (m f : Nat) (p : Gen.ParseSt) (c : Cur) (acc : List UInt8) :
    go m (f + 1) p c acc =
      match need16 c with
      | none => atEof m p c acc
      | some c1 =>
        after m f (Gen.parseStep { p with align := false } (c1.v >>> 48)) (dumpC c1 16) acc := by
  rw [go]
  cases need16 c with
  | none => rfl
  | some c1 =>
    simp only [after]
    cases (Gen.parseStep { p with align := false } (c1.v >>> 48)).2 <;> rfl

theorem go_eof (m f : Nat) (p : Gen.ParseSt) (c : Cur) (acc : List UInt8) (inv : BufInv c.v c.w)
    (h : (bitsC c).length < 16) : go m (f + 1) p c acc = atEof m p c acc := by
  rw [go_succ]
  have := read16 c inv
  cases hn : need16 c with
  | none => rfl
  | some c1 =>
    rw [hn] at this
    simp only at this
    omega

theorem split32 (R : Bits) (h : 32 ≤ R.length) :
    takeNat 32 R =
      some (bitsToNat (R.take 16) * 2 ^ 16 + bitsToNat ((R.drop 16).take 16), R.drop 32) := by
  rw [Basic.takeNat_eq 32 R h, ← bitsToNat_take_add 16 16 R h]

theorem split48 (R : Bits) (h : 48 ≤ R.length) :
    takeNat 48 R = some (bitsToNat (R.take 16) * 2 ^ 32 + bitsToNat ((R.drop 16).take 16) * 2 ^ 16 +
      bitsToNat ((R.drop 32).take 16), R.drop 48) := by
  have e := bitsToNat_take_add 32 16 R h
  rw [bitsToNat_take_add 16 16 R (by omega)] at e
  rw [Basic.takeNat_eq 48 R h, show R.take 48 = R.take (32 + 16) from rfl, e]
  exact congrArg (fun x => some (x, R.drop 48)) (by omega)

/-- `(stored_crc << 16) | word` on `uint32_t`. -/
def join (hi lo : Nat) : Nat := ((((hi % 4294967296) <<< 16) % 4294967296) ||| lo) % 4294967296

theorem join_eq (hi lo : Nat) (hh : hi < 65536) (hl : lo < 65536) :
    join hi lo = hi * 65536 + lo := by
  unfold join
  rw [Nat.mod_eq_of_lt (by omega : hi < 4294967296)]
  exact shl16_or hi lo hh hl

theorem atEof0 (m : Nat) (p : Gen.ParseSt) (c : Cur) (acc : List UInt8) (hs : p.state = 0) :
    atEof m p c acc = finishCheck m 0 c acc := by
  unfold atEof
  rw [eof0 p hs]
  exact if_pos rfl

theorem atEof1 (m : Nat) (p : Gen.ParseSt) (c : Cur) (acc : List UInt8) (hs : p.state = 1) :
    atEof m p c acc = finishCheck m 16 c acc := by
  unfold atEof
  rw [eof1 p hs]
  exact if_pos rfl

end LbzVerif.Lemmas.ExpandStep
