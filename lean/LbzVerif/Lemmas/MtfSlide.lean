/-
  Lemmas.MtfSlide — the loops of decode.c `mtf_one` (sliding lists), all of them
  total (`some …`) under the stated index conditions: closed forms of the memory
  after `shiftUp`, `copyDown`, `rebuildLoop`; for `slideLoop` what it does to the
  logical list (the rows concatenated), which is right up to one stale cell, the
  hole, that every turn of the loop moves one row down.
-/
import LbzVerif.Model.MtfDec

namespace LbzVerif.Lemmas.MtfSlide
open LbzVerif.Model.MtfDec LbzVerif.Gen

theorem row_width : ROW_WIDTH = 16 := rfl
theorem slide_length : SLIDE_LENGTH = 8192 := rfl
theorem num_rows : NUM_ROWS = 16 := rfl
theorem cmap_base : CMAP_BASE = 7936 := rfl

/-- `imtf_slide[j]` (0 outside the array). -/
def cell (m : Array UInt8) (j : Nat) : UInt8 := m.getD j 0
/-- `imtf_row[i] - imtf_slide` (0 for `i ≥ NUM_ROWS`). -/
def R (row : List Nat) (i : Nat) : Nat := row.getD i 0

theorem cell_set (m : Array UInt8) (i : Nat) (v : UInt8) (h : i < m.size) (j : Nat) :
    cell (m.setIfInBounds i v) j = if j = i then v else cell m j := by
  simp only [cell, Array.getD_eq_getD_getElem?, Array.getElem?_setIfInBounds]
  by_cases hj : j = i
  · subst hj
    simp [h]
  · simp [hj, Ne.symm hj]

theorem R_set (row : List Nat) (i v : Nat) (h : i < row.length) (j : Nat) :
    R (row.set i v) j = if j = i then v else R row j := by
  simp only [R, List.getD_eq_getElem?_getD, List.getElem?_set]
  by_cases hj : j = i
  · subst hj
    simp [h]
  · simp [hj, Ne.symm hj]

theorem rd_eq (m : Array UInt8) (i : Nat) (h : i < m.size) : rd m i = some (cell m i) := by
  simp [rd, cell, Array.getD_eq_getD_getElem?, Array.getElem?_eq_getElem h]

theorem wr_eq (m : Array UInt8) (i : Nat) (v : UInt8) (h : i < m.size) :
    wr m i v = some (m.setIfInBounds i v) := by
  simp [wr, h]

theorem row_get (row : List Nat) (i : Nat) (h : i < row.length) : row[i]? = some (R row i) := by
  simp [R, List.getD_eq_getElem?_getD, List.getElem?_eq_getElem h]

theorem shiftUp_spec (base : Nat) : ∀ (nn : Nat) (m : Array UInt8), base + nn < m.size →
    ∃ m', shiftUp m base nn = some m' ∧ m'.size = m.size ∧
      ∀ j, cell m' j = if base < j ∧ j ≤ base + nn then cell m (j - 1) else cell m j := by
  intro nn
  induction nn with
  | zero =>
    intro m _
    refine ⟨m, rfl, rfl, ?_⟩
    intro j
    rw [if_neg (by omega)]
  | succ nn ih =>
    intro m h
    obtain ⟨m', h1, h2, h3⟩ := ih (m.setIfInBounds (base + nn + 1) (cell m (base + nn)))
      (by simp only [Array.size_setIfInBounds]; omega)
    refine ⟨m', ?_, ?_, ?_⟩
    · rw [shiftUp, rd_eq m _ (by omega)]
      dsimp only
      rw [wr_eq m _ _ (by omega)]
      exact h1
    · rw [h2, Array.size_setIfInBounds]
    · intro j
      rw [h3 j]
      simp only [cell_set m _ _ (show base + nn + 1 < m.size by omega)]
      by_cases hj : j = base + nn + 1
      · subst hj
        rw [if_neg (by omega), if_pos rfl, if_pos (by omega)]
        rfl
      · by_cases hin : base < j ∧ j ≤ base + nn
        · rw [if_pos hin, if_neg (by omega), if_pos (by omega)]
        · rw [if_neg hin, if_neg (by omega), if_neg (by omega)]

theorem copyDown_spec (bg : Nat) : ∀ (n : Nat) (m : Array UInt8) (kk : Nat),
    n ≤ kk → kk ≤ m.size → bg + n ≤ kk →
    ∃ m', copyDown m bg kk n = some (m', kk - n) ∧ m'.size = m.size ∧
      ∀ j, cell m' j = if kk - n ≤ j ∧ j < kk then cell m (bg + (j - (kk - n))) else cell m j := by
  intro n
  induction n with
  | zero =>
    intro m kk _ _ _
    refine ⟨m, rfl, rfl, ?_⟩
    intro j
    rw [if_neg (by omega)]
  | succ n ih =>
    intro m kk h1 h2 h3
    obtain ⟨m', e1, e2, e3⟩ := ih (m.setIfInBounds (kk - 1) (cell m (bg + n))) (kk - 1)
      (by omega) (by simp only [Array.size_setIfInBounds]; omega) (by omega)
    refine ⟨m', ?_, ?_, ?_⟩
    · rw [copyDown]
      have hk : ¬ kk = 0 := by omega
      simp only [hk, if_false]
      rw [rd_eq m _ (by omega)]
      dsimp only
      rw [wr_eq m _ _ (by omega)]
      dsimp only
      rw [e1]
      congr 2
      omega
    · rw [e2, Array.size_setIfInBounds]
    · intro j
      rw [e3 j]
      simp only [cell_set m _ _ (show kk - 1 < m.size by omega)]
      by_cases hj : j = kk - 1
      · subst hj
        rw [if_neg (by omega), if_pos rfl, if_pos (by omega)]
        congr 1
        omega
      · by_cases hin : kk - 1 - n ≤ j ∧ j < kk - 1
        · rw [if_pos hin, if_neg (by omega), if_pos (by omega)]
          congr 2
          omega
        · rw [if_neg hin, if_neg (by omega), if_neg (by omega)]

theorem rebuildLoop_spec : ∀ (rr : Nat) (m : Array UInt8) (row : List Nat),
    rr ≤ 16 → m.size = 8192 → row.length = 16 →
    (∀ i, i < rr → R row i ≤ 7936 + 16 * i) →
    ∃ m' row', rebuildLoop m row (7936 + 16 * rr) rr = some (m', row') ∧
      m'.size = 8192 ∧ row'.length = 16 ∧
      (∀ i, R row' i = if i < rr then 7936 + 16 * i else R row i) ∧
      (∀ j, 7936 + 16 * rr ≤ j → cell m' j = cell m j) ∧
      (∀ i t, i < rr → t < 16 → cell m' (7936 + 16 * i + t) = cell m (R row i + t)) := by
  intro rr
  induction rr with
  | zero =>
    intro m row _ hm hr _
    refine ⟨m, row, rfl, hm, hr, ?_, ?_, ?_⟩
    · intro i; simp
    · intro j _; rfl
    · intro i t hi; omega
  | succ rr ih =>
    intro m row hrr hm hr hH
    have hbg := hH rr (by omega)
    have hset := R_set row rr (7936 + 16 * rr) (by omega)
    obtain ⟨m1, c1, c2, c3⟩ := copyDown_spec (R row rr) 16 m (7936 + 16 * (rr + 1))
      (by omega) (by omega) (by omega)
    rw [show 7936 + 16 * (rr + 1) - 16 = 7936 + 16 * rr by omega] at c1 c3
    obtain ⟨m', row', e1, e2, e3, e4, e5, e6⟩ := ih m1 (row.set rr (7936 + 16 * rr))
      (by omega) (by rw [c2, hm]) (by rw [List.length_set, hr])
      (by
        intro i hi
        rw [hset, if_neg (by omega)]
        exact hH i (by omega))
    refine ⟨m', row', ?_, e2, e3, ?_, ?_, ?_⟩
    · rw [rebuildLoop, row_get row rr (by omega)]
      simp only [row_width]
      rw [c1]
      exact e1
    · intro i
      rw [e4 i, hset]
      by_cases h1 : i < rr
      · rw [if_pos h1, if_pos (by omega)]
      · by_cases h3 : i = rr
        · rw [if_neg h1, if_pos h3, if_pos (by omega), h3]
        · rw [if_neg h1, if_neg h3, if_neg (by omega)]
    · intro j hj
      rw [e5 j (by omega), c3 j, if_neg (by omega)]
    · intro i t hi ht
      by_cases h1 : i < rr
      · have hb := hH i (by omega)
        rw [e6 i t h1 ht, hset, if_neg (by omega), c3, if_neg (by omega)]
      · have h3 : i = rr := by omega
        subst h3
        rw [e5 _ (by omega), c3, if_pos (by omega)]
        congr 2
        omega

/-- The logical list (position `k` is the cell `k % 16` of row `k / 16`, as in `absAt`) of the memory
`m` with row offsets `r`, with a hole at `h`: below it the list as it was, above it the list as it
is to be. -/
structure Holed (old tgt : Nat → UInt8) (h : Nat) (m : Array UInt8) (r : Nat → Nat) : Prop where
  lo : ∀ k, k < h → cell m (r (k / 16) + k % 16) = old k
  hi : ∀ k, h < k → k < 256 → cell m (r (k / 16) + k % 16) = tgt k

/-- One turn of the slide loop moves the hole from the head of row `l + 1` to the head of row `l`:
row `l` starts one cell lower, so its cells `1 … 15` are the old cells `0 … 14` without any copying,
and its old last cell is copied into the hole. -/
theorem hole_step {old tgt : Nat → UInt8} {m m' : Array UInt8} {r r' : Nat → Nat} {l : Nat}
    (hbelow : ∀ q, q < l → r q + 16 ≤ r l) (hgap : r l + 15 ≤ r (l + 1))
    (habove : ∀ q, l + 1 < q → q < 16 → r (l + 1) < r q)
    (hdec : r' l + 1 = r l) (hsame : ∀ i, i ≠ l → r' i = r i)
    (hm' : ∀ j, cell m' j = if j = r (l + 1) then cell m (r l + 15) else cell m j)
    (htgt : ∀ k, 16 * l < k → k ≤ 16 * (l + 1) → tgt k = old (k - 1))
    (H : Holed old tgt (16 * (l + 1)) m r) : Holed old tgt (16 * l) m' r' := by
  refine ⟨fun k hk => ?_, fun k hk hk256 => ?_⟩
  · have := hbelow (k / 16) (by omega)
    rw [← H.lo k (by omega), hsame _ (by omega), hm', if_neg (by omega)]
  · rw [hm']
    rcases Nat.lt_trichotomy (k / 16) (l + 1) with hlt | heq | hgt
    · -- row `l`, cell `u ≥ 1`: the old cell `u - 1`
      have hq : k / 16 = l := by omega
      rw [hq, if_neg (by omega), htgt k hk (by omega), ← H.lo (k - 1) (by omega),
        show (k - 1) / 16 = l by omega]
      congr 1
      omega
    · rw [heq, hsame _ (by omega)]
      by_cases hu : k % 16 = 0
      · -- the hole: filled from the old last cell of row `l`
        rw [if_pos (by omega), htgt k hk (by omega), ← H.lo (k - 1) (by omega),
          show (k - 1) / 16 = l by omega, show (k - 1) % 16 = 15 by omega]
      · rw [if_neg (by omega), ← H.hi k (by omega) hk256, heq]
    · have := habove _ hgt (by omega)
      rw [hsame _ (by omega), if_neg (by omega), ← H.hi k (by omega) hk256]

theorem slideLoop_hole {old tgt : Nat → UInt8} : ∀ (lno : Nat) (m : Array UInt8) (row : List Nat),
    lno < 16 → m.size = 8192 → row.length = 16 →
    (∀ i j, i < j → j < lno → R row i + 16 ≤ R row j) →
    (∀ i, i < lno → R row i + 15 ≤ R row lno) →
    (∀ q, lno < q → q < 16 → R row lno < R row q) →
    (∀ i, i < 16 → R row i + 16 ≤ 8192) →
    (1 ≤ lno → 1 ≤ R row 0) →
    (∀ k, 0 < k → k ≤ 16 * lno → tgt k = old (k - 1)) →
    Holed old tgt (16 * lno) m (R row) →
    ∃ m' row', slideLoop m row (R row lno) lno = some (m', row', R row' 0) ∧
      m'.size = 8192 ∧ row'.length = 16 ∧
      (∀ i, R row' i = if i < lno then R row i - 1 else R row i) ∧ (lno = 0 → row' = row) ∧
      Holed old tgt 0 m' (R row') := by
  intro lno
  induction lno with
  | zero =>
    intro m row _ hm hr _ _ _ _ _ _ H
    exact ⟨m, row, rfl, hm, hr, fun i => by simp, fun _ => rfl, H⟩
  | succ lno ih =>
    intro m row hl hm hr hA hB hC hD hZ hT H
    have hr1 : 1 ≤ R row lno := by
      by_cases h : lno = 0
      · subst h
        exact hZ (by omega)
      · have := hA 0 lno (by omega) (by omega)
        omega
    have hB' := hB lno (by omega)
    have hD1 := hD (lno + 1) (by omega)
    have hR1 := R_set row lno (R row lno - 1) (by omega)
    have hgs := cell_set m (R row (lno + 1)) (cell m (R row lno - 1 + 16)) (by omega)
    have hstep : Holed old tgt (16 * lno) (m.setIfInBounds (R row (lno + 1)) (cell m (R row lno - 1 + 16)))
        (R (row.set lno (R row lno - 1))) :=
      hole_step (fun q hq => hA q lno hq (by omega)) hB' (fun q hq hq16 => hC q hq hq16)
        (by rw [hR1, if_pos rfl]; omega) (fun i hi => by rw [hR1, if_neg hi])
        (fun j => by rw [hgs j, show R row lno - 1 + 16 = R row lno + 15 by omega])
        (fun k h1 h2 => hT k (by omega) (by omega)) H
    obtain ⟨m', row', e1, e2, e3, e4, _, e6⟩ :=
      ih (m.setIfInBounds (R row (lno + 1)) (cell m (R row lno - 1 + 16)))
        (row.set lno (R row lno - 1)) (by omega)
        (by rw [Array.size_setIfInBounds, hm]) (by rw [List.length_set, hr])
        (by
          intro i j hij hj
          rw [hR1 i, hR1 j, if_neg (by omega), if_neg (by omega)]
          exact hA i j hij (by omega))
        (by
          intro i hi
          have := hA i lno hi (by omega)
          rw [hR1 i, hR1 lno, if_neg (by omega), if_pos rfl]
          omega)
        (by
          intro q hq hq16
          rw [hR1 lno, if_pos rfl, hR1 q, if_neg (by omega)]
          by_cases h : q = lno + 1
          · subst h; omega
          · have := hC q (by omega) hq16
            omega)
        (by
          intro i hi
          have := hD i hi
          rw [hR1 i]
          split <;> omega)
        (by
          intro h
          rw [hR1 0, if_neg (by omega)]
          exact hZ (by omega))
        (fun k h1 h2 => hT k h1 (by omega)) hstep
    rw [hR1 lno, if_pos rfl] at e1
    refine ⟨m', row', ?_, e2, e3, ?_, nofun, e6⟩
    · rw [slideLoop, row_get row lno (by omega)]
      have hne : ¬ R row lno = 0 := by omega
      simp only [hne, if_false, row_width]
      rw [rd_eq m _ (by omega), row_get _ (lno + 1) (by rw [List.length_set]; omega)]
      simp only
      rw [hR1 (lno + 1), if_neg (by omega), wr_eq m _ _ (by omega)]
      exact e1
    · intro i
      rw [e4 i, hR1 i]
      by_cases h1 : i < lno
      · rw [if_pos h1, if_neg (by omega), if_pos (by omega)]
      · by_cases h3 : i = lno
        · rw [if_neg h1, if_pos h3, if_pos (by omega), h3]
        · rw [if_neg h1, if_neg h3, if_neg (by omega)]

end LbzVerif.Lemmas.MtfSlide
