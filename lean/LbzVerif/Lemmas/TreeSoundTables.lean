/-
  Lemmas.TreeSoundTables — what `Model.Canon.mkTree` (decode.c `make_tree`)
  puts into `base[]`, `count[]`, `perm[]` and the complete part of `start[]`,
  entry by entry, in terms of the weighted counts `TransmitSym.W` (`S`, `I` at
  the weights `width`, `1`), and bounds for the other entries of `start[]`.
-/
import LbzVerif.Model.Canon
import LbzVerif.Lemmas.PrefixTree
import LbzVerif.Lemmas.TreeSoundArith

namespace LbzVerif.Lemmas.TreeSoundTables
open LbzVerif.Model.Canon
open LbzVerif.Lemmas.TransmitSym LbzVerif.Lemmas.TreeSoundArith LbzVerif.Lemmas.PrefixTree

theorem M64_eq : M64 = 2 ^ 64 := rfl

theorem ljLoop_getD (lens : List Nat) : ∀ n k sofar t, t < n →
    sofar = W (fun x => 2 ^ (64 - x)) lens k % M64 →
    (ljLoop lens n k sofar).getD t 0 = W (fun x => 2 ^ (64 - x)) lens (k + t) % M64 := by
  intro n
  induction n with
  | zero => intro k s t h; omega
  | succ n ih =>
    intro k s t ht hs
    rw [ljLoop]
    cases t with
    | zero => rw [List.getD_cons_zero]; exact hs
    | succ t =>
      rw [List.getD_cons_succ, ih (k + 1) _ t (by omega)]
      · congr 2; omega
      · rw [hs, W_succ, cnt_eq, Nat.shiftLeft_eq, Nat.mod_add_mod, Nat.add_mod_mod]

open Classical in
theorem sentinel_getD (lens : List Nat) : ∀ (k : Nat) (B : List Nat) (j : Nat), 1 ≤ j → j ≤ k →
    k < B.length →
    (sentinel lens k B).getD j 0 =
      if (∀ i, j ≤ i → i ≤ k → cnt lens i = 0) then M64 - 1 else B.getD j 0 := by
  intro k
  induction k with
  | zero => intro B j h1 h2; omega
  | succ k ih =>
    intro B j h1 h2 hB
    unfold sentinel
    by_cases hc : cnt lens (k + 1) = 0
    · rw [if_pos hc]
      by_cases hj : j = k + 1
      · subst hj
        rw [sentinel_getD_above lens k _ (k + 1) (by omega)]
        have hcond : ∀ i, k + 1 ≤ i → i ≤ k + 1 → cnt lens i = 0 := by
          intro i a b
          have : i = k + 1 := by omega
          rw [this]; exact hc
        rw [if_pos hcond]
        simp [List.getD_eq_getElem?_getD, hB]
      · rw [ih (B.set (k + 1) (M64 - 1)) j h1 (by omega) (by rw [List.length_set]; omega)]
        rw [ListAux.getD_set_ne _ _ _ _ _ (by omega)]
        by_cases hall : ∀ i, j ≤ i → i ≤ k → cnt lens i = 0
        · rw [if_pos hall, if_pos]
          intro i a b
          by_cases hi : i = k + 1
          · rw [hi]; exact hc
          · exact hall i a (by omega)
        · rw [if_neg hall, if_neg]
          intro h
          exact hall (fun i a b => h i a (by omega))
    · rw [if_neg hc, if_neg]
      intro h
      exact hc (h (k + 1) h2 (Nat.le_refl _))

open Classical in
/-- `base[k]` for `1 ≤ k ≤ 20`: the sentinel `UINT64_MAX` above the longest
code, the left-justified band boundary otherwise. -/
theorem base_getD (lens : List Nat) (h0 : cntL lens 0 = 0) (k : Nat) (k1 : 1 ≤ k) (k20 : k ≤ 20) :
    (mkBase lens).getD k 0 =
      if TailZero lens k then M64 - 1 else W (fun x => 2 ^ (64 - x)) lens k % M64 := by
  unfold mkBase
  have h20 : MAXL = 20 := rfl
  simp only [h20]
  have hlen : ((0 :: (ljLoop lens 20 1 0 ++ [0])).set (20 + 1) (M64 - 1)).length = 22 := by
    simp [ljLoop_length]
  rw [sentinel_getD lens 20 _ k k1 k20 (by rw [hlen]; omega)]
  have hiff : (∀ i, k ≤ i → i ≤ 20 → cnt lens i = 0) ↔ TailZero lens k := Iff.rfl
  by_cases ht : TailZero lens k
  · rw [if_pos (hiff.mpr ht), if_pos ht]
  · rw [if_neg (fun h => ht (hiff.mp h)), if_neg ht]
    rw [ListAux.getD_set_ne _ _ _ _ _ (by omega)]
    obtain ⟨m, rfl⟩ : ∃ m, k = m + 1 := ⟨k - 1, by omega⟩
    rw [List.getD_cons_succ]
    have hm : m < (ljLoop lens 20 1 0).length := by rw [ljLoop_length]; omega
    rw [List.getD_eq_getElem?_getD, List.getElem?_append_left hm, ← List.getD_eq_getElem?_getD]
    rw [ljLoop_getD lens 20 1 0 m (by omega) (by rw [W_one _ lens h0, Nat.zero_mod])]
    congr 2; omega

theorem cumLoop_getD (lens : List Nat) : ∀ n k cum t, t < n → cum = I lens k →
    (cumLoop lens n k cum).getD t 0 = I lens (k + t) := by
  intro n
  induction n with
  | zero => intro k c t h; omega
  | succ n ih =>
    intro k c t ht hc
    rw [cumLoop]
    cases t with
    | zero => rw [List.getD_cons_zero]; exact hc
    | succ t =>
      rw [List.getD_cons_succ, ih (k + 1) _ t (by omega)]
      · congr 1; omega
      · rw [hc, I_succ, cnt_eq]

theorem count_getD (lens : List Nat) (h0 : cntL lens 0 = 0) (k : Nat) (k1 : 1 ≤ k) (k20 : k ≤ 20) :
    (mkCount lens).getD k 0 = I lens k := by
  unfold mkCount
  obtain ⟨m, rfl⟩ : ∃ m, k = m + 1 := ⟨k - 1, by omega⟩
  rw [List.getD_cons_succ]
  have h20 : MAXL = 20 := rfl
  rw [h20, cumLoop_getD lens 20 1 0 m (by omega) (W_one _ lens h0).symm]
  congr 1; omega

theorem mkPerm_eq (lens : List Nat) :
    mkPerm lens = ((List.range' 1 20).flatMap (blk lens)).map (renumber lens.length) := by
  unfold mkPerm
  have h20 : MAXL = 20 := rfl
  rw [h20, List.map_flatMap, ← ListAux.range_succ_map, List.flatMap_map]
  rfl

theorem perm_getD (lens : List Nat) (h0 : cntL lens 0 = 0) (l r i : Nat) (l1 : 1 ≤ l) (l20 : l ≤ 20)
    (hi : (blk lens l)[r]? = some i) :
    (mkPerm lens)[I lens l + r]? = some (renumber lens.length i) := by
  rw [mkPerm_eq, List.getElem?_map]
  obtain ⟨m, rfl⟩ : ∃ m, l = 1 + m := ⟨l - 1, by omega⟩
  rw [I_one_add lens h0, ListAux.flatMap_range'_index _ _ (blk_length lens) m 1 20 r (by omega)
    (blk_length lens _ ▸ (List.getElem?_eq_some_iff.mp hi).1), hi]
  rfl

theorem inner_length {α : Type} (bl : List Nat) (n : Nat) (E : Nat → α) :
    (bl.flatMap (fun s => List.replicate n (E s))).length = bl.length * n := by
  rw [ListAux.length_flatMap_const _ n fun _ => List.length_replicate, Nat.mul_comm]

theorem inner_index {α : Type} (bl : List Nat) (n : Nat) (E : Nat → α) : ∀ r u, u < n →
    (bl.flatMap (fun s => List.replicate n (E s)))[r * n + u]? = (bl[r]?).map E := by
  induction bl with
  | nil => intro r u _; simp
  | cons s t ih =>
    intro r u hu
    rw [List.flatMap_cons]
    cases r with
    | zero =>
      rw [Nat.zero_mul, Nat.zero_add, List.getElem?_append_left (by rw [List.length_replicate]; exact hu),
        List.getElem?_replicate, if_pos hu]
      rfl
    | succ r =>
      rw [List.getElem?_append_right (by rw [List.length_replicate, Nat.succ_mul]; omega),
        List.length_replicate]
      have : (r + 1) * n + u - n = r * n + u := by rw [Nat.succ_mul]; omega
      rw [this, ih r u hu]
      rfl

theorem outer_length {α : Type} (lens : List Nat) (Wf : Nat → Nat) (Ef : Nat → Nat → α) (k a : Nat) :
    ((List.range' a k).flatMap (fun l => (blk lens l).flatMap
        (fun s => List.replicate (Wf l) (Ef l s)))).length =
      ((List.range' a k).map (fun j => cntL lens j * Wf j)).sum := by
  rw [List.length_flatMap]
  congr 1
  exact List.map_congr_left fun l _ => by rw [inner_length, blk_length]

theorem outer_index {α : Type} (lens : List Nat) (Wf : Nat → Nat) (Ef : Nat → Nat → α)
    (t a k r u : Nat) (hk : t < k) (hr : r < cntL lens (a + t)) (hu : u < Wf (a + t)) :
    ((List.range' a k).flatMap (fun l => (blk lens l).flatMap
        (fun s => List.replicate (Wf l) (Ef l s))))[
      ((List.range' a t).map (fun j => cntL lens j * Wf j)).sum + r * Wf (a + t) + u]? =
    ((blk lens (a + t))[r]?).map (Ef (a + t)) := by
  have hb : r * Wf (a + t) + u < cntL lens (a + t) * Wf (a + t) := by
    have : (r + 1) * Wf (a + t) ≤ cntL lens (a + t) * Wf (a + t) := Nat.mul_le_mul_right _ hr
    rw [Nat.succ_mul] at this
    omega
  rw [Nat.add_assoc, ListAux.flatMap_range'_index _ (fun j => cntL lens j * Wf j)
    (fun l => by rw [inner_length, blk_length]) t a k _ hk hb]
  exact inner_index _ _ _ r u hu

/-- Entry of a complete `start[]` slot. -/
def startEntry (n l s : Nat) : Nat := ((renumber n s <<< 5) ||| l) % 2 ^ 16

theorem startFull_eq (lens : List Nat) :
    startFull lens = (List.range' 1 10).flatMap (fun l => (blk lens l).flatMap
      (fun s => List.replicate (2 ^ (10 - l)) (startEntry lens.length l s))) := by
  unfold startFull
  have hsw : SW = 10 := rfl
  rw [hsw, ← ListAux.range_succ_map, List.flatMap_map]
  apply ListAux.flatMap_congr'
  intro j _
  show (symsOfLen lens (j + 1)).flatMap _ = (blk lens (j + 1)).flatMap _
  apply ListAux.flatMap_congr'
  intro s _
  rw [Nat.one_shiftLeft]
  rfl

theorem startFull_length (lens : List Nat) (h0 : cntL lens 0 = 0) :
    (startFull lens).length = W (fun x => 2 ^ (10 - x)) lens 11 := by
  rw [startFull_eq, outer_length, show (11 : Nat) = 1 + 10 by rfl, W_add, W_one _ lens h0, Nat.zero_add]

theorem startFull_getElem (lens : List Nat) (h0 : cntL lens 0 = 0) (l r u i : Nat) (l1 : 1 ≤ l)
    (l10 : l ≤ 10) (hr : r < cntL lens l) (hu : u < 2 ^ (10 - l)) (hi : (blk lens l)[r]? = some i) :
    (startFull lens)[W (fun x => 2 ^ (10 - x)) lens l + r * 2 ^ (10 - l) + u]? =
      some (startEntry lens.length l i) := by
  obtain ⟨m, rfl⟩ : ∃ m, l = 1 + m := ⟨l - 1, by omega⟩
  rw [startFull_eq, W_add, W_one _ lens h0, Nat.zero_add]
  rw [outer_index lens (fun l => 2 ^ (10 - l)) (fun l s => startEntry lens.length l s) m 1 10 r u
    (by omega) hr hu, hi]
  rfl

/-- The walk `while (v >= base[k+1]) k++` stops exactly at `L`. -/
structure Stop (B : List Nat) (v L : Nat) : Prop where
  below : ∀ j, j < L → B.getD (j + 1) 0 ≤ v
  above : v < B.getD (L + 1) 0

theorem walkUp_eq (B : List Nat) (v L : Nat) (h : Stop B v L) : ∀ fuel k, k ≤ L → L - k < fuel →
    walkUp B v fuel k = L := by
  intro fuel
  induction fuel with
  | zero => intro k _ h2; omega
  | succ f ih =>
    intro k h1 h2
    unfold walkUp
    by_cases hk : k = L
    · subst hk
      rw [if_neg (by have := h.above; omega)]
    · rw [if_pos (h.below k (by omega))]
      exact ih (k + 1) (by omega) (by omega)

theorem walkUp_ge (B : List Nat) (v : Nat) : ∀ fuel k, k ≤ walkUp B v fuel k := by
  intro fuel
  induction fuel with
  | zero => intro k; exact Nat.le_refl _
  | succ f ih =>
    intro k
    unfold walkUp
    split
    · have := ih (k + 1); omega
    · exact Nat.le_refl _

theorem walkUp_le_above (B : List Nat) (v v' L : Nat) (hv : v ≤ v') (ha : v' < B.getD (L + 1) 0) :
    ∀ fuel k, k ≤ L → walkUp B v fuel k ≤ L := by
  intro fuel
  induction fuel with
  | zero => intro k hk; exact hk
  | succ f ih =>
    intro k hk
    unfold walkUp
    split
    · rename_i hge
      have : k ≠ L := by
        intro e
        rw [e] at hge
        omega
      exact ih (k + 1) (by omega)
    · exact hk

/- The incomplete `start[]` entries are used only as lower bounds on the code length of the
windows that index them: each is at least the level the loop started from (`startRest_ge`) and
at most the level of any window above the codes walked so far (`startRest_le`). -/
theorem startRest_ge (B : List Nat) : ∀ n code k t, t < n → k ≤ (startRest B n code k).getD t 0 := by
  intro n
  induction n with
  | zero => intro code k t h; omega
  | succ n ih =>
    intro code k t ht
    rw [startRest]
    cases t with
    | zero => rw [List.getD_cons_zero]; exact walkUp_ge _ _ _ _
    | succ t =>
      rw [List.getD_cons_succ]
      exact Nat.le_trans (walkUp_ge _ _ _ _) (ih (code + 1) _ t (by omega))

theorem startRest_le (B : List Nat) (v' L : Nat) (ha : v' < B.getD (L + 1) 0) :
    ∀ n code k t, t < n → k ≤ L →
      (∀ c, code ≤ c → c ≤ code + t → (c <<< (64 - SW)) % M64 ≤ v') →
      (startRest B n code k).getD t 0 ≤ L := by
  intro n
  induction n with
  | zero => intro code k t h; omega
  | succ n ih =>
    intro code k t ht hk hw
    rw [startRest]
    have h0 := walkUp_le_above B _ v' L (hw code (Nat.le_refl _) (by omega)) ha (MAXL + 1) k hk
    cases t with
    | zero => rw [List.getD_cons_zero]; exact h0
    | succ t =>
      rw [List.getD_cons_succ]
      exact ih (code + 1) _ t (by omega) h0 fun c h1 h2 => hw c (by omega) (by omega)

theorem perm_length (lens : List Nat) (hr : ∀ l ∈ lens, 1 ≤ l ∧ l ≤ 20) :
    (mkPerm lens).length = lens.length := by
  rw [mkPerm_eq, List.length_map, List.length_flatMap, funext (blk_length lens),
    ← I_one_add lens (cntL_zero lens fun x hx => (hr x hx).1)]
  refine (W_top _ lens _ fun x hx => ?_).trans ?_
  · have := (hr x hx).2
    omega
  · rw [List.map_const', List.sum_replicate_nat, Nat.mul_one]

end LbzVerif.Lemmas.TreeSoundTables
