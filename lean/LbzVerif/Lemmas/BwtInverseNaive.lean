/-
  Lemmas.BwtInverseNaive — the rotation-sort BWT of `Model.Compress.naiveBwt`
  satisfies the contract `BwtOK` for EVERY non-empty block (`naiveBwt_ok`): the
  format's inverse BWT (`Spec.Bzip2.ibwt`, the oracle's stage) maps the last
  column of the sorted rotations and the row of rotation 0 back to the block,
  and the last column contains only bytes of the block.

  The index-level insertion sort of `naiveBwt` (comparator `rotLe` over the array
  with `% n` indexing) sorts the rotations `rotN i T` by `key`; the sorted
  rotations form a `Matrix` in the sense of Lemmas.BwtInverseLF (closed under
  rotation because `rotr (rotN (i+1) T) = rotN i T` and `rotr T = rotN (n-1) T`),
  so `ibwt_matrix` applies.
-/
import LbzVerif.Model.Compress
import LbzVerif.Lemmas.BwtInverseLF
import LbzVerif.Lemmas.SpecIbwtLink
import LbzVerif.Lemmas.SortBy

namespace LbzVerif.Lemmas.BwtInverse
open LbzVerif LbzVerif.Model.Compress
open LbzVerif.Spec.Ibwt (insertBy isort)

def rotN : Nat → List UInt8 → List UInt8
  | 0, r => r
  | i + 1, r => rotl (rotN i r)

theorem rotN_eq (T : List UInt8) : ∀ i, i ≤ T.length → rotN i T = T.drop i ++ T.take i := by
  intro i
  induction i with
  | zero => intro _; simp [rotN]
  | succ i ih =>
    intro hi
    have hlt : i < T.length := by omega
    rw [rotN, ih (by omega), List.drop_eq_getElem_cons hlt]
    simp only [List.cons_append, rotl, List.append_assoc]
    rw [List.take_append_getElem hlt]

theorem rotN_length (T : List UInt8) : ∀ i, (rotN i T).length = T.length := by
  intro i
  induction i with
  | zero => rfl
  | succ i ih => rw [rotN, rotl_length, ih]

theorem rotN_full (T : List UInt8) : rotN T.length T = T := by
  rw [rotN_eq T _ (Nat.le_refl _)]; simp

theorem rotN_ne (T : List UInt8) (h : T ≠ []) (i : Nat) : rotN i T ≠ [] := by
  intro h0
  have := rotN_length T i
  rw [h0] at this
  exact h (List.eq_nil_of_length_eq_zero this.symm)

/-- byte `j` of rotation `i` is what `naiveBwt` reads from the array -/
theorem rotN_getD (T : List UInt8) (i j : Nat) (hi : i < T.length) (hj : j < T.length) :
    (rotN i T).getD j 0 = T.toArray.getD ((i + j) % T.length) 0 := by
  rw [rotN_eq T i (by omega)]
  have hA : ∀ p, T.toArray.getD p 0 = T.getD p 0 := by
    intro p; simp [Array.getD_eq_getD_getElem?, List.getD_eq_getElem?_getD]
  rw [hA]
  simp only [List.getD_eq_getElem?_getD]
  by_cases hc : j < T.length - i
  · rw [List.getElem?_append_left (by simp only [List.length_drop]; exact hc),
      List.getElem?_drop, Nat.mod_eq_of_lt (by omega)]
  · rw [List.getElem?_append_right (by simp only [List.length_drop]; omega)]
    simp only [List.length_drop]
    have hm : (i + j) % T.length = i + j - T.length := by
      rw [Nat.mod_eq_sub_mod (by omega), Nat.mod_eq_of_lt (by omega)]
    rw [hm, List.getElem?_take_of_lt (by omega)]
    congr 2
    omega

theorem getLastD_eq_getD (r : List UInt8) (n : Nat) (hn : 1 ≤ n) (h : r.length = n) :
    r.getLastD 0 = r.getD (n - 1) 0 := by
  have hne : r ≠ [] := List.ne_nil_of_length_pos (by omega)
  rw [List.getLastD_eq_getLast?, List.getLast?_eq_some_getLast hne, List.getLast_eq_getElem]
  simp [List.getD_eq_getElem?_getD, h, List.getElem?_eq_getElem (show n - 1 < r.length by omega)]

theorem rotLe_lex (T : List UInt8) (i k : Nat) (hi : i < T.length) (hk : k < T.length) :
    ∀ (fuel j : Nat), fuel + j = T.length →
      rotLe T.toArray T.length i k fuel j =
        Spec.Ibwt.lexLe ((rotN i T).drop j) ((rotN k T).drop j) := by
  intro fuel
  induction fuel with
  | zero =>
    intro j hj
    rw [List.drop_of_length_le (by rw [rotN_length]; omega)]
    simp [rotLe, Spec.Ibwt.lexLe]
  | succ fuel ih =>
    intro j hj
    have hjl : j < T.length := by omega
    have h1 : j < (rotN i T).length := by rw [rotN_length]; exact hjl
    have h2 : j < (rotN k T).length := by rw [rotN_length]; exact hjl
    have g1 : (rotN i T)[j] = T.toArray.getD ((i + j) % T.length) 0 := by
      rw [← rotN_getD T i j hi hjl]
      simp [List.getD_eq_getElem?_getD, List.getElem?_eq_getElem h1]
    have g2 : (rotN k T)[j] = T.toArray.getD ((k + j) % T.length) 0 := by
      rw [← rotN_getD T k j hk hjl]
      simp [List.getD_eq_getElem?_getD, List.getElem?_eq_getElem h2]
    rw [List.drop_eq_getElem_cons h1, List.drop_eq_getElem_cons h2]
    simp only [rotLe, Spec.Ibwt.lexLe, g1, g2]
    rw [ih (j + 1) (by omega)]

theorem rotLe_iff (T : List UInt8) (i k : Nat) (hi : i < T.length) (hk : k < T.length) :
    rotLe T.toArray T.length i k T.length 0 = true ↔ key (rotN i T) ≤ key (rotN k T) := by
  rw [rotLe_lex T i k hi hk T.length 0 (by omega)]
  simp only [List.drop_zero]
  exact lexLe_iff_key _ _ (by rw [rotN_length, rotN_length])

def order (T : List UInt8) : List Nat :=
  (List.range T.length).foldr (insertRot T.toArray T.length) []

theorem insertRot_eq (a : Array UInt8) (n i : Nat) (l : List Nat) :
    insertRot a n i l = insertBy (fun i k => rotLe a n i k n 0) i l := by
  induction l with
  | nil => rfl
  | cons k ks ih => simp only [insertRot, insertBy, ih]

theorem order_eq (T : List UInt8) :
    order T = isort (fun i k => rotLe T.toArray T.length i k T.length 0) (List.range T.length) := by
  unfold order
  induction List.range T.length with
  | nil => rfl
  | cons x xs ih => rw [List.foldr_cons, isort, insertRot_eq, ih]

theorem order_perm (T : List UInt8) : (order T).Perm (List.range T.length) := by
  rw [order_eq]; exact SortBy.isort_perm _ _

theorem order_sorted (T : List UInt8) :
    (order T).Pairwise (fun x y => key (rotN x T) ≤ key (rotN y T)) := by
  rw [order_eq]
  apply SortBy.isort_sorted (R := fun x y => key (rotN x T) ≤ key (rotN y T))
    (fun _ _ _ => Nat.le_trans)
  · intro x hx y hy h
    exact (rotLe_iff T x y (List.mem_range.mp hx) (List.mem_range.mp hy)).mp h
  · intro x hx y hy h
    have := mt (rotLe_iff T x y (List.mem_range.mp hx) (List.mem_range.mp hy)).mpr (by simp [h])
    omega

def rotMatrix (T : List UInt8) : List (List UInt8) := (order T).map (fun i => rotN i T)

/-- the rotation one step to the right, as an index -/
def predIdx (n i : Nat) : Nat := if i = 0 then n - 1 else i - 1

theorem rotr_rotN (T : List UInt8) (hT : T ≠ []) (i : Nat) :
    rotr (rotN i T) = rotN (predIdx T.length i) T := by
  cases i with
  | zero =>
    have hn : T.length = (T.length - 1) + 1 := by
      have : 0 < T.length := List.length_pos_iff.mpr hT
      omega
    simp only [predIdx, if_true]
    conv => lhs; rw [rotN, ← rotN_full T, hn, rotN]
    rw [rotr_rotl _ (rotN_ne T hT _)]
  | succ k =>
    simp only [predIdx, Nat.add_sub_cancel, rotN]
    rw [if_neg (by omega), rotr_rotl _ (rotN_ne T hT _)]

theorem map_predIdx_perm (n : Nat) (hn : 1 ≤ n) :
    ((List.range n).map (predIdx n)).Perm (List.range n) := by
  obtain ⟨m, rfl⟩ : ∃ m, n = m + 1 := ⟨n - 1, by omega⟩
  have h1 : (List.range (m + 1)).map (predIdx (m + 1)) = m :: List.range m := by
    rw [List.range_succ_eq_map, List.map_cons, List.map_map]
    have e0 : predIdx (m + 1) 0 = m := by simp [predIdx]
    have e : (predIdx (m + 1) ∘ Nat.succ) = id := by
      funext i; simp [predIdx]
    rw [e0, e, List.map_id]
  rw [h1, List.range_succ]
  exact (List.perm_append_singleton m (List.range m)).symm

theorem rotMatrix_matrix (T : List UInt8) (hT : T ≠ []) : Matrix (rotMatrix T) T.length := by
  have hn : 1 ≤ T.length := List.length_pos_iff.mpr hT
  refine ⟨hn, ?_, ?_, ?_⟩
  · intro r hr
    obtain ⟨i, _, rfl⟩ := List.mem_map.mp hr
    exact rotN_length T i
  · unfold rotMatrix
    rw [List.pairwise_map]
    exact order_sorted T
  · unfold rotMatrix
    rw [List.map_map]
    have e : (rotr ∘ fun i => rotN i T) = (fun i => rotN i T) ∘ predIdx T.length := by
      funext i; exact rotr_rotN T hT i
    rw [e, ← List.map_map]
    have p1 : ((order T).map (predIdx T.length)).Perm (List.range T.length) :=
      ((order_perm T).map _).trans (map_predIdx_perm T.length hn)
    exact (p1.trans (order_perm T).symm).map _

theorem rotMatrix_length (T : List UInt8) : (rotMatrix T).length = T.length := by
  simp [rotMatrix, (order_perm T).length_eq]

theorem naiveBwt_fst (T : List UInt8) (hT : T ≠ []) : (naiveBwt T).1 = lastCol (rotMatrix T) := by
  have hn : 1 ≤ T.length := List.length_pos_iff.mpr hT
  show (order T).map (fun i => T.toArray.getD ((i + T.toArray.size - 1) % T.toArray.size) 0) = _
  unfold lastCol rotMatrix
  rw [List.map_map]
  apply List.map_congr_left
  intro i hi
  have hil : i < T.length := List.mem_range.mp ((order_perm T).mem_iff.mp hi)
  simp only [Function.comp, List.size_toArray]
  rw [getLastD_eq_getD _ T.length hn (rotN_length T i), rotN_getD T i _ hil (by omega)]
  congr 2
  omega

theorem naiveBwt_snd (T : List UInt8) : (naiveBwt T).2 = (order T).idxOf 0 := rfl

theorem naiveBwt_row (T : List UInt8) (hT : T ≠ []) :
    (naiveBwt T).2 < (rotMatrix T).length ∧ (rotMatrix T).getD (naiveBwt T).2 [] = T := by
  have hn : 1 ≤ T.length := List.length_pos_iff.mpr hT
  have h0 : 0 ∈ order T := (order_perm T).mem_iff.mpr (List.mem_range.mpr hn)
  have hidx : (order T).idxOf 0 < (order T).length := List.idxOf_lt_length_iff.mpr h0
  rw [naiveBwt_snd]
  constructor
  · simpa [rotMatrix] using hidx
  · unfold rotMatrix
    simp only [List.getD_eq_getElem?_getD, List.getElem?_map, List.getElem?_eq_getElem hidx,
      Option.map_some, Option.getD_some, List.getElem_idxOf hidx]
    rfl

theorem ibwt_naiveBwt (T : List UInt8) (hT : T ≠ []) :
    Spec.Ibwt.ibwt (naiveBwt T).1 (naiveBwt T).2 = T := by
  obtain ⟨h1, h2⟩ := naiveBwt_row T hT
  rw [naiveBwt_fst T hT,
    ibwt_matrix (rotMatrix_matrix T hT) (rotMatrix_length T) _ h1, h2]

theorem naiveBwt_ok (T : List UInt8) (hT : T ≠ []) : BwtOK T (naiveBwt T).1 (naiveBwt T).2 := by
  obtain ⟨h1, _⟩ := naiveBwt_row T hT
  have hlen : (naiveBwt T).1.length = T.length := by
    rw [naiveBwt_fst T hT, lastCol_length, rotMatrix_length]
  constructor
  · rw [Lemmas.SpecIbwtLink.bzip2_ibwt_eq]
    simp only [List.size_toArray, hlen]
    rw [rotMatrix_length] at h1
    rw [if_pos h1, ibwt_naiveBwt T hT]
  · intro x hx
    have hn : 1 ≤ T.length := List.length_pos_iff.mpr hT
    have hx' : x ∈ (order T).map
        (fun i => T.toArray.getD ((i + T.toArray.size - 1) % T.toArray.size) 0) := hx
    obtain ⟨i, _, rfl⟩ := List.mem_map.mp hx'
    simp only [List.size_toArray]
    have hlt : (i + T.length - 1) % T.length < T.length := Nat.mod_lt _ (by omega)
    have : T.toArray.getD ((i + T.length - 1) % T.length) 0 = T[(i + T.length - 1) % T.length] := by
      simp [Array.getD_eq_getD_getElem?, hlt]
    rw [this]
    exact List.getElem_mem hlt

end LbzVerif.Lemmas.BwtInverse
