/-
  Lemmas.Race.SchedCCover — the counting invariants behind `Props.C12.owner_unique`.

  `total fI fW s` gives every in_blk the weight `fI` of its position and every
  work block / output buffer the weight `fW` of its position, and sums over all
  queues and worker phases.  A section never increases it, except
  `on_input_avail`, which adds the new chunk (`core_grows`).  Two instances make `CovInv`:

  * position `x`: `fW` is 1 at `x`, and `fI` is 1 for an in_blk that could still
    produce a block at `x` (same major, `pos.minor ≤ x.minor`).  The total is at
    most 1: a position is either taken by one block or still to be produced by
    at most one in_blk, never both; nothing at or beyond `next_id` is covered.
  * input chunk `m`: `fI` is 1 on major `m`, `fW` is 0.  The chunk sits in
    `coll_q` or with one worker, and not at all from `next_id` on (where the
    reader may hold it).
-/
import LbzVerif.Lemmas.SchedC.StepRel
import LbzVerif.Model.Race.SchedC

namespace LbzVerif.Model.Race.C
open LbzVerif.Model.SchedC

variable {α σ : Type}

theorem ind_le_one (p : Prop) [Decidable p] : ind p ≤ 1 := by unfold ind; split <;> omega

theorem ind_pos {p : Prop} [Decidable p] (h : p) : ind p = 1 := if_pos h
theorem ind_neg {p : Prop} [Decidable p] (h : ¬p) : ind p = 0 := if_neg h
theorem ind_eq_one {p : Prop} [Decidable p] (h : 0 < ind p) : p := by
  unfold ind at h
  split at h
  · assumption
  · omega

theorem cntO_none (x : Pos) : cntO (σ := σ) x none = 0 := rfl
theorem cntO_some (x : Pos) (w : WBlk σ) : cntO x (some w) = ind (w.pos = x) := rfl

def heldWeight (fI fW : Pos → Nat) : WPhase α σ → Nat
  | .c1 ib => fI ib.pos
  | .c2 w | .s2 w _ | .t1 w => fW w.pos
  | .s1 u h => osum (fun w => fW w.pos) u + osum (fun ib => fI ib.pos) h
  | _ => 0

def total (fI fW : Pos → Nat) (s : State α σ) : Nat :=
  (s.collQ.map fun ib => fI ib.pos).sum + (s.transQ.map fun w => fW w.pos).sum +
    (s.reordQ.map fun w => fW w.pos).sum + (s.outputQ.map fun w => fW w.pos).sum +
    osum (fun w => fW w.pos) s.unfinished + osum (fun w => fW w.pos) s.wr +
    wsum (heldWeight fI fW) s.ws

section
variable {fI fW : Pos → Nat} {c : Cfg} {cd : Codec α σ} {s t : State α σ} {sp : Bool} {k : EndKind}

theorem total_init (c : Cfg) (input : List α) : total fI fW (init (σ := σ) c input) = 0 := by
  simp [total, init, initWith, reselect, osum, wsum, heldWeight]

theorem total_setW_le {u : State α σ} {i : Nat} {p q : WPhase α σ} (h : u.ws[i]? = some q)
    (le : total fI fW u + heldWeight fI fW p ≤ total fI fW s + heldWeight fI fW q) :
    total fI fW (setW u i p) ≤ total fI fW s := by
  have e := wsum_set (heldWeight fI fW) u.ws i p q h
  simp only [total, setW] at le ⊢
  omega

def Grows (fI fW : Pos → Nat) (s t : State α σ) : Prop :=
  (t.nextId = s.nextId ∧ total fI fW t ≤ total fI fW s) ∨
  (t.nextId = s.nextId + 1 ∧ total fI fW t = total fI fW s + fI ⟨s.nextId, 0⟩)

theorem same_grows (h : Same s t) : Grows fI fW s t := by
  have e := h.wsum_eq (f := heldWeight fI fW) (fun p => by cases p <;> rfl)
  rw [h.data]
  exact .inl ⟨rfl, by simp only [total, e, Nat.le_refl]⟩

/-- `split`: an in_blk weighs at least as much as the block cut off it together
    with what is re-queued (`++pos.minor`). -/
theorem core_grows (split : ∀ p : Pos, fW p + fI p.incMinor ≤ fI p) (h : Core c cd s sp k t) :
    Grows fI fW s t := by
  cases h with
  | rTake | rEmpty | rEof => exact .inl ⟨rfl, Nat.le_refl _⟩
  | rDeliver hr hi =>
    refine .inr ⟨rfl, ?_⟩
    simp only [total, sum_map_insI]
    omega
  | wTake b q hw hq =>
    refine .inl ⟨rfl, ?_⟩
    simp only [total, hw, hq, List.map_cons, List.sum_cons, osum_none, osum_some]
    omega
  | wDone b hw =>
    refine .inl ⟨rfl, ?_⟩
    simp only [total, hw, osum_none, osum_some]
    omega
  | runReorder i w q hw hn hq =>
    refine .inl ⟨rfl, ?_⟩
    simp only [total, hq, List.map_cons, List.sum_cons, List.map_append, List.sum_append_nat,
      List.map_nil, List.sum_nil]
    omega
  | idle h => exact same_grows (.ofIdle h)
  | runCollect i ib q hw hn hq | runTransmit i w q hw hn hq =>
    refine .inl ⟨rfl, total_setW_le hw ?_⟩
    simp only [total, heldWeight, hq, List.map_cons, List.sum_cons]
    omega
  | c1Requeue i ib hw hl =>
    refine .inl ⟨rfl, total_setW_le hw ?_⟩
    have sp := split ib.pos
    simp only [total, heldWeight, sum_map_insI]
    omega
  | c1Release i ib hw hl =>
    refine .inl ⟨rfl, total_setW_le hw ?_⟩
    have sp := split ib.pos
    simp only [total, heldWeight]
    omega
  | c2Enq i w hw | t1Enq i w hw =>
    refine .inl ⟨rfl, total_setW_le hw ?_⟩
    simp only [total, heldWeight, sum_map_insW]
    omega
  | s1Requeue i wo ib hw hl =>
    refine .inl ⟨rfl, total_setW_le hw ?_⟩
    have sp := split ib.pos
    -- the block cut off continues `unfinished_work`, or starts at the position of `ib`
    have g : fW (roundBlk cd wo ib).pos ≤ osum (fun w => fW w.pos) wo + fW ib.pos :=
      osum_getD_le (fun w : WBlk σ => fW w.pos) wo _
    simp only [total, heldWeight, osum_some, sum_map_insI]
    omega
  | s1Release i wo ib hw hl =>
    refine .inl ⟨rfl, total_setW_le hw ?_⟩
    have sp := split ib.pos
    have g : fW (roundBlk cd wo ib).pos ≤ osum (fun w => fW w.pos) wo + fW ib.pos :=
      osum_getD_le (fun w : WBlk σ => fW w.pos) wo _
    simp only [total, heldWeight, osum_some]
    omega
  | s1Flush i w hw =>
    refine .inl ⟨rfl, total_setW_le hw ?_⟩
    simp only [total, heldWeight, osum_none, osum_some]
    omega
  | s2Full i w hw =>
    refine .inl ⟨rfl, total_setW_le hw ?_⟩
    simp only [total, heldWeight]
    omega
  | s2Part i w hw =>
    refine .inl ⟨rfl, total_setW_le hw ?_⟩
    -- `unfinished_work` is overwritten; whatever it held is dropped from the count
    simp only [total, heldWeight, osum_some]
    omega
  | runCollectSeq i hw hn hg =>
    refine .inl ⟨rfl, total_setW_le hw ?_⟩
    have th := osum_head (fun ib : IBlk α => fI ib.pos) s.collQ
    simp only [total, heldWeight, osum_none]
    omega

structure Once (fI fW : Pos → Nat) (key : Nat) (s : State α σ) : Prop where
  le : total fI fW s ≤ 1
  fresh : s.nextId ≤ key → total fI fW s = 0

theorem once_grows {key : Nat} (h1 : fI ⟨key, 0⟩ ≤ 1) (h0 : ∀ n, n ≠ key → fI ⟨n, 0⟩ = 0)
    (g : Grows fI fW s t) (inv : Once fI fW key s) : Once fI fW key t := by
  have le := inv.le
  rcases g with ⟨hn, hle⟩ | ⟨hn, he⟩
  · refine ⟨by omega, fun hk => ?_⟩
    have := inv.fresh (hn ▸ hk)
    omega
  · by_cases hb : s.nextId = key
    · have := inv.fresh (by omega)
      rw [hb] at he
      exact ⟨by omega, fun hk => by omega⟩
    · rw [h0 _ hb] at he
      refine ⟨by omega, fun hk => ?_⟩
      have := inv.fresh (by omega)
      omega

end

def beyond (x f : Pos) : Nat := ind (f.major = x.major ∧ f.minor ≤ x.minor)

theorem beyond_split (x p : Pos) : beyond x p = ind (p = x) + beyond x p.incMinor := by
  unfold beyond
  by_cases hx : p = x
  · subst hx
    rw [ind_pos rfl, ind_pos ⟨rfl, Nat.le_refl _⟩, ind_neg fun h => Nat.not_succ_le_self _ h.2]
  · rw [ind_neg hx, Nat.zero_add]
    congr 1
    refine propext ⟨fun ⟨h1, h2⟩ => ⟨h1, ?_⟩, fun ⟨h1, h2⟩ => ⟨h1, Nat.le_of_succ_le h2⟩⟩
    exact Nat.lt_of_le_of_ne h2 fun e => hx (by cases p; cases x; exact congr (congrArg Pos.mk h1) e)

structure CovInv (s : State α σ) : Prop where
  blk : ∀ x : Pos, Once (beyond x) (fun p => ind (p = x)) x.major s
  chunk : ∀ m : Nat, Once (fun p => ind (p.major = m)) (fun _ => 0) m s

theorem once_reach {fI fW : Pos → Nat} {c : Cfg} {cd : Codec α σ} {input : List α} {s : State α σ}
    {key : Nat} (split : ∀ p : Pos, fW p + fI p.incMinor ≤ fI p) (h1 : fI ⟨key, 0⟩ ≤ 1)
    (h0 : ∀ n, n ≠ key → fI ⟨n, 0⟩ = 0) (h : Reach c cd input s) : Once fI fW key s :=
  reach_ind ⟨(total_init c input) ▸ Nat.zero_le 1, fun _ => total_init c input⟩
    (fun _ ih hc => once_grows h1 h0 (core_grows split hc) ih)
    (fun hs ih => once_grows h1 h0 (same_grows hs) ih) h

theorem covInv_reach {c : Cfg} {cd : Codec α σ} {input : List α} {s : State α σ}
    (h : Reach c cd input s) : CovInv s := by
  refine ⟨fun x => ?_, fun m => ?_⟩
  · refine once_reach (fun p => Nat.le_of_eq (beyond_split x p).symm) (ind_le_one _) ?_ h
    exact fun n hn => ind_neg fun e => hn e.1
  · refine once_reach (fun p => ?_) (ind_le_one _) (fun n hn => ind_neg hn) h
    exact Nat.le_of_eq (Nat.zero_add _)

end LbzVerif.Model.Race.C
