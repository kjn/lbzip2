import LbzVerif.Lemmas.Race.SchedDFootprint

namespace LbzVerif.Model.Race.D
open LbzVerif.Model.SchedD LbzVerif.Lemmas.SchedD

theorem pfacts_reach {c : Cfg} (hW : 0 < c.W) {s : State} (h : Reach c s) : PFacts c s :=
  ⟨lo_reach h, hi_reach hW h⟩

/-- Splits the footprint of a section at its top-level `++` (the `show` unfolds `fp` by
    reduction; `simp only [fp]` would generate its equation lemmas first) and closes the pieces
    that need no hypothesis: the shared parts of the footprints, and lists of accesses to
    statically owned variables (checked by evaluation). -/
macro "prot_pieces" : tactic =>
  `(tactic| (
    show AllProt _ _ (_ ++ _)
    repeat (with_reducible apply allProt_append)
    all_goals first
      | with_reducible exact allProt_select _ _ _
      | with_reducible exact allProt_release _ _ _
      | with_reducible exact allProt_discard _ _ _
      | with_reducible exact allProt_unord _ _ _
      | exact allProt_okStatic rfl
      | skip))

/-- the block an in-range `attach()` resolves to is in `input_q` -/
theorem attach_alive {c : Cfg} {s : State} {p : Nat} (hh : headOffs c s ≤ p)
    (ht : p < tailOffs c s) : alive s (p / c.W) :=
  ⟨div_lt_of_lt_offs ht, Or.inl (fresh_of_pos (h := s.head) hh ht)⟩

theorem guard_of_isSome {α : Type} {g : Bool} {t : Option α}
    (h : (if g = true then t else none).isSome = true) : g = true := by
  cases g with
  | true => rfl
  | false => cases h

theorem fp_protected {c : Cfg} {s : State} (F : PFacts c s) {x : Sec} (hp : inProg c s x) :
    AllProt c s (fp c s x) := by
  cases x with
  | rTake | rQuit | idle i => exact allProt_okStatic rfl
  | rBlock =>
    have hr : s.rph = .hold := hp
    have hb := prot_thread (c := c) (.inBlk s.rd) (t := .reader) ⟨hr, rfl⟩
    have hs := prot_thread (c := c) (.scanD s.rd) (t := .reader) ⟨hr, rfl⟩
    prot_pieces
    · exact allProt_unsettled (allProt_cons (prot_inBuf_reader hr _ _)
        (allProt_cons (hb _ _) (allProt_cons (hs _ _) allProt_nil)))
    · exact allProt_unsettled (allProt_cons (hb _ _) (allProt_cons (hs _ _) allProt_nil))
  | rEmpty =>
    have hr : s.rph = .hold := hp
    exact allProt_unsettled (allProt_cons (prot_inBuf_reader hr _ _) allProt_nil)
  | rEof => prot_pieces
  | wDone =>
    have ho := prot_thread (c := c) (.sinkBuf _) (t := .writer) ⟨hp, rfl⟩
    prot_pieces
    · exact allProt_unsettled (allProt_cons (ho _ _) (allProt_cons (ho _ _) allProt_nil))
  | reorder i ob =>
    have hg := guard_of_isSome hp
    simp only [Bool.and_eq_true, List.contains_iff_mem] at hg
    have hob := prot_queue (c := c) (.outBlk _ _) .reord ⟨ob, hg.1.2, rfl⟩
    prot_pieces
    · exact allProt_unsettled (allProt_cons (hob _ _ sched_mem_S)
        (allProt_cons (hob _ _ sched_mem_S) allProt_nil))
  | parseStart i =>
    have hg := guard_of_isSome hp
    simp only [Bool.and_eq_true, beq_iff_eq] at hg
    have hd : s.pdone = false := (selectTask_parse hg.1.2).1
    prot_pieces
    · exact allProt_attach _ _ (fun ht => attach_alive (F.lo.hp hd) ht)
  | retrStart i j =>
    have hg := guard_of_isSome hp
    simp only [Bool.and_eq_true, List.contains_iff_mem] at hg
    have hj : j ∈ s.retrQ := hg.1.2
    prot_pieces
    · exact allProt_cons (prot_queue (.retrBlk _) .retr ⟨j, hj, rfl⟩ _ _ sched_mem_S) allProt_nil
    · exact allProt_attach _ _ (fun ht => attach_alive (F.lo.arQ j hj) ht)
  | emitStart i e =>
    have hg := guard_of_isSome hp
    simp only [Bool.and_eq_true, List.contains_iff_mem] at hg
    prot_pieces
    · exact allProt_cons (prot_queue (.emitBlk _) .emit ⟨e, hg.1.2, rfl⟩ _ _ sched_mem_S)
        allProt_nil
  | scanStart i sp =>
    have hg := guard_of_isSome hp
    simp only [Bool.and_eq_true, List.contains_iff_mem] at hg
    have hsp : sp ∈ s.scanQ := hg.1.2
    prot_pieces
    · exact allProt_cons (prot_queue (.scanD _) .scan ⟨sp, hsp, rfl⟩ _ _ sched_mem_S) allProt_nil
    · exact allProt_attach _ _ (fun ht => attach_alive (F.lo.sc sp hsp) ht)
  | parseEnd k =>
    have hk : s.pphase = some k := hp
    have hatt : ∀ kk, k = some kk → Thread.parser ∈ attThreads s kk :=
      fun kk e => mem_att_parser (e ▸ hk)
    prot_pieces
    · exact allProt_bufRead F _ _ hatt
    · exact allProt_detach F _ _ hatt
  | retrEnd j k =>
    have hm : Phase.retr j k ∈ s.busy := hp
    have hatt : ∀ kk, k = some kk → Thread.busy (.retr j k) ∈ attThreads s kk :=
      fun _ e => mem_att_busy hm e
    have own : ∀ w L, Prot c s ⟨.busy (.retr j k), .retrBlk j.base, w, L⟩ :=
      prot_thread _ ⟨hm, rfl⟩
    prot_pieces
    · exact allProt_cons (own _ _) (allProt_cons (own _ _) allProt_nil)
    · exact allProt_bufRead F _ _ hatt
    · exact allProt_detach F _ _ hatt
    · exact allProt_cons (own _ _) (allProt_cons (own _ _) allProt_nil)
  | retrPost e =>
    have hm : Phase.retr2 e ∈ s.busy := hp
    have hr : ∀ w L, Prot c s ⟨.busy (.retr2 e), .retrBlk e.base, w, L⟩ := prot_thread _ ⟨hm, rfl⟩
    have he : ∀ w L, Prot c s ⟨.busy (.retr2 e), .emitBlk e.base, w, L⟩ := prot_thread _ ⟨hm, rfl⟩
    prot_pieces
    · exact allProt_cons (hr _ _) (allProt_cons (hr _ _) (allProt_cons (he _ _) allProt_nil))
    · exact allProt_cons (he _ _) allProt_nil
  | emitEnd e =>
    have hm : Phase.emit e ∈ s.busy := hp
    have he : ∀ w L, Prot c s ⟨.busy (.emit e), .emitBlk e.base, w, L⟩ := prot_thread _ ⟨hm, rfl⟩
    have ho : ∀ w L, Prot c s ⟨.busy (.emit e), .outBlk e.base e.idx, w, L⟩ :=
      prot_thread _ ⟨hm, rfl⟩
    prot_pieces
    · exact allProt_unsettled (allProt_cons (he _ _) (allProt_cons (he _ _)
        (allProt_cons (ho _ _) allProt_nil)))
    · exact allProt_cons (he _ _) (allProt_cons (ho _ _) allProt_nil)
  | scanEnd st k =>
    have hm : Phase.scan st k ∈ s.busy := hp
    have hatt : ∀ kk, some k = some kk → Thread.busy (.scan st k) ∈ attThreads s kk :=
      fun _ e => mem_att_busy hm e
    have own : ∀ w L, Prot c s ⟨.busy (.scan st k), .scanD k, w, L⟩ := prot_thread _ ⟨hm, rfl⟩
    prot_pieces
    · exact allProt_bufRead F _ _ hatt
    · exact allProt_detach F _ _ hatt
    · exact allProt_cons (own _ _) (allProt_cons (own _ _) allProt_nil)

end LbzVerif.Model.Race.D
