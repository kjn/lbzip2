/-
  Lemmas.Race.SchedDThread — well-formedness of the decompression annotation:
  every access listed in the footprint of a section is made by that section's
  thread (`fp_thread`).  With it, race freedom can be stated over sections of
  different threads (Props.C12.expand_race_free_sections).
-/
import LbzVerif.Model.Race.SchedD
import LbzVerif.Lemmas.Race.Basic

namespace LbzVerif.Model.Race.D
open LbzVerif.Model.SchedD

def AllThr (t : Thread) (l : List Acc) : Prop := ∀ a ∈ l, a.thread = t

theorem allThr_nil (t : Thread) : AllThr t [] := fun _ h => nomatch h

theorem allThr_cons {t : Thread} {a : Acc} {l : List Acc} :
    AllThr t (a :: l) ↔ a.thread = t ∧ AllThr t l := List.forall_mem_cons

theorem allThr_append {t : Thread} {l₁ l₂ : List Acc} :
    AllThr t (l₁ ++ l₂) ↔ AllThr t l₁ ∧ AllThr t l₂ := List.forall_mem_append

theorem allThr_rds (t : Thread) (L : List Lock) (vs : List DVar) : AllThr t (rds t L vs) :=
  forall_mem_rds.2 fun _ _ => rfl

theorem allThr_wrs (t : Thread) (L : List Lock) (vs : List DVar) : AllThr t (wrs t L vs) :=
  forall_mem_wrs.2 fun _ _ => rfl

theorem allThr_selectFp (t : Thread) (c : Cfg) (s : State) : AllThr t (selectFp t c s) := by
  simp only [selectFp, allThr_append, allThr_cons, allThr_rds, allThr_nil, thread_rd, thread_wr,
    and_self]

theorem allThr_attachFp (t : Thread) (c : Cfg) (s : State) (p : Nat) :
    AllThr t (attachFp t c s p) := by
  unfold attachFp
  split <;> simp only [allThr_cons, allThr_nil, thread_rd, thread_wr, and_self]

theorem allThr_bufRead (t : Thread) (k : Option Nat) : AllThr t (bufRead t k) := by
  cases k <;> simp only [bufRead, allThr_cons, allThr_nil, thread_rd, and_self]

theorem allThr_detachFp (t : Thread) (k : Option Nat) : AllThr t (detachFp t k) := by
  cases k <;> simp only [detachFp, allThr_cons, allThr_nil, thread_rd, thread_wr, and_self]

theorem allThr_releaseFp (t : Thread) (s : State) : AllThr t (releaseFp t s) := by
  simp only [releaseFp, allThr_append, allThr_cons, allThr_rds, allThr_wrs, allThr_nil, thread_rd,
    thread_wr, and_self]

theorem allThr_discardFp (t : Thread) (c : Cfg) (s : State) : AllThr t (discardFp t c s) := by
  simp only [discardFp, allThr_append, allThr_wrs, and_self]

theorem allThr_unordFp (t : Thread) (s : State) : AllThr t (unordFp t s) := by
  simp only [unordFp, allThr_append, allThr_rds, allThr_wrs, and_self]

theorem fp_thread (c : Cfg) (s : State) (x : Sec) : AllThr x.thread (fp c s x) := by
  cases x <;>
    simp only [fp, Sec.thread, allThr_append, allThr_cons, allThr_nil, allThr_rds, allThr_wrs,
      allThr_selectFp, allThr_attachFp, allThr_bufRead, allThr_detachFp, allThr_releaseFp,
      allThr_discardFp, allThr_unordFp, thread_rd, thread_wr, and_self]

end LbzVerif.Model.Race.D
