/-
  Lemmas.Race.SchedDFootprint — the pieces of `fp_protected` (Lemmas.Race.SchedDProt).

  Reachability is needed where a section touches the `struct in_blk` / buffer
  of the input block an `attach()` resolves to: that this block is pushed and
  not yet freed is `attach_in_range` (`Lo`), `Hi.pkb` and `Hi.bz`.
-/
import LbzVerif.Lemmas.Race.SchedDUniq
import LbzVerif.Lemmas.Race.Basic

namespace LbzVerif.Model.Race.D
open LbzVerif.Model.SchedD LbzVerif.Lemmas.SchedD

abbrev Prot (c : Cfg) (s : State) (a : Acc) : Prop := (disc c).Protected s a

abbrev AllProt (c : Cfg) (s : State) (l : List Acc) : Prop := (disc c).AllProt s l

theorem owns_static {c : Cfg} {s : State} {v : DVar} {o : Owner Thread}
    (h : staticOwner v = some o) : owns c s v o := by
  simp only [owns, h]

theorem eq_of_owns_static {c : Cfg} {s : State} {v : DVar} {o o' : Owner Thread}
    (hs : staticOwner v = some o') (h : owns c s v o) : o = o' := by
  simp only [owns, hs] at h
  exact h

theorem prot_okStatic {c : Cfg} {s : State} {a : Acc} (h : okStatic staticOwner a = true) :
    Prot c s a :=
  (disc c).protected_of_okStatic (fun _ _ _ => owns_static) s h

theorem allProt_okStatic {c : Cfg} {s : State} {l : List Acc}
    (h : l.all (okStatic staticOwner) = true) : AllProt c s l :=
  allProt_static (fun _ _ _ => owns_static) h

theorem allProt_unsettled {c : Cfg} {s : State} {l : List Acc}
    (h : AllProt c s (l.filter fun a => !okStatic staticOwner a)) : AllProt c s l :=
  allProt_of_unsettled (fun _ _ _ => owns_static) h

theorem sched_mem_S : Lock.sched ∈ S := List.mem_singleton_self _

theorem owns_of_holds {c : Cfg} {s : State} {v : DVar} {h : Holder} (hh : holds c s v h) :
    owns c s v h.owner := by
  cases Holds.of_holds hh <;> exact ⟨_, hh, rfl⟩

/-- `v` comes first and explicitly: with it known, `holds c s v _` unfolds and the hypothesis can
    be given as `⟨_, _⟩`. -/
theorem prot_thread {c : Cfg} {s : State} (v : DVar) {t : Thread} (h : holds c s v (.thread t))
    (w : Bool) (L : List Lock) : Prot c s ⟨t, v, w, L⟩ :=
  ⟨_, owns_of_holds h, rfl⟩

theorem prot_queue {c : Cfg} {s : State} (v : DVar) (q : Queue) (h : holds c s v (.queue q))
    (t : Thread) (w : Bool) {L : List Lock} (hL : Lock.sched ∈ L) : Prot c s ⟨t, v, w, L⟩ :=
  ⟨_, owns_of_holds h, hL⟩

theorem mem_attThreads {s : State} {k : Nat} {t : Thread} :
    t ∈ attThreads s k ↔ (s.pphase = some (some k) ∧ t = .parser) ∨
      ∃ ph, (ph ∈ s.busy ∧ ph.block = some k) ∧ Thread.busy ph = t := by
  simp only [attThreads, List.mem_append, List.mem_ite_nil_right, List.mem_singleton, List.mem_map,
    List.mem_filter, beq_iff_eq]

theorem mem_att_parser {s : State} {k : Nat} (h : s.pphase = some (some k)) :
    Thread.parser ∈ attThreads s k :=
  mem_attThreads.2 (.inl ⟨h, rfl⟩)

theorem mem_att_busy {s : State} {k : Nat} {ph : Phase} (hm : ph ∈ s.busy)
    (hb : ph.block = some k) : Thread.busy ph ∈ attThreads s k :=
  mem_attThreads.2 (.inr ⟨ph, ⟨hm, hb⟩, rfl⟩)

theorem attached_of_mem {s : State} {k : Nat} {t : Thread} (h : t ∈ attThreads s k) :
    attachedTo s k = true := by
  simp only [attachedTo, Bool.or_eq_true, List.any_eq_true, beq_iff_eq]
  rcases mem_attThreads.1 h with ⟨hp, _⟩ | ⟨ph, ⟨hm, hb⟩, _⟩
  · exact Or.inl hp
  · exact Or.inr ⟨ph, hm, hb⟩

theorem prot_inBuf_reader {c : Cfg} {s : State} (hr : s.rph = .hold) (w : Bool) (L : List Lock) :
    Prot c s ⟨.reader, .inBuf s.rd, w, L⟩ := by
  refine ⟨.thread .reader, ?_, rfl⟩
  show inBufOwner s s.rd = _
  unfold inBufOwner
  rw [if_pos ⟨hr, rfl⟩]

/-- What protection uses of a reachable state (failed or not, any `n`): everything queued lies at
    or after `head_offs` (`Lo`: the block an `attach()` resolves to is in `input_q`), an attached
    parser / retriever / scanner sits on a pushed block (`Hi.pkb`, `Hi.bz`). -/
structure PFacts (c : Cfg) (s : State) : Prop where
  lo : Lo c s
  hi : Hi c s

theorem alive_of_attached {c : Cfg} {s : State} (F : PFacts c s) {t : Thread} {k : Nat}
    (ht : t ∈ attThreads s k) : alive s k := by
  refine ⟨?_, Or.inr (attached_of_mem ht)⟩
  rcases mem_attThreads.1 ht with ⟨hp, _⟩ | ⟨ph, ⟨hm, hb⟩, _⟩
  · exact F.hi.pkb k hp
  · cases ph with
    | retr j k' =>
      cases (hb : k' = some k)
      exact (F.hi.bz _ hm).2 k rfl
    | scan st k' =>
      cases (hb : some k' = some k)
      exact F.hi.bz _ hm
    | retr2 e => cases hb
    | emit e => cases hb

theorem inBufOwner_alive {s : State} {k : Nat} (ha : alive s k) :
    inBufOwner s k =
      match attThreads s k with
      | [] => some (.lock .sched)
      | [t] => some (.writer t .sched)
      | _ :: _ :: _ => some .frozen := by
  unfold inBufOwner
  rw [if_neg (fun h => Nat.ne_of_lt ha.1 h.2), if_pos ha]
  rcases attThreads s k with _ | ⟨t, _ | ⟨t', r⟩⟩ <;> rfl

theorem prot_inBuf_read {c : Cfg} {s : State} (F : PFacts c s) {t : Thread} {k : Nat}
    (ht : t ∈ attThreads s k) : Prot c s ⟨t, .inBuf k, false, []⟩ := by
  have ho := inBufOwner_alive (alive_of_attached F ht)
  cases hl : attThreads s k with
  | nil =>
    rw [hl] at ht
    cases ht
  | cons t1 r =>
    rw [hl] at ho ht
    cases r with
    | nil =>
      cases List.mem_singleton.1 ht
      exact ⟨.writer t .sched, ho, by simp [Respects]⟩
    | cons t2 r' => exact ⟨.frozen, ho, rfl⟩

theorem mem_mayFree {s : State} {t : Thread} {k : Nat} :
    k ∈ mayFree s t ↔ k < s.rd ∧ alive s k ∧ (attThreads s k = [] ∨ attThreads s k = [t]) := by
  simp only [mayFree, List.mem_filter, List.mem_range, Bool.and_eq_true, Bool.or_eq_true,
    decide_eq_true_eq]

theorem prot_inBuf_free {c : Cfg} {s : State} {t : Thread} {k : Nat} (h : k ∈ mayFree s t) :
    Prot c s ⟨t, .inBuf k, true, S⟩ := by
  obtain ⟨-, h2, h3⟩ := mem_mayFree.1 h
  have ho := inBufOwner_alive h2
  rcases h3 with hl | hl
  · rw [hl] at ho
    exact ⟨.lock .sched, ho, by simp [Respects, S]⟩
  · rw [hl] at ho
    exact ⟨.writer t .sched, ho, by simp [Respects, S]⟩

theorem allProt_members (c : Cfg) (s : State) (t : Thread) :
    AllProt c s (rds t S (members c s)) := by
  refine allProt_rds fun v hv => ?_
  simp only [members, List.mem_map, List.mem_append] at hv
  rcases hv with (((⟨j, hj, rfl⟩ | ⟨e, he, rfl⟩) | ⟨o, ho, rfl⟩) | ⟨sp, hsp, rfl⟩) | ⟨k, hk, rfl⟩
  · exact prot_queue (.retrBlk _) .retr ⟨j, hj, rfl⟩ t false sched_mem_S
  · exact prot_queue (.emitBlk _) .emit ⟨e, he, rfl⟩ t false sched_mem_S
  · exact prot_queue (.outBlk _ _) .reord ⟨o, ho, rfl⟩ t false sched_mem_S
  · exact prot_queue (.scanD _) .scan ⟨sp, hsp, rfl⟩ t false sched_mem_S
  · have := List.mem_range'_1.1 hk
    exact prot_queue (.inBlk _) .input ⟨by omega, Or.inl this.1⟩ t false sched_mem_S

theorem allProt_select (c : Cfg) (s : State) (t : Thread) : AllProt c s (selectFp t c s) := by
  unfold selectFp
  exact allProt_append (allProt_append (allProt_okStatic rfl) (allProt_members c s t))
    (allProt_okStatic rfl)

/-- `blk->ref_count` of a block that has not been freed, read and written under the lock -/
theorem allProt_inBlk {c : Cfg} {s : State} {k : Nat} (h : alive s k) (t : Thread) :
    AllProt c s [rd t S (.inBlk k), wr t S (.inBlk k)] :=
  allProt_cons (prot_queue (.inBlk _) .input h t false sched_mem_S)
    (allProt_cons (prot_queue (.inBlk _) .input h t true sched_mem_S) allProt_nil)

theorem allProt_attach {c : Cfg} {s : State} (t : Thread) (p : Nat)
    (h : p < tailOffs c s → alive s (p / c.W)) : AllProt c s (attachFp t c s p) := by
  unfold attachFp
  split
  · next hp => exact allProt_inBlk (h hp) t
  · exact allProt_nil

theorem allProt_bufRead {c : Cfg} {s : State} (F : PFacts c s) (t : Thread) (k : Option Nat)
    (h : ∀ kk, k = some kk → t ∈ attThreads s kk) : AllProt c s (bufRead t k) := by
  cases k with
  | none => exact allProt_nil
  | some kk => exact allProt_cons (prot_inBuf_read F (h kk rfl)) allProt_nil

theorem allProt_detach {c : Cfg} {s : State} (F : PFacts c s) (t : Thread) (k : Option Nat)
    (h : ∀ kk, k = some kk → t ∈ attThreads s kk) : AllProt c s (detachFp t k) := by
  cases k with
  | none => exact allProt_nil
  | some kk => exact allProt_inBlk (alive_of_attached F (h kk rfl)) t

theorem allProt_release (c : Cfg) (s : State) (t : Thread) : AllProt c s (releaseFp t s) := by
  unfold releaseFp
  refine allProt_append (allProt_append (allProt_append ?_ ?_) ?_) ?_
  · refine allProt_wrs fun v hv => ?_
    obtain ⟨k, hk, rfl⟩ := List.mem_map.1 hv
    exact prot_inBuf_free hk
  · refine allProt_rds fun v hv => ?_
    obtain ⟨k, hk, rfl⟩ := List.mem_map.1 hv
    exact prot_queue (.inBlk _) .input (mem_mayFree.1 hk).2.1 t false sched_mem_S
  · refine allProt_wrs fun v hv => ?_
    obtain ⟨k, hk, rfl⟩ := List.mem_map.1 hv
    exact prot_queue (.inBlk _) .input (mem_mayFree.1 hk).2.1 t true sched_mem_S
  · exact allProt_okStatic rfl

theorem allProt_discard (c : Cfg) (s : State) (t : Thread) : AllProt c s (discardFp t c s) := by
  unfold discardFp
  refine allProt_append ?_ ?_
  · refine allProt_wrs fun v hv => ?_
    obtain ⟨j, hj, rfl⟩ := List.mem_map.1 hv
    exact prot_queue (.retrBlk _) .retr ⟨j, hj, rfl⟩ t true sched_mem_S
  · refine allProt_wrs fun v hv => ?_
    obtain ⟨sp, hsp, rfl⟩ := List.mem_map.1 hv
    exact prot_queue (.scanD _) .scan ⟨sp, hsp, rfl⟩ t true sched_mem_S

theorem allProt_unord (c : Cfg) (s : State) (t : Thread) : AllProt c s (unordFp t s) := by
  unfold unordFp
  refine allProt_append ?_ ?_
  · refine allProt_rds fun v hv => ?_
    obtain ⟨b, _, rfl⟩ := List.mem_map.1 hv
    exact prot_okStatic rfl
  · refine allProt_wrs fun v hv => ?_
    obtain ⟨b, _, rfl⟩ := List.mem_map.1 hv
    exact prot_okStatic rfl

end LbzVerif.Model.Race.D
