/-
  Lemmas.Race.SchedCFootprint — every access in the footprint of a section that is
  in progress respects the discipline (`fp_protected`).

  No reachability is needed here: the footprints only mention objects the
  section's thread holds by virtue of its phase, or members of a queue whose
  lock it holds.  (Reachability enters through uniqueness of ownership.)
-/
import LbzVerif.Lemmas.Race.SchedCOwner
import LbzVerif.Lemmas.Race.Basic

namespace LbzVerif.Model.Race.C
open LbzVerif.Model.SchedC

variable {α σ : Type}

abbrev Prot (s : State α σ) (a : Acc) : Prop := (disc (α := α) (σ := σ)).Protected s a

abbrev AllProt (s : State α σ) (l : List Acc) : Prop := (disc (α := α) (σ := σ)).AllProt s l

theorem owns_static {s : State α σ} {v : CVar} {o : Owner Thread} (h : staticOwner v = some o) :
    owns s v o := by
  simp only [owns, h]

theorem eq_of_owns_static {s : State α σ} {v : CVar} {o o' : Owner Thread}
    (hs : staticOwner v = some o') (h : owns s v o) : o = o' := by
  simp only [owns, hs] at h
  exact h

theorem prot_okStatic {s : State α σ} {a : Acc} (h : okStatic staticOwner a = true) : Prot s a :=
  (disc (α := α) (σ := σ)).protected_of_okStatic (fun _ _ _ => owns_static) s h

theorem allProt_okStatic {s : State α σ} {l : List Acc}
    (h : l.all (okStatic staticOwner) = true) : AllProt s l :=
  allProt_static (fun _ _ _ => owns_static) h

theorem allProt_unsettled {s : State α σ} {l : List Acc}
    (h : AllProt s (l.filter fun a => !okStatic staticOwner a)) : AllProt s l :=
  allProt_of_unsettled (fun _ _ _ => owns_static) h

/-- for a global variable `holdCnt` is 0 -/
theorem owns_of_holds {s : State α σ} {v : CVar} {h : Holder} (hh : holds s v h) :
    owns s v h.owner := by
  cases v <;> first | exact ⟨_, hh, rfl⟩ | exact absurd hh (Nat.lt_irrefl 0)

/-- `v` comes first and explicitly: with it known, `holds s v _` unfolds to a count of the right
    queue or phase. -/
theorem prot_thread {s : State α σ} (v : CVar) {t : Thread} (h : holds s v (.thread t)) (w : Bool)
    (L : List Lock) : Prot s ⟨t, v, w, L⟩ :=
  ⟨_, owns_of_holds h, rfl⟩

theorem prot_queue {s : State α σ} (v : CVar) (q : Queue) (h : holds s v (.queue q)) (t : Thread)
    (w : Bool) {L : List Lock} (hL : q.lock ∈ L) : Prot s ⟨t, v, w, L⟩ :=
  ⟨_, owns_of_holds h, hL⟩

theorem cntI_pos {ib : IBlk α} {q : List (IBlk α)} (h : ib ∈ q) : 0 < cntI ib.pos.major q := by
  have : ind (ib.pos.major = ib.pos.major) ≤ cntI ib.pos.major q :=
    Lemmas.ListSum.mem_le_sum_map (fun b : IBlk α => ind (b.pos.major = ib.pos.major)) h
  rwa [ind_pos rfl] at this

theorem cntW_pos {w : WBlk σ} {q : List (WBlk σ)} (h : w ∈ q) : 0 < cntW w.pos q := by
  have : ind (w.pos = w.pos) ≤ cntW w.pos q := Lemmas.ListSum.mem_le_sum_map (fun b : WBlk σ => ind (b.pos = w.pos)) h
  rwa [ind_pos rfl] at this

theorem sched_mem_S : Lock.sched ∈ S := List.mem_singleton_self _

theorem holds_worker {s : State α σ} {i : Nat} {p : WPhase α σ} (hw : s.ws[i]? = some p) :
    (∀ m, 0 < inCnt m p → holds s (.inBlk m) (.thread (.worker i))) ∧
    (∀ x, 0 < wbCnt x p → holds s (.workBlk x) (.thread (.worker i))) ∧
    (∀ x, 0 < obCnt x p → holds s (.outBuf x) (.thread (.worker i))) := by
  have e : phaseOf s i = p := by simp [phaseOf, hw]
  simp only [holds, holdCnt, inHold, wbHold, obHold, e]
  exact ⟨fun _ h => h, fun _ h => h, fun _ h => h⟩

theorem holds_reader {s : State α σ} (hr : s.rd = .hold) :
    holds s (.inBlk s.nextId) (.thread .reader) := by
  simp [holds, holdCnt, inHold, ind, hr]

theorem holds_writer {s : State α σ} {b : WBlk σ} (hw : s.wr = some b) :
    holds s (.outBuf b.pos) (.thread .writer) := by
  simp [holds, holdCnt, obHold, hw, cntO, ind]

theorem allProt_collMembers (s : State α σ) (t : Thread) : AllProt s (rds t S (collMembers s)) := by
  refine allProt_rds fun v hv => ?_
  obtain ⟨ib, hib, rfl⟩ := List.mem_map.1 hv
  exact prot_queue (.inBlk _) .coll (cntI_pos hib) t false sched_mem_S

theorem allProt_transMembers (s : State α σ) (t : Thread) :
    AllProt s (rds t S (transMembers s)) := by
  refine allProt_rds fun v hv => ?_
  obtain ⟨b, hb, rfl⟩ := List.mem_map.1 hv
  exact prot_queue (.workBlk _) .trans (cntW_pos hb) t false sched_mem_S

theorem allProt_reordMembers (s : State α σ) (t : Thread) :
    AllProt s (rds t S (reordMembers s)) := by
  refine allProt_rds fun v hv => ?_
  obtain ⟨b, hb, rfl⟩ := List.mem_map.1 hv
  exact prot_queue (.workBlk _) .reord (cntW_pos hb) t false sched_mem_S

theorem allProt_selectFp (s : State α σ) (t : Thread) : AllProt s (selectFp t s) := by
  unfold selectFp
  exact allProt_append (allProt_append (allProt_append (allProt_okStatic rfl)
    (allProt_transMembers s t)) (allProt_reordMembers s t)) (allProt_okStatic rfl)

theorem allProt_enqColl {s : State α σ} {t : Thread} {m : Nat}
    (hin : holds s (.inBlk m) (.thread t)) : AllProt s (enqColl t s m) := by
  unfold enqColl
  refine allProt_append (allProt_append ?_ (allProt_collMembers s t)) (allProt_selectFp s t)
  exact allProt_unsettled (allProt_cons (prot_thread _ hin false S) allProt_nil)

theorem allProt_collectWork {s : State α σ} {t : Thread} {m : Nat} {x : Pos}
    (hin : holds s (.inBlk m) (.thread t)) (hwb : holds s (.workBlk x) (.thread t)) :
    AllProt s (collectWork t m x) := by
  unfold collectWork
  exact allProt_unsettled (allProt_cons (prot_thread _ hin false [])
    (allProt_cons (prot_thread _ hin true []) (allProt_cons (prot_thread _ hwb false [])
    (allProt_cons (prot_thread _ hwb true []) allProt_nil))))

theorem allProt_releaseIn {s : State α σ} {t : Thread} {m : Nat}
    (hin : holds s (.inBlk m) (.thread t)) : AllProt s (releaseIn t m) := by
  unfold releaseIn
  exact allProt_unsettled (allProt_cons (prot_thread _ hin true []) allProt_nil)

theorem fp_protected (cd : Codec α σ) {s : State α σ} {x : Sec α σ} (hp : inProg cd s x) :
    AllProt s (fp s x) := by
  cases x with
  | rTake | wIdle | wTake | finishIO => exact allProt_okStatic rfl
  | rDeliver =>
    have hr : s.rd = .hold := hp
    -- unfolds `fp` by reduction; `simp only [fp]` would generate its equation lemmas first
    show AllProt s (_ ++ _)
    refine allProt_append ?_ (allProt_enqColl (holds_reader hr))
    exact allProt_unsettled (allProt_cons (prot_thread (.inBlk _) (holds_reader hr) true []) allProt_nil)
  | rEmpty =>
    have hr : s.rd = .hold := hp
    exact allProt_unsettled (allProt_cons (prot_thread (.inBlk _) (holds_reader hr) true []) allProt_nil)
  | rEof =>
    show AllProt s (_ ++ _)
    exact allProt_append (allProt_okStatic rfl) (allProt_selectFp s _)
  | wDone b =>
    have hw : s.wr = some b := hp
    show AllProt s (_ ++ _)
    refine allProt_append ?_ (allProt_selectFp s _)
    exact allProt_unsettled (allProt_cons (prot_thread (.outBuf _) (holds_writer hw) false [])
      (allProt_cons (prot_thread (.outBuf _) (holds_writer hw) true []) allProt_nil))
  | acquire i | spurious i => exact allProt_nil
  | runCollect i | runCollectSeq i =>
    show AllProt s (_ ++ _)
    exact allProt_append (allProt_append (allProt_okStatic rfl) (allProt_collMembers s _))
      (allProt_selectFp s _)
  | runTransmit i =>
    show AllProt s (_ ++ _)
    exact allProt_append (allProt_append (allProt_okStatic rfl) (allProt_transMembers s _))
      (allProt_selectFp s _)
  | runReorder i w =>
    obtain ⟨_, _, hq⟩ := hp
    have hm : w ∈ s.reordQ := List.mem_of_mem_head? (Option.mem_def.2 hq)
    have hwb : ∀ b, Prot s ⟨.worker i, .workBlk w.pos, b, S⟩ := fun b =>
      prot_queue (.workBlk _) .reord (cntW_pos hm) _ b sched_mem_S
    show AllProt s (_ ++ _)
    refine allProt_append (allProt_append ?_ (allProt_reordMembers s _)) (allProt_selectFp s _)
    exact allProt_unsettled (allProt_cons (hwb false) (allProt_cons (hwb true) allProt_nil))
  | runWait i | runExit i => exact allProt_cons (prot_okStatic rfl) (allProt_okStatic rfl)
  | c1Requeue i ib =>
    obtain ⟨hw, _⟩ := hp
    have hin := (holds_worker hw).1 ib.pos.major (by simp [inCnt, ind])
    have hwb := (holds_worker hw).2.1 ib.pos (by simp [wbCnt, ind])
    exact allProt_append (allProt_collectWork hin hwb) (allProt_enqColl hin)
  | c1Release i ib =>
    obtain ⟨hw, _⟩ := hp
    have hin := (holds_worker hw).1 ib.pos.major (by simp [inCnt, ind])
    have hwb := (holds_worker hw).2.1 ib.pos (by simp [wbCnt, ind])
    exact allProt_append (allProt_collectWork hin hwb) (allProt_releaseIn hin)
  | c2Enq i w =>
    have hw : s.ws[i]? = some (.c2 w) := hp
    have hwb : ∀ b L, Prot s ⟨.worker i, .workBlk w.pos, b, L⟩ := fun b L =>
      prot_thread _ ((holds_worker hw).2.1 _ (by simp [wbCnt, ind])) b L
    show AllProt s (_ ++ _)
    refine allProt_append (allProt_append ?_ (allProt_transMembers s _)) (allProt_selectFp s _)
    exact allProt_unsettled (allProt_cons (hwb false []) (allProt_cons (hwb true [])
      (allProt_cons (hwb false S) allProt_nil)))
  | t1Enq i w =>
    have hw : s.ws[i]? = some (.t1 w) := hp
    have hwb : ∀ b L, Prot s ⟨.worker i, .workBlk w.pos, b, L⟩ := fun b L =>
      prot_thread _ ((holds_worker hw).2.1 _ (by simp [wbCnt, ind])) b L
    have hob : ∀ b L, Prot s ⟨.worker i, .outBuf w.pos, b, L⟩ := fun b L =>
      prot_thread _ ((holds_worker hw).2.2 _ (by simp [obCnt, ind])) b L
    show AllProt s (_ ++ _)
    refine allProt_append (allProt_append ?_ (allProt_reordMembers s _)) (allProt_selectFp s _)
    exact allProt_unsettled (allProt_cons (hwb false []) (allProt_cons (hwb true [])
      (allProt_cons (hob true []) (allProt_cons (hwb false S) allProt_nil))))
  | s1Requeue i wo ib =>
    have hw : s.ws[i]? = some (.s1 wo (some ib)) := hp
    have hin := (holds_worker hw).1 ib.pos.major (by simp [inCnt, ind])
    have hwb := (holds_worker hw).2.1 (seqKey wo ib) (by cases wo <;> simp [wbCnt, seqKey, ind])
    exact allProt_append (allProt_collectWork hin hwb) (allProt_enqColl hin)
  | s1Release i wo ib =>
    have hw : s.ws[i]? = some (.s1 wo (some ib)) := hp
    have hin := (holds_worker hw).1 ib.pos.major (by simp [inCnt, ind])
    have hwb := (holds_worker hw).2.1 (seqKey wo ib) (by cases wo <;> simp [wbCnt, seqKey, ind])
    exact allProt_append (allProt_collectWork hin hwb) (allProt_releaseIn hin)
  | s1Flush i w | s2Full i w => exact allProt_cons (prot_okStatic rfl) (allProt_selectFp s _)
  | s2Part i w =>
    show AllProt s (_ ++ _)
    exact allProt_append (allProt_okStatic rfl) (allProt_selectFp s _)

end LbzVerif.Model.Race.C
