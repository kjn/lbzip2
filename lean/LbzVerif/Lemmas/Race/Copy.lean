import LbzVerif.Model.Race.Copy
import LbzVerif.Lemmas.Race.Basic
import LbzVerif.Lemmas.Copy

namespace LbzVerif.Model.Race.Cp
open LbzVerif.Model.Copy
open LbzVerif.Model.Race.C (Thread CVar CfgVar Acc)

/-- the ghost counters describe the queue: `output_q` holds exactly the
    buffers `nShift … nPush-1`; a writer that holds a buffer has shifted one -/
structure GInv (g : GSt) : Prop where
  len : g.nShift + g.st.queue.length = g.nPush
  snk : snkHolds g.st.snk = true → 1 ≤ g.nShift

theorem ginv_init (hdr inp : List UInt8) : GInv (ginit hdr inp) :=
  ⟨rfl, fun h => by simp [ginit, init, snkHolds] at h⟩

theorem unlock_queue (s : St) : (unlock s).queue = s.queue := by
  unfold unlock; split <;> rfl

theorem unlock_snk (s : St) : (unlock s).snk = s.snk := by
  unfold unlock; split <;> rfl

theorem GInv.congr {g g' : GSt} (inv : GInv g) (hq : g'.st.queue = g.st.queue)
    (hk : g'.st.snk = g.st.snk) (hp : g'.nPush = g.nPush) (hs : g'.nShift = g.nShift) : GInv g' :=
  ⟨by rw [hs, hq, hp]; exact inv.len, by rw [hk, hs]; exact inv.snk⟩

theorem ginv_step {g g' : GSt} {l : Label} (h : gstep g l = some g') (inv : GInv g) : GInv g' := by
  obtain ⟨s', hs, rfl⟩ := Option.map_eq_some_iff.1 h
  cases Lemmas.Copy.step_eq_some hs with
  | srcTake | srcReadEof | srcRead | srcFree => exact inv.congr rfl rfl rfl rfl
  | srcDispatch | srcEof => exact inv.congr (unlock_queue _) (unlock_snk _) rfl rfl
  | @srcPush buf =>
    refine ⟨?_, inv.snk⟩
    show g.nShift + (g.st.queue ++ [buf]).length = g.nPush + 1
    rw [List.length_append, ← inv.len]
    rfl
  | @snkShift b q hk hq =>
    refine ⟨?_, fun _ => Nat.le_add_left 1 g.nShift⟩
    show g.nShift + 1 + q.length = g.nPush
    rw [← inv.len, hq, List.length_cons]
    omega
  | snkWrite hk => exact ⟨inv.len, fun _ => inv.snk (by rw [hk]; rfl)⟩
  | snkRelease => exact ⟨inv.len, fun hh => nomatch hh⟩
  | snkInc =>
    refine ⟨?_, fun hh => ?_⟩
    · simp only [unlock_queue]
      exact inv.len
    · simp only [unlock_snk] at hh
      cases hh

theorem ginv_reach {g0 g : GSt} (h0 : GInv g0) (h : GReach g0 g) : GInv g := by
  induction h with
  | refl => exact h0
  | step l _ hs ih => exact ginv_step hs ih

theorem holder_unique {g : GSt} (inv : GInv g) {k : Nat} {h₁ h₂ : Holder} (a : holds g k h₁)
    (b : holds g k h₂) : h₁ = h₂ := by
  have := inv.len
  cases h₁ <;> cases h₂ <;> simp only [holds] at a b <;> first | rfl | omega

theorem disc_unique {g : GSt} (inv : GInv g) : disc.Unique g := by
  intro v o₁ o₂ h1 h2
  simp only [disc] at h1 h2
  cases v with
  | inBlk k => exact owner_of_holder_unique (holder_unique inv) h1 h2
  | _ => exact Option.some.inj (Eq.trans (Eq.symm h1) h2)

theorem owns_static {g : GSt} {v : CVar} {o : Owner Thread} (h : staticOwner v = some o) :
    owns g v o := by
  cases v with
  | inBlk k => cases h
  | _ => exact h

theorem eq_of_owns_static {g : GSt} {v : CVar} {o o' : Owner Thread}
    (hs : staticOwner v = some o') (h : owns g v o) : o = o' := by
  cases v with
  | inBlk k => cases hs
  | _ => exact Option.some.inj ((Eq.symm h).trans hs)

theorem fp_protected {g : GSt} (inv : GInv g) {x : Sec} (hp : inProg g x) :
    ∀ a ∈ fp g x, disc.Protected g a := by
  -- accesses to global variables are checked against `staticOwner` by evaluation
  have static : ∀ {l : List Acc}, l.all (okStatic staticOwner) = true → disc.AllProt g l :=
    allProt_static (fun _ _ _ => owns_static)
  have one : ∀ {a : Acc}, okStatic staticOwner a = true → disc.Protected g a :=
    disc.protected_of_okStatic (fun _ _ _ => owns_static) g
  cases x with
  | srcTake => exact static rfl
  | srcRead =>
    obtain ⟨b, v, hs⟩ := hp
    exact allProt_cons (one rfl)
      (allProt_cons ⟨_, ⟨.reader, ⟨rfl, by simp [hs, srcHolds]⟩, rfl⟩, rfl⟩ (static rfl))
  | srcRelease =>
    obtain ⟨b, v, hs⟩ := hp
    exact allProt_cons ⟨_, ⟨.reader, ⟨rfl, by simp [hs, srcHolds]⟩, rfl⟩, rfl⟩ (static rfl)
  | srcDec => exact static rfl
  | srcPush => exact static rfl
  | srcEof => exact static rfl
  | snkIdle => exact static rfl
  | snkShift => exact static rfl
  | snkWrite =>
    obtain ⟨r, hs⟩ := hp
    have h1 : 1 ≤ g.nShift := inv.snk (by simp [hs, snkHolds])
    exact allProt_cons ⟨_, ⟨.writer, ⟨by omega, by simp [hs, snkHolds]⟩, rfl⟩, rfl⟩ (static rfl)
  | snkRelease =>
    have hs : g.st.snk = .release := hp
    have h1 : 1 ≤ g.nShift := inv.snk (by simp [hs, snkHolds])
    exact allProt_cons (one rfl)
      (allProt_cons ⟨_, ⟨.writer, ⟨by omega, by simp [hs, snkHolds]⟩, rfl⟩, rfl⟩ (static rfl))
  | snkInc => exact static rfl
  | mainFinish => exact static rfl

end LbzVerif.Model.Race.Cp
