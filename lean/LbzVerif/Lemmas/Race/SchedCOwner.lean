/-
  Lemmas.Race.SchedCOwner — from the counting invariants (`CovInv`) to
  `Props.C12.owner_unique`: all holders together hold a heap object at most once, hence two holders of
  the same object are equal and the discipline `Race.C.disc` is unambiguous.
-/
import LbzVerif.Lemmas.Race.SchedCCover
import LbzVerif.Lemmas.Race.Basic

namespace LbzVerif.Model.Race.C
open LbzVerif.Model.SchedC

variable {α σ : Type}

theorem wsum_ge1 (f : WPhase α σ → Nat) (hf : f .exited = 0) (ws : List (WPhase α σ)) (i : Nat) :
    f ((ws[i]?).getD .exited) ≤ wsum f ws := by
  induction ws generalizing i with
  | nil => simp [hf]
  | cons a l ih =>
    rw [wsum_cons]
    cases i with
    | zero => simp
    | succ j =>
      have := ih j
      simp only [List.getElem?_cons_succ]
      omega

theorem wsum_ge2 (f : WPhase α σ → Nat) (hf : f .exited = 0) (ws : List (WPhase α σ)) (i j : Nat)
    (hij : i ≠ j) : f ((ws[i]?).getD .exited) + f ((ws[j]?).getD .exited) ≤ wsum f ws := by
  cases hi : ws[i]? with
  | none =>
    have := wsum_ge1 f hf ws j
    rw [Option.getD_none, hf]
    omega
  | some q =>
    -- with worker `i` taken out, worker `j` is still there
    have e := wsum_set f ws i .exited q hi
    have := wsum_ge1 f hf (ws.set i .exited) j
    rw [List.getElem?_set_ne hij] at this
    rw [Option.getD_some]
    omega

theorem inCnt_le_heldWeight (m : Nat) (p : WPhase α σ) :
    inCnt m p ≤ heldWeight (fun p => ind (p.major = m)) (fun _ => 0) p := by
  cases p with
  | s1 u h => cases h <;> simp only [inCnt, heldWeight, osum_some, osum_none] <;> omega
  | _ => exact Nat.le_refl _

theorem wbCnt_le_heldWeight (x : Pos) (p : WPhase α σ) :
    wbCnt x p ≤ heldWeight (beyond x) (fun p => ind (p = x)) p := by
  cases p with
  | c1 ib =>
    simp only [wbCnt, heldWeight]
    have := beyond_split x ib.pos
    omega
  | s1 u h =>
    cases u <;> cases h <;> simp only [wbCnt, heldWeight, osum_some, osum_none]
    · omega
    · next ib =>
      have := beyond_split x ib.pos
      omega
    · omega
    · omega
  | _ => exact Nat.le_refl _

theorem obCnt_le_heldWeight (x : Pos) (p : WPhase α σ) :
    obCnt x p ≤ heldWeight (beyond x) (fun p => ind (p = x)) p := by
  cases p <;> first | exact Nat.le_refl _ | exact Nat.zero_le _

theorem cntO_eq (x : Pos) (o : Option (WBlk σ)) : cntO x o = osum (fun w => ind (w.pos = x)) o := by
  cases o <;> rfl

def fixedHolders : List Holder :=
  [.queue .coll, .queue .trans, .queue .reord, .queue .unfinished, .queue .output,
   .thread .main, .thread .reader, .thread .writer]

def fixedSum (H : Holder → Nat) : Nat := (fixedHolders.map H).sum

theorem fixed_or_worker (h : Holder) : h ∈ fixedHolders ∨ ∃ i, h = .thread (.worker i) := by
  rcases h with q | t
  · cases q <;> exact .inl (by decide)
  · cases t with
    | worker i => exact .inr ⟨i, rfl⟩
    | _ => exact .inl (by decide)

/-- All holders together hold one object at most once: `H` counts per holder, a worker through
    `f` of its phase; the queues and the other threads are summed in `fixedSum H`. -/
structure HeldOnce (H : Holder → Nat) (f : WPhase α σ → Nat) (ws : List (WPhase α σ)) : Prop where
  worker : ∀ i, H (.thread (.worker i)) = f ((ws[i]?).getD .exited)
  exited : f .exited = 0
  total : fixedSum H + wsum f ws ≤ 1

section
variable {H : Holder → Nat} {f : WPhase α σ → Nat} {ws : List (WPhase α σ)}

theorem HeldOnce.one (o : HeldOnce H f ws) (h : Holder) : H h ≤ 1 := by
  have tot := o.total
  rcases fixed_or_worker h with m | ⟨i, rfl⟩
  · have := Lemmas.ListSum.mem_le_sum_map H m
    unfold fixedSum at tot
    omega
  · have := wsum_ge1 f o.exited ws i
    rw [o.worker i]
    omega

theorem HeldOnce.two (o : HeldOnce H f ws) {h₁ h₂ : Holder} (hne : h₁ ≠ h₂) :
    H h₁ + H h₂ ≤ 1 := by
  have tot := o.total
  unfold fixedSum at tot
  rcases fixed_or_worker h₁ with m₁ | ⟨i, rfl⟩ <;> rcases fixed_or_worker h₂ with m₂ | ⟨j, rfl⟩
  · have := Lemmas.ListSum.add_le_sum_of_mem H (by decide) m₁ m₂ hne
    omega
  · have := Lemmas.ListSum.mem_le_sum_map H m₁
    have := wsum_ge1 f o.exited ws j
    rw [o.worker j]
    omega
  · have := Lemmas.ListSum.mem_le_sum_map H m₂
    have := wsum_ge1 f o.exited ws i
    rw [o.worker i]
    omega
  · have := wsum_ge2 f o.exited ws i j (fun e => hne (by rw [e]))
    rw [o.worker i, o.worker j]
    omega

theorem HeldOnce.zero (h : ∀ hd, H hd = 0) (ws : List (WPhase α σ)) : HeldOnce H (fun _ => 0) ws := by
  refine ⟨fun _ => h _, rfl, ?_⟩
  have hs : fixedSum H = 0 := Lemmas.ListSum.sum_map_zero _ H fun hd _ => h hd
  rw [hs, wsum_eq_zero fun _ _ => rfl]
  exact Nat.zero_le 1

end

/-- the reader holds input chunk `m` only as chunk `next_id`, of which there is nothing
    elsewhere -/
theorem in_fixed {s : State α σ} (inv : CovInv s) (m : Nat) :
    fixedSum (inHold s m) + wsum (inCnt m) s.ws ≤ 1 := by
  have := wsum_mono (inCnt_le_heldWeight (α := α) (σ := σ) m) s.ws
  simp only [fixedSum, fixedHolders, List.map, List.sum_cons, List.sum_nil, inHold, cntI]
  by_cases hr : s.rd = .hold ∧ m = s.nextId
  · have := (inv.chunk m).fresh (Nat.le_of_eq hr.2.symm)
    rw [ind_pos hr]
    simp only [total] at this
    omega
  · have := (inv.chunk m).le
    rw [ind_neg hr]
    simp only [total] at this
    omega

theorem wb_fixed {s : State α σ} (inv : CovInv s) (x : Pos) :
    fixedSum (wbHold s x) + wsum (wbCnt x) s.ws ≤ 1 := by
  have le := (inv.blk x).le
  have := wsum_mono (wbCnt_le_heldWeight (α := α) (σ := σ) x) s.ws
  simp only [total] at le
  simp only [fixedSum, fixedHolders, List.map, List.sum_cons, List.sum_nil, wbHold, cntO_eq, cntW]
  omega

theorem ob_fixed {s : State α σ} (inv : CovInv s) (x : Pos) :
    fixedSum (obHold s x) + wsum (obCnt x) s.ws ≤ 1 := by
  have le := (inv.blk x).le
  have := wsum_mono (obCnt_le_heldWeight (α := α) (σ := σ) x) s.ws
  simp only [total] at le
  simp only [fixedSum, fixedHolders, List.map, List.sum_cons, List.sum_nil, obHold, cntO_eq, cntW]
  omega

theorem holdCnt_once {s : State α σ} (inv : CovInv s) (v : CVar) :
    ∃ f, HeldOnce (holdCnt s v) f s.ws := by
  cases v with
  | inBlk m => exact ⟨inCnt m, fun _ => rfl, rfl, in_fixed inv m⟩
  | workBlk x => exact ⟨wbCnt x, fun _ => rfl, rfl, wb_fixed inv x⟩
  | outBuf x => exact ⟨obCnt x, fun _ => rfl, rfl, ob_fixed inv x⟩
  | _ => exact ⟨_, .zero (fun _ => rfl) _⟩

theorem holdCnt_one {s : State α σ} (inv : CovInv s) (v : CVar) (h : Holder) :
    holdCnt s v h ≤ 1 :=
  let ⟨_, o⟩ := holdCnt_once inv v
  o.one h

theorem holder_unique {s : State α σ} (inv : CovInv s) {v : CVar} {h₁ h₂ : Holder}
    (a : holds s v h₁) (b : holds s v h₂) : h₁ = h₂ := by
  by_cases hne : h₁ = h₂
  · exact hne
  · obtain ⟨_, o⟩ := holdCnt_once inv v
    have := o.two hne
    simp only [holds] at a b
    omega

theorem disc_unique {s : State α σ} (inv : CovInv s) : (disc (α := α) (σ := σ)).Unique s := by
  intro v o₁ o₂ h1 h2
  simp only [disc, owns] at h1 h2
  cases hs : staticOwner v with
  | some o' =>
    rw [hs] at h1 h2
    exact h1.trans h2.symm
  | none =>
    rw [hs] at h1 h2
    exact owner_of_holder_unique (holder_unique inv) h1 h2

end LbzVerif.Model.Race.C
