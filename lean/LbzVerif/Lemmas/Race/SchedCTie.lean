/-
  Lemmas.Race.SchedCTie — the annotation is tied to the model: every transition of
  `Model.SchedC.step` is the locked part of a section that is in progress, and
  every shared variable of the model state that the transition changes is
  WRITTEN in that section's footprint.  (So a write the model performs cannot
  be missing from the annotation; with `guarded_under_lock` it is made under
  the guarding lock.)  `Covers` leaves out the fields of `Model.SchedC.State` that are not
  shared program variables: where each thread stands (`rd`, `ws`, `wr`), the unread `input`,
  the history `handed`, `written`.
-/
import LbzVerif.Lemmas.SchedC.StepRel
import LbzVerif.Model.Race.SchedC
import LbzVerif.Lemmas.Race.Basic

namespace LbzVerif.Model.Race.C
open LbzVerif.Model.SchedC

variable {α σ : Type}

def writesVar (l : List Acc) (v : CVar) : Bool := l.any (fun a => a.write && decide (a.var = v))

structure Covers (s s' : State α σ) (l : List Acc) : Prop where
  workUnits : s'.workUnits ≠ s.workUnits → writesVar l .workUnits = true
  outSlots : s'.outSlots ≠ s.outSlots → writesVar l .outSlots = true
  eof : s'.eof ≠ s.eof → writesVar l .eof = true
  nextTask : s'.nextTask ≠ s.nextTask → writesVar l .nextTask = true
  collQ : s'.collQ ≠ s.collQ → writesVar l .collQ = true
  transQ : s'.transQ ≠ s.transQ → writesVar l .transQ = true
  reordQ : s'.reordQ ≠ s.reordQ → writesVar l .reordQ = true
  order : s'.order ≠ s.order → writesVar l .order = true
  collectToken : s'.collectToken ≠ s.collectToken → writesVar l .collectToken = true
  unfinished : s'.unfinished ≠ s.unfinished → writesVar l .unfinished = true
  nextId : s'.nextId ≠ s.nextId → writesVar l .nextId = true
  inSlots : s'.inSlots ≠ s.inSlots → writesVar l .inSlots = true
  outputQ : s'.outputQ ≠ s.outputQ → writesVar l .outputQ = true

def writeSet : Sec α σ → List CVar
  | .rTake | .rEmpty => [.inSlots]
  | .rDeliver => [.ispecTotal, .nextId, .collQ, .nextTask]
  | .rEof => [.eof, .nextTask]
  | .wIdle | .acquire _ | .spurious _ | .runWait _ | .runExit _ => []
  | .wTake => [.outputQ]
  | .wDone _ => [.ospecTotal, .outSlots, .nextTask]
  | .runCollect _ => [.collQ, .workUnits, .nextTask]
  | .runCollectSeq _ => [.unfinished, .workUnits, .collQ, .collectToken, .nextTask]
  | .runTransmit _ => [.transQ, .outSlots, .nextTask]
  | .runReorder _ _ => [.reordQ, .order, .outputQ, .combinedCrc, .nextTask]
  | .c1Requeue _ _ | .s1Requeue _ _ _ => [.collQ, .nextTask]
  | .c1Release _ _ | .s1Release _ _ _ => [.inSlots]
  | .c2Enq _ _ => [.transQ, .nextTask]
  | .t1Enq _ _ => [.workUnits, .reordQ, .nextTask]
  | .s1Flush _ _ | .s2Full _ _ => [.collectToken, .nextTask]
  | .s2Part _ _ => [.collectToken, .unfinished, .nextTask]
  | .finishIO => [.finish]

/-- `written` of the footprint is computed once per section, then each variable of
    the write set is looked up in it; the heap objects in it are left as they come -/
theorem writeSet_written (s : State α σ) (x : Sec α σ) :
    ∀ v ∈ writeSet x, v ∈ written (fp s x) := by
  cases x <;>
    simp only [fp, enqColl, releaseIn, collectWork, selectFp, finishedFp, written_append,
      written_rd_cons, written_wr_cons, written_rds, written_nil, writeSet, List.forall_mem_cons,
      List.not_mem_nil, false_imp_iff, implies_true, and_true]
  all_goals simp only [List.mem_append, List.mem_cons, true_or, or_true, and_self]

theorem writesVar_of_writeSet (s : State α σ) {x : Sec α σ} {v : CVar}
    (h : (writeSet x).contains v = true) : writesVar (fp s x) v = true :=
  (any_write_eq _ v).trans
    (List.contains_iff_mem.2 (writeSet_written s x v (List.contains_iff_mem.1 h)))

/-- one field of `Covers s s' (fp s x)` for a literal `s' = { s with … }`: the field is
    left as it is (tested with reducible transparency, so that a changed field such
    as `s.workUnits - 1` is given up at once instead of being unfolded), or its
    variable is in the write set of `x` -/
macro "covers_field" : tactic =>
  `(tactic| first
    | exact fun hne => absurd (by with_reducible rfl) hne
    | exact fun _ => writesVar_of_writeSet _ rfl)

macro "covers_all" : tactic =>
  `(tactic| (constructor <;> covers_field))

/-- the worker list is not a shared variable -/
theorem Covers.setW {s u : State α σ} {l : List Acc} (i : Nat) (p : WPhase α σ)
    (h : Covers s u l) : Covers s (setW u i p) l :=
  ⟨h.workUnits, h.outSlots, h.eof, h.nextTask, h.collQ, h.transQ, h.reordQ, h.order,
    h.collectToken, h.unfinished, h.nextId, h.inSlots, h.outputQ⟩

/-- the end of a section changes `next_task` at most, and only if it runs `select_task()` -/
theorem Covers.ends {c : Cfg} {k : EndKind} {s t s' : State α σ} {l : List Acc}
    (he : Ends c k t s') (hn : k = .plain ∨ writesVar l .nextTask = true) (h : Covers s t l) :
    Covers s s' l := by
  cases he with
  | plain => exact h
  | unlock _ | resel =>
    exact ⟨h.workUnits, h.outSlots, h.eof, fun _ => hn.resolve_left nofun, h.collQ, h.transQ,
      h.reordQ, h.order, h.collectToken, h.unfinished, h.nextId, h.inSlots, h.outputQ⟩

theorem step_annotated {c : Cfg} {cd : Codec α σ} {s s' : State α σ} {l : Label}
    (h : step c cd s l = some s') : ∃ x, inProg cd s x ∧ Covers s s' (fp s x) := by
  obtain ⟨sp, k, t, hc, he, -⟩ := step_inv h
  have sel : ∀ x : Sec α σ, (writeSet x).contains .nextTask = true →
      k = .plain ∨ writesVar (fp s x) .nextTask = true :=
    fun x hx => .inr (writesVar_of_writeSet s hx)
  cases hc with
  | rTake hr hi => exact ⟨.rTake, hr, .ends he (.inl rfl) (by covers_all)⟩
  | rDeliver hr hi => exact ⟨.rDeliver, hr, .ends he (sel _ rfl) (by covers_all)⟩
  | rEmpty hr hi => exact ⟨.rEmpty, hr, .ends he (.inl rfl) (by covers_all)⟩
  | rEof hr => exact ⟨.rEof, hr, .ends he (sel _ rfl) (by covers_all)⟩
  | wTake b q hw hq => exact ⟨.wTake, hw, .ends he (.inl rfl) (by covers_all)⟩
  | wDone b hw => exact ⟨.wDone b, hw, .ends he (sel _ rfl) (by covers_all)⟩
  | idle hi =>
    cases hi with
    | acquire i hw => exact ⟨.acquire i, hw, .ends he (.inl rfl) (.setW _ _ (by covers_all))⟩
    | spurious i hw => exact ⟨.spurious i, hw, .ends he (.inl rfl) (.setW _ _ (by covers_all))⟩
    | runWait i hw hn hf =>
      exact ⟨.runWait i, ⟨hw, hn⟩, .ends he (.inl rfl) (.setW _ _ (by covers_all))⟩
    | runExit i hw hn hf => exact ⟨.runExit i, ⟨hw, hn⟩, .ends he (.inl rfl) (by covers_all)⟩
  | runCollect i ib q hw hn hq hwu =>
    exact ⟨.runCollect i, ⟨hw, hn⟩, .ends he (sel _ rfl) (.setW _ _ (by covers_all))⟩
  | runCollectSeq i hw hn hg =>
    exact ⟨.runCollectSeq i, ⟨hw, hn⟩, .ends he (sel _ rfl) (.setW _ _ (by covers_all))⟩
  | runTransmit i w q hw hn hq hos =>
    exact ⟨.runTransmit i, ⟨hw, hn⟩, .ends he (sel _ rfl) (.setW _ _ (by covers_all))⟩
  | runReorder i w q hw hn hq =>
    exact ⟨.runReorder i w, ⟨hw, hn, by rw [hq]; rfl⟩, .ends he (sel _ rfl) (by covers_all)⟩
  | c1Requeue i ib hw hl =>
    exact ⟨.c1Requeue i ib, ⟨hw, hl⟩, .ends he (sel _ rfl) (.setW _ _ (by covers_all))⟩
  | c1Release i ib hw hl =>
    exact ⟨.c1Release i ib, ⟨hw, hl⟩, .ends he (.inl rfl) (.setW _ _ (by covers_all))⟩
  | c2Enq i w hw => exact ⟨.c2Enq i w, hw, .ends he (sel _ rfl) (.setW _ _ (by covers_all))⟩
  | t1Enq i w hw => exact ⟨.t1Enq i w, hw, .ends he (sel _ rfl) (.setW _ _ (by covers_all))⟩
  | s1Requeue i wo ib hw hl =>
    exact ⟨.s1Requeue i wo ib, hw, .ends he (sel _ rfl) (.setW _ _ (by covers_all))⟩
  | s1Release i wo ib hw hl =>
    exact ⟨.s1Release i wo ib, hw, .ends he (.inl rfl) (.setW _ _ (by covers_all))⟩
  | s1Flush i w hw => exact ⟨.s1Flush i w, hw, .ends he (sel _ rfl) (.setW _ _ (by covers_all))⟩
  | s2Full i w hw => exact ⟨.s2Full i w, hw, .ends he (sel _ rfl) (.setW _ _ (by covers_all))⟩
  | s2Part i w hw => exact ⟨.s2Part i w, hw, .ends he (sel _ rfl) (.setW _ _ (by covers_all))⟩

def AllThr (t : Thread) (l : List Acc) : Prop := ∀ a ∈ l, a.thread = t

theorem allThr_nil (t : Thread) : AllThr t [] := fun _ h => nomatch h

theorem allThr_cons {t : Thread} {a : Acc} {l : List Acc} :
    AllThr t (a :: l) ↔ a.thread = t ∧ AllThr t l := List.forall_mem_cons

theorem allThr_append {t : Thread} {l₁ l₂ : List Acc} :
    AllThr t (l₁ ++ l₂) ↔ AllThr t l₁ ∧ AllThr t l₂ := List.forall_mem_append

theorem allThr_rds (t : Thread) (L : List Lock) (vs : List CVar) : AllThr t (rds t L vs) :=
  forall_mem_rds.2 fun _ _ => rfl

theorem allThr_selectFp (t : Thread) (s : State α σ) : AllThr t (selectFp t s) := by
  simp only [selectFp, allThr_append, allThr_cons, allThr_rds, allThr_nil, thread_rd, thread_wr,
    and_self]

theorem allThr_finishedFp (t : Thread) : AllThr t (finishedFp t) := allThr_rds t S _

theorem allThr_enqColl (t : Thread) (s : State α σ) (m : Nat) : AllThr t (enqColl t s m) := by
  simp only [enqColl, allThr_append, allThr_cons, allThr_rds, allThr_nil, allThr_selectFp,
    thread_rd, thread_wr, and_self]

theorem allThr_collectWork (t : Thread) (m : Nat) (x : Pos) : AllThr t (collectWork t m x) := by
  simp only [collectWork, allThr_cons, allThr_nil, thread_rd, thread_wr, and_self]

theorem allThr_releaseIn (t : Thread) (m : Nat) : AllThr t (releaseIn t m) := by
  simp only [releaseIn, allThr_cons, allThr_nil, thread_rd, thread_wr, and_self]

theorem fp_thread (s : State α σ) (x : Sec α σ) : AllThr x.thread (fp s x) := by
  cases x <;>
    simp only [fp, Sec.thread, allThr_append, allThr_cons, allThr_nil, allThr_rds, allThr_selectFp,
      allThr_finishedFp, allThr_enqColl, allThr_collectWork, allThr_releaseIn, thread_rd,
      thread_wr, and_self]

end LbzVerif.Model.Race.C
