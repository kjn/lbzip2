/-
  Lemmas.Race.SchedDTie — the counterpart of Lemmas.Race.SchedCTie for `Model.SchedD`.

  Fields of `Model.SchedD.State` and the annotated variable they stand for:
  `eof`↦eof, `rclose`↦request_close, `inSlots`↦in_slots, `scanQ`↦scan_q,
  `retrQ`↦retr_q, `emitQ`↦emit_q, `reordQ`↦reord_q, `orderQ`↦order_q,
  `orphans`↦unord_q, `ptok`↦parse_token, `pdone`↦parsing_done,
  `ppos`↦parser_bs, `rd`↦tail_offs, `head`↦head_offs, `wu`↦work_units,
  `outSlots`↦out_slots, `outq`↦output_q.  NOT covered because they are not
  shared program variables: the per-thread program counters `rph`, `pphase`,
  `busy`; the history / ghost fields `nread`, `written`, `porig`, `gnext`,
  `taint`; `failed` (`failf` exits the process; the model stops there).
-/
import LbzVerif.Model.Race.SchedD
import LbzVerif.Lemmas.Race.Basic
import LbzVerif.Lemmas.SchedD.Step

namespace LbzVerif.Model.Race.D
open LbzVerif.Model.SchedD LbzVerif.Lemmas.SchedD

def writesVar (l : List Acc) (v : DVar) : Bool := l.any (fun a => a.write && decide (a.var = v))

structure Covers (s s' : State) (l : List Acc) : Prop where
  eof : s'.eof ≠ s.eof → writesVar l .eof = true
  rclose : s'.rclose ≠ s.rclose → writesVar l .requestClose = true
  inSlots : s'.inSlots ≠ s.inSlots → writesVar l .inSlots = true
  scanQ : s'.scanQ ≠ s.scanQ → writesVar l .scanQ = true
  retrQ : s'.retrQ ≠ s.retrQ → writesVar l .retrQ = true
  emitQ : s'.emitQ ≠ s.emitQ → writesVar l .emitQ = true
  reordQ : s'.reordQ ≠ s.reordQ → writesVar l .reordQ = true
  orderQ : s'.orderQ ≠ s.orderQ → writesVar l .orderQ = true
  orphans : s'.orphans ≠ s.orphans → writesVar l .unordQ = true
  ptok : s'.ptok ≠ s.ptok → writesVar l .parseToken = true
  pdone : s'.pdone ≠ s.pdone → writesVar l .parsingDone = true
  ppos : s'.ppos ≠ s.ppos → writesVar l .parserBs = true
  rd : s'.rd ≠ s.rd → writesVar l .tailOffs = true
  head : s'.head ≠ s.head → writesVar l .headOffs = true
  wu : s'.wu ≠ s.wu → writesVar l .workUnits = true
  outSlots : s'.outSlots ≠ s.outSlots → writesVar l .outSlots = true
  outq : s'.outq ≠ s.outq → writesVar l .outputQ = true

/-- the section a transition belongs to (worker index 0 stands for "some free
    worker": the `*Start` sections and `reorder` are executed by a job-less one) -/
def secOf (s : State) : Label → Sec
  | .rTake => .rTake
  | .rQuit => .rQuit
  | .rBlock => .rBlock
  | .rEmpty => .rEmpty
  | .rEof => .rEof
  | .wDone => .wDone
  | .reorder ob => .reorder 0 ob
  | .parseStart => .parseStart 0
  | .parseEnd => .parseEnd (s.pphase.getD none)
  | .retrStart j => .retrStart 0 j
  | .retrEnd j k => .retrEnd j k
  | .retrPost e => .retrPost e
  | .emitStart e => .emitStart 0 e
  | .emitEnd e => .emitEnd e
  | .scanStart sp => .scanStart 0 sp
  | .scanEnd st k => .scanEnd st k

theorem advance_frame (c : Cfg) (s : State) (p : Nat) :
    (advance c s p).eof = s.eof ∧ (advance c s p).rclose = s.rclose ∧
    (advance c s p).emitQ = s.emitQ ∧ (advance c s p).reordQ = s.reordQ ∧
    (advance c s p).orderQ = s.orderQ ∧ (advance c s p).orphans = s.orphans ∧
    (advance c s p).ptok = s.ptok ∧ (advance c s p).pdone = s.pdone ∧
    (advance c s p).rd = s.rd ∧ (advance c s p).outSlots = s.outSlots ∧
    (advance c s p).outq = s.outq ∧ (advance c s p).busy = s.busy := by
  simp [advance]

def writeSet : Sec → List DVar
  | .rTake => [.inSlots]
  | .rQuit | .idle _ => []
  | .rBlock => [.ispecTotal, .eofMissing, .inputQ, .scanQ, .tailOffs, .nextTask, .inSlots]
  | .rEmpty => [.ispecTotal, .inSlots]
  | .rEof => [.eof, .nextTask]
  | .wDone => [.outputQ, .ospecTotal, .outSlots, .nextTask]
  | .reorder _ _ => [.reordQ, .orderQ, .reordOffs, .outSlots, .outputQ, .nextTask]
  | .parseStart _ => [.parseToken, .workUnits, .nextTask]
  | .retrStart _ _ => [.retrQ, .nextTask]
  | .emitStart _ _ => [.outSlots, .emitQ, .nextTask]
  | .scanStart _ _ => [.workUnits, .scanQ, .nextTask]
  | .parseEnd _ =>
    [.par, .inSlots, .parserBs, .headOffs, .inputQ, .retrQ, .scanQ, .unordQ, .orderQ, .parseToken,
      .parsingDone, .workUnits, .requestClose, .nextTask]
  | .retrEnd _ _ =>
    [.inSlots, .parserBs, .headOffs, .inputQ, .retrQ, .scanQ, .unordQ, .parseToken, .workUnits,
      .nextTask]
  | .retrPost _ => [.emitQ, .nextTask]
  | .emitEnd _ => [.emitQ, .reordQ, .workUnits, .nextTask]
  | .scanEnd _ _ => [.inSlots, .workUnits, .unordQ, .retrQ, .scanQ, .nextTask]

theorem written_bufRead (t : Thread) (k : Option Nat) : written (bufRead t k) = [] := by
  cases k <;> rfl

theorem writeSet_written (c : Cfg) (s : State) (x : Sec) :
    ∀ v ∈ writeSet x, v ∈ written (fp c s x) := by
  cases x <;>
    simp only [fp, selectFp, releaseFp, discardFp, unordFp, written_append, written_rd_cons,
      written_wr_cons, written_rds, written_wrs, written_bufRead, written_nil, writeSet,
      List.forall_mem_cons, List.not_mem_nil, false_imp_iff, implies_true, and_true]
  all_goals simp only [List.mem_append, List.mem_cons, true_or, or_true, and_self]

theorem writesVar_of_writeSet (c : Cfg) (s : State) {x : Sec} {v : DVar}
    (h : (writeSet x).contains v = true) : writesVar (fp c s x) v = true :=
  (any_write_eq _ v).trans
    (List.contains_iff_mem.2 (writeSet_written c s x v (List.contains_iff_mem.1 h)))

/-- `covers_field` of Lemmas.Race.SchedCTie, for `Model.SchedD` -/
macro "dcovers_field" : tactic =>
  `(tactic| first
    | exact fun hne => absurd (by with_reducible rfl) hne
    | exact fun _ => writesVar_of_writeSet _ _ rfl)

macro "dcovers_all" : tactic =>
  `(tactic| (constructor <;> dcovers_field))

def ParseFrame (s s' : State) : Prop :=
  s'.eof = s.eof ∧ s'.emitQ = s.emitQ ∧ s'.reordQ = s.reordQ ∧ s'.rd = s.rd ∧
    s'.outSlots = s.outSlots ∧ s'.outq = s.outq

theorem parseFrame_advance (c : Cfg) (s : State) (p : Nat) : ParseFrame s (advance c s p) := by
  exact ⟨rfl, rfl, rfl, rfl, rfl, rfl⟩

theorem inProg_parseEnd {c : Cfg} {s : State} {k : Option Nat} (h : s.pphase = some k) :
    inProg c s (secOf s .parseEnd) := by
  show s.pphase = some (s.pphase.getD none)
  rw [h]
  rfl

theorem retrDone_ind {P : State → Prop} (c : Cfg) (s : State) (j : Job) (n : Nat)
    (h : ∀ pt po orp, P { s with ptok := pt, porig := po, orphans := orp,
                                 busy := .retr2 (doneEJob c j) :: s.busy }) :
    P (retrDone c s j n) := by
  obtain ⟨pt, po, orp, e⟩ := retrDone_frame c s j n
  rw [e]
  exact h pt po orp

/- The sections that run `detach()` / `advance()` have several transitions each.  Whatever one of
   them does, the state it ends in is `s` with other values in the fields the section may write;
   the entries `s.…` below are what the section leaves alone. -/

theorem covers_parseEnd {c : Cfg} {s : State} (k : Option Nat)
    (hd rc isl sq rq oq orp pt pd pp po gn ph wu bz fl tn) :
    Covers s ⟨s.rph, s.nread, s.rd, hd, s.eof, rc, isl, sq, rq, s.emitQ, s.reordQ, oq, orp, pt,
      pd, pp, po, gn, ph, wu, s.outSlots, s.outq, bz, s.written, fl, tn⟩ (fp c s (.parseEnd k)) := by
  dcovers_all

theorem covers_retrEnd {c : Cfg} {s : State} (j : Job) (k : Option Nat)
    (hd isl sq rq orp pt pp po wu bz tn) :
    Covers s ⟨s.rph, s.nread, s.rd, hd, s.eof, s.rclose, isl, sq, rq, s.emitQ, s.reordQ, s.orderQ,
      orp, pt, s.pdone, pp, po, s.gnext, s.pphase, wu, s.outSlots, s.outq, bz, s.written, s.failed,
      tn⟩ (fp c s (.retrEnd j k)) := by
  dcovers_all

theorem covers_scanEnd {c : Cfg} {s : State} (st k : Nat) (isl sq rq wu bz) :
    Covers s ⟨s.rph, s.nread, s.rd, s.head, s.eof, s.rclose, isl, sq, rq, s.emitQ, s.reordQ,
      s.orderQ, s.orphans, s.ptok, s.pdone, s.ppos, s.porig, s.gnext, s.pphase, wu, s.outSlots,
      s.outq, bz, s.written, s.failed, s.taint⟩ (fp c s (.scanEnd st k)) := by
  dcovers_all

/-- A post-state built from `detach`, `advance`, … is first brought to record form with the
    equations of Lemmas/SchedD/Sub.lean. -/
theorem step_annotated {c : Cfg} {s s' : State} {l : Label} (h : step c s l = some s') :
    inProg c s (secOf s l) ∧ Covers s s' (fp c s (secOf s l)) := by
  obtain ⟨hf, st⟩ := step_inv h
  simp only [step, hf, Bool.false_eq_true, if_false] at h
  have hp := Option.isSome_of_eq_some h
  cases st with
  | rTake hrph | rQuit hrph | rBlockDrop hrph | rBlock hrph | rEmpty hrph | rEof hrph =>
    exact ⟨hrph, by dcovers_all⟩
  | wDone hq => exact ⟨hq, by dcovers_all⟩
  | reorderBogus | reorderErr | reorderMore | reorderOk | parseStart | retrStart | emitStart
  | scanStart => exact ⟨hp, by dcovers_all⟩
  | parseMore k hpp =>
    refine ⟨inProg_parseEnd hpp, ?_⟩
    simp only [parseMore_eq, advance_eq, detach_eq]
    exact covers_parseEnd ..
  | parseErr k u hpp | parseEof k u hpp =>
    refine ⟨inProg_parseEnd hpp, ?_⟩
    simp only [parseVerdict_err, parseVerdict_eof, detach_eq]
    exact covers_parseEnd ..
  | parseFinish k u hpp =>
    refine ⟨inProg_parseEnd hpp, ?_⟩
    simp only [parseFinish_eq, detach_eq]
    exact covers_parseEnd ..
  | parseOk k b hpp =>
    refine ⟨inProg_parseEnd hpp, ?_⟩
    obtain ⟨_, _, _, _, _, _, _, _, _, _, _, e⟩ :=
      parseMatch_frame c (parsePush c (detach { s with pphase := none } k) b) b
    rw [parseOk_eq, e]
    simp only [parsePush_eq, advance_eq, detach_eq]
    exact covers_parseEnd ..
  | retrQuit j k hmem =>
    refine ⟨hmem, ?_⟩
    simp only [retrExit_eq, detach_eq]
    exact covers_retrEnd ..
  | retrOvertaken j k hmem =>
    refine ⟨hmem, retrMove_ind (P := fun t => Covers s (retrExit t _) _) c _ j _ ?_ ?_⟩
    all_goals
      simp only [retrExit_eq, advance_eq, detach_eq]
      exact covers_retrEnd ..
  | retrMore j k hmem =>
    refine ⟨hmem, retrMove_ind (P := fun t => Covers s (retrMore t _ _) _) c _ j _ ?_ ?_⟩
    all_goals
      simp only [retrMore_eq, advance_eq, detach_eq]
      exact covers_retrEnd ..
  | retrDone j k hmem =>
    refine ⟨hmem, retrMove_ind (P := fun t => Covers s (retrDone c t _ _) _) c _ j _ ?_ ?_⟩
    all_goals
      refine retrDone_ind (P := fun t => Covers s t _) c _ j _ fun _ _ _ => ?_
      simp only [advance_eq, detach_eq]
      exact covers_retrEnd ..
  | retrPost e hmem | emitMore e hmem | emitLast e hmem => exact ⟨hmem, by dcovers_all⟩
  | scanNone st k hmem =>
    refine ⟨hmem, ?_⟩
    simp only [detach_eq]
    exact covers_scanEnd ..
  | scanFound st k x hmem =>
    refine ⟨hmem,
      scanNew_ind (P := fun t => Covers s (scanRequeue c t _ _) _) c _ x ?_ fun _ _ => ?_⟩
    all_goals
      simp only [scanRequeue_eq, detach_eq]
      exact covers_scanEnd ..

end LbzVerif.Model.Race.D
