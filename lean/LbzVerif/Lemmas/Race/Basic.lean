/-
  Lemmas.Race.Basic — the generic argument: if ownership is unambiguous and
  both accesses respect the owner of their variable, a conflict implies a
  common lock.  Then what the three systems share when they go through their
  footprints.
-/
import LbzVerif.Model.Race

namespace LbzVerif.Model.Race

variable {S T V X : Type}

theorem respects_no_race {a b : Access T V} {o : Owner T} (ha : Respects a o) (hb : Respects b o)
    (hc : conflict a b) : common a b := by
  obtain ⟨hne, _, hw⟩ := hc
  cases o with
  | lock l => exact ⟨l, ha, hb⟩
  | thread t =>
    simp only [Respects] at ha hb
    exact absurd (ha.trans hb.symm) hne
  | frozen =>
    simp only [Respects] at ha hb
    rcases hw with h | h
    · rw [ha] at h
      cases h
    · rw [hb] at h
      cases h
  | writer t l =>
    obtain ⟨ha1, ha2⟩ := ha
    obtain ⟨hb1, hb2⟩ := hb
    cases haw : a.write <;> cases hbw : b.write
    · rcases hw with h | h
      · rw [haw] at h
        cases h
      · rw [hbw] at h
        cases h
    · obtain ⟨hbt, hbl⟩ := hb1 hbw
      rcases ha2 haw with h | h
      · exact absurd (h.trans hbt.symm) hne
      · exact ⟨l, h, hbl⟩
    · obtain ⟨hat, hal⟩ := ha1 haw
      rcases hb2 hbw with h | h
      · exact absurd (hat.trans h.symm) hne
      · exact ⟨l, hal, h⟩
    · exact absurd ((ha1 haw).1.trans (hb1 hbw).1.symm) hne

theorem protected_no_race_at {D : Discipline S T V} {s : S} {a b : Access T V}
    (hu : ∀ o₁ o₂, D.owns s b.var o₁ → D.owns s b.var o₂ → o₁ = o₂)
    (ha : D.Protected s a) (hb : D.Protected s b) (hc : conflict a b) : common a b := by
  obtain ⟨oa, hoa, hra⟩ := ha
  obtain ⟨ob, hob, hrb⟩ := hb
  rw [hc.2.1] at hoa
  cases hu _ _ hoa hob
  exact respects_no_race hra hrb hc

theorem System.raceFree_of (sys : System S T V X) (hu : sys.AllUnique) (hp : sys.AllProtected) :
    sys.RaceFree := by
  intro s hs x y hx hy a ha b hb hc
  exact protected_no_race_at (hu s hs _) (hp s hs x hx a ha) (hp s hs y hy b hb) hc

theorem System.raceFree_sections (sys : System S T V X) (thr : X → T)
    (hthr : ∀ s x, ∀ a ∈ sys.fp s x, a.thread = thr x) (h : sys.RaceFree) :
    ∀ s, sys.reach s → ∀ x y, sys.inProg s x → sys.inProg s y → thr x ≠ thr y →
      ∀ a ∈ sys.fp s x, ∀ b ∈ sys.fp s y, a.var = b.var → (a.write = true ∨ b.write = true) →
        common a b :=
  fun s hs x y hx hy hne a ha b hb hv hw =>
    h s hs x y hx hy a ha b hb ⟨by rw [hthr s x a ha, hthr s y b hb]; exact hne, hv, hw⟩

theorem Discipline.unlocked_private {D : Discipline S T V} {s : S} {a : Access T V}
    (hp : D.Protected s a) (hl : a.locks = []) :
    D.owns s a.var (.thread a.thread) ∨ (D.owns s a.var .frozen ∧ a.write = false) ∨
      ∃ l, D.owns s a.var (.writer a.thread l) ∧ a.write = false := by
  obtain ⟨o, ho, hr⟩ := hp
  cases o with
  | lock l => simp only [Respects, hl, List.not_mem_nil] at hr
  | thread t =>
    cases (hr : a.thread = t)
    exact .inl ho
  | frozen => exact .inr (.inl ⟨ho, hr⟩)
  | writer t l =>
    obtain ⟨h1, h2⟩ := hr
    cases hw : a.write with
    | true =>
      have := (h1 hw).2
      simp [hl] at this
    | false =>
      rcases h2 hw with e | e
      · subst e
        exact .inr (.inr ⟨l, ho, rfl⟩)
      · simp [hl] at e

theorem Discipline.respects_static {D : Discipline S T V} {s : S} {a : Access T V}
    {static : V → Option (Owner T)} {o : Owner T}
    (hex : ∀ o', static a.var = some o → D.owns s a.var o' → o' = o)
    (hp : D.Protected s a) (hs : static a.var = some o) : Respects a o := by
  obtain ⟨o', ho, hr⟩ := hp
  cases hex o' hs ho
  exact hr

theorem owner_of_holder_unique {H : Type} {holds : H → Prop} {owner : H → Owner T}
    (hu : ∀ {h₁ h₂}, holds h₁ → holds h₂ → h₁ = h₂) {o₁ o₂ : Owner T}
    (h1 : ∃ h, holds h ∧ o₁ = owner h) (h2 : ∃ h, holds h ∧ o₂ = owner h) : o₁ = o₂ := by
  obtain ⟨a, ha, rfl⟩ := h1
  obtain ⟨b, hb, rfl⟩ := h2
  rw [hu ha hb]

variable {P : Access T V → Prop}

theorem forall_mem_rds {t : T} {L : List Lock} {vs : List V} :
    (∀ a ∈ rds t L vs, P a) ↔ ∀ v ∈ vs, P (rd t L v) := List.forall_mem_map

theorem forall_mem_wrs {t : T} {L : List Lock} {vs : List V} :
    (∀ a ∈ wrs t L vs, P a) ↔ ∀ v ∈ vs, P (wr t L v) := List.forall_mem_map

theorem thread_rd (t : T) (L : List Lock) (v : V) : (rd t L v).thread = t := rfl
theorem thread_wr (t : T) (L : List Lock) (v : V) : (wr t L v).thread = t := rfl

def written (l : List (Access T V)) : List V := (l.filter (·.write)).map (·.var)

theorem written_nil : written ([] : List (Access T V)) = [] := rfl

theorem written_append (l₁ l₂ : List (Access T V)) :
    written (l₁ ++ l₂) = written l₁ ++ written l₂ := by
  simp only [written, List.filter_append, List.map_append]

theorem written_rd_cons (t : T) (L : List Lock) (v : V) (l : List (Access T V)) :
    written (rd t L v :: l) = written l := rfl

theorem written_wr_cons (t : T) (L : List Lock) (v : V) (l : List (Access T V)) :
    written (wr t L v :: l) = v :: written l := rfl

theorem written_rds (t : T) (L : List Lock) (vs : List V) : written (rds t L vs) = [] := by
  induction vs with
  | nil => rfl
  | cons v vs ih => exact ih

theorem written_wrs (t : T) (L : List Lock) (vs : List V) : written (wrs t L vs) = vs := by
  induction vs with
  | nil => rfl
  | cons v vs ih => exact congrArg (v :: ·) ih

theorem any_write_eq [DecidableEq V] (l : List (Access T V)) (v : V) :
    l.any (fun a => a.write && decide (a.var = v)) = (written l).contains v := by
  induction l with
  | nil => rfl
  | cons a l ih =>
    rw [List.any_cons, ih]
    cases hw : a.write
    · simp only [written, List.filter_cons, hw, Bool.false_and, Bool.false_or, Bool.false_eq_true,
        if_false]
    · simp only [written, List.filter_cons, hw, Bool.true_and, if_true, List.map_cons,
        List.contains_cons, Bool.beq_eq_decide_eq, eq_comm]

/-- `Respects` as a Boolean.  For `writer` the lock is tested first, so that a locked read
    evaluates to `true` although the accessing thread is a variable. -/
def respectsB [DecidableEq T] (a : Access T V) : Owner T → Bool
  | .lock l => a.locks.contains l
  | .thread t => a.thread == t
  | .frozen => !a.write
  | .writer t l =>
    if a.write then a.locks.contains l && a.thread == t else a.locks.contains l || a.thread == t

theorem respects_of_respectsB [DecidableEq T] {a : Access T V} {o : Owner T}
    (h : respectsB a o = true) : Respects a o := by
  cases o with
  | lock l => exact List.contains_iff_mem.1 h
  | thread t => exact eq_of_beq h
  | frozen => simpa [respectsB, Respects] using h
  | writer t l =>
    cases hw : a.write
    · simpa [respectsB, Respects, hw, or_comm] using h
    · simpa [respectsB, Respects, hw, and_comm] using h

def okStatic [DecidableEq T] (static : V → Option (Owner T)) (a : Access T V) : Bool :=
  match static a.var with
  | some o => respectsB a o
  | none => false

theorem Discipline.protected_of_okStatic [DecidableEq T] {D : Discipline S T V}
    {static : V → Option (Owner T)} (hD : ∀ s v o, static v = some o → D.owns s v o) (s : S)
    {a : Access T V} (h : okStatic static a = true) : D.Protected s a := by
  unfold okStatic at h
  split at h
  · next o ho => exact ⟨o, hD s _ o ho, respects_of_respectsB h⟩
  · cases h

def Discipline.AllProt (D : Discipline S T V) (s : S) (l : List (Access T V)) : Prop :=
  ∀ a ∈ l, D.Protected s a

section
variable {D : Discipline S T V} {s : S}

theorem allProt_nil : D.AllProt s [] := fun _ h => nomatch h

theorem allProt_cons {a : Access T V} {l : List (Access T V)} (h : D.Protected s a)
    (t : D.AllProt s l) : D.AllProt s (a :: l) :=
  List.forall_mem_cons.2 ⟨h, t⟩

theorem allProt_append {l₁ l₂ : List (Access T V)} (h₁ : D.AllProt s l₁) (h₂ : D.AllProt s l₂) :
    D.AllProt s (l₁ ++ l₂) :=
  List.forall_mem_append.2 ⟨h₁, h₂⟩

theorem allProt_rds {t : T} {L : List Lock} {vs : List V}
    (h : ∀ v ∈ vs, D.Protected s (rd t L v)) : D.AllProt s (rds t L vs) :=
  forall_mem_rds.2 h

theorem allProt_wrs {t : T} {L : List Lock} {vs : List V}
    (h : ∀ v ∈ vs, D.Protected s (wr t L v)) : D.AllProt s (wrs t L vs) :=
  forall_mem_wrs.2 h

theorem allProt_static [DecidableEq T] {static : V → Option (Owner T)}
    (hD : ∀ s v o, static v = some o → D.owns s v o) {l : List (Access T V)}
    (h : l.all (okStatic static) = true) : D.AllProt s l :=
  fun a ha => D.protected_of_okStatic hD s (List.all_eq_true.1 h a ha)

theorem allProt_of_unsettled [DecidableEq T] {static : V → Option (Owner T)}
    (hD : ∀ s v o, static v = some o → D.owns s v o) {l : List (Access T V)}
    (h : D.AllProt s (l.filter fun a => !okStatic static a)) : D.AllProt s l := by
  intro a ha
  cases hs : okStatic static a with
  | true => exact D.protected_of_okStatic hD s hs
  | false => exact h a (List.mem_filter.2 ⟨ha, by rw [hs]; rfl⟩)

end

end LbzVerif.Model.Race
