/-
  Lemmas.Race.SchedCWitness — concrete reachable states of the compression scheduler
  for the non-vacuity examples of C12 (configuration / codec / input of
  `Lemmas.SchedC.Witness`: two workers, chunk size 2, input `[0,1,0,1,0]`).
-/
import LbzVerif.Lemmas.SchedC.Witness
import LbzVerif.Model.Race.SchedC

namespace LbzVerif.Model.Race.C
open LbzVerif.Model.SchedC

open Label in
/-- both workers inside the unlocked part of `do_collect`, on chunks 0 and 1 -/
def wTwoPath : List Label :=
  [rTake, rDeliver 0, rTake, rDeliver 0, acquire 0, run 0 0, acquire 1, run 1 0]

open Label in
/-- both workers inside `encode()` (blocks (0,0) and (1,0)) while the reader
    fills buffer 2: three threads in unlocked phases -/
def wThreePath : List Label := wTwoPath ++ [cont 0 0, cont 1 0, rTake]

def wTwo : State Nat (List Nat) :=
  (runLabels wCfg wCodec (init wCfg wInput) wTwoPath).getD (init wCfg wInput)
def wThree : State Nat (List Nat) :=
  (runLabels wCfg wCodec (init wCfg wInput) wThreePath).getD (init wCfg wInput)

def ib0 : IBlk Nat := ⟨⟨0, 0⟩, [0, 1]⟩
def ib1 : IBlk Nat := ⟨⟨1, 0⟩, [0, 1]⟩
def wb0 : WBlk (List Nat) := ⟨⟨0, 0⟩, ⟨1, 0⟩, [0, 1]⟩
def wb1 : WBlk (List Nat) := ⟨⟨1, 0⟩, ⟨2, 0⟩, [0, 1]⟩

/-- the run is evaluated once (`wTwo_runVal`); everything about `wTwo` is read off this value -/
def wTwoVal : State Nat (List Nat) :=
  { input := [0], rd := .idle, nextId := 2, inSlots := 2, eof := false, collQ := [], transQ := [],
    reordQ := [], order := ⟨0, 0⟩, workUnits := 0, outSlots := 6, collectToken := true,
    unfinished := none, nextTask := none, ws := [.c1 ib0, .c1 ib1], outputQ := [], wr := none,
    handed := [], written := [] }

def wThreeVal : State Nat (List Nat) :=
  { wTwoVal with rd := .hold, inSlots := 3, ws := [.c2 wb0, .c2 wb1] }

theorem wTwo_runVal : runLabels wCfg wCodec (init wCfg wInput) wTwoPath = some wTwoVal := by decide
theorem wThree_runVal : runLabels wCfg wCodec (init wCfg wInput) wThreePath = some wThreeVal := by
  decide

theorem wTwo_eq : wTwo = wTwoVal := by
  rw [wTwo, wTwo_runVal]
  rfl

theorem wThree_eq : wThree = wThreeVal := by
  rw [wThree, wThree_runVal]
  rfl

theorem wTwo_reach : Reach wCfg wCodec wInput wTwo := wTwo_eq ▸ reach_of_run _ .init wTwo_runVal

theorem wThree_reach : Reach wCfg wCodec wInput wThree :=
  wThree_eq ▸ reach_of_run _ .init wThree_runVal

theorem wTwo_ws : wTwo.ws = [.c1 ib0, .c1 ib1] := by rw [wTwo_eq]; rfl
theorem wThree_ws : wThree.ws = [.c2 wb0, .c2 wb1] ∧ wThree.rd = .hold ∧ wThree.nextId = 2 := by
  rw [wThree_eq]
  exact ⟨rfl, rfl, rfl⟩

end LbzVerif.Model.Race.C
