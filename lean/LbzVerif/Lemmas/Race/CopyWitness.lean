/-
  Lemmas.Race.CopyWitness — a concrete reachable state of the instrumented copy
  pipeline for the non-vacuity examples of C12 (`-cdf` on a 3-byte input).
-/
import LbzVerif.Model.Race.Copy

namespace LbzVerif.Model.Race.Cp
open LbzVerif.Model.Copy

def grun : List Label → GSt → Option GSt
  | [], g => some g
  | l :: ls, g => (gstep g l).bind (grun ls)

theorem greach_of_grun : ∀ (ls : List Label) {g0 g1 g : GSt}, GReach g0 g1 → grun ls g1 = some g →
    GReach g0 g
  | [], _, _, _, hr, h => by
    simp only [grun, Option.some.injEq] at h
    subst h
    exact hr
  | l :: ls, _, g1, _, hr, h => by
    simp only [grun] at h
    cases hs : gstep g1 l with
    | none => simp [hs] at h
    | some g2 =>
      rw [hs] at h
      exact greach_of_grun ls (.step l hr hs) h

def cpPath : List Label := [.srcTake, .srcRead 3, .srcRead 0, .srcDispatch, .srcPush, .snkShift]

/-- the writer is writing buffer 0 while the reader (at end of input) is about
    to set `eof` -/
def cpMid : GSt := (grun cpPath (ginit [] [7, 8, 9])).getD (ginit [] [])

def cpMidVal : GSt :=
  ⟨{ inp := [], inSlots := 1, outSlots := 1, eof := false, queue := [], src := .setEof,
     snk := .writing [7, 8, 9], out := [], usr2 := 0 }, 1, 1⟩

theorem cpMid_runVal : grun cpPath (ginit [] [7, 8, 9]) = some cpMidVal := by decide

theorem cpMid_eq : cpMid = cpMidVal := by
  rw [cpMid, cpMid_runVal]
  rfl

theorem cpMid_reach : GReach (ginit [] [7, 8, 9]) cpMid :=
  cpMid_eq ▸ greach_of_grun _ .refl cpMid_runVal

theorem cpMid_facts : cpMid.st.snk = .writing [7, 8, 9] ∧ cpMid.st.src = .setEof ∧
    cpMid.nPush = 1 ∧ cpMid.nShift = 1 := by
  rw [cpMid_eq]
  exact ⟨rfl, rfl, rfl, rfl⟩

end LbzVerif.Model.Race.Cp
