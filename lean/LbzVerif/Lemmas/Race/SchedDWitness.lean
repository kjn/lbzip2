/-
  Lemmas.Race.SchedDWitness — a concrete reachable state of `Model.SchedD` for
  the non-vacuity examples of C12 (expansion): the first 12 labels of the F4
  run of `Lemmas.SchedD.Witness` (n = 2, W = 2, in_slots = 2, out_slots = 4).
  In `wD` the master retriever of the block at 1 (position 2) and the scanner
  of input block 1 are both inside their unlocked regions and both hold a
  reference on input block 1: `ref_count = 3`, the buffer is read-shared.
-/
import LbzVerif.Lemmas.SchedD.Witness
import LbzVerif.Model.Race.SchedD

namespace LbzVerif.Model.Race.D
open LbzVerif.Model.SchedD LbzVerif.Lemmas.SchedD

def wDPath : List Label := traceF4.take 12

def wD : State := (run cfgF4 (init cfgF4) wDPath).getD (init cfgF4)

def wJob : Job := ⟨2, 1, none, false⟩

/-- the run is evaluated once (`wD_runVal`); everything about `wD` is read off this value -/
def wDVal : State :=
  { rph := .idle, nread := 3, rd := 3, head := 1, eof := false, rclose := false, inSlots := 0,
    scanQ := [4], retrQ := [], emitQ := [], reordQ := [], orderQ := [(1, 0)], orphans := [],
    ptok := false, pdone := false, ppos := 2, porig := 0, gnext := 11, pphase := none, wu := 0,
    outSlots := 4, outq := 0, busy := [.scan 2 1, .retr wJob (some 1)], written := [],
    failed := false, taint := false }

theorem wD_runVal : run cfgF4 (init cfgF4) wDPath = some wDVal := by decide +kernel

theorem wD_eq : wD = wDVal := by
  rw [wD, wD_runVal]
  rfl

theorem wD_reach : Reach cfgF4 wD := wD_eq ▸ reach_run _ Reach.init wD_runVal

theorem wD_facts : wD.failed = false ∧ wD.busy = [.scan 2 1, .retr wJob (some 1)] ∧
    wD.head = 1 ∧ wD.rd = 3 ∧ wD.pphase = none := by
  rw [wD_eq]
  exact ⟨rfl, rfl, rfl, rfl, rfl⟩

end LbzVerif.Model.Race.D
