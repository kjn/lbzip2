/-
  Lemmas.Race.SchedDRelease — the release condition of the model implies the
  release condition of the annotation.

  `Model.SchedD` gives an input slot back (`source_release_buffer`) in three
  places, each guarded by `!attachedTo s₁ k` where `s₁` is the state after the
  acting thread's own phase has been removed: `detach` (`k < head`), `advance`
  and `parseFinish` (`releaseCount`: `head ≤ k < head'`).  The footprints use
  `mayFree s t` (evaluated in the state `s` BEFORE the phase is removed): block
  `k` is alive and no thread other than `t` holds a reference.  So `releaseFp`
  over-approximates what the model releases.
-/
import LbzVerif.Lemmas.Race.SchedDFootprint

namespace LbzVerif.Model.Race.D
open LbzVerif.Model.SchedD LbzVerif.Lemmas.SchedD

theorem att_of_erase {s : State} {ph : Phase} {k : Nat} (hm : ph ∈ s.busy)
    (h : attachedTo { s with busy := s.busy.erase ph } k = false) :
    attThreads s k = [] ∨ attThreads s k = [.busy ph] := by
  simp only [attachedTo, Bool.or_eq_false_iff] at h
  have hp : ¬ s.pphase = some (some k) := ne_of_beq_false h.1
  -- the workers on block `k` are those left on it once `ph` is gone, and `ph` if it is on `k`
  have hperm := (List.perm_cons_erase hm).filter (fun x => x.block == some k)
  rw [List.filter_cons, List.filter_eq_nil_iff.2 (List.any_eq_false.1 h.2)] at hperm
  simp only [attThreads, if_neg hp, List.nil_append]
  split at hperm
  · rw [List.perm_singleton.1 hperm]
    exact .inr rfl
  · rw [List.perm_nil.1 hperm]
    exact .inl rfl

theorem att_of_parser {s : State} {k : Nat}
    (h : attachedTo { s with pphase := none } k = false) :
    attThreads s k = [] ∨ attThreads s k = [.parser] := by
  simp only [attachedTo, Bool.or_eq_false_iff] at h
  have hf := List.filter_eq_nil_iff.2 (List.any_eq_false.1 h.2)
  simp only [attThreads, hf, List.map_nil, List.append_nil]
  split
  · exact Or.inr rfl
  · exact Or.inl rfl

theorem free_mem_releaseFp {s : State} {t : Thread} {k : Nat} (h : k ∈ mayFree s t) :
    wr t S (DVar.inBuf k) ∈ releaseFp t s := by
  simp only [releaseFp, wrs, List.mem_append, List.mem_map]
  exact Or.inl (Or.inl (Or.inl ⟨_, ⟨k, h, rfl⟩, rfl⟩))

theorem release_mayFree_busy {s : State} {ph : Phase} {k : Nat} (hm : ph ∈ s.busy)
    (ha : alive s k) (h : attachedTo { s with busy := s.busy.erase ph } k = false) :
    k ∈ mayFree s (.busy ph) :=
  mem_mayFree.2 ⟨ha.1, ha, att_of_erase hm h⟩

theorem release_mayFree_parser {s : State} {k : Nat} (ha : alive s k)
    (h : attachedTo { s with pphase := none } k = false) : k ∈ mayFree s .parser :=
  mem_mayFree.2 ⟨ha.1, ha, att_of_parser h⟩

end LbzVerif.Model.Race.D
