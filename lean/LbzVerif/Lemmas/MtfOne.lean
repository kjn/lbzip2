/-
  Lemmas.MtfOne — `mtf_one` on the sliding lists: never leaves
  `imtf_slide[0, SLIDE_LENGTH)`, preserves the layout invariant, and acts on the
  logical list (the 16 rows concatenated) as list move-to-front.  There is one
  path to prove: the unrolled fast path is the general one with no row to slide
  (`mtfOne_fast`), and on the general path the list is right throughout but for
  the hole of Lemmas/MtfSlide.lean, which the last store fills.
-/
import LbzVerif.Spec.Mtf
import LbzVerif.Model.MtfDec
import LbzVerif.Lemmas.MtfSlide

namespace LbzVerif.Lemmas.MtfOne
open LbzVerif.Model.MtfDec LbzVerif.Gen LbzVerif.Lemmas.MtfSlide

structure Inv (s : Slide) : Prop where
  size : s.mem.size = 8192
  len : s.row.length = 16
  /-- the rows stand in order, at least `ROW_WIDTH` apart -/
  sep : ∀ i j, i ≤ j → j < 16 → R s.row i + 16 * (j - i) ≤ R s.row j
  /-- row 15 ends inside `imtf_slide` -/
  top : R s.row 15 + 16 ≤ 8192

theorem absAt_eq (m : Array UInt8) (row : List Nat) (k : Nat) :
    absAt ⟨m, row⟩ k = cell m (R row (k / 16) + k % 16) := by
  simp [absAt, cell, R, row_width]

theorem toNat_pos {c : UInt8} (hc : c ≠ 0) : 1 ≤ c.toNat := by
  have : c.toNat ≠ 0 := fun h0 => hc (UInt8.toNat_inj.mp (by simpa using h0))
  omega

theorem Inv.hi {s : Slide} (h : Inv s) (i : Nat) (hi : i < 16) : R s.row i + 16 * (16 - i) ≤ 8192 := by
  have := h.sep i 15 (by omega) (by omega)
  have := h.top
  omega

theorem sep_lower {r r' : Nat → Nat} {L : Nat}
    (hsep : ∀ i j, i ≤ j → j < 16 → r i + 16 * (j - i) ≤ r j)
    (hlow : ∀ i, i < L → r' i + 1 = r i) (hhigh : ∀ i, L ≤ i → r' i = r i) :
    ∀ i j, i ≤ j → j < 16 → r' i + 16 * (j - i) ≤ r' j := by
  intro i j hij hj
  have := hsep i j hij hj
  by_cases hjL : j < L
  · have := hlow i (by omega)
    have := hlow j hjL
    omega
  · have := hhigh j (by omega)
    by_cases hiL : i < L
    · have := hlow i hiL
      omega
    · have := hhigh i (by omega)
      omega

theorem rebuild_spec (s : Slide) (h : Inv s) :
    ∃ s1, rebuild s = some s1 ∧ Inv s1 ∧ (∀ i, i < 16 → R s1.row i = 7936 + 16 * i) ∧
      (∀ k, k < 256 → absAt s1 k = absAt s k) := by
  obtain ⟨m', row', e1, e2, e3, e4, _, e6⟩ := rebuildLoop_spec 16 s.mem s.row (by omega) h.size h.len
    (by intro i hi; have := h.hi i hi; omega)
  have hrow : ∀ i, i < 16 → R row' i = 7936 + 16 * i := by
    intro i hi
    rw [e4 i]
    simp [hi]
  refine ⟨⟨m', row'⟩, ?_, ⟨e2, e3, ?_, ?_⟩, hrow, ?_⟩
  · unfold rebuild
    simp only [slide_length, num_rows]
    have : (7936 + 16 * 16 : Nat) = 8192 := rfl
    rw [this] at e1
    rw [e1]
  · intro i j hij hj
    show R row' i + 16 * (j - i) ≤ R row' j
    rw [hrow i (by omega), hrow j hj]; omega
  · show R row' 15 + 16 ≤ 8192
    rw [hrow 15 (by omega)]; omega
  · intro k hk
    rw [absAt_eq, absAt_eq, hrow (k / 16) (by omega), e6 (k / 16) (k % 16) (by omega) (by omega)]

/-- The part of `mtf_one`'s general path after the rebuild test. -/
def generalCore (s1 : Slide) (cn : Nat) : Option (UInt8 × Slide) :=
  match s1.row[cn / ROW_WIDTH]? with
  | none => none
  | some bb =>
    match rd s1.mem (bb + cn % ROW_WIDTH) with
    | none => none
    | some b =>
      match shiftUp s1.mem bb (cn % ROW_WIDTH) with
      | none => none
      | some m1 =>
        match slideLoop m1 s1.row bb (cn / ROW_WIDTH) with
        | none => none
        | some (m2, row2, pp2) =>
          match wr m2 pp2 b with
          | none => none
          | some m3 => some (b, ⟨m3, row2⟩)

theorem mtfOne_general (s : Slide) (c : UInt8) (h16 : ¬ c.toNat < 16) :
    mtfOne s c =
      match s.row[0]? with
      | none => none
      | some r0 =>
        match (if r0 = 0 then rebuild s else some s) with
        | none => none
        | some s1 => generalCore s1 c.toNat := by
  unfold mtfOne generalCore
  simp only [row_width, h16, if_false]
  rfl

theorem holed_shift (s : Slide) (h : Inv s) (cn : Nat) (h256 : cn < 256) {m1 : Array UInt8}
    (hshift : ∀ j, cell m1 j =
      if R s.row (cn / 16) < j ∧ j ≤ R s.row (cn / 16) + cn % 16 then cell s.mem (j - 1) else cell s.mem j) :
    Holed (absAt s) (fun k => if k ≤ cn then absAt s (k - 1) else absAt s k) (16 * (cn / 16)) m1
      (R s.row) := by
  refine ⟨fun k hk => ?_, fun k hk hk256 => ?_⟩
  · have := h.sep (k / 16) (cn / 16) (by omega) (by omega)
    rw [hshift, if_neg (by omega), absAt_eq]
  · rw [hshift]
    by_cases hq : k / 16 = cn / 16
    · rw [hq]
      by_cases hkc : k ≤ cn
      · rw [if_pos (by omega), if_pos hkc, absAt_eq, show (k - 1) / 16 = cn / 16 by omega]
        congr 1
        omega
      · rw [if_neg (by omega), if_neg hkc, absAt_eq, hq]
    · have := h.sep (cn / 16) (k / 16) (by omega) (by omega)
      rw [if_neg (by omega), if_neg (by omega), absAt_eq]

/-- `mtf_one` after the rebuild test, for every index `1 … 255` (on the fast path `cn / 16 = 0`: no
row moves). -/
theorem generalCore_spec (s : Slide) (h : Inv s) (cn : Nat) (h1 : 1 ≤ cn) (h256 : cn < 256)
    (hr0 : 16 ≤ cn → 1 ≤ R s.row 0) :
    ∃ s', generalCore s cn = some (absAt s cn, s') ∧ Inv s' ∧
      (∀ i, R s'.row i = R s.row i - (if i < cn / 16 then 1 else 0)) ∧ (cn < 16 → s'.row = s.row) ∧
      (∀ k, k < 256 → absAt s' k =
        if k = 0 then absAt s cn else if k ≤ cn then absAt s (k - 1) else absAt s k) := by
  have hsz := h.size
  have hlen := h.len
  have hL15 : cn / 16 < 16 := by omega
  have hhiL := h.hi (cn / 16) hL15
  obtain ⟨m1, a1, a2, f1⟩ := shiftUp_spec (R s.row (cn / 16)) (cn % 16) s.mem (by omega)
  obtain ⟨m2, row2, b1, b2, b3, f4, f0, H⟩ :=
    slideLoop_hole (cn / 16) m1 s.row hL15 (by rw [a2, hsz]) hlen
      (by intro i j hij hj; have := h.sep i j (by omega) (by omega); omega)
      (by intro i hi; have := h.sep i (cn / 16) (by omega) (by omega); omega)
      (by intro q hq hq16; have := h.sep (cn / 16) q (by omega) hq16; omega)
      (by intro i hi; have := h.hi i hi; omega)
      (by intro hL; exact hr0 (by omega))
      (by intro k _ hk; exact if_pos (by omega))
      (holed_shift s h cn h256 f1)
  have hlow : ∀ i, i < cn / 16 → R row2 i + 1 = R s.row i := by
    intro i hi
    have := h.sep 0 i (by omega) (by omega)
    have := hr0 (by omega)
    rw [f4 i, if_pos hi]
    omega
  have hhigh : ∀ i, cn / 16 ≤ i → R row2 i = R s.row i := by
    intro i hi
    rw [f4 i, if_neg (by omega)]
  have hsep' := sep_lower h.sep hlow hhigh
  have hhi0 := h.hi 0 (by omega)
  have h20 : R row2 0 ≤ R s.row 0 := by rw [f4 0]; split <;> omega
  have hset := cell_set m2 (R row2 0) (absAt s cn) (by omega)
  refine ⟨⟨m2.setIfInBounds (R row2 0) (absAt s cn), row2⟩, ?_,
    ⟨by simp [b2], b3, hsep', ?_⟩, ?_, fun h16 => f0 (by omega), ?_⟩
  · unfold generalCore
    simp only [row_width]
    rw [row_get s.row _ (by rw [hlen]; exact hL15)]
    dsimp only
    rw [rd_eq s.mem _ (by omega)]
    dsimp only
    rw [a1]
    dsimp only
    rw [b1]
    dsimp only
    rw [wr_eq m2 _ _ (by omega), absAt_eq]
  · show R row2 15 + 16 ≤ 8192
    rw [hhigh 15 (by omega)]
    exact h.top
  · intro i
    show R row2 i = _
    rw [f4 i]
    split <;> rfl
  · intro k hk
    rw [absAt_eq, hset]
    by_cases k0 : k = 0
    · subst k0
      simp
    · have := hsep' 0 (k / 16) (by omega) (by omega)
      rw [if_neg (by omega), if_neg k0]
      exact H.hi k (by omega) hk

theorem mtfOne_fast (s : Slide) (c : UInt8) (h1 : 1 ≤ c.toNat) (h16 : c.toNat < 16) :
    mtfOne s c = generalCore s c.toNat := by
  have hd : c.toNat / 16 = 0 := by omega
  have hm : c.toNat % 16 = c.toNat := by omega
  have c0 : ¬ c.toNat = 0 := by omega
  unfold mtfOne generalCore
  simp only [row_width, h16, if_true, c0, if_false, hd, hm, slideLoop]
  rfl

theorem mtfOne_spec (s : Slide) (h : Inv s) (c : UInt8) (h1 : 1 ≤ c.toNat) :
    ∃ s', mtfOne s c = some (absAt s c.toNat, s') ∧ Inv s' ∧
      (∀ k, k < 256 → absAt s' k =
        if k = 0 then absAt s c.toNat else if k ≤ c.toNat then absAt s (k - 1) else absAt s k) ∧
      (c.toNat < 16 → s'.row = s.row) ∧
      (16 ≤ c.toNat → ∀ i, i < 16 → R s'.row i =
        (if R s.row 0 = 0 then 7936 + 16 * i else R s.row i) - (if i < c.toNat / 16 then 1 else 0)) := by
  have h256 : c.toNat < 256 := by simpa using UInt8.toNat_lt c
  by_cases h16 : c.toNat < 16
  · obtain ⟨s', e1, e2, _, e3, e4⟩ := generalCore_spec s h c.toNat h1 h256 (fun hh => absurd h16 (by omega))
    exact ⟨s', (mtfOne_fast s c h1 h16).trans e1, e2, e4, e3, fun hh => absurd h16 (by omega)⟩
  · rw [mtfOne_general s c h16, row_get s.row 0 (by rw [h.len]; omega)]
    dsimp only
    by_cases hr0 : R s.row 0 = 0
    · obtain ⟨s1, r1, r2, r3, r4⟩ := rebuild_spec s h
      rw [if_pos hr0, r1]
      dsimp only
      obtain ⟨s', e1, e2, e3, _, e4⟩ := generalCore_spec s1 r2 c.toNat h1 h256
        (fun _ => by rw [r3 0 (by omega)]; omega)
      refine ⟨s', ?_, e2, ?_, fun hh => absurd hh h16, ?_⟩
      · rw [e1, r4 _ h256]
      · intro k hk
        rw [e4 k hk, r4 _ h256, r4 k hk]
        by_cases k0 : k = 0
        · simp [k0]
        · rw [r4 (k - 1) (by omega)]
      · intro _ i hi
        rw [e3 i, r3 i hi, if_pos hr0]
    · rw [if_neg hr0]
      dsimp only
      obtain ⟨s', e1, e2, e3, _, e4⟩ := generalCore_spec s h c.toNat h1 h256 (fun _ => by omega)
      refine ⟨s', e1, e2, e4, fun hh => absurd hh h16, ?_⟩
      intro _ i hi
      rw [e3 i, if_neg hr0]

theorem abs_length (s : Slide) : (abs s).length = 256 := by simp [abs]

theorem abs_getElem (s : Slide) (k : Nat) (hk : k < (abs s).length) : (abs s)[k] = absAt s k := by
  simp [abs]

open LbzVerif.Spec.Mtf in
theorem mtfOne_abs (s : Slide) (h : Inv s) (c : UInt8) (h1 : 1 ≤ c.toNat) :
    ∃ b s', mtfOne s c = some (b, s') ∧ Inv s' ∧ (abs s)[c.toNat]? = some b ∧
      abs s' = moveToFront (abs s) c.toNat := by
  have h256 : c.toNat < 256 := by simpa using UInt8.toNat_lt c
  obtain ⟨s', e1, e2, e3, _, _⟩ := mtfOne_spec s h c h1
  have hget : (abs s)[c.toNat]? = some (absAt s c.toNat) := by
    rw [List.getElem?_eq_getElem (by rw [abs_length]; exact h256), abs_getElem]
  refine ⟨_, s', e1, e2, hget, ?_⟩
  unfold moveToFront
  rw [hget]
  dsimp only
  apply List.ext_getElem
  · simp [abs_length, List.length_eraseIdx, h256]
  · intro k hk1 hk2
    rw [abs_length] at hk1
    rw [abs_getElem, e3 k hk1, List.getElem_cons]
    by_cases k0 : k = 0
    · simp [k0]
    · simp only [k0, if_false, dite_false]
      rw [List.getElem_eraseIdx]
      by_cases hkc : k ≤ c.toNat
      · have : k - 1 < c.toNat := by omega
        simp only [hkc, this, if_true, dite_true, abs_getElem]
      · have : ¬ k - 1 < c.toNat := by omega
        simp only [hkc, this, if_false, dite_false, abs_getElem]
        congr 1; omega

open LbzVerif.Spec.Mtf in
theorem mtfMany_abs (cs : List UInt8) : ∀ (s : Slide), Inv s → (∀ c ∈ cs, c ≠ 0) →
    ∃ bs s', mtfMany s cs = some (bs, s') ∧ Inv s' ∧
      mtfDecode (abs s) (cs.map UInt8.toNat) = some bs ∧
      abs s' = (cs.map UInt8.toNat).foldl moveToFront (abs s) := by
  induction cs with
  | nil => intro s h _; exact ⟨[], s, rfl, h, rfl, rfl⟩
  | cons c cs ih =>
    intro s h hc
    obtain ⟨b, s1, e1, e2, e3, e4⟩ := mtfOne_abs s h c (toNat_pos (hc c (List.mem_cons_self ..)))
    obtain ⟨bs, s2, f1, f2, f3, f4⟩ := ih s1 e2 (fun x hx => hc x (List.mem_cons_of_mem _ hx))
    refine ⟨b :: bs, s2, ?_, f2, ?_, ?_⟩
    · rw [mtfMany, e1]
      dsimp only
      rw [f1]
    · simp only [List.map_cons, mtfDecode, e3]
      rw [← e4, f3]; rfl
    · simp only [List.map_cons, List.foldl_cons]
      rw [← e4, f4]

theorem R_initRows (i : Nat) (hi : i < 16) : R initRows i = 7936 + 16 * i := by
  simp only [R, initRows, num_rows, cmap_base, row_width, List.getD_eq_getElem?_getD]
  rw [List.getElem?_eq_getElem (by simpa using hi)]
  simp; omega

theorem inv_slideOf (bytes : List UInt8) : Inv (slideOf bytes) := by
  refine ⟨?_, ?_, ?_, ?_⟩
  · simp only [slideOf, List.size_toArray, List.length_append, List.length_replicate,
      List.length_take, cmap_base]; omega
  · simp [slideOf, initRows, num_rows]
  · intro i j hij hj
    show R initRows i + 16 * (j - i) ≤ R initRows j
    rw [R_initRows i (by omega), R_initRows j hj]; omega
  · show R initRows 15 + 16 ≤ 8192
    rw [R_initRows 15 (by omega)]; omega

theorem abs_slideOf (bytes : List UInt8) (hb : bytes.length = 256) : abs (slideOf bytes) = bytes := by
  apply List.ext_getElem
  · rw [abs_length, hb]
  · intro k hk1 hk2
    rw [abs_length] at hk1
    rw [abs_getElem, absAt_eq]
    show cell (slideOf bytes).mem (R initRows (k / 16) + k % 16) = _
    rw [R_initRows _ (by omega)]
    have hidx : 7936 + 16 * (k / 16) + k % 16 = 7936 + k := by omega
    rw [hidx]
    simp only [cell, slideOf, cmap_base, Array.getD_eq_getD_getElem?, List.getElem?_toArray,
      List.getElem?_append, List.length_replicate]
    have h1 : ¬ 7936 + k < 7936 := by omega
    have h2 : 7936 + k - 7936 = k := by omega
    simp only [h1, if_false, h2, hb, Nat.sub_self, List.replicate_zero, List.append_nil]
    rw [List.getElem?_take, if_pos hk1, List.getElem?_eq_getElem hk2]
    rfl

end LbzVerif.Lemmas.MtfOne
