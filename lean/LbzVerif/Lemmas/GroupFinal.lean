/-
  Lemmas.GroupFinal — assembly of the end-to-end block theorems
  `run_ok_sound` / `run_complete`: one call of the slow retriever from `S_INIT`
  against the oracle `Spec.Bzip2.parseBlock` + `Spec.Bzip2.unMtfRle2`.
    header      RetrieveHeader.header_spec_rest + RetrieveSpecLink.parseBlock_factor
    lookup      TreeSound.lookup_sound, TransmitSym.decodeSym_canon (in GroupMachine.window_decode)
    group loop  GroupMachine.groups_machine (machine = `groupsRef`)
                GroupPure.groupsRef_eq (`groupsRef` = `decodeGroups` + symbol fold)
    symbols     MtfRun.consume_init, RetrieveOk.symLoop_eq_consume +
                SpecMtfLink.unMtfRle2_link (`Spec.Mtf` = `Spec.Bzip2`)
-/
import LbzVerif.Lemmas.GroupBlock
import LbzVerif.Lemmas.SpecMtfLink
import LbzVerif.Lemmas.RetrieveHeader

namespace LbzVerif.Lemmas.GroupFinal
open LbzVerif.Model.Retrieve
open LbzVerif.Model.MtfDec (RunSt)
open LbzVerif.Model
open LbzVerif.Lemmas.RetrieveBits LbzVerif.Lemmas.RetrieveEqns
open LbzVerif.Lemmas.RetrieveBitmap LbzVerif.Lemmas.RetrieveHeader
open LbzVerif.Lemmas.RetrieveSpecLink
open LbzVerif.Lemmas.GroupDefs LbzVerif.Lemmas.GroupMachine LbzVerif.Lemmas.RetrieveOk LbzVerif.Lemmas.RetrieveCall
open LbzVerif.Lemmas.GroupBlock LbzVerif.Lemmas.GroupPure

/-- Behind a header read from `S_INIT` the run state at the top of the group loop is the fresh
one over the block's `cmap`. -/
theorem top_run0 {v w r idx : Nat} {s1 : St} {h : Hdr}
    (hk : HdrOk ({ St.start v w with rand := r, bwtIdx := idx }) s1 h) :
    MtfDec.initRun (MtfDec.slideOf s1.cmap) = some s1.run := by
  obtain ⟨rs0, e1, e2⟩ := hk.run
  obtain ⟨hn, ho⟩ := Lemmas.MtfRun.initRun_fresh _ _ e1
  rw [e1, e2]
  cases rs0
  cases hn
  cases ho
  rfl

theorem symbols_link (h : Hdr) (s1 : St) {st : St} (hwf : HdrWf h) (hk : HdrOk st s1 h)
    (hr0 : MtfDec.initRun (MtfDec.slideOf s1.cmap) = some s1.run)
    (syms : List Nat) (hs : ∀ s ∈ syms, s < h.used.length + 1) :
    MtfRun.toOpt (symLoop s1.run (syms.map (Canon.renumber (h.used.length + 2)) ++ [0])) =
      match Spec.Bzip2.unMtfRle2 h.used Gen.MAX_BLOCK_SIZE syms with
      | .ok a => some a.toList
      | .error _ => none := by
  have habs : ∃ junk, MtfDec.abs (MtfDec.slideOf s1.cmap) = h.used ++ junk := by
    refine ⟨s1.cmap.drop h.used.length, ?_⟩
    rw [Lemmas.MtfOne.abs_slideOf _ hk.cmapLen]
    conv => lhs; rw [← List.take_append_drop h.used.length s1.cmap, hk.cmapTake]
  obtain ⟨st0, i1, i2⟩ := Lemmas.MtfRun.consume_init (MtfDec.slideOf s1.cmap)
    (Lemmas.MtfOne.inv_slideOf _) h.used hwf.used1 hwf.used256 habs Gen.MAX_BLOCK_SIZE (Nat.le_refl _)
    (syms ++ [h.used.length + 1])
    (by
      intro s hsm
      rcases List.mem_append.mp hsm with a | a
      · have := hs s a; omega
      · simp at a; omega)
  rw [hr0] at i1
  rw [← Option.some.inj i1] at i2
  have hmap : (syms ++ [h.used.length + 1]).map (MtfDec.internalSym h.used.length) =
      syms.map (Canon.renumber (h.used.length + 2)) ++ [0] := by
    have hu1 := hwf.used1
    have h0 := Lemmas.MtfRun.internalSym_eob h.used.length hu1
    have hm : syms.map (MtfDec.internalSym h.used.length) =
        syms.map (Canon.renumber (h.used.length + 2)) :=
      List.map_congr_left (fun s _ => Lemmas.MtfRun.internalSym_eq _ s)
    rw [List.map_append, List.map_cons, List.map_nil, h0, hm]
  rw [hmap] at i2
  rw [symLoop_eq_consume, i2]
  exact Lemmas.SpecMtfLink.unMtfRle2_link h.used (List.ne_nil_of_length_pos hwf.used1) Gen.MAX_BLOCK_SIZE syms
    (fun s hsm => by have := hs s hsm; omega)

/-- The reference's MTF/RLE2 stage accepts the symbols of a block exactly when every symbol
action continues and the last run fits; its bytes are those of the flushed run state. -/
theorem symbols_iff (h : Hdr) (s1 : St) {st : St} (hwf : HdrWf h) (hk : HdrOk st s1 h)
    (hr0 : MtfDec.initRun (MtfDec.slideOf s1.cmap) = some s1.run)
    (syms : List Nat) (hs : ∀ s ∈ syms, s < h.used.length + 1) (tt : Array UInt8) :
    Spec.Bzip2.unMtfRle2 h.used Gen.MAX_BLOCK_SIZE syms = .ok tt ↔
      ∃ rs', symFold s1.run (syms.map (Canon.renumber (h.used.length + 2))) = some rs' ∧
        ¬ (rs'.run > Gen.MAX_BLOCK_SIZE - rs'.n) ∧ tt.toList = (MtfDec.flush rs').out.reverse := by
  have hlink := symbols_link h s1 hwf hk hr0 syms hs
  constructor
  · intro hum
    rw [hum] at hlink
    cases hsl : symLoop s1.run (syms.map (Canon.renumber (h.used.length + 2)) ++ [0]) with
    | overflow => rw [hsl] at hlink; cases hlink
    | unterm => rw [hsl] at hlink; cases hlink
    | ub => rw [hsl] at hlink; cases hlink
    | ok out ftab =>
      have hnz : ∀ s ∈ syms.map (Canon.renumber (h.used.length + 2)), s ≠ 0 := by
        intro s hsm h0
        obtain ⟨x, hx, rfl⟩ := List.mem_map.mp hsm
        have := hs x hx
        have := (renumber_eq_zero h.used.length x hwf.used1 (by omega)).mp h0
        omega
      obtain ⟨rs', hfold⟩ := fold_of_symLoop _ _ out ftab hnz hsl
      refine ⟨rs', hfold, ?_⟩
      rw [symLoop_of_fold _ _ _ hfold] at hlink
      by_cases hov : rs'.run > Gen.MAX_BLOCK_SIZE - rs'.n
      · rw [if_pos hov] at hlink
        cases hlink
      · rw [if_neg hov] at hlink
        injection hlink with hout
        exact ⟨hov, hout.symm⟩
  · rintro ⟨rs', hfold, hov, hout⟩
    rw [symLoop_of_fold _ _ _ hfold, if_neg hov] at hlink
    cases hum : Spec.Bzip2.unMtfRle2 h.used Gen.MAX_BLOCK_SIZE syms with
    | error er => rw [hum] at hlink; cases hlink
    | ok tt' =>
      rw [hum] at hlink
      have hl := Option.some.inj hlink
      rw [← hout] at hl
      rw [Array.toList_inj.mp hl]

theorem nOut_init {sl : MtfDec.Slide} {rs : RunSt} (h : MtfDec.initRun sl = some rs) : NOut rs := by
  obtain ⟨hn, ho⟩ := Lemmas.MtfRun.initRun_fresh _ _ h
  unfold NOut
  rw [hn, ho]
  rfl

/-- At the top of the group loop, behind a header the reference accepts: `rand` / `bwt_idx` are
the header's, the selectors still to use are the header's (clamped), and the loop from there is
what `groups_machine` says of `groupsRef`. -/
theorem run_top (v w : Nat) (ws : List Nat) (hw : w ≤ 63) (r0 idx0 : Nat) (h : Hdr)
    (hsp : specHeader (bitsOf (St.start v w) ws) = some (r0, idx0, h)) {s1 : St} {rest1 : List Nat}
    (e : toTop (St.start v w) ws = .top s1 rest1)
    (hk : HdrOk { St.start v w with rand := r0, bwtIdx := idx0 } s1 h)
    (hbits : bitsOf s1 rest1 = h.rest) (inv1 : BufInv s1.v s1.w) :
    s1.rand = r0 ∧ s1.bwtIdx = idx0 ∧ s1.numSel - s1.g = (h.sels.take s1.numSel).length ∧
      (((∃ s, groups false (h.sels.take s1.numSel).length s1 rest1 = .susp s) ∧
          ShortS (groupsRef h.tabs (h.sels.take s1.numSel) (List.range h.ng) s1.run h.rest)) ∨
        GroupsOk s1.rand s1.bwtIdx (groups false (h.sels.take s1.numSel).length s1 rest1)
          (groupsRef h.tabs (h.sels.take s1.numSel) (List.range h.ng) s1.run h.rest)) := by
  have hwf : HdrWf h := (specHeader_some hsp).1
  have hI := ginv_of_hdrOk _ s1 h hk hwf rfl rfl inv1 (toTop_w63 ws (St.start v w) hw s1 rest1 e)
  have hgm := groups_machine h.tabs h.used.length (h.sels.take s1.numSel) s1 rest1 (List.range h.ng)
    hI ((gwf_of_hdrWf hwf).take _)
  rw [hbits] at hgm
  exact ⟨hk.rand, hk.bwtIdx, hI.n.symm, hgm⟩

theorem parseTail_eq (level start crc r idx : Nat) (h : Hdr) (pos : Nat) (ts : List Nat)
    (hts : unmtfL (List.range h.ng) h.sels = some ts) :
    parseTail level start crc r idx h pos =
      (groupsSyms ((h.tabs.map Spec.Bzip2.mkCode).toArray) (h.used.length + 1) ts h.rest).map
        fun (n, syms, q, B') =>
          ({ level := level, startBit := start, endBit := pos + q, storedCrc := crc,
             rand := r == 1, origPtr := idx, used := h.used, nGroups := h.ng,
             selectors := ts, tables := h.tabs, nSelectorsUsed := n,
             syms := syms.toArray }, B') := by
  unfold parseTail
  rw [unMtfSelectors_eq, hts]
  simp only [Option.map_some]
  have hl : (Array.mkEmpty h.ns ++ ts.toArray : Array Nat).toList = ts := by simp
  have he : h.used.length + 2 - 1 = h.used.length + 1 := rfl
  rw [hl, he, decodeGroups_eq]
  cases groupsSyms ((h.tabs.map Spec.Bzip2.mkCode).toArray) (h.used.length + 1) ts h.rest with
  | error e => rfl
  | ok y => simp [Except.map]

/-- What the reference says about a block, in the terms of the retriever's
answer `(s', rest')`. -/
def RefAgrees (level start crc : Nat) (bits : List Bool) (s' : St) (rest' : List Nat) : Prop :=
  ∃ (b : Spec.Bzip2.Block) (tt : Array UInt8),
    Spec.Bzip2.parseBlock level start bits = .ok (b, bitsOf s' rest') ∧
    b.level = level ∧ b.startBit = start ∧ b.storedCrc = crc ∧
    b.rand = (s'.rand == 1) ∧ b.origPtr = s'.bwtIdx ∧
    Spec.Bzip2.unMtfRle2 b.used Gen.MAX_BLOCK_SIZE b.syms.toList = .ok tt ∧
    tt.toList = s'.run.out.reverse ∧ tt.size = s'.run.n ∧ tt.size ≠ 0 ∧ b.origPtr < tt.size

/-- **Soundness of one call**: what `Props.C05.Block.retrieve_sound` states, for the slow
retriever. -/
theorem run_ok_sound (v w : Nat) (ws : List Nat) (inv : BufInv v w) (hw : w ≤ 63) (s' : St)
    (rest' : List Nat) (hr : run false (St.start v w) ws = .halt .ok s' rest')
    (level start crc : Nat) (bits : List Bool)
    (h32 : Basic.takeNat 32 bits = some (crc, bitsOf (St.start v w) ws)) :
    RefAgrees level start crc bits s' rest' := by
  obtain ⟨r0, idx0, h, s1, rest1, hsp, e, hk, hbits, inv1, hr⟩ :=
    run_ok_top (St.start v w) ws (Or.inl rfl) inv hr
  obtain ⟨hrand, hidx, hn, hgm⟩ := run_top v w ws hw r0 idx0 h hsp e hk hbits inv1
  have hwf : HdrWf h := (specHeader_some hsp).1
  have gw := gwf_of_hdrWf hwf
  rw [hn] at hr
  cases hgm with
  | inl hsu =>
    obtain ⟨⟨s, e2⟩, _⟩ := hsu
    rw [hr] at e2; cases e2
  | inr hgo =>
    cases hgs : groupsRef h.tabs (h.sels.take s1.numSel) (List.range h.ng) s1.run h.rest with
    | trunc => rw [hgs] at hgo; exact absurd hgo id
    | stop r =>
      exfalso
      rw [hgs] at hgo
      obtain ⟨ws', e2⟩ := hgo
      rw [hr] at e2
      injection e2 with _ e3 _
      have hbo := groups_ok _ _ _ _ _ hr
      rw [e3] at hbo
      exact absurd hbo.1 (by decide)
    | ok rs' B' =>
      rw [hgs] at hgo
      obtain ⟨r, s, ws', e2, σ, he, g1, g2, g3, g5⟩ := hgo
      rw [hr] at e2
      injection e2 with e2a e2b e2c
      subst e2a
      subst e2b
      subst e2c
      obtain ⟨f1, f2, f3, rfl⟩ := (eobFinish_ok_iff σ s').mp he
      subst g1
      -- the reference decodes the same groups
      obtain ⟨ts, hts, _⟩ := unmtfL_isSome (List.range h.ng) h.sels gw.js
      obtain ⟨n, syms, q, _, hdg, hfold⟩ := foldGs_eq_some.mp
        ((groupsRef_eq h.tabs h.used.length gw.tok h.sels _ ts s1.numSel s1.run h.rest gw.m hts).symm.trans
          (congrArg regGs hgs))
      have hsy := (groupsSyms_ok h.tabs h.used.length gw.tok ts h.rest n syms q B' hdg).1
      obtain ⟨pos, hpb⟩ := (parseBlock_factor level start bits crc _ h32).2 r0 idx0 h hsp
      have hum := (symbols_iff h s1 hwf hk (top_run0 hk) syms hsy (MtfDec.flush σ.run).out.reverse.toArray).mpr
        ⟨σ.run, hfold, f1, rfl⟩
      have hsize := nOut_size (nOut_init (top_run0 hk)) hfold (tt := (MtfDec.flush σ.run).out.reverse.toArray) rfl
      have hbs : bitsOf ({ σ with run := MtfDec.flush σ.run } : St).final rest' = B' := g5
      refine ⟨{ level := level, startBit := start, endBit := pos + q, storedCrc := crc,
                rand := r0 == 1, origPtr := idx0, used := h.used, nGroups := h.ng,
                selectors := ts, tables := h.tabs, nSelectorsUsed := n,
                syms := syms.toArray }, _, ?_, rfl, rfl, rfl, ?_, ?_, hum, rfl, hsize, ?_, ?_⟩
      · rw [hpb, parseTail_eq _ _ _ _ _ _ _ ts hts, hdg, hbs]
        rfl
      · show (r0 == 1) = (σ.rand == 1)
        rw [g2, hrand]
      · show idx0 = σ.bwtIdx
        rw [g3, hidx]
      · rw [hsize]
        exact f2
      · show idx0 < _
        rw [hsize, ← hidx, ← g3]
        exact f3

/-- **Completeness of one call**: what `Props.C06.Block.retrieve_complete_or_starved` states,
for the slow retriever.  Running out of words happens only when fewer than 32 bits follow the
block (header phase: the `Suspended` clause of `Sim`; group phase: the `Short` clauses of
`GroupMachine`). -/
theorem run_complete (v w : Nat) (ws : List Nat) (inv : BufInv v w) (hw : w ≤ 63)
    (level start crc : Nat) (bits : List Bool)
    (h32 : Basic.takeNat 32 bits = some (crc, bitsOf (St.start v w) ws))
    (b : Spec.Bzip2.Block) (restB : List Bool)
    (hp : Spec.Bzip2.parseBlock level start bits = .ok (b, restB)) (tt : Array UInt8)
    (hm : Spec.Bzip2.unMtfRle2 b.used Gen.MAX_BLOCK_SIZE b.syms.toList = .ok tt)
    (hne : tt.size ≠ 0) (hop : b.origPtr < tt.size) :
    (∃ s' rest', run false (St.start v w) ws = .halt .ok s' rest' ∧ bitsOf s' rest' = restB ∧
        b.rand = (s'.rand == 1) ∧ s'.bwtIdx = b.origPtr ∧ s'.run.out.reverse = tt.toList ∧
        s'.run.n = tt.size) ∨
      (∃ s, run false (St.start v w) ws = .susp s ∧ restB.length < 32) := by
  obtain ⟨pf1, pf2⟩ := parseBlock_factor level start bits crc _ h32
  cases hsp : specHeader (bitsOf (St.start v w) ws) with
  | none =>
    obtain ⟨e, he⟩ := pf1 hsp
    rw [he] at hp; cases hp
  | some p =>
    obtain ⟨r0, idx0, h⟩ := p
    obtain ⟨pos, hpb⟩ := pf2 r0 idx0 h hsp
    have hwf : HdrWf h := (specHeader_some hsp).1
    have gw := gwf_of_hdrWf hwf
    obtain ⟨ts, hts, _⟩ := unmtfL_isSome (List.range h.ng) h.sels gw.js
    rw [hpb, parseTail_eq _ _ _ _ _ _ _ ts hts] at hp
    cases hdg : groupsSyms ((h.tabs.map Spec.Bzip2.mkCode).toArray) (h.used.length + 1) ts h.rest with
    | error er => rw [hdg] at hp; cases hp
    | ok y =>
      obtain ⟨nUsed, syms, q, bits'⟩ := y
      rw [hdg] at hp
      simp only [Except.map, Except.ok.injEq, Prod.mk.injEq] at hp
      obtain ⟨hb, hrest⟩ := hp
      subst hrest
      subst hb
      dsimp only at hm
      cases (header_spec_rest (St.start v w) ws (Or.inl rfl) inv).of_some hsp with
      | inr hsu =>
        right
        obtain ⟨⟨s, e⟩, hshort⟩ := hsu
        have hshort : h.rest.length < 32 := hshort
        have hlen : bits'.length ≤ h.rest.length :=
          ((@Spec.Bzip2.decodeGroups_reads _ _ ts 0 0 h.rest #[]).2 _ _ _ _
            (by rw [decodeGroups_eq, hdg]; rfl)).2.length_le
        exact ⟨s, by unfold run; rw [e], by omega⟩
      | inl hok =>
        obtain ⟨s1, rest1, e, hk, hbits, inv1⟩ := hok
        have e : toTop (St.start v w) ws = .top s1 rest1 := e
        obtain ⟨hrand, hidx, hn, hgm⟩ := run_top v w ws hw r0 idx0 h hsp e hk hbits inv1
        have hrun : run false (St.start v w) ws =
            groups false (h.sels.take s1.numSel).length s1 rest1 := by unfold run; rw [e, ← hn]
        obtain ⟨hsy, _, _, hsz⟩ :=
          groupsSyms_ok h.tabs h.used.length gw.tok ts h.rest nUsed syms q bits' hdg
        obtain ⟨rs', hfold, hnov, hout⟩ := (symbols_iff h s1 hwf hk (top_run0 hk) syms hsy tt).mp hm
        have hsize := nOut_size (nOut_init (top_run0 hk)) hfold hout
        -- the clamp to 18001 selectors does not cut off a used one
        obtain ⟨_, hcap⟩ := Lemmas.SpecMtfLink.unMtfRle2_size_ge h.used Gen.MAX_BLOCK_SIZE syms tt hm
        have hclamp : nUsed ≤ s1.numSel := by
          rw [show s1.numSel = min h.ns Gen.selectorBound from hk.numSel]
          have h1 : Gen.GROUP_SIZE = 50 := rfl
          have h2 : Gen.MAX_BLOCK_SIZE = 900000 := rfl
          have h3 : Gen.selectorBound = 18001 := rfl
          have h4 := hwf.selsLen
          rw [h1] at hsz
          rw [h2] at hcap
          rw [h3]
          omega
        have hgs := regGs_eq_some.mp
          ((groupsRef_eq h.tabs h.used.length gw.tok h.sels _ ts s1.numSel s1.run h.rest gw.m hts).trans
            (foldGs_eq_some.mpr ⟨nUsed, syms, q, hclamp, hdg, hfold⟩))
        rw [hgs] at hgm
        cases hgm with
        | inl hsu =>
          right
          obtain ⟨⟨s, e2⟩, hshort⟩ := hsu
          exact ⟨s, by rw [hrun]; exact e2, hshort⟩
        | inr hgo =>
          left
          obtain ⟨r, s, ws', e2, σ, he, g1, g2, g3, g5⟩ := hgo
          subst g1
          have hfin := (eobFinish_ok_iff σ _).mpr ⟨hnov, by rw [← hsize]; exact hne,
            by rw [← hsize, g3, hidx]; exact hop, rfl⟩
          rw [hfin] at he
          injection he with he1 he2
          subst he1; subst he2
          refine ⟨({ σ with run := MtfDec.flush σ.run } : St).final, ws', ?_, ?_, ?_, ?_, hout.symm, hsize.symm⟩
          · rw [hrun]; exact e2
          · rw [← g5]; rfl
          · show (r0 == 1) = (σ.rand == 1)
            rw [g2, hrand]
          · show σ.bwtIdx = idx0
            rw [g3, hidx]

end LbzVerif.Lemmas.GroupFinal
