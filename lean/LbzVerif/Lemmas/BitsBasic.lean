/-
  LbzVerif.Lemmas.BitsBasic — the bit layer.  `natToBits n v` is the list of the `n` low bits of `v`, most
  significant first, `bitsToNat` its value, `takeNat n` the reader of an `n`-bit field.  Every other spelling of
  MSB-first bits in the tree (bytes, words, the 64-bit buffer, the specifications' own) is bridged to these once,
  by an `_eq` lemma beside it.  `Reads f X r rest`: applied to `X`, the reader `f` looks at a prefix `C` of `X`
  only (`X = C ++ rest`) — on `C ++ Y` it answers `r Y`, whatever `Y`.
-/
import LbzVerif.Basic.Bits
import LbzVerif.Basic.Crc

namespace LbzVerif.Basic

theorem natToBits_length (n v : Nat) : (natToBits n v).length = n := by
  induction n with
  | zero => rfl
  | succ n ih => simp [natToBits, ih]

theorem bitsToNatAux_natToBits (n v acc : Nat) :
    bitsToNatAux acc (natToBits n v) = acc * 2 ^ n + v % 2 ^ n := by
  induction n generalizing acc with
  | zero => simp [natToBits, bitsToNatAux, Nat.mod_one]
  | succ n ih =>
    simp only [natToBits, bitsToNatAux, ih]
    have hb : bit (v.testBit n) = v / 2 ^ n % 2 := by
      unfold bit
      rw [Nat.testBit_eq_decide_div_mod_eq]
      by_cases h : v / 2 ^ n % 2 = 1
      · simp [h]
      · simp [h]; omega
    rw [Nat.mod_pow_succ, hb, Nat.pow_succ]
    generalize v / 2 ^ n % 2 = t
    generalize v % 2 ^ n = r
    generalize 2 ^ n = p
    grind

theorem bitsToNat_natToBits (n v : Nat) : bitsToNat (natToBits n v) = v % 2 ^ n := by
  rw [bitsToNat, bitsToNatAux_natToBits, Nat.zero_mul, Nat.zero_add]

theorem byteToBits_eq (b : UInt8) : byteToBits b = natToBits 8 b.toNat := rfl

theorem bitsToNat_byteToBits (b : UInt8) : bitsToNat (byteToBits b) = b.toNat := by
  rw [byteToBits_eq, bitsToNat_natToBits]
  exact Nat.mod_eq_of_lt b.toNat_lt

theorem byteToBits_length (b : UInt8) : (byteToBits b).length = 8 := rfl

theorem bytesToBitsAux_eq (acc : Array Bool) (bs : List UInt8) :
    (bytesToBitsAux acc bs).toList = acc.toList ++ bs.flatMap byteToBits := by
  induction bs generalizing acc with
  | nil => simp [bytesToBitsAux]
  | cons b bs ih => simp [bytesToBitsAux, ih, List.append_assoc]

theorem bytesToBits_eq (bs : List UInt8) : bytesToBits bs = bs.flatMap byteToBits := by
  simp [bytesToBits, bytesToBitsAux_eq]

theorem bytesToBits_nil : bytesToBits [] = [] := by simp [bytesToBits_eq]

theorem bytesToBits_cons (b : UInt8) (bs : List UInt8) :
    bytesToBits (b :: bs) = byteToBits b ++ bytesToBits bs := by
  simp [bytesToBits_eq]

theorem bytesToBits_append (a b : List UInt8) :
    bytesToBits (a ++ b) = bytesToBits a ++ bytesToBits b := by
  simp [bytesToBits_eq]

theorem bytesToBits_length (bs : List UInt8) : (bytesToBits bs).length = 8 * bs.length := by
  induction bs with
  | nil => simp [bytesToBits_nil]
  | cons b bs ih => simp [bytesToBits_cons, ih, byteToBits_length]; omega

theorem bitsToBytes_byteToBits_append (b : UInt8) (rest : Bits) :
    bitsToBytes (byteToBits b ++ rest) = b :: bitsToBytes rest := by
  have h := bitsToNat_byteToBits b
  unfold byteToBits at h ⊢
  simp only [List.cons_append, List.nil_append, bitsToBytes]
  rw [h]
  simp

theorem bitsToBytes_bytesToBits (bs : List UInt8) : bitsToBytes (bytesToBits bs) = bs := by
  induction bs with
  | nil => simp [bytesToBits_nil, bitsToBytes]
  | cons b bs ih => rw [bytesToBits_cons, bitsToBytes_byteToBits_append, ih]

theorem bytesToBits_injective {a b : List UInt8} (h : bytesToBits a = bytesToBits b) : a = b := by
  rw [← bitsToBytes_bytesToBits a, ← bitsToBytes_bytesToBits b, h]

theorem takeNatAux_eq (n acc : Nat) (bs : Bits) :
    takeNatAux n acc bs =
      if n ≤ bs.length then some (bitsToNatAux acc (bs.take n), bs.drop n) else none := by
  induction n generalizing acc bs with
  | zero => rfl
  | succ n ih =>
    cases bs with
    | nil => rfl
    | cons b bs => simp [takeNatAux, ih, bitsToNatAux]

theorem takeNat_def (n : Nat) (bs : Bits) :
    takeNat n bs = if n ≤ bs.length then some (bitsToNat (bs.take n), bs.drop n) else none :=
  takeNatAux_eq n 0 bs

theorem takeNat_eq (n : Nat) (bs : Bits) (h : n ≤ bs.length) :
    takeNat n bs = some (bitsToNat (bs.take n), bs.drop n) := by
  rw [takeNat_def, if_pos h]

theorem takeNat_none_iff_short (n : Nat) (bs : Bits) :
    takeNat n bs = none ↔ bs.length < n := by
  rw [takeNat_def]
  split <;> simp <;> omega

theorem takeNat_some_iff {n : Nat} {bs rest : Bits} {v : Nat} :
    takeNat n bs = some (v, rest) ↔ ∃ C, C.length = n ∧ bs = C ++ rest ∧ v = bitsToNat C := by
  rw [takeNat_def]
  constructor
  · intro h
    split at h
    · rename_i hn
      simp only [Option.some.injEq, Prod.mk.injEq] at h
      exact ⟨bs.take n, by rw [List.length_take]; omega, by rw [← h.2, List.take_append_drop],
        h.1.symm⟩
    · cases h
  · rintro ⟨C, rfl, rfl, rfl⟩
    rw [if_pos (by simp), List.take_left' rfl, List.drop_left' rfl]

theorem takeNat_append (w rest : Bits) :
    takeNat w.length (w ++ rest) = some (bitsToNat w, rest) :=
  takeNat_some_iff.mpr ⟨w, rfl, rfl, rfl⟩

theorem takeNat_length {n : Nat} {bs rest : Bits} {v : Nat}
    (h : takeNat n bs = some (v, rest)) : bs.length = n + rest.length := by
  obtain ⟨C, rfl, rfl, _⟩ := takeNat_some_iff.mp h
  exact List.length_append

theorem takeNat_drop {n : Nat} {bs rest : Bits} {v : Nat} (h : takeNat n bs = some (v, rest)) :
    rest = bs.drop n := by
  obtain ⟨C, rfl, rfl, _⟩ := takeNat_some_iff.mp h
  rw [List.drop_append_length]

theorem takeNat_natToBits (n v : Nat) (rest : Bits) :
    takeNat n (natToBits n v ++ rest) = some (v % 2 ^ n, rest) := by
  have h := takeNat_append (natToBits n v) rest
  rwa [natToBits_length, bitsToNat_natToBits] at h

theorem natToBits_eq_range (n v : Nat) :
    natToBits n v = (List.range n).map (fun i => v.testBit (n - 1 - i)) := by
  induction n with
  | zero => rfl
  | succ n ih =>
    rw [natToBits, ih, List.range_succ_eq_map, List.map_cons, List.map_map]
    congr 1
    apply List.map_congr_left
    intro i _
    simp only [Function.comp]
    congr 1
    omega

theorem natToBits_getElem (n v j : Nat) (hj : j < (natToBits n v).length) :
    (natToBits n v)[j] = v.testBit (n - 1 - j) := by
  simp only [natToBits_eq_range, List.getElem_map, List.getElem_range]

theorem natToBits_congr (n v w : Nat) (h : ∀ i < n, v.testBit i = w.testBit i) :
    natToBits n v = natToBits n w := by
  induction n with
  | zero => rfl
  | succ n ih =>
    simp only [natToBits]
    rw [h n (Nat.lt_succ_self n), ih (fun i hi => h i (Nat.lt_succ_of_lt hi))]

theorem natToBits_mod (n m v : Nat) (h : n ≤ m) : natToBits n (v % 2 ^ m) = natToBits n v :=
  natToBits_congr _ _ _ fun j hj => by
    rw [Nat.testBit_mod_two_pow, decide_eq_true (Nat.lt_of_lt_of_le hj h), Bool.true_and]

theorem natToBits_split (a b v : Nat) :
    natToBits (a + b) v = natToBits a (v >>> b) ++ natToBits b v := by
  induction a with
  | zero => rw [Nat.zero_add]; rfl
  | succ a ih =>
    rw [show a + 1 + b = (a + b) + 1 by omega, natToBits, natToBits, ih,
      Nat.testBit_shiftRight, List.cons_append, Nat.add_comm b a]

theorem natToBits_take (n k v : Nat) (h : k ≤ n) :
    (natToBits n v).take k = natToBits k (v >>> (n - k)) := by
  have := natToBits_split k (n - k) v
  rw [show k + (n - k) = n by omega] at this
  rw [this, List.take_left' (natToBits_length _ _)]

theorem natToBits_word (v : Nat) :
    natToBits 32 v = natToBits 8 (v >>> 24) ++ (natToBits 8 (v >>> 16) ++
      (natToBits 8 (v >>> 8) ++ natToBits 8 v)) := by
  rw [natToBits_split 8 24 v, natToBits_split 8 16 v, natToBits_split 8 8 v]

theorem bitsToNatAux_append (acc : Nat) (a b : Bits) :
    bitsToNatAux acc (a ++ b) = bitsToNatAux (bitsToNatAux acc a) b := by
  induction a generalizing acc with
  | nil => rfl
  | cons x a ih => exact ih _

theorem bitsToNatAux_eq (acc : Nat) (l : Bits) :
    bitsToNatAux acc l = acc * 2 ^ l.length + bitsToNat l := by
  induction l generalizing acc with
  | nil => simp [bitsToNatAux, bitsToNat]
  | cons b t ih =>
    simp only [bitsToNat, bitsToNatAux, List.length_cons]
    rw [ih (2 * acc + bit b), ih (2 * 0 + bit b), Nat.pow_succ]
    simp only [Nat.mul_zero, Nat.zero_add, Nat.add_mul]
    rw [Nat.mul_assoc 2 acc, Nat.mul_comm 2 (acc * _), Nat.mul_assoc acc, Nat.add_assoc]

theorem bitsToNatAux_eq_zero (acc : Nat) (l : Bits) :
    bitsToNatAux acc l = 0 ↔ acc = 0 ∧ l.all (· == false) = true := by
  induction l generalizing acc with
  | nil => simp [bitsToNatAux]
  | cons b t ih =>
    simp only [bitsToNatAux, ih, List.all_cons, Bool.and_eq_true, beq_iff_eq]
    cases b <;> simp [bit] <;> omega

theorem bitsToNat_append (a b : Bits) :
    bitsToNat (a ++ b) = bitsToNat a * 2 ^ b.length + bitsToNat b := by
  rw [bitsToNat, bitsToNatAux_append, bitsToNatAux_eq]; rfl

theorem bitsToNat_cons (b : Bool) (t : Bits) :
    bitsToNat (b :: t) = 2 ^ t.length * bit b + bitsToNat t := by
  rw [← List.singleton_append, bitsToNat_append, Nat.mul_comm]
  simp [bitsToNat, bitsToNatAux]

theorem bitsToNat_byte_append (b : UInt8) (l : Bits) :
    bitsToNat (byteToBits b ++ l) = b.toNat * 2 ^ l.length + bitsToNat l := by
  rw [bitsToNat_append, bitsToNat_byteToBits]

theorem bitsToNat_take_add (a b : Nat) (R : Bits) (h : a + b ≤ R.length) :
    bitsToNat (R.take (a + b)) = bitsToNat (R.take a) * 2 ^ b + bitsToNat ((R.drop a).take b) := by
  rw [List.take_add, bitsToNat_append, List.length_take, List.length_drop,
    Nat.min_eq_left (by omega)]

theorem bitsToNat_lt (l : Bits) : bitsToNat l < 2 ^ l.length := by
  induction l with
  | nil => simp [bitsToNat, bitsToNatAux]
  | cons b t ih =>
    rw [bitsToNat_cons, List.length_cons, Nat.pow_succ]
    have : bit b ≤ 1 := by unfold bit; split <;> omega
    have h2 : 2 ^ t.length * bit b ≤ 2 ^ t.length := by
      calc 2 ^ t.length * bit b ≤ 2 ^ t.length * 1 := Nat.mul_le_mul_left _ this
        _ = 2 ^ t.length := Nat.mul_one _
    omega

theorem bitsToNat_take_lt (R : Bits) (k : Nat) : bitsToNat (R.take k) < 2 ^ k := by
  have := bitsToNat_lt (R.take k)
  have hl : (R.take k).length ≤ k := by rw [List.length_take]; exact Nat.min_le_left _ _
  calc bitsToNat (R.take k) < 2 ^ (R.take k).length := this
    _ ≤ 2 ^ k := Nat.pow_le_pow_right (by omega) hl

theorem takeNat_lt {n : Nat} {bs rest : Bits} {v : Nat} (h : takeNat n bs = some (v, rest)) :
    v < 2 ^ n := by
  obtain ⟨C, rfl, rfl, rfl⟩ := takeNat_some_iff.mp h
  exact bitsToNat_lt C

theorem bit_testBit_zero (b : Bool) : (bit b).testBit 0 = b := by cases b <;> decide

theorem natToBits_bitsToNat (l : Bits) : natToBits l.length (bitsToNat l) = l := by
  induction l with
  | nil => rfl
  | cons b t ih =>
    rw [List.length_cons, natToBits, bitsToNat_cons]
    have hlt := bitsToNat_lt t
    congr 1
    · rw [Nat.testBit_two_pow_mul_add _ hlt, if_neg (Nat.lt_irrefl _), Nat.sub_self]
      exact bit_testBit_zero b
    · rw [natToBits_congr t.length _ (bitsToNat t)
        (fun i hi => by rw [Nat.testBit_two_pow_mul_add _ hlt, if_pos hi]), ih]

theorem bitsToNat_inj (a b : List Bool) (h : a.length = b.length)
    (e : bitsToNat a = bitsToNat b) : a = b := by
  rw [← natToBits_bitsToNat a, ← natToBits_bitsToNat b, h, e]

theorem testBit_bitsToNat (l : Bits) (j : Nat) (hj : j < l.length) :
    (bitsToNat l).testBit (l.length - 1 - j) = l[j] := by
  have h := natToBits_getElem l.length (bitsToNat l) j (by rw [natToBits_length]; exact hj)
  rw [← h]
  congr 1
  exact natToBits_bitsToNat l

theorem byteToBits_ofNat (n : Nat) : byteToBits (UInt8.ofNat n) = natToBits 8 n := by
  simp only [byteToBits, natToBits, UInt8.toNat_ofNat', Nat.testBit_mod_two_pow]
  rfl

theorem split_suffix {α : Type} (X P C R : List α) (h : X ++ P = C ++ R)
    (hl : P.length ≤ R.length) : ∃ rest, R = rest ++ P ∧ X = C ++ rest := by
  rcases List.append_eq_append_iff.mp h with ⟨a, hC, hP⟩ | ⟨c, hX, hR⟩
  · have hlen : a.length = 0 := by
      have := congrArg List.length hP
      simp only [List.length_append] at this
      omega
    have ha : a = [] := List.eq_nil_of_length_eq_zero hlen
    subst ha
    simp only [List.append_nil, List.nil_append] at hC hP
    exact ⟨[], by simp [hP], by simp [hC]⟩
  · exact ⟨c, hR, hX⟩

theorem takeNat32_bytes (b0 b1 b2 b3 : UInt8) (rest : List UInt8) :
    takeNat 32 (bytesToBits (b0 :: b1 :: b2 :: b3 :: rest)) =
      some (b0.toNat * 2 ^ 24 + b1.toNat * 2 ^ 16 + b2.toNat * 2 ^ 8 + b3.toNat, bytesToBits rest) := by
  have h := takeNat_append (bytesToBits [b0, b1, b2, b3]) (bytesToBits rest)
  rw [← bytesToBits_append, bytesToBits_length] at h
  refine h.trans ?_
  simp only [bytesToBits_cons, bytesToBits_nil, bitsToNat_byte_append, List.length_append,
    byteToBits_length, List.length_nil]
  exact congrArg (fun x => some (x, bytesToBits rest)) (by simp [bitsToNat, bitsToNatAux]; omega)

def Reads {ρ : Type} (f : Bits → ρ) (X : Bits) (r : Bits → ρ) (rest : Bits) : Prop :=
  ∃ C, X = C ++ rest ∧ ∀ Y, f (C ++ Y) = r Y

namespace Reads
variable {ρ σ τ : Type}

theorem refl {f r : Bits → ρ} (X : Bits) (h : ∀ Y, f Y = r Y) : Reads f X r X :=
  ⟨[], rfl, h⟩

theorem prepend {g h s : Bits → ρ} {mid rest : Bits} (P : Bits) (hg : Reads g mid s rest)
    (hP : ∀ Y, h (P ++ Y) = g Y) : Reads h (P ++ mid) s rest := by
  obtain ⟨C, rfl, e⟩ := hg
  exact ⟨P ++ C, (List.append_assoc ..).symm, fun Y => by rw [List.append_assoc, hP, e]⟩

theorem mono {f r : Bits → ρ} {h t : Bits → σ} {X rest : Bits} (hf : Reads f X r rest)
    (hh : ∀ Z Y, f Z = r Y → h Z = t Y) : Reads h X t rest := by
  obtain ⟨C, rfl, e⟩ := hf
  exact ⟨C, rfl, fun Y => hh _ _ (e Y)⟩

theorem seq {f r : Bits → ρ} {g s : Bits → σ} {h t : Bits → τ} {X mid rest : Bits}
    (hf : Reads f X r mid) (hg : Reads g mid s rest)
    (hh : ∀ Z Y W, f Z = r Y → g Y = s W → h Z = t W) : Reads h X t rest := by
  obtain ⟨C1, rfl, e1⟩ := hf
  obtain ⟨C2, rfl, e2⟩ := hg
  exact ⟨C1 ++ C2, (List.append_assoc ..).symm,
    fun Y => hh _ _ _ (by rw [List.append_assoc]; exact e1 _) (e2 Y)⟩

theorem length_le {f r : Bits → ρ} {X rest : Bits} (hf : Reads f X r rest) :
    rest.length ≤ X.length := by
  obtain ⟨C, rfl, _⟩ := hf
  rw [List.length_append]
  omega

theorem append {f r : Bits → ρ} {X rest : Bits} (hf : Reads f X r rest) (P : Bits) :
    f (X ++ P) = r (rest ++ P) := by
  obtain ⟨C, rfl, e⟩ := hf
  rw [List.append_assoc]
  exact e _

theorem restrict {f r : Bits → ρ} {X P rest' : Bits} (hf : Reads f (X ++ P) r rest')
    (hl : P.length ≤ rest'.length) : ∃ rest, rest' = rest ++ P ∧ f X = r rest := by
  obtain ⟨C, e, hY⟩ := hf
  obtain ⟨rest, hr, hX⟩ := split_suffix X P C rest' e hl
  exact ⟨rest, hr, by rw [hX]; exact hY rest⟩

end Reads

theorem takeNat_reads {n : Nat} {X : Bits} {v : Nat} {rest : Bits}
    (h : takeNat n X = some (v, rest)) : Reads (takeNat n) X (fun Y => some (v, Y)) rest := by
  obtain ⟨C, rfl, rfl, rfl⟩ := takeNat_some_iff.mp h
  exact ⟨C, rfl, fun Y => takeNat_append C Y⟩

theorem takeNat_append' (n : Nat) (X P : Bits) (v : Nat) (rest : Bits)
    (h : takeNat n X = some (v, rest)) : takeNat n (X ++ P) = some (v, rest ++ P) :=
  (takeNat_reads h).append P

theorem crc32_append (a b : List UInt8) :
    crc32 (a ++ b) = ~~~ (crcRun (crcRun crcInit a) b) := by
  simp [crc32, crcRun_append]

theorem crc32_nil : crc32 [] = 0 := by
  simp only [crc32, crcRun, crcInit, List.foldl_nil]
  decide +kernel

theorem combineAll_append (a b : List UInt32) :
    combineAll (a ++ b) = b.foldl combine (combineAll a) := by
  simp [combineAll, List.foldl_append]

end LbzVerif.Basic
