/-
  `Model.SchedD.step`, taken apart once.  `Step c s l s'` has one constructor per leaf of `step`
  (the two leaves of `stepScanEnd` that only give the work unit back share `scanNone`, the two
  early returns of `stepRetrEnd` share `retrQuit`), with the guards that some argument reads as
  hypotheses in decoded form and the post-state written with the named sub-functions of Sub.lean.
  No argument reads `freeWorker`: nothing proved from `Step` depends on a worker being free.
  `step_inv` is where `step` and the sixteen `stepX` are unfolded for every safety argument (only
  the enabledness proofs of Progress.lean, which need `(step c s l).isSome`, unfold them again).
  The invariants' lemmas about the sub-functions are stated for a variable state: a frame argument
  by `rfl` on a composite post-state makes the unifier compare the states field by field before it
  unfolds.
-/
import LbzVerif.Lemmas.SchedD.Sub

namespace LbzVerif.Lemmas.SchedD
open LbzVerif.Model.SchedD LbzVerif.Gen

inductive Step (c : Cfg) (s : State) : Label → State → Prop
  | rTake (hrph : s.rph = .idle) (hin : 0 < s.inSlots) :
      Step c s .rTake { s with inSlots := s.inSlots - 1, rph := .hold }
  | rQuit (hrph : s.rph = .idle) (hcl : s.rclose = true) :
      Step c s .rQuit { s with rph := .ateof }
  /-- a block read after the parser has finished is dropped at once -/
  | rBlockDrop (hrph : s.rph = .hold) (hlt : s.nread * c.W < c.T) (hpd : s.pdone = true) :
      Step c s .rBlock
        { s with nread := s.nread + 1, inSlots := s.inSlots + 1,
                 rph := if (s.nread + 1) * c.W ≤ c.T then RPhase.idle else RPhase.ateof }
  | rBlock (hrph : s.rph = .hold) (hlt : s.nread * c.W < c.T) (hpd : s.pdone = false) :
      Step c s .rBlock
        { s with nread := s.nread + 1, rd := s.rd + 1, scanQ := offs c s.rd :: s.scanQ,
                 rph := if (s.nread + 1) * c.W ≤ c.T then RPhase.idle else RPhase.ateof }
  | rEmpty (hrph : s.rph = .hold) (hge : ¬s.nread * c.W < c.T) :
      Step c s .rEmpty { s with inSlots := s.inSlots + 1, rph := .ateof }
  | rEof (hrph : s.rph = .ateof) : Step c s .rEof { s with eof := true, rph := .done }
  | wDone (hq : 0 < s.outq) :
      Step c s .wDone { s with outq := s.outq - 1, outSlots := s.outSlots + 1 }
  | reorderBogus (ob : OB) (hsel : selectTask c s = some "reorder") (hmem : ob ∈ s.reordQ)
      (hmin : minKey? (s.reordQ.map OB.key) = some ob.key)
      (hbog : dReorderBogus (view c s) = true) :
      Step c s (.reorder ob) { s with reordQ := s.reordQ.erase ob, outSlots := s.outSlots + 1 }
  | reorderErr (ob : OB) (r : List (Nat × Nat))
      (hsel : selectTask c s = some "reorder") (hmem : ob ∈ s.reordQ)
      (hmin : minKey? (s.reordQ.map OB.key) = some ob.key) (hord : s.orderQ = (ob.base, ob.idx) :: r)
      (hst : ob.st = .err) :
      Step c s (.reorder ob) { s with reordQ := s.reordQ.erase ob, failed := true }
  | reorderMore (ob : OB) (r : List (Nat × Nat))
      (hsel : selectTask c s = some "reorder") (hmem : ob ∈ s.reordQ)
      (hmin : minKey? (s.reordQ.map OB.key) = some ob.key) (hord : s.orderQ = (ob.base, ob.idx) :: r)
      (hst : ob.st = .more) :
      Step c s (.reorder ob)
        { s with reordQ := s.reordQ.erase ob, orderQ := (ob.base, ob.idx + 1) :: r,
                 written := s.written ++ [ob.key], outq := s.outq + 1,
                 taint := s.taint || ob.corrupt }
  | reorderOk (ob : OB) (r : List (Nat × Nat))
      (hsel : selectTask c s = some "reorder") (hmem : ob ∈ s.reordQ)
      (hmin : minKey? (s.reordQ.map OB.key) = some ob.key) (hord : s.orderQ = (ob.base, ob.idx) :: r)
      (hst : ob.st = .ok) :
      Step c s (.reorder ob)
        { s with reordQ := s.reordQ.erase ob, orderQ := r,
                 written := s.written ++ [ob.key], outq := s.outq + 1,
                 taint := s.taint || ob.corrupt }
  | parseStart (hsel : selectTask c s = some "parse") (hpp : s.pphase = none) :
      Step c s .parseStart
        { s with ptok := false, wu := s.wu - 1,
                 pphase := some (if s.ppos < tailOffs c s then some (s.ppos / c.W) else none) }
  | parseMore (k : Option Nat) (hpp : s.pphase = some k)
      (hmore : parseMoreP c k (parseTarget (pres c s.porig)) = true) :
      Step c s .parseEnd (parseMore c (detach { s with pphase := none } k) k)
  | parseErr (k : Option Nat) (u : Nat) (hpp : s.pphase = some k)
      (hres : pres c s.porig = .err u) :
      Step c s .parseEnd (parseVerdict c (detach { s with pphase := none } k) (.err u))
  | parseEof (k : Option Nat) (u : Nat) (hpp : s.pphase = some k)
      (hres : pres c s.porig = .finish u false) :
      Step c s .parseEnd (parseVerdict c (detach { s with pphase := none } k) (.finish u false))
  | parseFinish (k : Option Nat) (u : Nat) (hpp : s.pphase = some k)
      (hres : pres c s.porig = .finish u true) :
      Step c s .parseEnd (parseFinish (detach { s with pphase := none } k) u)
  | parseOk (k : Option Nat) (b : Nat) (hpp : s.pphase = some k)
      (hmore : parseMoreP c k (parseTarget (pres c s.porig)) = false)
      (hres : pres c s.porig = .hdr b) :
      Step c s .parseEnd (parseOk c (detach { s with pphase := none } k) b)
  | retrStart (j : Job) (hsel : selectTask c s = some "retrieve") (hmem : j ∈ s.retrQ)
      (hmin : minNat? (s.retrQ.map Job.curr) = some j.curr) :
      Step c s (.retrStart j)
        { s with
          retrQ := s.retrQ.erase j,
          busy := .retr { j with corrupt := j.corrupt || decide (j.curr < headOffs c s) }
                    (retrAttach c s j) :: s.busy }
  /-- the early returns: parsing is done, or "Retriever found himself redundand" (sic) -/
  | retrQuit (j : Job) (k : Option Nat) (hmem : .retr j k ∈ s.busy)
      (hx : s.pdone = true ∨ j.redundant = true) :
      Step c s (.retrEnd j k)
        (retrExit (detach { s with busy := s.busy.erase (.retr j k) } k) j)
  /-- rv == MORE, "Retriever was overtaken" -/
  | retrOvertaken (j : Job) (k : Option Nat) (hmem : .retr j k ∈ s.busy)
      (hpd : s.pdone = false) (hred : j.redundant = false)
      (hov : retrNewc c j k < headOffs c (retrMove c
        (detach { s with busy := s.busy.erase (.retr j k) } k) j (retrNewc c j k))) :
      Step c s (.retrEnd j k)
        (retrExit (retrMove c (detach { s with busy := s.busy.erase (.retr j k) } k) j
          (retrNewc c j k)) (retrMoreJob j (retrNewc c j k)))
  /-- rv == MORE, back into retr_q -/
  | retrMore (j : Job) (k : Option Nat) (hmem : .retr j k ∈ s.busy)
      (hpd : s.pdone = false) (hred : j.redundant = false)
      (hmore : retrNewc c j k < (rres c j.base).e)
      (hov : headOffs c (retrMove c
        (detach { s with busy := s.busy.erase (.retr j k) } k) j (retrNewc c j k))
          ≤ retrNewc c j k) :
      Step c s (.retrEnd j k)
        (retrMore (retrMove c (detach { s with busy := s.busy.erase (.retr j k) } k) j
          (retrNewc c j k)) j (retrNewc c j k))
  | retrDone (j : Job) (k : Option Nat) (hmem : .retr j k ∈ s.busy)
      (hpd : s.pdone = false) (hred : j.redundant = false)
      (hdone : (rres c j.base).e ≤ retrNewc c j k) :
      Step c s (.retrEnd j k)
        (retrDone c (retrMove c (detach { s with busy := s.busy.erase (.retr j k) } k) j
          (retrNewc c j k)) j (retrNewc c j k))
  | retrPost (e : EJob) (hmem : .retr2 e ∈ s.busy) :
      Step c s (.retrPost e) { s with busy := s.busy.erase (.retr2 e), emitQ := e :: s.emitQ }
  | emitStart (e : EJob) (hsel : selectTask c s = some "emit") (hmem : e ∈ s.emitQ)
      (hmin : minKey? (s.emitQ.map EJob.key) = some e.key) :
      Step c s (.emitStart e)
        { s with outSlots := s.outSlots - 1, emitQ := s.emitQ.erase e,
                 busy := .emit e :: s.busy }
  | emitMore (e : EJob) (hmem : .emit e ∈ s.busy) (hleft : 1 < e.left) :
      Step c s (.emitEnd e)
        { s with busy := s.busy.erase (.emit e),
                 emitQ := { e with idx := e.idx + 1, left := e.left - 1 } :: s.emitQ,
                 reordQ := { base := e.base, idx := e.idx, st := .more, corrupt := e.corrupt }
                             :: s.reordQ }
  | emitLast (e : EJob) (hmem : .emit e ∈ s.busy) (hleft : ¬1 < e.left) :
      Step c s (.emitEnd e)
        { s with busy := s.busy.erase (.emit e), wu := s.wu + 1,
                 reordQ := { base := e.base, idx := e.idx,
                             st := (if e.ok then .ok else .err), corrupt := e.corrupt }
                             :: s.reordQ }
  | scanStart (sp : Nat) (hsel : selectTask c s = some "scan") (hmem : sp ∈ s.scanQ) :
      Step c s (.scanStart sp)
        { s with wu := s.wu - 1, scanQ := s.scanQ.erase sp,
                 busy := .scan (if sp / c.W = s.ppos / c.W ∧ sp < s.ppos then s.ppos else sp)
                           (sp / c.W) :: s.busy }
  /-- `scan()` found nothing, or parsing is done by now: only the work unit goes back -/
  | scanNone (st k : Nat) (hmem : .scan st k ∈ s.busy) :
      Step c s (.scanEnd st k)
        { detach { s with busy := s.busy.erase (.scan st k) } (some k) with
          wu := (detach { s with busy := s.busy.erase (.scan st k) } (some k)).wu + 1 }
  | scanFound (st k x : Nat) (hmem : .scan st k ∈ s.busy)
      (hfind : scanFind c st (offs c (k + 1)) = some x) (hpd : s.pdone = false) :
      Step c s (.scanEnd st k)
        (scanRequeue c (scanNew c (detach { s with busy := s.busy.erase (.scan st k) } (some k))
          x) x (offs c (k + 1)))

theorem step_not_failed {c : Cfg} {s s' : State} {l : Label} (hs : step c s l = some s') :
    s.failed = false := by
  unfold step at hs
  split at hs
  · cases hs
  · next h => simpa using h

theorem step_inv {c : Cfg} {s s' : State} {l : Label} (hs : step c s l = some s') :
    s.failed = false ∧ Step c s l s' := by
  refine ⟨step_not_failed hs, ?_⟩
  simp only [step, step_not_failed hs, Bool.false_eq_true, if_false] at hs
  cases l with
  | rTake =>
    simp only [stepRTake, Option.ite_none_right_eq_some, Option.some.injEq, Bool.and_eq_true,
      beq_iff_eq, Bool.not_eq_true', decide_eq_true_eq] at hs
    obtain ⟨hg, rfl⟩ := hs
    exact .rTake hg.1.1 hg.2
  | rQuit =>
    simp only [stepRQuit, Option.ite_none_right_eq_some, Option.some.injEq, Bool.and_eq_true,
      beq_iff_eq] at hs
    obtain ⟨hg, rfl⟩ := hs
    exact .rQuit hg.1 hg.2
  | rBlock =>
    simp only [stepRBlock, Option.ite_none_right_eq_some, Bool.and_eq_true, beq_iff_eq,
      decide_eq_true_eq] at hs
    obtain ⟨hg, hs⟩ := hs
    split at hs
    · next hpd => cases hs; exact .rBlockDrop hg.1 hg.2 hpd
    · next hpd => cases hs; exact .rBlock hg.1 hg.2 (by simpa using hpd)
  | rEmpty =>
    simp only [stepREmpty, Option.ite_none_right_eq_some, Option.some.injEq, Bool.and_eq_true,
      beq_iff_eq, Bool.not_eq_true', decide_eq_false_iff_not] at hs
    obtain ⟨hg, rfl⟩ := hs
    exact .rEmpty hg.1 hg.2
  | rEof =>
    simp only [stepREof, Option.ite_none_right_eq_some, Option.some.injEq, beq_iff_eq] at hs
    obtain ⟨hg, rfl⟩ := hs
    exact .rEof hg
  | wDone =>
    simp only [stepWDone, Option.ite_none_right_eq_some, Option.some.injEq,
      decide_eq_true_eq] at hs
    obtain ⟨hg, rfl⟩ := hs
    exact .wDone hg
  | reorder ob =>
    simp only [stepReorder, Option.ite_none_right_eq_some, Bool.and_eq_true, beq_iff_eq,
      List.contains_iff_mem] at hs
    obtain ⟨⟨⟨⟨-, hsel⟩, hmem⟩, hmin⟩, hs⟩ := hs
    split at hs
    · next hb => cases hs; exact .reorderBogus ob hsel hmem hmin hb
    · next hb =>
      obtain ⟨r, hord⟩ := reorder_head hsel hmin (by simpa using hb)
      split at hs
      · next hst => cases hs; exact .reorderErr ob r hsel hmem hmin hord hst
      · next hst =>
        cases hs
        rw [hord]
        exact .reorderMore ob r hsel hmem hmin hord hst
      · next hst =>
        cases hs
        rw [hord]
        exact .reorderOk ob r hsel hmem hmin hord hst
  | parseStart =>
    simp only [stepParseStart, Option.ite_none_right_eq_some, Option.some.injEq, Bool.and_eq_true,
      beq_iff_eq, Option.isNone_iff_eq_none] at hs
    obtain ⟨hg, rfl⟩ := hs
    exact .parseStart hg.1.2 hg.2
  | parseEnd =>
    simp only [stepParseEnd] at hs
    split at hs
    · cases hs
    · next k hk =>
      split at hs
      · next hm => cases hs; exact .parseMore k hk hm
      · next hm =>
        have hm : parseMoreP c k (parseTarget (pres c s.porig)) = false := by simpa using hm
        cases hs
        cases hr : pres c s.porig with
        | err u => exact .parseErr k u hk hr
        | finish u ok =>
          cases ok with
          | false => exact .parseEof k u hk hr
          | true => exact .parseFinish k u hk hr
        | hdr b => exact .parseOk k b hk hm hr
  | retrStart j =>
    simp only [stepRetrStart, Option.ite_none_right_eq_some, Option.some.injEq, Bool.and_eq_true,
      beq_iff_eq, List.contains_iff_mem, decide_eq_true_eq] at hs
    obtain ⟨hg, rfl⟩ := hs
    exact .retrStart j hg.1.1.2 hg.1.2 hg.2
  | retrEnd j k =>
    simp only [stepRetrEnd, Option.ite_none_right_eq_some, List.contains_iff_mem] at hs
    obtain ⟨hmem, hs⟩ := hs
    have hpd' : (detach { s with busy := s.busy.erase (.retr j k) } k).pdone = s.pdone := by
      rw [detach_eq]
    split at hs
    · next hpd => cases hs; exact .retrQuit j k hmem (.inl (hpd' ▸ hpd))
    · next hpd =>
      have hpd : s.pdone = false := by simpa [hpd'] using hpd
      split at hs
      · next hred => cases hs; exact .retrQuit j k hmem (.inr hred)
      · next hred =>
        have hred : j.redundant = false := by simpa using hred
        split at hs
        · next hm =>
          have hm : retrNewc c j k < (rres c j.base).e := by simpa using hm
          split at hs
          · next hov => cases hs; exact .retrOvertaken j k hmem hpd hred hov
          · next hov => cases hs; exact .retrMore j k hmem hpd hred hm (by omega)
        · next hm =>
          cases hs
          exact .retrDone j k hmem hpd hred (by simpa using hm)
  | retrPost e =>
    simp only [stepRetrPost, Option.ite_none_right_eq_some, Option.some.injEq,
      List.contains_iff_mem] at hs
    obtain ⟨hg, rfl⟩ := hs
    exact .retrPost e hg
  | emitStart e =>
    simp only [stepEmitStart, Option.ite_none_right_eq_some, Option.some.injEq, Bool.and_eq_true,
      beq_iff_eq, List.contains_iff_mem] at hs
    obtain ⟨hg, rfl⟩ := hs
    exact .emitStart e hg.1.1.2 hg.1.2 hg.2
  | emitEnd e =>
    simp only [stepEmitEnd, Option.ite_none_right_eq_some, List.contains_iff_mem] at hs
    obtain ⟨hmem, hs⟩ := hs
    split at hs
    · next hl => cases hs; exact .emitMore e hmem hl
    · next hl => cases hs; exact .emitLast e hmem hl
  | scanStart sp =>
    simp only [stepScanStart, Option.ite_none_right_eq_some, Option.some.injEq, Bool.and_eq_true,
      beq_iff_eq, List.contains_iff_mem, decide_eq_true_eq] at hs
    obtain ⟨hg, rfl⟩ := hs
    exact .scanStart sp hg.1.1.2 hg.1.2
  | scanEnd st k =>
    simp only [stepScanEnd, Option.ite_none_right_eq_some, List.contains_iff_mem] at hs
    obtain ⟨hmem, hs⟩ := hs
    have hpd : (detach { s with busy := s.busy.erase (.scan st k) } (some k)).pdone = s.pdone := by
      rw [detach_eq]
    split at hs
    · cases hs; exact .scanNone st k hmem
    · next x hfind =>
      split at hs
      · cases hs; exact .scanNone st k hmem
      · next h => cases hs; exact .scanFound st k x hmem hfind (by simpa [hpd] using h)

theorem Step.pdone_mono {c : Cfg} {s s' : State} {l : Label} (st : Step c s l s')
    (h : s.pdone = true) : s'.pdone = true := by
  have ha : ∀ t p, (advance c t p).pdone = t.pdone := fun _ _ => rfl
  cases st <;> first | exact h | simp [parseMore_eq, parseFinish_eq, parseOk_eq, parsePush_eq,
    parseVerdict_err, parseVerdict_eof, retrExit_eq, retrMore_eq, scanRequeue_eq, ha, h]

theorem parseStart_attach_some {c : Cfg} {s : State} {k : Nat}
    (h : some (if s.ppos < tailOffs c s then some (s.ppos / c.W) else none) = some (some k)) :
    s.ppos < tailOffs c s ∧ k = s.ppos / c.W := by
  simp only [Option.some.injEq] at h
  split at h
  · next hlt => cases h; exact ⟨hlt, rfl⟩
  · cases h

theorem parseStart_attach_none {c : Cfg} {s : State}
    (h : some (if s.ppos < tailOffs c s then some (s.ppos / c.W) else none) = some none) :
    ¬s.ppos < tailOffs c s := by
  simp only [Option.some.injEq] at h
  split at h
  · cases h
  · next hlt => exact hlt

theorem retrStart_attach_some {c : Cfg} {s : State} {j : Job} {k : Nat}
    (h : retrAttach c s j = some k) :
    j.curr < tailOffs c s ∧
      ((j.curr < headOffs c s ∧ s.head < s.rd ∧ k = s.head) ∨
       (headOffs c s ≤ j.curr ∧ k = j.curr / c.W)) := by
  unfold retrAttach at h
  split at h
  · cases h
  · next hlt =>
    refine ⟨by omega, ?_⟩
    split at h
    · next hst =>
      split at h
      · next hh => cases h; exact Or.inl ⟨hst, hh, rfl⟩
      · cases h
    · next hst => cases h; exact Or.inr ⟨by omega, rfl⟩

end LbzVerif.Lemmas.SchedD
