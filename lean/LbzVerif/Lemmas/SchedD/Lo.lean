/-
  The lower bounds of the input window.  `Lo` says of every object that carries a position — the
  parser, the scan jobs, the retrieve jobs queued or running (`JobLo`) — how it stands against
  `head_offs` and `parser_bs`.  `advance()` is the one operation that moves either: `Lo_advance` is
  what it needs, every other lemma is the frame of a sub-function or one use of `Lo_advance`.
-/
import LbzVerif.Lemmas.SchedD.Holder

namespace LbzVerif.Lemmas.SchedD
open LbzVerif.Model.SchedD LbzVerif.Gen

/-- `base ≤ end_pos ≤ curr_pos` for a job's unord_blk -/
def ecOK (j : Job) : Prop := ∀ f, j.ub = some f → j.base ≤ f.endp ∧ f.endp ≤ j.curr

theorem ecOK_retrMoreJob {j : Job} {newc : Nat} (h : ecOK j) (hc : j.curr ≤ newc) :
    ecOK (retrMoreJob j newc) := by
  intro f hf
  obtain ⟨f0, hu, ⟨_, rfl⟩ | ⟨_, rfl⟩⟩ := retrMoreJob_ub_some hf
  · have := h f hu
    show j.base ≤ f.endp ∧ f.endp ≤ newc
    omega
  · have := h f0 hu
    show j.base ≤ newc ∧ newc ≤ newc
    omega

theorem ecOK_flagJob {p : Nat → Bool} {j : Job} (h : ecOK j) : ecOK (flagJob p j) := by
  intro f hf
  obtain ⟨f0, hu, rfl | rfl⟩ := flagJob_ub_some hf
  · exact h f hu
  · exact h f0 hu

theorem ecOK_good {j : Job} (h : ecOK j) : ecOK j.good := by
  intro f hf
  rw [Job.good_ub] at hf
  obtain ⟨f0, hu, rfl⟩ := Option.map_eq_some_iff.1 hf
  exact h f0 hu

theorem inqAt_endp {b : Nat} {j : Job} (hq : Job.inqAt b j = true) (he : ecOK j) :
    b ≤ j.endp ∧ j.endp ≤ j.curr := by
  obtain ⟨f, hu, -, hb⟩ := Job.inqAt_iff.1 hq
  have := he f hu
  simp only [Job.endp, hu]
  omega

/-- A retrieve job (`struct retr_blk`) against `h = head_offs` and `p = parser_bs`; `q` says that
    it waits in `retr_q` (otherwise `retrieve()` is running on it). -/
structure JobLo (h p : Nat) (q : Bool) (j : Job) : Prop where
  ec : ecOK j
  /-- its next `attach()` is in range: a queued job stands at or after `head_offs` -/
  ar : q = true → h ≤ j.curr
  /-- `parser_bs` lies inside the block the master is retrieving -/
  mb : Job.mc j = true → j.base ≤ p ∧ p ≤ j.curr
  /-- a speculative job back in `retr_q` has recorded where it stopped -/
  qe : q = true → ∀ f, j.ub = some f → f.inq = true → f.endp = j.curr
  /-- a master waiting in `retr_q` for input waits exactly at `parser_bs` -/
  qm : q = true → Job.mc j = true → j.curr = p

/-- Everything `attach()` may be called with lies at or after `head_offs` (DESIGN 7.1 F5, true
    since /repo commit 7623822): the parser position, every scan job, every retrieve job in
    `retr_q`; and `parser_bs` agrees with the next header, with `order_q` and with the master
    retrieve job. -/
structure Lo (c : Cfg) (s : State) : Prop where
  /-- `input_q` is shifted only up to what has been pushed -/
  hr : s.head ≤ s.rd
  /-- `attach()` of the parser is in range -/
  hp : s.pdone = false → headOffs c s ≤ s.ppos
  /-- the parser has not passed the header it is looking for -/
  pb : s.pdone = false → ∀ b, pres c s.gnext = .hdr b → s.ppos < b
  /-- every block pushed to `order_q` starts at or before `parser_bs` -/
  op : s.pdone = false → ∀ b i, (b, i) ∈ s.orderQ → b ≤ s.ppos
  /-- the running parser reads inside the input block it attached to -/
  pk : ∀ k, s.pphase = some (some k) → s.ppos < offs c (k + 1)
  jq : ∀ j ∈ s.retrQ, JobLo (headOffs c s) s.ppos true j
  jb : ∀ j k, Phase.retr j k ∈ s.busy → JobLo (headOffs c s) s.ppos false j
  sc : ∀ sp ∈ s.scanQ, headOffs c s ≤ sp

theorem JobLo.base_le_cur {h p : Nat} {q : Bool} {j : Job} (x : JobLo h p q j) :
    j.base ≤ j.curr := by
  cases hu : j.ub with
  | none =>
    have := x.mb (by simp [Job.mc, hu])
    omega
  | some f =>
    have := x.ec f hu
    omega

theorem Lo.arQ {c : Cfg} {s : State} (h : Lo c s) : ∀ j ∈ s.retrQ, headOffs c s ≤ j.curr :=
  fun j hj => (h.jq j hj).ar rfl

/-- a running job that may become the master stands at or after `head_offs` too: `parser_bs`
    lies inside it -/
theorem Lo.mh {c : Cfg} {s : State} (h : Lo c s) (hd : s.pdone = false) {j : Job} {k : Option Nat}
    (hm : Phase.retr j k ∈ s.busy) (hmc : Job.mc j = true) : headOffs c s ≤ j.curr :=
  Nat.le_trans (h.hp hd) ((h.jb j k hm).mb hmc).2

theorem JobLo.of_nomc {h p : Nat} {q : Bool} {j : Job} (hm : Job.mc j = false) (ec : ecOK j)
    (ar : q = true → h ≤ j.curr)
    (qe : q = true → ∀ f, j.ub = some f → f.inq = true → f.endp = j.curr) : JobLo h p q j :=
  have no : Job.mc j = true → False := fun e => by rw [hm] at e; cases e
  ⟨ec, ar, fun e => (no e).elim, qe, fun _ e => (no e).elim⟩

theorem JobLo.flag {h p : Nat} {q : Bool} {j : Job} (r : Nat → Bool) (x : JobLo h p q j) :
    JobLo h p q (flagJob r j) := by
  refine ⟨ecOK_flagJob x.ec, x.ar, fun e => x.mb (mc_flagJob e),
    fun hq f hf hi => ?_, fun hq e => x.qm hq (mc_flagJob e)⟩
  obtain ⟨f0, hu, rfl | rfl⟩ := flagJob_ub_some hf
  · exact x.qe hq f hu hi
  · cases hi

theorem Lo_init (c : Cfg) : Lo c (init c) := by
  refine ⟨?_, ?_, fun _ b hb => (pres_hdr hb).1, ?_, ?_, ?_, ?_, ?_⟩ <;> simp [init, headOffs, offs]

theorem Lo_of {c : Cfg} {s s' : State} (h : Lo c s)
    (hb : ∀ j k, Phase.retr j k ∈ s'.busy → Phase.retr j k ∈ s.busy)
    (hq : ∀ j ∈ s'.retrQ, j ∈ s.retrQ) (hs : ∀ sp ∈ s'.scanQ, sp ∈ s.scanQ)
    (e : (s'.head, s'.rd, s'.pdone, s'.ppos, s'.pphase, s'.gnext, s'.orderQ) =
         (s.head, s.rd, s.pdone, s.ppos, s.pphase, s.gnext, s.orderQ) := by rfl) : Lo c s' := by
  simp only [Prod.mk.injEq] at e
  obtain ⟨e1, e2, e3, e4, e5, e6, e7⟩ := e
  obtain ⟨a1, a2, a3, a4, a5, a6, a7, a8⟩ := h
  have eh : headOffs c s' = headOffs c s := by unfold headOffs; rw [e1]
  rw [← eh, ← e4] at a6 a7
  exact ⟨by rw [e1, e2]; exact a1, by rw [eh, e3, e4]; exact a2, by rw [e3, e4, e6]; exact a3,
    by rw [e3, e4, e7]; exact a4, by rw [e4, e5]; exact a5, fun j hj => a6 j (hq j hj),
    fun j k hm => a7 j k (hb j k hm), by rw [eh]; exact fun sp hsp => a8 sp (hs sp hsp)⟩

theorem Lo_congr {c : Cfg} {s s' : State} (h : Lo c s)
    (e : (s'.head, s'.rd, s'.pdone, s'.ppos, s'.pphase, s'.gnext, s'.orderQ, s'.busy, s'.retrQ,
          s'.scanQ) =
         (s.head, s.rd, s.pdone, s.ppos, s.pphase, s.gnext, s.orderQ, s.busy, s.retrQ,
          s.scanQ) := by rfl) : Lo c s' := by
  simp only [Prod.mk.injEq] at e
  obtain ⟨e1, e2, e3, e4, e5, e6, e7, e8, e9, e10⟩ := e
  exact Lo_of h (e8 ▸ fun _ _ hm => hm) (e9 ▸ fun _ hm => hm) (e10 ▸ fun _ hm => hm)
    (by rw [e1, e2, e3, e4, e5, e6, e7])

theorem Lo_detach {c : Cfg} {s : State} (k : Option Nat) (h : Lo c s) : Lo c (detach s k) := by
  rw [detach_eq]
  exact Lo_congr h

theorem Lo_busy_erase {c : Cfg} {s : State} (ph : Phase) (h : Lo c s) :
    Lo c { s with busy := s.busy.erase ph } :=
  Lo_of h (fun _ _ hm => List.mem_of_mem_erase hm) (fun _ hm => hm) (fun _ hm => hm)

theorem Lo_busy_cons {c : Cfg} {s : State} (ph : Phase) (h : Lo c s)
    (hn : ∀ j k, ph ≠ Phase.retr j k) : Lo c { s with busy := ph :: s.busy } :=
  Lo_of h (fun j k hm => (List.mem_cons.1 hm).resolve_left fun e => hn j k e.symm) (fun _ hm => hm)
    (fun _ hm => hm)

theorem Lo_leave {c : Cfg} {s : State} (ph : Phase) (k : Option Nat) (h : Lo c s) :
    Lo c (detach { s with busy := s.busy.erase ph } k) :=
  Lo_detach k (Lo_busy_erase ph h)

theorem Lo_leave_parser {c : Cfg} {s : State} (k : Option Nat) (h : Lo c s) :
    Lo c (detach { s with pphase := none } k) :=
  Lo_detach k { h with pk := fun _ hk => nomatch hk }

theorem Lo_retrQ_cons {c : Cfg} {s : State} {j : Job} (h : Lo c s)
    (hj : JobLo (headOffs c s) s.ppos true j) : Lo c { s with retrQ := j :: s.retrQ } :=
  { h with jq := List.forall_mem_cons.2 ⟨hj, h.jq⟩ }

theorem Lo_scanQ_cons {c : Cfg} {s : State} {x : Nat} (h : Lo c s) (hx : headOffs c s ≤ x) :
    Lo c { s with scanQ := x :: s.scanQ } :=
  { h with sc := List.forall_mem_cons.2 ⟨hx, h.sc⟩ }

/-- the caller may go on to set `gnext`, `order_q`; called with the parser idle and `p` before the
    next header; the jobs need only be well-formed, and `p` inside every master-capable one (a queued
    one standing exactly at `p`) -/
theorem Lo_advance {c : Cfg} {s : State} (p g : Nat) (oq : List (Nat × Nat)) (hr : s.head ≤ s.rd)
    (hho : headOffs c s ≤ p) (hpp : s.pphase = none)
    (hpb : ∀ b, pres c g = .hdr b → p < b) (hop : ∀ b i, (b, i) ∈ oq → b ≤ p)
    (hq : ∀ j ∈ s.retrQ, ecOK j ∧ (∀ f, j.ub = some f → f.inq = true → f.endp = j.curr) ∧
      (Job.mc j = true → j.base ≤ p ∧ j.curr = p))
    (hb : ∀ j k, Phase.retr j k ∈ s.busy → ecOK j ∧ (Job.mc j = true → j.base ≤ p ∧ p ≤ j.curr)) :
    Lo c { advance c s p with gnext := g, orderQ := oq } := by
  have hle := headOffs_advance_le c s p
  have hhp : headOffs c (advance c s p) ≤ p := by omega
  refine ⟨advance_head_le p hr, fun _ => hhp, fun _ => hpb, fun _ => hop, fun k hk => ?_,
    fun j hj => ?_, fun j k hk => ?_, fun sp hsp => (mem_advance_scanQ.1 hsp).2⟩
  · have hk : s.pphase = some (some k) := hk
    rw [hpp] at hk; cases hk
  · obtain ⟨hj, hc⟩ := mem_advance_retrQ.1 hj
    obtain ⟨x1, x2, x3⟩ := hq j hj
    exact ⟨x1, fun _ => hc, fun e => ⟨(x3 e).1, Nat.le_of_eq (x3 e).2.symm⟩, fun _ => x2,
      fun _ e => (x3 e).2⟩
  · obtain ⟨x1, x3⟩ := hb j k hk
    exact ⟨x1, nofun, x3, nofun, nofun⟩

theorem Lo_advance_nomc {c : Cfg} {s : State} (p : Nat) (h : Lo c s) (h0 : mcount s = 0)
    (hd : s.pdone = false) (hge : s.ppos ≤ p) (hpp : s.pphase = none)
    (hpb : ∀ b, pres c s.gnext = .hdr b → p < b) : Lo c (advance c s p) :=
  Lo_advance p s.gnext s.orderQ h.hr (Nat.le_trans (h.hp hd) hge) hpp hpb
    (fun b i hb => Nat.le_trans (h.op hd b i hb) hge)
    (fun j hj => ⟨(h.jq j hj).ec, (h.jq j hj).qe rfl, fun e => (no_mc_JIn h0 (Or.inl hj) e).elim⟩)
    (fun j k hk => ⟨(h.jb j k hk).ec, fun e => (no_mc_JIn h0 (Or.inr ⟨k, hk⟩) e).elim⟩)

theorem Lo_parsePush {c : Cfg} {s1 : State} {b : Nat} (h1 : Lo c s1) (hP : PPre c s1)
    (hu : pres c s1.gnext = .hdr b) :
    Lo c (parsePush c s1 b) ∧ headOffs c (parsePush c s1 b) ≤ b := by
  have hlt : s1.ppos < b := h1.pb hP.pd b hu
  have hA := Lo_advance (c := c) b (rres c b).e (s1.orderQ ++ [(b, 0)]) h1.hr
    (Nat.le_trans (h1.hp hP.pd) (Nat.le_of_lt hlt))
    hP.pp (fun b' hb' => Nat.lt_of_le_of_lt (rres_ge c b) (pres_hdr hb').1)
    (fun b' i hb' => by
      rcases List.mem_append.1 hb' with hm | hm
      · have := h1.op hP.pd b' i hm; omega
      · simp only [List.mem_singleton, Prod.mk.injEq] at hm; omega)
    (fun j hj => ⟨(h1.jq j hj).ec, (h1.jq j hj).qe rfl, fun e => (no_mc_JIn hP.m0 (Or.inl hj) e).elim⟩)
    (fun j k hk => ⟨(h1.jb j k hk).ec, fun e => (no_mc_JIn hP.m0 (Or.inr ⟨k, hk⟩) e).elim⟩)
  rw [parsePush_eq]
  refine ⟨{ hA with jq := fun j hj => ?_, jb := fun j k hk => ?_ }, hA.hp hP.pd⟩
  · obtain ⟨x, hx, rfl⟩ := List.mem_map.1 hj
    exact (hA.jq x hx).flag _
  · obtain ⟨j0, hx, rfl⟩ := mem_map_flagPhase_retr hk
    exact (hA.jb j0 k hx).flag _

/-- Wherever the entry at `b` is found, its job — from here on the only master-capable one —
    stands where the entry ends, and the parser jumps there. -/
theorem Lo_parseMatch {c : Cfg} {s3 : State} {b : Nat} (h3 : Lo c s3) (hP : PPre c s3)
    (hg : s3.gnext = (rres c b).e) (hhb : headOffs c s3 ≤ b) (hpp : s3.ppos = b) :
    Lo c (parseMatch c s3 b) ∧ b ≤ (parseMatch c s3 b).ppos := by
  have hnoQ : ∀ j ∈ s3.retrQ, ecOK j ∧ (∀ f, j.ub = some f → f.inq = true → f.endp = j.curr) ∧
      ∀ {P : Prop}, Job.mc j = true → P :=
    fun j hj => ⟨(h3.jq j hj).ec, (h3.jq j hj).qe rfl, fun e => (no_mc_JIn hP.m0 (Or.inl hj) e).elim⟩
  have hnoB : ∀ j k, Phase.retr j k ∈ s3.busy → ecOK j ∧ ∀ {P : Prop}, Job.mc j = true → P :=
    fun j k hk => ⟨(h3.jb j k hk).ec, fun e => (no_mc_JIn hP.m0 (Or.inr ⟨k, hk⟩) e).elim⟩
  have hpb : ∀ p, p ≤ (rres c b).e → ∀ b', pres c s3.gnext = .hdr b' → p < b' := by
    intro p hp b' hb'
    have := (pres_hdr hb').1
    omega
  have hop : ∀ p, b ≤ p → ∀ b' i, (b', i) ∈ s3.orderQ → b' ≤ p := by
    intro p hp b' i hb'
    have := h3.op hP.pd b' i hb'
    omega
  rcases parseMatch_cases c s3 b with ⟨j, a, hj, hjm, hjq, rfl, e⟩ |
    ⟨j, k, a, -, hph, hpm, hpq, rfl, e⟩ | ⟨u, a, -, -, hum, -, hub, -, rfl, e⟩ |
    ⟨u, a, -, -, hu, -, -, hinc, rfl, e⟩ | ⟨-, -, -, e⟩
  · -- the scanner-found block's job is waiting in retr_q, at the end of its entry
    have hend := inqAt_endp hjq (hnoQ j hjm).1
    have hend2 : j.endp ≤ (rres c b).e :=
      Nat.le_trans hend.2 (inqAt_base hjq ▸ (hP.si.jobs j hjm).cur_le_end)
    obtain ⟨f, hu, hi, hbase⟩ := Job.inqAt_iff.1 hjq
    have hec : j.endp = j.curr := by simpa only [Job.endp, hu] using (hnoQ j hjm).2.1 f hu hi
    rw [e]
    refine ⟨Lo_congr (Lo_advance j.endp s3.gnext s3.orderQ
      (s := { s3 with retrQ := replaceFirst (Job.inqAt b) Job.good s3.retrQ }) h3.hr
      (Nat.le_trans hhb hend.1) hP.pp (hpb _ hend2) (hop _ hend.1) (fun y hy => ?_)
      (fun y k hk => ⟨(hnoB y k hk).1, (hnoB y k hk).2⟩)), hend.1⟩
    rcases mem_replaceFirst_find _ _ hj hy with hy | rfl
    · exact ⟨(hnoQ y hy).1, (hnoQ y hy).2.1, (hnoQ y hy).2.2⟩
    · refine ⟨ecOK_good (hnoQ j hjm).1, fun f' hf' hi' => ?_, fun _ => ⟨hbase ▸ hend.1, hec.symm⟩⟩
      rw [Job.good_ub, hu] at hf'
      cases hf'; cases hi'
  · -- … is running
    have hend := inqAt_endp hpq (hnoB j k hpm).1
    have hend2 : j.endp ≤ (rres c b).e :=
      Nat.le_trans hend.2 (inqAt_base hpq ▸ (hP.si.busy _ hpm).cur_le_end)
    rw [e]
    refine ⟨Lo_congr (Lo_advance j.endp s3.gnext s3.orderQ
      (s := { s3 with busy := replaceFirst (Phase.inqAt b) Phase.good s3.busy }) h3.hr
      (Nat.le_trans hhb hend.1) hP.pp (hpb _ hend2) (hop _ hend.1)
      (fun y hy => ⟨(hnoQ y hy).1, (hnoQ y hy).2.1, (hnoQ y hy).2.2⟩) (fun y k' hk => ?_)), hend.1⟩
    rcases mem_replaceFirst_find _ _ hph hk with hk | he
    · exact ⟨(hnoB y k' hk).1, (hnoB y k' hk).2⟩
    · cases he
      exact ⟨ecOK_good (hnoB j k hpm).1, fun _ => ⟨inqAt_base hpq ▸ hend.1, hend.2⟩⟩
  · -- … has finished: the entry is an orphan that ends where the block ends
    have hend : u.f.endp = (rres c b).e := hub ▸ (hP.si.orph hP.pd u hum).2
    have hbe := rres_ge c b
    rw [e]
    exact ⟨Lo_congr (Lo_advance_nomc u.f.endp h3 hP.m0 hP.pd (by omega) hP.pp
      (hpb _ (Nat.le_of_eq hend))), by show b ≤ u.f.endp; omega⟩
  · exact absurd (hP.si.orph hP.pd u hu).1 (by rw [hinc]; simp)
  · -- nobody found it: the parser creates the master job
    rw [e]
    exact ⟨Lo_retrQ_cons h3 ⟨fun f hf => (nomatch hf), fun _ => hhb,
      fun _ => ⟨Nat.le_of_eq hpp.symm, Nat.le_of_eq hpp⟩, fun _ f hf => (nomatch hf), fun _ _ => hpp.symm⟩,
      Nat.le_of_eq hpp.symm⟩

theorem Lo_parseFinish {c : Cfg} {s1 : State} (u : Nat) (h1 : Lo c s1) (hP : PPre c s1) :
    Lo c (parseFinish s1 u) := by
  rw [parseFinish_eq]
  refine ⟨Nat.le_refl _, nofun, nofun, nofun, fun k hk => ?_, nofun, fun j k hk => ?_, nofun⟩
  · have hk : s1.pphase = some (some k) := hk
    rw [hP.pp] at hk; cases hk
  · obtain ⟨j0, hx, rfl⟩ := mem_map_flagPhase_retr hk
    exact JobLo.of_nomc
      (Bool.eq_false_iff.2 fun e => no_mc_JIn hP.m0 (Or.inr ⟨k, hx⟩) (mc_flagJob e))
      (ecOK_flagJob (h1.jb j0 k hx).ec) nofun nofun

/-- the master moves the parser position to where `retrieve()` stopped, which is before the next
    header; the third part is what the job satisfies there, should it go back into `retr_q` -/
theorem Lo_retrEnd_move {c : Cfg} {s : State} {j : Job} {k : Option Nat} (h : Lo c s)
    (hS : SI c s) (hmem : Phase.retr j k ∈ s.busy) (hpd : s.pdone = false)
    (hred : j.redundant = false) :
    let s2 := retrMove c (detach { s with busy := s.busy.erase (.retr j k) } k) j (retrNewc c j k)
    Lo c s2 ∧ s.ppos ≤ s2.ppos ∧
      (headOffs c s2 ≤ retrNewc c j k →
        JobLo (headOffs c s2) s2.ppos true (retrMoreJob j (retrNewc c j k))) := by
  intro s2
  have hs : s2 = retrMove c _ j _ := rfl
  clear_value s2
  subst hs
  have h1 := Lo_leave (.retr j k) k h
  have x := h.jb j k hmem
  have hj : jobOK c s.gnext j := hS.busy _ hmem
  have hge := newc_ge c j k
  have hec := ecOK_retrMoreJob (newc := retrNewc c j k) x.ec hge
  have hqe : ∀ f, (retrMoreJob j (retrNewc c j k)).ub = some f → f.inq = true →
      f.endp = retrNewc c j k := by
    intro f hf hi
    obtain ⟨f0, hu, ⟨hmas, rfl⟩ | ⟨_, rfl⟩⟩ := retrMoreJob_ub_some hf
    · -- a master's entry is complete, hence not in unord_q
      have hc : f.complete = true := by simpa [Job.master, hu] using hmas
      rw [hj.inq_incomplete f hu hi] at hc
      cases hc
    · rfl
  cases hmas : j.master with
  | false =>
    rw [retrMove_spec _ _ _ hmas]
    exact ⟨h1, by rw [detach_eq]; exact Nat.le_refl _, fun hov =>
      JobLo.of_nomc ((mc_retrMoreJob j _).trans (not_master_not_mc hmas)) hec (fun _ => hov)
        (fun _ => hqe)⟩
  | true =>
    obtain ⟨hm0, hpp⟩ := (RPre.leave hS hmem).master hmas hred
    have hmc := master_mc hmas hred
    have hpn : s.ppos ≤ retrNewc c j k := Nat.le_trans (x.mb hmc).2 hge
    rw [retrMove_master _ _ _ hmas]
    refine ⟨Lo_congr (Lo_advance_nomc (retrNewc c j k) h1 hm0 (by rw [detach_eq]; exact hpd)
      (by rw [detach_eq]; exact hpn) hpp fun b hb => ?_), hpn, fun hov =>
      ⟨hec, fun _ => hov, fun _ => ⟨Nat.le_trans (x.mb hmc).1 hpn, Nat.le_refl _⟩, fun _ => hqe,
        fun _ _ => rfl⟩⟩
    rw [show (detach { s with busy := s.busy.erase (.retr j k) } k).gnext = s.gnext by
      rw [detach_eq]] at hb
    have := (pres_hdr hb).1
    have := hj.mc_end hmc
    have := newc_le (k := k) hj.cur_le_end
    omega

theorem Lo_retrDone {c : Cfg} {s : State} (j : Job) (n : Nat) (h : Lo c s) :
    Lo c (retrDone c s j n) ∧ (retrDone c s j n).ppos = s.ppos := by
  obtain ⟨pt, po, orp, e⟩ := retrDone_frame c s j n
  rw [e]
  exact ⟨Lo_congr (Lo_busy_cons (.retr2 (doneEJob c j)) h nofun), rfl⟩

theorem Lo_scanNew {c : Cfg} {s1 : State} (x : Nat) (h1 : Lo c s1) :
    Lo c (scanNew c s1 x) ∧ (scanNew c s1 x).ppos = s1.ppos :=
  scanNew_ind (P := fun t => Lo c t ∧ t.ppos = s1.ppos) c s1 x ⟨Lo_congr h1, rfl⟩ fun _ hx =>
    ⟨Lo_retrQ_cons h1 (JobLo.of_nomc rfl (fun f hf => by cases hf; exact ⟨Nat.le_refl _, Nat.le_refl _⟩)
      (fun _ => hx) (fun _ f hf _ => by cases hf; rfl)), rfl⟩

theorem Lo_scanRequeue {c : Cfg} {s : State} (x hi : Nat) (h : Lo c s) :
    Lo c (scanRequeue c s x hi) := by
  rw [scanRequeue_eq]
  split
  · next hq => exact Lo_scanQ_cons h hq.2
  · exact Lo_congr h

def PJIn (s : State) (j : Job) : Prop := j ∈ s.retrQ ∨ ∃ k, Phase.retr j k ∈ s.busy

/-- the parser position lies inside the attached input block, before the next block header,
    inside every master-capable retrieve job and at or after every block of `order_q` -/
structure PI (c : Cfg) (s : State) : Prop where
  pk : ∀ k, s.pphase = some (some k) → s.ppos < offs c (k + 1)
  pb : s.pdone = false → ∀ b, pres c s.gnext = .hdr b → s.ppos < b
  ml : ∀ j, PJIn s j → Job.mc j = true → s.ppos ≤ j.curr
  mb : ∀ j, PJIn s j → Job.mc j = true → j.base ≤ s.ppos
  op : s.pdone = false → ∀ b i, (b, i) ∈ s.orderQ → b ≤ s.ppos

theorem Lo.pi {c : Cfg} {s : State} (h : Lo c s) : PI c s :=
  ⟨h.pk, h.pb, fun j hj e => (hj.elim (fun hq => (h.jq j hq).mb e) fun ⟨k, hk⟩ => (h.jb j k hk).mb e).2,
    fun j hj e => (hj.elim (fun hq => (h.jq j hq).mb e) fun ⟨k, hk⟩ => (h.jb j k hk).mb e).1, h.op⟩

theorem lo_step {c : Cfg} {s s' : State} {l : Label} (h : Lo c s) (hS : SI c s)
    (hs : step c s l = some s') : Lo c s' ∧ (s'.pdone = false → s.ppos ≤ s'.ppos) := by
  have keep : ∀ {t : State}, Lo c t → t.ppos = s.ppos →
      Lo c t ∧ (t.pdone = false → s.ppos ≤ t.ppos) :=
    fun ht e => ⟨ht, fun _ => Nat.le_of_eq e.symm⟩
  obtain ⟨hf, st⟩ := step_inv hs
  cases st with
  | rTake | rQuit | rBlockDrop | rEmpty | rEof | wDone | reorderBogus | reorderErr =>
    exact keep (Lo_congr h) rfl
  | rBlock =>
    exact keep { Lo_scanQ_cons h (offs_mono c h.hr) with hr := Nat.le_succ_of_le h.hr } rfl
  | reorderMore ob r _ _ _ hord =>
    refine keep { h with op := fun hd b i hb => ?_ } rfl
    rcases List.mem_cons.1 hb with e | hb
    · cases e; exact h.op hd _ ob.idx (hord ▸ List.mem_cons_self)
    · exact h.op hd b i (hord ▸ List.mem_cons_of_mem _ hb)
  | reorderOk ob r _ _ _ hord =>
    exact keep { h with op := fun hd b i hb => h.op hd b i (hord ▸ List.mem_cons_of_mem _ hb) } rfl
  | parseStart =>
    refine keep { h with pk := fun k hk => ?_ } rfl
    obtain ⟨hlt, rfl⟩ := parseStart_attach_some hk
    exact lt_offs_succ_div (c := c) hlt
  | parseMore k hpp hmore =>
    obtain ⟨hP, -, hg⟩ := PPre_parsing hS hf hpp
    obtain ⟨kk, rfl, hlt⟩ := parseMoreP_eq_true hmore
    have hk1 := h.pk kk hpp
    rw [parseMore_eq]
    exact ⟨Lo_congr (Lo_advance_nomc (offs c (kk + 1)) (Lo_leave_parser (some kk) h) hP.m0 hP.pd
      (by rw [detach_eq]; exact Nat.le_of_lt hk1) hP.pp
      (by intro b hb; rw [hg] at hb; rw [hb] at hlt; exact hlt)), fun _ => Nat.le_of_lt hk1⟩
  | parseErr k u => exact keep (Lo_congr (Lo_leave_parser k h)) (detach_ppos _ _)
  | parseEof k u =>
    exact ⟨{ Lo_leave_parser k h with hp := nofun, pb := nofun, op := nofun }, nofun⟩
  | parseFinish k u hpp =>
    exact ⟨Lo_parseFinish u (Lo_leave_parser k h) (PPre_parsing hS hf hpp).1, nofun⟩
  | parseOk k b hpp _ hres =>
    obtain ⟨hP, -, hg⟩ := PPre_parsing hS hf hpp
    have hu : pres c (detach { s with pphase := none } k).gnext = .hdr b := by rw [hg]; exact hres
    have h1 := Lo_leave_parser k h
    obtain ⟨p1, p2⟩ := Lo_parsePush h1 hP hu
    obtain ⟨r1, r2⟩ := Lo_parseMatch p1 (PPre_push hP hu) rfl p2 rfl
    have hlt : s.ppos < b := by
      have := h1.pb hP.pd b hu
      rwa [detach_eq] at this
    exact ⟨r1, fun _ => Nat.le_trans (Nat.le_of_lt hlt) r2⟩
  | retrStart j _ hj =>
    have x := h.jq j hj
    refine keep { h with
      jq := fun y hy => h.jq y (List.mem_of_mem_erase hy)
      jb := fun y k' hm => ?_ } rfl
    rcases List.mem_cons.1 hm with e | hm
    · cases e; exact ⟨x.ec, nofun, x.mb, nofun, nofun⟩
    · exact h.jb y k' hm
  | retrQuit j k =>
    exact keep (Lo_congr (Lo_leave (.retr j k) k h)) (detach_ppos _ _)
  | retrOvertaken j k hmem hpd hred =>
    obtain ⟨h2, hge, -⟩ := Lo_retrEnd_move h hS hmem hpd hred
    exact ⟨Lo_congr h2, fun _ => hge⟩
  | retrMore j k hmem hpd hred _ hov =>
    obtain ⟨h2, hge, hj⟩ := Lo_retrEnd_move h hS hmem hpd hred
    rw [retrMore_eq]
    exact ⟨Lo_retrQ_cons h2 (hj hov), fun _ => hge⟩
  | retrDone j k hmem hpd hred =>
    obtain ⟨h2, hge, -⟩ := Lo_retrEnd_move h hS hmem hpd hred
    obtain ⟨h3, e⟩ := Lo_retrDone (c := c) j (retrNewc c j k) h2
    exact ⟨h3, fun _ => by rw [e]; exact hge⟩
  | retrPost e => exact keep (Lo_congr (Lo_busy_erase (.retr2 e) h)) rfl
  | emitStart e => exact keep (Lo_congr (Lo_busy_cons (.emit e) h nofun)) rfl
  | emitMore e | emitLast e => exact keep (Lo_congr (Lo_busy_erase (.emit e) h)) rfl
  | scanStart sp =>
    exact keep (Lo_of h (fun _ _ hm => (List.mem_cons.1 hm).resolve_left nofun) (fun _ hm => hm)
      (fun _ hm => List.mem_of_mem_erase hm)) rfl
  | scanNone st k =>
    exact keep (Lo_congr (Lo_leave (.scan st k) (some k) h)) (detach_ppos _ _)
  | scanFound st k x =>
    obtain ⟨n1, e1⟩ := Lo_scanNew (c := c) x (Lo_leave (.scan st k) (some k) h)
    refine keep (Lo_scanRequeue _ _ n1) ?_
    rw [scanRequeue_eq]
    exact e1.trans (detach_ppos _ _)

end LbzVerif.Lemmas.SchedD
