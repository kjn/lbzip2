/-
  Deadlock-freedom of the expansion scheduler, second half: a reachable
  QUIESCENT state (no worker inside a task, writer idle, reader finished or
  blocked on `in_slots = 0`, nothing selectable) is the terminated state.
  Hypotheses: at least one worker, more output slots than the emit reserve
  (`EMIT_THRESH < total_out`; without it BFS finds stuck states), non-empty
  input blocks, at least one input slot.
-/
import LbzVerif.Lemmas.SchedD.Inv
import LbzVerif.Lemmas.SchedD.Progress

namespace LbzVerif.Lemmas.SchedD
open LbzVerif.Model.SchedD LbzVerif.Gen

theorem quiescent_final {c : Cfg} (hW : 0 < c.W) (hn : 1 ≤ c.n) (ho : EMIT_THRESH < c.totalOut)
    (hti : 1 ≤ c.totalIn) {s : State} (h : Reach c s) (hf : s.failed = false)
    (hq : Quiescent c s) : terminated c s = true := by
  obtain ⟨hb, hpp, hoq, hrd, hsel⟩ := hq
  have hsel : selectTask c s = none := by
    rcases hsel with h' | h'
    · exact h'
    · omega
  obtain ⟨gR, gP, gE, gT, _⟩ := selectTask_none hsel
  have I := inv_reach h
  have ci := I.ci hf
  have li := I.li hf
  have hQ := I.hi hW
  have t2 := I.tok hW hn hf
  have hi := I.holder hf
  have hin := in_slots_conserved hW h
  have hbc : busyCount s = 0 := busyCount_eq_zero.2 ⟨hb, hpp⟩
  have heb : emitBusy s = 0 := by simp [emitBusy, hb]
  have hwu : s.wu + s.retrQ.length + s.emitQ.length = c.n := by have := ci.wuC; omega
  have hos : s.outSlots + s.reordQ.length = c.totalOut := by have := ci.osC; omega
  -- (A) the parser position cannot be stuck at `tail_offs` waiting for input
  have hA : s.pdone = false → s.ppos = tailOffs c s → s.eof = false → False := by
    intro hd hp he
    have hhr := no_input_wait hW h hd hp
    have hat : ∀ k, attachedTo s k = false := by intro k; simp [attachedTo, hpp, hb]
    have hfil : ((List.range s.head).filter (fun k => attachedTo s k)).length = 0 := by
      rw [List.length_eq_zero_iff, List.filter_eq_nil_iff]; intro k _; simp [hat k]
    rcases hrd with hd' | ⟨hi', _, hz⟩
    · have := I.ri.dn.1 hd'; rw [this] at he; cases he
    · have : inputAlive s = 0 := by
        unfold inputAlive
        rw [hfil, hhr, hi']; simp
      omega
  -- (P) the parser could run
  have hP : s.ptok = true → s.pdone = false → 1 ≤ s.wu → False := by
    intro ht hd hw
    have hca : canAttach s.ppos (tailOffs c s) s.eof = false := by
      have := gP
      simp only [dCanParse, view, hd, ht, Bool.not_false, Bool.true_and, Bool.and_eq_false_iff,
        decide_eq_false_iff_not] at this
      rcases this with h' | h'
      · omega
      · exact h'
    obtain ⟨e1, e2⟩ := canAttach_false hca (hQ.pt hd)
    exact hA hd e1 e2
  -- (M) a master waiting in retr_q could run, or waits at `tail_offs`
  have hM : ∀ j ∈ s.retrQ, Job.mc j = true → False := by
    intro j hj hmc
    have hd : s.pdone = false := by
      cases hpd : s.pdone with
      | false => rfl
      | true => have := (li.od hpd).2.1; rw [this] at hj; cases hj
    obtain ⟨m, hm, hle⟩ := minNat?_le (l := s.retrQ.map Job.curr) (List.mem_map.2 ⟨j, hj, rfl⟩)
    have hjt : j.curr ≤ tailOffs c s := hQ.jq j hj
    have hca : canAttach m (tailOffs c s) s.eof = false := by
      have hne : s.retrQ.isEmpty = false := List.isEmpty_eq_false_iff_exists_mem.2 ⟨j, hj⟩
      have := gT
      simpa [dCanRetrieve, view, hne, hm] using this
    obtain ⟨e1, e2⟩ := canAttach_false hca (by omega)
    have hcp := (I.lo.jq j hj).qm rfl hmc
    exact hA hd (by omega) e2
  -- a buffer at or before the head of order_q could be reordered
  have hRe : ∀ b i r, s.orderQ = (b, i) :: r → ∀ o ∈ s.reordQ, posLe o.key (b, i) = true → False := by
    intro b i r hoq' o hom hle
    obtain ⟨m, hm, hmle⟩ := minKey?_le (l := s.reordQ.map OB.key) (List.mem_map.2 ⟨o, hom, rfl⟩)
    have hne : s.reordQ.isEmpty = false := List.isEmpty_eq_false_iff_exists_mem.2 ⟨o, hom⟩
    have := gR
    simp [dCanReorder, view, hne, hoq', hm, posLe_trans hmle hle] at this
  -- (H) order_q must be empty
  have hH : ∀ b i r, s.orderQ = (b, i) :: r → False := by
    intro b i r hoq'
    rcases order_head_has h hf hoq' with ⟨j, hj, _, hmc⟩ | ⟨o, hom, hk⟩ | ⟨e, he, heb', hei⟩
    · exact hM j (JIn_idle hb hj) hmc
    · exact hRe b i r hoq' o hom (by rw [hk]; exact posLe_refl _)
    · have hem : e ∈ s.emitQ := EIn_idle hb he
      obtain ⟨m, hm, hmle⟩ := minKey?_le (l := s.emitQ.map EJob.key) (List.mem_map.2 ⟨e, hem, rfl⟩)
      have hek : posLe e.key (b, i) = true := by
        show posLe (e.base, e.idx) (b, i) = true
        rw [heb']; exact posLe_same_base hei
      have hne : s.emitQ.isEmpty = false := List.isEmpty_eq_false_iff_exists_mem.2 ⟨e, hem⟩
      have h0 : s.outSlots = 0 := by
        have := gE
        simp only [dCanEmit, view, hne, hoq', hm, posLe_trans hmle hek, Bool.not_false,
          Bool.true_and, List.isEmpty_cons, List.head?_cons, Bool.and_true,
          Bool.or_eq_false_iff, decide_eq_false_iff_not] at this
        omega
      obtain ⟨o, hom, hlt⟩ := not_all_ahead hW ho h hf hoq' hb h0 hoq
      exact hRe b i r hoq' o hom (posLe_of_not_posLt hlt)
  have hord : s.orderQ = [] := by
    cases hoq' : s.orderQ with
    | nil => rfl
    | cons x r => obtain ⟨b, i⟩ := x; exact (hH b i r hoq').elim
  -- (Z) parsing must be done
  have hpd : s.pdone = true := by
    cases hd : s.pdone with
    | true => rfl
    | false =>
      exfalso
      cases ht : s.ptok with
      | false =>
        rcases (I.xi hf).tk ht with h' | ⟨j, hj, hmc⟩
        · rw [hpp] at h'; cases h'
        · exact hM j (JIn_idle hb hj) hmc
      | true =>
        rcases Nat.eq_zero_or_pos s.wu with h0 | h0
        · rcases t2.tu ht with h' | ⟨e, _, i, hmem⟩
          · omega
          · rw [hord] at hmem; cases hmem
        · exact hP ht hd h0
  have hre : s.reordQ = [] := by
    cases hr : s.reordQ with
    | nil => rfl
    | cons o t =>
      exfalso
      have := gR
      simp [dCanReorder, view, hr, hord, hpd] at this
  have hemq : s.emitQ = [] := by
    cases hr : s.emitQ with
    | nil => rfl
    | cons e t =>
      exfalso
      have hos' : s.outSlots = c.totalOut := by rw [hre] at hos; simpa using hos
      have := gE
      simp only [dCanEmit, view, hr, List.isEmpty_cons, Bool.not_false, Bool.true_and,
        Bool.or_eq_false_iff, decide_eq_false_iff_not] at this
      have h2 := this.1
      unfold EMIT_THRESH at ho h2
      omega
  have hrq : s.retrQ = [] := (li.od hpd).2.1
  have hptok : s.ptok = true := hi.h0.pt hpd
  have heof : s.eof = true := by
    rcases hrd with hd' | ⟨_, hc, _⟩
    · exact I.ri.dn.1 hd'
    · have := I.ri.pc.1 hpd; rw [this] at hc; cases hc
  have hwn : s.wu = c.n := by rw [hrq, hemq] at hwu; simpa using hwu
  have hon : s.outSlots = c.totalOut := by rw [hre] at hos; simpa using hos
  simp [terminated, hf, dCanTerminate, view, heof, hpd, hptok, hwn, hon, hsel]

/-- **progress**: every reachable state in which `failf` has not been called
    and which is not terminated has an enabled transition. -/
theorem progress_reach {c : Cfg} (hW : 0 < c.W) (hn : 1 ≤ c.n) (ho : EMIT_THRESH < c.totalOut)
    (hti : 1 ≤ c.totalIn) {s : State} (h : Reach c s) (hnf : final c s = false) :
    enabled c s ≠ [] := by
  intro he
  simp only [final, Bool.or_eq_false_iff] at hnf
  have ht := quiescent_final hW hn ho hti h hnf.1 (stuck_quiescent hnf.1 he)
  rw [hnf.2] at ht; cases ht

end LbzVerif.Lemmas.SchedD
