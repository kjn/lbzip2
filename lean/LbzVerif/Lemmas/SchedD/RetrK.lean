/-
  The invariant `RK`: a running retriever reads inside the input block it is attached to
  (`offs k ≤ curr < offs (k+1)`: what `attach()` resolved), one attached "at end of input" has
  nothing left to retrieve, and a running `scan()` started at or after the start of its block.
  It is a predicate on busy phases (an instance of `oi_step`), established where `do_retrieve` and `do_scan`
  attach (`rk_step`); the measure uses it in one place: a retriever that returns MORE has moved
  on, and `UI.tb` is its scanner case.
-/
import LbzVerif.Lemmas.SchedD.Hi
import LbzVerif.Lemmas.SchedD.Objects

namespace LbzVerif.Lemmas.SchedD
open LbzVerif.Model.SchedD LbzVerif.Gen

/-- `pd` is `parsing_done`: after it `attach()` may resolve to "end of input" with data left, and
    the retriever returns at once.  The flag only ever gets set, so `rk_step` runs `oi_step` at
    the pre-state's value and weakens (`retrK_mono`). -/
def retrK (c : Cfg) (pd : Bool) : Phase → Prop
  | .retr j (some kk) => offs c kk ≤ j.curr ∧ j.curr < offs c (kk + 1)
  | .retr j none => pd = true ∨ (rres c j.base).e ≤ j.curr
  | .scan st k => offs c k ≤ st
  | _ => True

def RK (c : Cfg) (s : State) : Prop := ∀ ph ∈ s.busy, retrK c s.pdone ph

theorem retrK_mono {c : Cfg} {pd pd' : Bool} (h : pd = true → pd' = true) {ph : Phase}
    (hp : retrK c pd ph) : retrK c pd' ph := by
  cases ph with
  | retr j k =>
    cases k with
    | none => exact hp.imp h id
    | some kk => exact hp
  | _ => exact hp

theorem retrK_flagPhase {c : Cfg} {pd : Bool} (p : Nat → Bool) {ph : Phase}
    (hp : retrK c pd ph) : retrK c pd (flagPhase p ph) := by
  cases ph with
  | retr j k => cases k <;> exact hp
  | _ => exact hp

theorem retrK_good {c : Cfg} {pd : Bool} {ph : Phase} (hp : retrK c pd ph) :
    retrK c pd (Phase.good ph) := by
  cases ph with
  | retr j k => cases k <;> exact hp
  | _ => exact hp

/-- a predicate of the busy phases alone, which the parser's flag writes do not disturb -/
def rkP (c : Cfg) (pd : Bool) : OP :=
  ⟨fun _ => True, retrK c pd, fun _ => True, fun _ => True, fun _ => True, fun _ => True⟩

theorem rkP_OC (c : Cfg) (pd : Bool) : OC c (rkP c pd) where
  flagJ _ _ _ := trivial
  flagP r _ := retrK_flagPhase r
  goodJ _ _ := trivial
  goodP _ := retrK_good
  flagU _ _ _ := trivial
  goodU _ _ _ := trivial
  newJ _ := trivial
  scanJ _ := trivial
  moreJ _ _ _ _ := trivial
  doneP _ _ _ := trivial
  doneU _ _ _ _ _ _ _ := trivial
  postE _ _ := trivial
  emitP _ _ := trivial
  nextE _ _ := trivial
  outO _ _ _ := trivial
  taintJ _ _ _ _ _ := trivial
  taintU _ _ _ _ := trivial
  taintO _ _ _ _ := trivial

theorem retrK_retrStart {c : Cfg} {s : State} {j : Job} (hA : Lo c s) (hR : RI c s)
    (hsel : selectTask c s = some "retrieve") (hmem : j ∈ s.retrQ)
    (hmin : minNat? (s.retrQ.map Job.curr) = some j.curr) :
    retrK c s.pdone
      (.retr { j with corrupt := j.corrupt || decide (j.curr < headOffs c s) }
        (retrAttach c s j)) := by
  unfold retrAttach
  obtain ⟨m, hm, hca⟩ := selectTask_retrieve hsel
  rw [hmin] at hm
  cases hm
  by_cases ht : tailOffs c s ≤ j.curr
  · rw [if_pos ht]
    show s.pdone = true ∨ (rres c j.base).e ≤ j.curr
    cases hpd : s.pdone with
    | true => exact Or.inl rfl
    | false =>
      right
      have hca2 : s.eof = true ∧ j.curr = tailOffs c s :=
        (canAttach_iff.1 hca).resolve_left (by omega)
      have hT := hR.tail_eq hca2.1 hpd
      have h1 := (hA.jq j hmem).base_le_cur
      have h2 : (rres c j.base).e ≤ c.T := rres_le (by omega)
      omega
  · have hst : ¬j.curr < headOffs c s := by
      have := hA.arQ j hmem
      omega
    rw [if_neg ht, if_neg hst]
    show offs c (j.curr / c.W) ≤ j.curr ∧ j.curr < offs c (j.curr / c.W + 1)
    exact ⟨offs_div_le c _, lt_offs_succ_div (c := c) (r := s.rd) (by unfold tailOffs at ht; omega)⟩

theorem rk_step {c : Cfg} {s s' : State} {l : Label} (h : RK c s) (hA : Lo c s) (hR : RI c s)
    (hs : step c s l = some s') : RK c s' := by
  obtain ⟨-, st⟩ := step_inv hs
  refine fun ph hph => retrK_mono st.pdone_mono
    ((oi_step (rkP_OC c s.pdone) st ⟨fun _ _ => trivial, h, fun _ _ => trivial, fun _ _ => trivial,
      fun _ _ => trivial, trivial⟩ fun ph hst => ?_).bz ph hph)
  cases st with
  | retrStart j hsel hmem hmin => cases hst; exact retrK_retrStart hA hR hsel hmem hmin
  | scanStart sp => cases hst; exact Nat.le_trans (offs_div_le c sp) (by split <;> omega)
  | _ => cases hst

end LbzVerif.Lemmas.SchedD
