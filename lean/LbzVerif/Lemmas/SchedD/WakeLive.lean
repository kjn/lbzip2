/-
  Liveness of the refined expansion scheduler `Model.SchedDW`.  Termination holds only up to
  spurious wake-ups (as in Props/C11/Compress.lean): a woken worker takes the mutex, finds
  `next_task == NULL` and waits again.  `muW` = (`mu` of the scheduler data, workers not yet gone,
  phase) decreases lexicographically along every other transition, a spurious wake-up costs 2 of
  phase, so an infinite run has infinitely many.
-/
import LbzVerif.Lemmas.SchedD.Wake
import LbzVerif.Lemmas.SchedD.Measure
import LbzVerif.Lemmas.SchedD.ProgressFinal

namespace LbzVerif.Lemmas.SchedD
open LbzVerif.Gen LbzVerif.Model.SchedD LbzVerif.Model.SchedDW

/-- after `failf` the process is gone; otherwise every worker thread must have left its loop -/
def finalW (c : Cfg) (w : WState) : Bool :=
  w.base.failed || (terminated c w.base && w.ws.all (· == .exited))

/-- `SI.excl`: the parser is not running while the parse token is available -/
theorem start_enabled {c : Cfg} {s : State} {t : String} (h : Reach c s)
    (hfree : freeWorker c s = true) (hf : s.failed = false) (hsel : selectTask c s = some t) :
    ∃ l, taskOf l = some t ∧ (step c s l).isSome = true := by
  have hS : SI c s := (inv_reach h).si hf
  obtain ⟨l, _, ht, hs⟩ := start_cand hf hfree hS.excl hsel
  exact ⟨l, ht, hs⟩

section fire
variable {c : Cfg} {w : WState}

theorem fire {l : WLabel} {w' : WState} (hf : w.base.failed = false) (h : WStep c w l w') :
    (stepW c w l).isSome = true := by
  rw [stepW_of hf h]; rfl

theorem fire_ioS {l : Label} {b : State} (hf : w.base.failed = false) (hl : lockedIO l = true)
    (hh : w.holder = none) (hb : step c w.base l = some b) :
    ∃ k, (stepW c w (.ioS l k)).isSome = true :=
  let ⟨k, hu⟩ := unlockW_any c w.ws
  let ⟨_, hu⟩ := hu b w.nextTask w.holder
  ⟨k, fire hf (.ioS hl hh hb hu)⟩

theorem fire_runTask {i : Nat} {l : Label} {t : String} {b : State} (hf : w.base.failed = false)
    (hh : w.holder = some i) (hi : w.ws[i]? = some .inloop) (hn : w.nextTask = some t)
    (hl : taskOf l = some t) (hb : step c w.base l = some b) :
    ∃ k, (stepW c w (.runTask i l k)).isSome = true := by
  by_cases ht : t = "reorder"
  · subst ht
    exact ⟨0, fire hf (.reorder hh hi hn hl hb)⟩
  · obtain ⟨k, hu⟩ := unlockW_any c (w.ws.set i .running)
    obtain ⟨_, hu⟩ := hu b w.nextTask w.holder
    exact ⟨k, fire hf (.run hh hi hn hl ht hb hu)⟩

theorem fire_relock {i : Nat} {l : Label} {b : State} (hf : w.base.failed = false)
    (hh : w.holder = none) (hi : w.ws[i]? = some .running) (hl : isEnd l = true)
    (hb : step c w.base l = some b) : ∃ k, (stepW c w (.relock i l k)).isSome = true := by
  by_cases hr : retrFinished l w.base b
  · obtain ⟨k, hu⟩ := unlockW_any c w.ws
    obtain ⟨_, hu⟩ := hu b w.nextTask w.holder
    exact ⟨k, fire hf (.relockU hh hi hl hb hr hu)⟩
  · exact ⟨0, fire hf (.relockL hh hi hl hb hr)⟩

end fire

/-- **the refined expansion scheduler cannot deadlock and loses no wake-up.**
    Every reachable state of `Model.SchedDW` (all interleavings, every choice of
    the signalled waiter, spurious wake-ups included) that is not final has an
    enabled transition which is not a spurious wake-up.  Hypotheses as for the
    base model's `progress_reach`: non-empty input blocks, at least one worker,
    more output slots than the emit reserve, at least one input slot. -/
theorem deadlock_free_w {c : Cfg} (hW : 0 < c.W) (hn : 1 ≤ c.n) (ho : EMIT_THRESH < c.totalOut)
    (hti : 1 ≤ c.totalIn) {w : WState} (h : ReachW c w) (hnf : finalW c w = false) :
    ∃ l, WLabel.isSpurious l = false ∧ (stepW c w l).isSome = true := by
  have I := wi_reach h
  have hB := reachW_base h
  simp only [finalW, Bool.or_eq_false_iff] at hnf
  obtain ⟨hf, hnt⟩ := hnf
  cases hh : w.holder with
  | some i =>
    -- the owner of the mutex stands at the top of the loop
    have hi := (I.lock i).1 hh
    cases hnx : w.nextTask with
    | some t =>
      have hsel : selectTask c w.base = some t := by rw [← I.nt, hnx]
      obtain ⟨l, hl, hs⟩ := start_enabled hB (inloop_free h hi) hf hsel
      obtain ⟨b, hb⟩ := Option.isSome_iff_exists.mp hs
      obtain ⟨k, hk⟩ := fire_runTask hf hh hi hnx hl hb
      exact ⟨.runTask i l k, rfl, hk⟩
    | none =>
      cases hfin : finished c w.base with
      | true => exact ⟨.exit i, rfl, fire hf (.exit hh hi hnx hfin)⟩
      | false => exact ⟨.wait i, rfl, fire hf (.wait hh hi hnx hfin)⟩
  | none =>
    by_cases hr : WPh.ready ∈ w.ws
    · -- (1) a runnable worker takes the mutex
      obtain ⟨i, hi⟩ := List.getElem?_of_mem hr
      exact ⟨.acquire i, rfl, fire hf (.acquire hh hi)⟩
    have hrc := running_count h
    by_cases hrun : WPh.running ∈ w.ws
    · -- (2) a worker inside a task runs its next section
      obtain ⟨i, hi⟩ := List.getElem?_of_mem hrun
      have hpos : 0 < busyCount w.base := by
        rw [← hrc]
        exact List.length_pos_of_mem (List.mem_filter.2 ⟨hrun, by simp⟩)
      obtain ⟨l, -, hl, hs⟩ := end_cand (c := c) hf hpos
      obtain ⟨b, hb⟩ := Option.isSome_iff_exists.mp hs
      obtain ⟨k, hk⟩ := fire_relock hf hh hi hl hb
      exact ⟨.relock i l k, rfl, hk⟩
    -- (3) every worker is in `xwait` or gone
    have hbc : busyCount w.base = 0 := by
      rw [← hrc, List.length_eq_zero_iff, List.filter_eq_nil_iff]
      intro p hp hp'
      have : p = .running := by simpa using hp'
      exact hrun (this ▸ hp)
    have hwe : ∀ p ∈ w.ws, p = .waiting ∨ p = .exited := by
      intro p hp
      cases p with
      | ready => exact absurd hp hr
      | inloop =>
        obtain ⟨j, hj⟩ := List.getElem?_of_mem hp
        have := (I.lock j).2 hj
        rw [hh] at this; cases this
      | running => exact absurd hp hrun
      | waiting => exact .inl rfl
      | exited => exact .inr rfl
    cases ht : terminated c w.base with
    | true =>
      exfalso
      rw [ht, Bool.true_and] at hnt
      -- some worker has not left the loop: it waits although the process has finished
      obtain ⟨p, hp, hpe⟩ := List.all_eq_false.1 hnt
      have hpw : p = .waiting := (hwe p hp).resolve_right (by simpa using hpe)
      rcases I.noLost hh (.inr (terminated_finished ht)) with h' | h'
      · exact hr h'
      · exact h' p hp hpw
    | false =>
      have hnfin : final c w.base = false := by simp [final, hf, ht]
      have hen := progress_reach hW hn ho hti hB hnfin
      obtain ⟨l, hlm⟩ := List.exists_mem_of_ne_nil _ hen
      have hs : (step c w.base l).isSome = true := by
        unfold enabled at hlm
        exact (List.mem_filter.1 hlm).2
      obtain ⟨b, hb⟩ := Option.isSome_iff_exists.mp hs
      rcases label_class l with hl | hl | ⟨t, hl⟩ | hl
      · exact ⟨.io l, rfl, fire hf (.io hl hb)⟩
      · obtain ⟨k, hk⟩ := fire_ioS hf hl hh hb
        exact ⟨.ioS l k, rfl, hk⟩
      · -- a task is selectable, so nobody waits: everybody has gone — but then
        -- the process has terminated
        exfalso
        have hsel := (busy_start hb hl).1
        have hsome : w.nextTask.isSome = true := by rw [I.nt, hsel]; rfl
        rcases I.noLost hh (.inl hsome) with h' | h'
        · exact hr h'
        · obtain ⟨p, hp⟩ := List.exists_mem_of_length_pos (l := w.ws) (by rw [I.len]; exact hn)
          have hpe : p = .exited := (hwe p hp).resolve_left (h' p hp)
          have := (exit_final h (hpe ▸ hp)).1
          rw [ht] at this; cases this
      · exfalso
        have := (busy_end hb hl).1
        omega

def liveWt : WPh → Nat
  | .exited => 0
  | _ => 1

/-- what an idle worker still does on its own: `ready` → takes the mutex →
    `inloop` → waits / exits -/
def phWt : WPh → Nat
  | .ready => 2
  | .inloop => 1
  | _ => 0

def live (w : WState) : Nat := msum liveWt w.ws

def phW (w : WState) : Nat := msum phWt w.ws

theorem live_eq_count (w : WState) : live w = (w.ws.filter (· != .exited)).length :=
  msum_indicator (fun p => by cases p <;> rfl) w.ws

abbrev WTuple := MTuple × Nat × Nat

def muW (c : Cfg) (w : WState) : WTuple := (mu c w.base, live w, phW w)

def muLtW : WTuple → WTuple → Prop := Prod.Lex muLt (Prod.Lex (· < ·) (· < ·))

theorem muLtW_wf : WellFounded muLtW :=
  (Prod.lex ⟨muLt, muLt_wf⟩ (Prod.lex Nat.lt_wfRel Nat.lt_wfRel)).wf

theorem muW_base {c : Cfg} (hW : 0 < c.W) {w w' : WState} {bl : Label} {b : State} (h : ReachW c w)
    (hb : step c w.base bl = some b) (e : w'.base = b) : muLtW (muW c w') (muW c w) :=
  Prod.Lex.left _ _ (step_measure hW (reachW_base h) (e ▸ hb))

theorem muW_same {c : Cfg} {w w' : WState} (hb : w'.base = w.base)
    (h : live w' < live w ∨ (live w' = live w ∧ phW w' < phW w)) :
    muLtW (muW c w') (muW c w) := by
  unfold muW
  rw [hb]
  apply Prod.Lex.right
  rcases h with h | ⟨e, h⟩
  · exact Prod.Lex.left _ _ h
  · rw [e]; exact Prod.Lex.right _ h

/-- **the measure decreases** along every transition of a reachable state of the
    refined model which is not a spurious wake-up: a transition that contains a
    section of the base model decreases `mu` (`step_measure`) whatever happens
    to the workers (signals, the worker entering / leaving a task); taking the
    mutex and going to `xwait` cost one unit of `phase` each; leaving the loop
    makes one worker less `live` (its `xbroadcast` may raise `phase`). -/
theorem stepW_measure {c : Cfg} (hW : 0 < c.W) {w w' : WState} {l : WLabel} (h : ReachW c w)
    (hl : WLabel.isSpurious l = false) (hs : stepW c w l = some w') :
    muLtW (muW c w') (muW c w) := by
  -- what moving worker `i` from `q` to `p` does to `live` and `phase`
  have set : ∀ {i : Nat} {q : WPh} (p : WPh), w.ws[i]? = some q →
      msum liveWt (w.ws.set i p) + liveWt q = msum liveWt w.ws + liveWt p ∧
      msum phWt (w.ws.set i p) + phWt q = msum phWt w.ws + phWt p :=
    fun p hi => ⟨msum_set p hi, msum_set p hi⟩
  cases (stepW_inv hs).2 with
  | io _ hb => exact muW_base hW h hb rfl
  | ioS _ _ hb hu => exact muW_base hW h hb (unlockW_inv hu).1
  | acquire _ hi =>
    have := set .inloop hi
    simp only [liveWt, phWt] at this
    exact muW_same rfl (.inr (by simp only [live, phW]; omega))
  | reorder _ _ _ _ hb => exact muW_base hW h hb rfl
  | run _ _ _ _ _ hb hu => exact muW_base hW h hb (unlockW_inv hu).1
  | relockU _ _ _ hb _ hu => exact muW_base hW h hb (unlockW_inv hu).1
  | relockL _ _ _ hb _ => exact muW_base hW h hb rfl
  | wait _ hi =>
    have := set .waiting hi
    simp only [liveWt, phWt] at this
    exact muW_same rfl (.inr (by simp only [live, phW]; omega))
  | exit _ hi =>
    have := (set .exited hi).1
    simp only [liveWt] at this
    exact muW_same rfl (.inl (by simp only [live]; rw [msum_broadcast rfl]; omega))
  | spurious => cases hl

/-- **a spurious wake-up costs exactly 2 units of `phase` and nothing else**: the
    woken worker takes the mutex, sees `next_task == NULL` (or a task, or
    `finished()`: then it makes progress) and waits again. -/
theorem spurious_cost_w {c : Cfg} {w w' : WState} {i : Nat}
    (hs : stepW c w (.spurious i) = some w') :
    w'.base = w.base ∧ live w' = live w ∧ phW w' = phW w + 2 := by
  cases (stepW_inv hs).2 with
  | spurious hi =>
    have h1 := msum_set (f := liveWt) .ready hi
    have h2 := msum_set (f := phWt) .ready hi
    simp only [liveWt, phWt] at h1 h2
    exact ⟨rfl, by simp only [live]; omega, by simp only [phW]; omega⟩

/-- **the refined expansion scheduler terminates up to spurious wake-ups**:
    for every infinite sequence of transitions `f 0 →ℓ 0→ f 1 →ℓ 1→ …` of
    `Model.SchedDW` starting in a reachable state (any worker count, input,
    slot totals, choice of signalled waiters; no fairness assumed) and every
    `N` there is an `i ≥ N` whose label is a spurious wake-up.  So every run
    with finitely many spurious wake-ups is finite, and by `deadlock_free_w`
    its maximal extension ends in the final state. -/
theorem terminates_w {c : Cfg} (hW : 0 < c.W) (f : Nat → WState) (ℓ : Nat → WLabel)
    (h0 : ReachW c (f 0)) (hstep : ∀ i, stepW c (f i) (ℓ i) = some (f (i + 1))) :
    ∀ N, ∃ i, N ≤ i ∧ WLabel.isSpurious (ℓ i) = true :=
  Lts.spurious_infinitely_often (step := stepW c) muLtW_wf (fun _ _ _ hr hs => .step _ hr hs)
    (fun _ _ _ => stepW_measure hW) f ℓ h0 hstep

/-- no infinite run without spurious wake-ups -/
theorem terminates_w_ns {c : Cfg} (hW : 0 < c.W) (f : Nat → WState) (ℓ : Nat → WLabel)
    (h0 : ReachW c (f 0)) :
    ¬ ∀ i, WLabel.isSpurious (ℓ i) = false ∧ stepW c (f i) (ℓ i) = some (f (i + 1)) := by
  intro h
  obtain ⟨i, _, hi⟩ := terminates_w hW f ℓ h0 (fun i => (h i).2) 0
  rw [(h i).1] at hi; cases hi

end LbzVerif.Lemmas.SchedD
