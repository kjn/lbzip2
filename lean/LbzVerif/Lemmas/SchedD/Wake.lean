/-
  The refined expansion scheduler `Model.SchedDW` (explicit worker threads, `next_task`,
  `sched_mutex`, `sched_cond`).  The transition function as a relation (`WStep`: every proof about
  `stepW` goes through it); a refined step is a stutter or exactly one step of the base model, so
  every theorem about `Reach` holds for the base component of a `ReachW` state; the invariant `WI`
  of the wake-up discipline.
-/
import LbzVerif.Lemmas.ListSum
import LbzVerif.Lemmas.SchedD.Sections
import LbzVerif.Lemmas.SchedD.Measure

namespace LbzVerif.Model.SchedDW

/-- a spurious wake-up of a waiter (the only label the environment, not a
    thread of the program, is responsible for) -/
def WLabel.isSpurious : WLabel → Bool
  | .spurious _ => true
  | _ => false

end LbzVerif.Model.SchedDW

namespace LbzVerif.Lemmas.SchedD
open LbzVerif.Gen LbzVerif.Model.SchedD LbzVerif.Model.SchedDW

theorem wset_self {ws : List WPh} {i : Nat} {q : WPh} (p : WPh) (h : ws[i]? = some q) :
    (ws.set i p)[i]? = some p :=
  List.getElem?_set_self (List.getElem?_eq_some_iff.1 h).1

theorem wmem_set {ws : List WPh} {i : Nat} {p r : WPh} (h : r ∈ ws.set i p) : r = p ∨ r ∈ ws :=
  (List.mem_or_eq_of_mem_set h).symm

theorem wmem_set_of_ne {ws : List WPh} {i : Nat} {q r : WPh} (p : WPh)
    (h : ws[i]? = some q) (hr : r ∈ ws) (hne : r ≠ q) : r ∈ ws.set i p :=
  ListAux.mem_set_of_ne p h hr hne

theorem wbroadcast_no_waiting (ws : List WPh) : ∀ p ∈ broadcast ws, p ≠ .waiting := by
  intro p hp
  simp only [broadcast, List.mem_map] at hp
  obtain ⟨q, _, rfl⟩ := hp
  split
  · intro e; cases e
  · next hq => exact hq

theorem wbroadcast_length (ws : List WPh) : (broadcast ws).length = ws.length := by
  simp [broadcast]

theorem wbroadcast_get {ws : List WPh} {i : Nat} {q : WPh} (h : (broadcast ws)[i]? = some q)
    (hq : q ≠ .ready) : ws[i]? = some q := by
  simp only [broadcast, List.getElem?_map, Option.map_eq_some_iff] at h
  obtain ⟨p, hp, e⟩ := h
  split at e
  · exact absurd e.symm hq
  · rw [hp, e]

theorem wmem_broadcast {ws : List WPh} {p : WPh} (h : p ∈ ws) (hp : p ≠ .waiting) :
    p ∈ broadcast ws := by
  simp only [broadcast, List.mem_map]
  exact ⟨p, h, by simp [hp]⟩

theorem signal_inv {ws ws' : List WPh} {k : Nat} (h : signal ws k = some ws') :
    (ws' = ws ∧ ∀ p ∈ ws, p ≠ .waiting) ∨ (ws[k]? = some .waiting ∧ ws' = ws.set k .ready) := by
  unfold signal at h
  split at h
  · split at h
    · next hk => exact .inr ⟨hk, (Option.some.inj h).symm⟩
    · cases h
  · next hn =>
    refine .inl ⟨(Option.some.inj h).symm, ?_⟩
    intro p hp e; subst e; exact hn hp

theorem signal_some (ws : List WPh) : ∃ k ws', signal ws k = some ws' := by
  by_cases h : WPh.waiting ∈ ws
  · obtain ⟨k, hk⟩ := List.getElem?_of_mem h
    exact ⟨k, ws.set k .ready, by simp [signal, h, hk]⟩
  · exact ⟨0, ws, by simp [signal, h]⟩

theorem unlockW_inv {c : Cfg} {w w' : WState} {k : Nat} (h : unlockW c w k = some w') :
    w'.base = w.base ∧ w'.nextTask = selectTask c w.base ∧ w'.holder = none ∧
    ((w'.ws = w.ws ∧
        (((selectTask c w.base).isSome = true ∨ finished c w.base = true) →
          ∀ p ∈ w.ws, p ≠ .waiting)) ∨
     (w.ws[k]? = some .waiting ∧ w'.ws = w.ws.set k .ready)) := by
  unfold unlockW at h
  dsimp only at h
  split at h
  · simp only [Option.map_eq_some_iff] at h
    obtain ⟨ws', hs, rfl⟩ := h
    refine ⟨rfl, rfl, rfl, ?_⟩
    rcases signal_inv hs with ⟨e, hn⟩ | ⟨hk, e⟩
    · exact .inl ⟨e, fun _ => hn⟩
    · exact .inr ⟨hk, e⟩
  · next hc =>
    cases h
    refine ⟨rfl, rfl, rfl, .inl ⟨rfl, ?_⟩⟩
    intro hp
    exfalso; apply hc
    rcases hp with hp | hp <;> simp [hp]

/-- `sched_unlock()` never blocks: the waiter to signal depends on the worker list only -/
theorem unlockW_any (c : Cfg) (ws : List WPh) :
    ∃ k, ∀ (b : State) (nt : Option String) (h : Option Nat),
      ∃ w', unlockW c ⟨b, nt, h, ws⟩ k = some w' := by
  obtain ⟨k, ws', hk⟩ := signal_some ws
  refine ⟨k, fun b nt h => ?_⟩
  unfold unlockW
  dsimp only
  split
  · exact ⟨_, by rw [hk]; rfl⟩
  · exact ⟨_, rfl⟩

theorem unlockW_some (c : Cfg) (w : WState) : ∃ k w', unlockW c w k = some w' :=
  let ⟨k, h⟩ := unlockW_any c w.ws
  ⟨k, h w.base w.nextTask w.holder⟩

/-- The transitions of `stepW`, one constructor per branch that succeeds
    (`runTask` and `relock` have two each: with and without `sched_unlock`). -/
inductive WStep (c : Cfg) (w : WState) : WLabel → WState → Prop where
  | io {l : Label} {b : State} : lockFreeIO l = true → step c w.base l = some b →
      WStep c w (.io l) { w with base := b }
  | ioS {l : Label} {k : Nat} {b : State} {w' : WState} : lockedIO l = true → w.holder = none →
      step c w.base l = some b → unlockW c { w with base := b } k = some w' →
      WStep c w (.ioS l k) w'
  | acquire {i : Nat} : w.holder = none → w.ws[i]? = some .ready →
      WStep c w (.acquire i) { w with holder := some i, ws := w.ws.set i .inloop }
  | reorder {i : Nat} {l : Label} {k : Nat} {b : State} : w.holder = some i →
      w.ws[i]? = some .inloop → w.nextTask = some "reorder" → taskOf l = some "reorder" →
      step c w.base l = some b →
      WStep c w (.runTask i l k) { w with base := b, nextTask := selectTask c b }
  | run {i : Nat} {l : Label} {k : Nat} {t : String} {b : State} {w' : WState} :
      w.holder = some i → w.ws[i]? = some .inloop → w.nextTask = some t → taskOf l = some t →
      t ≠ "reorder" → step c w.base l = some b →
      unlockW c { w with base := b, ws := w.ws.set i .running } k = some w' →
      WStep c w (.runTask i l k) w'
  | relockU {i : Nat} {l : Label} {k : Nat} {b : State} {w' : WState} : w.holder = none →
      w.ws[i]? = some .running → isEnd l = true → step c w.base l = some b →
      retrFinished l w.base b → unlockW c { w with base := b } k = some w' →
      WStep c w (.relock i l k) w'
  | relockL {i : Nat} {l : Label} {k : Nat} {b : State} : w.holder = none →
      w.ws[i]? = some .running → isEnd l = true → step c w.base l = some b →
      ¬ retrFinished l w.base b →
      WStep c w (.relock i l k)
        { w with base := b, nextTask := selectTask c b, holder := some i,
                 ws := w.ws.set i .inloop }
  | wait {i : Nat} : w.holder = some i → w.ws[i]? = some .inloop → w.nextTask = none →
      finished c w.base = false →
      WStep c w (.wait i) { w with holder := none, ws := w.ws.set i .waiting }
  | exit {i : Nat} : w.holder = some i → w.ws[i]? = some .inloop → w.nextTask = none →
      finished c w.base = true →
      WStep c w (.exit i) { w with holder := none, ws := broadcast (w.ws.set i .exited) }
  | spurious {i : Nat} : w.ws[i]? = some .waiting →
      WStep c w (.spurious i) { w with ws := w.ws.set i .ready }

theorem stepW_inv {c : Cfg} {w w' : WState} {l : WLabel} (h : stepW c w l = some w') :
    w.base.failed = false ∧ WStep c w l w' := by
  unfold stepW at h
  split at h
  · cases h
  next hf =>
  refine ⟨by simpa using hf, ?_⟩
  split at h
  · next l =>
    split at h
    · next hl =>
      simp only [Option.map_eq_some_iff] at h
      obtain ⟨b, hb, rfl⟩ := h
      exact .io hl hb
    · cases h
  · next l k =>
    split at h
    · next hc =>
      simp only [Option.bind_eq_some_iff] at h
      obtain ⟨b, hb, hu⟩ := h
      exact .ioS hc.1 hc.2 hb hu
    · cases h
  · next i =>
    split at h
    · next hc => cases h; exact .acquire hc.1 hc.2
    · cases h
  · next i l k =>
    split at h
    · next hc =>
      obtain ⟨hh, hi, hn, hl⟩ := hc
      obtain ⟨t, ht⟩ := Option.isSome_iff_exists.mp hn
      simp only [Option.bind_eq_some_iff] at h
      obtain ⟨b, hb, hu⟩ := h
      split at hu
      · next hr => cases hu; exact .reorder hh hi hr (hl.trans hr) hb
      · next hr => exact .run hh hi ht (hl.trans ht) (fun e => hr (by rw [ht, e])) hb hu
    · cases h
  · next i l k =>
    split at h
    · next hc =>
      simp only [Option.bind_eq_some_iff] at h
      obtain ⟨b, hb, hu⟩ := h
      split at hu
      · next hr => exact .relockU hc.1 hc.2.1 hc.2.2 hb hr hu
      · next hr => cases hu; exact .relockL hc.1 hc.2.1 hc.2.2 hb hr
    · cases h
  · next i =>
    split at h
    · next hc => cases h; exact .wait hc.1 hc.2.1 hc.2.2.1 hc.2.2.2
    · cases h
  · next i =>
    split at h
    · next hc => cases h; exact .exit hc.1 hc.2.1 hc.2.2.1 hc.2.2.2
    · cases h
  · next i =>
    split at h
    · next hc => cases h; exact .spurious hc
    · cases h

/-- `← hu`: the guards would otherwise be rewritten inside the state `hu` speaks of -/
theorem stepW_of {c : Cfg} {w w' : WState} {l : WLabel} (hf : w.base.failed = false)
    (h : WStep c w l w') : stepW c w l = some w' := by
  unfold stepW
  rw [if_neg (by simp [hf])]
  cases h with
  | io hl hb => simp [hl, hb]
  | ioS hl hh hb hu => simp [hl, hh, hb, ← hu]
  | acquire hh hi => simp [hh, hi]
  | reorder hh hi hn hl hb => simp [hh, hi, hn, hl, hb]
  | run hh hi hn hl ht hb hu => simp [hh, hi, hn, hl, ht, hb, ← hu]
  | relockU hh hi hl hb hr hu => simp [hh, hi, hl, hb, hr, ← hu]
  | relockL hh hi hl hb hr => simp [hh, hi, hl, hb, hr]
  | wait hh hi hn hfin => simp [hh, hi, hn, hfin]
  | exit hh hi hn hfin => simp [hh, hi, hn, hfin]
  | spurious hi => simp [hi]

theorem stepW_iff {c : Cfg} {w w' : WState} {l : WLabel} :
    stepW c w l = some w' ↔ w.base.failed = false ∧ WStep c w l w' :=
  ⟨stepW_inv, fun h => stepW_of h.1 h.2⟩

theorem stepW_base {c : Cfg} {w w' : WState} {l : WLabel} (h : stepW c w l = some w') :
    w'.base = w.base ∨ ∃ bl, step c w.base bl = some w'.base := by
  cases (stepW_inv h).2 with
  | io _ hb => exact .inr ⟨_, hb⟩
  | ioS _ _ hb hu => exact .inr ⟨_, by rw [(unlockW_inv hu).1]; exact hb⟩
  | acquire => exact .inl rfl
  | reorder _ _ _ _ hb => exact .inr ⟨_, hb⟩
  | run _ _ _ _ _ hb hu => exact .inr ⟨_, by rw [(unlockW_inv hu).1]; exact hb⟩
  | relockU _ _ _ hb _ hu => exact .inr ⟨_, by rw [(unlockW_inv hu).1]; exact hb⟩
  | relockL _ _ _ hb _ => exact .inr ⟨_, hb⟩
  | wait => exact .inl rfl
  | exit => exact .inl rfl
  | spurious => exact .inl rfl

theorem reachW_base {c : Cfg} {w : WState} (h : ReachW c w) : Reach c w.base := by
  induction h with
  | init => exact .init
  | step l _ hs ih =>
    rcases stepW_base hs with e | ⟨bl, hb⟩
    · rw [e]; exact ih
    · exact .step bl ih hb

def runWt : WPh → Nat
  | .running => 1
  | _ => 0

theorem msum_runWt (ws : List WPh) : msum runWt ws = (ws.filter (· == .running)).length :=
  msum_indicator (fun p => by cases p <;> rfl) ws

theorem msum_broadcast {f : WPh → Nat} (h : f .ready = f .waiting) (ws : List WPh) :
    msum f (broadcast ws) = msum f ws := by
  refine msum_map f _ (fun p => ?_) ws
  split
  · next hp => rw [hp, h]
  · rfl

/-- **the wake-up discipline of `sched_cond`.** -/
structure WI (c : Cfg) (w : WState) : Prop where
  /-- whoever reads `next_task` (mutex free, or at the top of the loop) reads the right value -/
  nt : w.nextTask = selectTask c w.base
  /-- the owner of `sched_mutex`, and nobody else, stands at the top of the worker loop -/
  lock : ∀ i, w.holder = some i ↔ w.ws[i]? = some .inloop
  noLost : w.holder = none → (w.nextTask.isSome = true ∨ finished c w.base = true) →
    WPh.ready ∈ w.ws ∨ ∀ p ∈ w.ws, p ≠ .waiting
  len : w.ws.length = c.n
  /-- the workers inside a task (mutex released) are the parser phase plus the
      `busy` phases of `Model.SchedD` -/
  run : msum runWt w.ws = busyCount w.base
  /-- a worker leaves the loop only in the terminated state, and its `xbroadcast`
      leaves nobody in `xwait` -/
  gone : WPh.exited ∈ w.ws → terminated c w.base = true ∧ ∀ p ∈ w.ws, p ≠ .waiting

theorem wi_init (c : Cfg) : WI c (initW c) := by
  have all : ∀ p ∈ (initW c).ws, p = .ready := fun p hp => (List.mem_replicate.1 hp).2
  refine ⟨rfl, ?_, ?_, by simp [initW], ?_, ?_⟩
  · exact fun i => ⟨fun h => (by cases h), fun h => by cases all _ (List.mem_of_getElem? h)⟩
  · intro _ _
    exact .inr fun p hp => by rw [all p hp]; decide
  · simp [initW, msum, runWt, busyCount, init]
  · intro he
    cases all _ he

theorem wi_unlock {c : Cfg} {w w' : WState} {k : Nat} (hl : w.ws.length = c.n)
    (hno : ∀ i : Nat, w.ws[i]? ≠ some WPh.inloop) (hrun : msum runWt w.ws = busyCount w.base)
    (hex : WPh.exited ∉ w.ws) (h : unlockW c w k = some w') : WI c w' := by
  obtain ⟨hb, hn, hh, hw⟩ := unlockW_inv h
  rw [← hb] at hrun
  rcases hw with ⟨e, hq⟩ | ⟨hk, e⟩
  · rw [← e] at hl hno hrun hex
    refine ⟨by rw [hn, hb], ?_, ?_, hl, hrun, fun he => absurd he hex⟩
    · exact fun i => ⟨fun hi => (by rw [hh] at hi; cases hi), fun hi => absurd hi (hno i)⟩
    · intro _ hp
      rw [hn, hb] at hp
      rw [e]; exact .inr (hq hp)
  · refine ⟨by rw [hn, hb], ?_, ?_, ?_, ?_, ?_⟩
    · refine fun i => ⟨fun hi => (by rw [hh] at hi; cases hi), fun hi => ?_⟩
      rw [e] at hi
      rcases ListAux.getElem?_set_cases hi with ⟨_, e'⟩ | ⟨_, e'⟩
      · cases e'
      · exact absurd e' (hno i)
    · intro _ _
      rw [e]; exact .inl (ListAux.mem_set_self _ hk)
    · rw [e, List.length_set]; exact hl
    · have := msum_set (f := runWt) .ready hk
      rw [e]; exact this.trans hrun
    · intro he
      rw [e] at he
      rcases wmem_set he with e' | e'
      · cases e'
      · exact absurd e' hex

theorem wi_step {c : Cfg} {w w' : WState} {l : WLabel} (I : WI c w) (hB : Inv c w.base)
    (hs : stepW c w l = some w') : WI c w' := by
  obtain ⟨hf, h⟩ := stepW_inv hs
  -- nobody at the top of the loop while the mutex is free
  have free : w.holder = none → ∀ i : Nat, w.ws[i]? ≠ some WPh.inloop := by
    intro hh i hi
    rw [(I.lock i).2 hi] at hh
    cases hh
  -- so a worker that takes the mutex is alone there
  have enter : ∀ {i j : Nat}, w.holder = none → (w.ws.set i .inloop)[j]? = some .inloop →
      some i = some j := by
    intro i j hh hj
    rcases ListAux.getElem?_set_cases hj with ⟨e, _⟩ | ⟨_, e⟩
    · rw [e]
    · exact absurd e (free hh j)
  -- and when the owner moves on nobody is left
  have leave : ∀ {i : Nat} {p : WPh} (j : Nat), w.holder = some i → p ≠ .inloop →
      (w.ws.set i p)[j]? ≠ some .inloop := by
    intro i p j hh hp hj
    rcases ListAux.getElem?_set_cases hj with ⟨_, e⟩ | ⟨ne, e⟩
    · exact hp e.symm
    · rw [(I.lock j).2 e] at hh
      exact ne (Option.some.inj hh).symm
  -- once a worker has exited no base step is possible
  have dead : WPh.exited ∈ w.ws → ∀ {l b}, step c w.base l = some b → False := by
    intro he l b hb
    rw [no_step_of_terminated hB (I.gone he).1] at hb
    cases hb
  have ofSet : ∀ {i : Nat} {p : WPh}, p ≠ .exited → WPh.exited ∈ w.ws.set i p →
      WPh.exited ∈ w.ws := by
    intro i p hp he
    rcases wmem_set he with e | e
    · exact absurd e.symm hp
    · exact e
  cases h with
  | io hl hb =>
    refine ⟨?_, I.lock, ?_, I.len, ?_, fun he => (dead he hb).elim⟩
    · exact I.nt.trans (guards_io hl hb).1.symm
    · intro hh hp
      rw [show finished c _ = finished c w.base from (guards_io hl hb).2] at hp
      exact I.noLost hh hp
    · exact I.run.trans (busy_same hb (.inl hl)).symm
  | @ioS _ _ b _ hl hh hb hu =>
    exact wi_unlock (w := { w with base := b }) I.len (free hh)
      (I.run.trans (busy_same hb (.inr hl)).symm) (fun he => dead he hb) hu
  | @acquire i hh hi =>
    have hrun := msum_set (f := runWt) .inloop hi
    refine ⟨I.nt, ?_, ?_, ?_, ?_, ?_⟩
    · exact fun j => ⟨fun hj => (by cases hj; exact wset_self _ hi), enter hh⟩
    · intro hn; cases hn
    · exact (List.length_set ..).trans I.len
    · exact hrun.trans I.run
    · intro he
      obtain ⟨ht, hn⟩ := I.gone (ofSet (by decide) he)
      refine ⟨ht, fun p hp => ?_⟩
      rcases wmem_set hp with e | e
      · rw [e]; decide
      · exact hn p e
  | reorder hh hi hn hl hb =>
    refine ⟨rfl, I.lock, ?_, I.len, ?_, fun he => (dead he hb).elim⟩
    · intro hn'; rw [hh] at hn'; cases hn'
    · exact I.run.trans ((busy_start hb hl).2.1 rfl).symm
  | @run i _ _ _ b _ hh hi _ hl ht hb hu =>
    have hrun := msum_set (f := runWt) .running hi
    refine wi_unlock (w := { w with base := b, ws := w.ws.set i .running })
      ((List.length_set ..).trans I.len) ?_ ?_ (fun he => dead (ofSet (by decide) he) hb) hu
    · exact fun j => leave j hh (by decide)
    · have := (busy_start hb hl).2.2 ht
      have := I.run
      show msum runWt (w.ws.set i .running) = busyCount b
      simp only [runWt] at hrun
      omega
  | @relockU _ _ _ b _ hh _ he hb hfin hu =>
    exact wi_unlock (w := { w with base := b }) I.len (free hh)
      (I.run.trans ((busy_end hb he).2.1 hfin).symm) (fun he => dead he hb) hu
  | @relockL i _ _ b hh hi he hb hfin =>
    have hrun := msum_set (f := runWt) .inloop hi
    refine ⟨rfl, ?_, ?_, ?_, ?_, fun he => (dead (ofSet (by decide) he) hb).elim⟩
    · exact fun j => ⟨fun hj => (by cases hj; exact wset_self _ hi), enter hh⟩
    · intro hn; cases hn
    · exact (List.length_set ..).trans I.len
    · have := (busy_end hb he).2.2 hfin
      have := I.run
      show msum runWt (w.ws.set i .inloop) = busyCount b
      simp only [runWt] at hrun
      omega
  | @wait i hh hi hn hfin =>
    have hrun := msum_set (f := runWt) .waiting hi
    refine ⟨I.nt, ?_, ?_, ?_, ?_, ?_⟩
    · exact fun j => ⟨fun hj => (by cases hj), fun hj => absurd hj (leave j hh (by decide))⟩
    · intro _ hp
      rcases hp with hp | hp
      · rw [show _ = w.nextTask from rfl, hn] at hp; cases hp
      · rw [show finished c _ = finished c w.base from rfl, hfin] at hp; cases hp
    · exact (List.length_set ..).trans I.len
    · exact hrun.trans I.run
    · intro he
      rw [terminated_finished (I.gone (ofSet (by decide) he)).1] at hfin; cases hfin
  | @exit i hh hi hn hfin =>
    have hrun := msum_set (f := runWt) .exited hi
    refine ⟨I.nt, ?_, ?_, ?_, ?_, ?_⟩
    · exact fun j => ⟨fun hj => (by cases hj),
        fun hj => absurd (wbroadcast_get hj (by decide)) (leave j hh (by decide))⟩
    · intro _ _
      exact .inr (wbroadcast_no_waiting _)
    · exact (wbroadcast_length _).trans ((List.length_set ..).trans I.len)
    · exact (msum_broadcast rfl _).trans (hrun.trans I.run)
    · intro _
      refine ⟨?_, wbroadcast_no_waiting _⟩
      have hsel : selectTask c w.base = none := I.nt.symm.trans hn
      unfold finished at hfin
      show terminated c w.base = true
      simp [terminated, hf, hfin, hsel]
  | @spurious i hw =>
    have hrun := msum_set (f := runWt) .ready hw
    refine ⟨I.nt, ?_, ?_, ?_, ?_, ?_⟩
    · refine fun j => ⟨fun hj => ?_, fun hj => ?_⟩
      · have hj' := (I.lock j).1 hj
        have ne : i ≠ j := by
          intro e
          subst e
          rw [hw] at hj'
          cases hj'
        exact (List.getElem?_set_ne ne).trans hj'
      · rcases ListAux.getElem?_set_cases hj with ⟨_, e⟩ | ⟨_, e⟩
        · cases e
        · exact (I.lock j).2 e
    · intro _ _
      exact .inl (ListAux.mem_set_self _ hw)
    · exact (List.length_set ..).trans I.len
    · exact hrun.trans I.run
    · intro he
      exact absurd rfl ((I.gone (ofSet (by decide) he)).2 _ (List.mem_of_getElem? hw))

theorem wi_reach {c : Cfg} {w : WState} (h : ReachW c w) : WI c w := by
  induction h with
  | init => exact wi_init c
  | step l hr hs ih => exact wi_step ih (inv_reach (reachW_base hr)) hs

/-- **no lost wake-up**: in every reachable state in which `sched_mutex` is
    free and a task is ready or the process has finished, some worker has a
    wake-up pending or nobody is in `xwait`; and the stored `next_task` is
    `select_task()` of the current state.  All interleavings, every choice of
    the signalled waiter, spurious wake-ups included. -/
theorem no_lost_wakeup {c : Cfg} {w : WState} (h : ReachW c w) :
    (w.holder = none → (w.nextTask.isSome = true ∨ finished c w.base = true) →
      WPh.ready ∈ w.ws ∨ ∀ p ∈ w.ws, p ≠ .waiting) ∧
    (w.holder = none → w.nextTask = selectTask c w.base) :=
  let I := wi_reach h
  ⟨I.noLost, fun _ => I.nt⟩

/-- **a worker leaves the loop only when the process has terminated, and
    nobody waits afterwards**: if some worker has exited then the scheduler
    data are in the terminated state (`can_terminate()`, nothing selectable —
    hence every queue empty, nobody inside a task, all resources back:
    `terminated_quiescent`, `terminated_facts`) and no worker is in `xwait`
    (the exiting worker's `xbroadcast` woke them all and nobody can wait
    again). -/
theorem exit_final {c : Cfg} {w : WState} (h : ReachW c w) :
    WPh.exited ∈ w.ws → terminated c w.base = true ∧ ∀ p ∈ w.ws, p ≠ .waiting :=
  (wi_reach h).gone

theorem running_count {c : Cfg} {w : WState} (h : ReachW c w) :
    (w.ws.filter (· == .running)).length = busyCount w.base :=
  (msum_runWt w.ws).symm.trans (wi_reach h).run

/-- the base model's `freeWorker` guard (an artefact of its anonymous workers) never blocks a
    worker that stands at the top of the loop -/
theorem inloop_free {c : Cfg} {w : WState} (h : ReachW c w) {i : Nat}
    (hi : w.ws[i]? = some .inloop) : freeWorker c w.base = true := by
  have I := wi_reach h
  -- were worker `i` inside a task too, the count would still be at most `n`
  have hrun := msum_set (f := runWt) .running hi
  have hle : msum runWt (w.ws.set i .running) ≤ (w.ws.set i .running).length := by
    rw [msum_runWt]
    exact List.length_filter_le ..
  rw [List.length_set, I.len] at hle
  have := I.run
  simp only [runWt] at hrun
  simp only [freeWorker, decide_eq_true_eq]
  omega

end LbzVerif.Lemmas.SchedD
