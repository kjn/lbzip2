/-
  The invariant of the expansion scheduler.  Each file below this one proves that one group of facts
  about the state of `Model.SchedD` is preserved by every transition, given the other groups it needs
  in the pre-state.  `Inv` is their conjunction, `Inv.step` feeds each preservation theorem from the
  others, and one induction (`inv_reach`) gives `Inv` in every reachable state.  Groups that need a
  well-formed configuration carry it as a premise (`0 < c.W`: non-empty input blocks, `1 ≤ c.n`: a
  worker, `EMIT_THRESH < c.totalOut`), groups that `failf` destroys carry `s.failed = false`.

  The fields of `Inv`, what each says about expand.c, and the file that defines it:
    good  Good  written output ++ what `order_q` and the rest of the parse owe = the sequential
                decoding (`SI`); after `failf`, the sequential decoding fails too (Safe)
    lo    Lo    every `attach()` has `head_offs ≤ offset` (parser, scan and retrieve jobs), and
                `parser_bs` agrees with the next header, `order_q` and the master retrieve job;
                that it only moves forward is the second part of `lo_step` (Lo)
    ri    RI    the reader thread: `eof`, `request_close`, blocks read versus pushed (Input)
    ti    TI    taint: no job reads released input, ghost flags `corrupt`/`taint` stay clear (Taint)
    ci    CI    work units and output slots are conserved (Cons)
    xi    XI    the next buffer of each `order_q` entry is in `reord_q` or yet to be produced; the
                parse token is available, with the running parser, or with the master job (Exact)
    lj    LJ    no `unord_blk` leaks: each is in `unord_q` or owned by a live retrieve job (Leak)
    hi    Hi    nothing lies beyond `tail_offs`, every worker is attached to a pushed block, no
                block of `input_q` lies before `parser_bs` (Hi)
    ii    II    input slots are conserved (InSlots)
    uu    UU    a block position has at most one producer, an input block one scan task (Uniq)
    rk    RK    a running retriever has not consumed the input block it is attached to, a running
                scanner started inside its block (RetrK)
    tok   TokI  the parse token: while `parse_token` is set a work unit is free or coming back (Token)
    ki    KI    the EMIT_THRESH reservation: the last output slots are held neither ahead of the head
                of `order_q` nor by speculation (UnordCap); for the capacity of `unord_q`: a
                finished-but-unconfirmed block lies behind `order_q` and still has an item
                (UnordCap); with `xi` and `tok`: nor is the last work unit with speculation (`RS_pos`)
  Derived (`Inv.si` … `Inv.ui`):
    si    SI    `Good` while `failf` has not been called (Safe)
    pi    PI    `Lo`, the part about the parser position, side by side (Lo)
    holder HI   every entry of `order_q` still has a producer; from XI and SI (Holder, Exact)
    li    LI    LJ with its fields side by side (Leak)
    ui    UI    UU with its fields side by side, and the scanner case of RK (Uniq)
-/
import LbzVerif.Lemmas.SchedD.RetrK
import LbzVerif.Lemmas.SchedD.Token
import LbzVerif.Lemmas.SchedD.UnordCap
import LbzVerif.Lemmas.SchedD.Reserve
import LbzVerif.Lemmas.SchedD.Taint
import LbzVerif.Lemmas.SchedD.InSlots
import LbzVerif.Lemmas.SchedD.Hi

namespace LbzVerif.Lemmas.SchedD
open LbzVerif.Model.SchedD LbzVerif.Gen
open Leak Uniq Reserve

structure Inv (c : Cfg) (s : State) : Prop where
  good : Good c s
  lo : Lo c s
  ri : RI c s
  ti : TI s
  ci : s.failed = false → CI c s
  xi : s.failed = false → XI c s
  lj : s.failed = false → LJ s
  hi : 0 < c.W → Hi c s
  ii : 0 < c.W → II c s
  uu : 0 < c.W → UU c s
  rk : RK c s
  tok : 0 < c.W → 1 ≤ c.n → s.failed = false → TokI s
  ki : 0 < c.W → EMIT_THRESH < c.totalOut → s.failed = false → UCap.KI s

namespace Inv
variable {c : Cfg} {s : State} (I : Inv c s)
include I

theorem si (hf : s.failed = false) : SI c s := SI_of_Good I.good hf

theorem pi : PI c s := I.lo.pi

theorem holder (hf : s.failed = false) : HI c s := HI_of_XI (I.xi hf) (I.si hf)

theorem li (hf : s.failed = false) : LI c s := LI_of_LJ (I.lj hf)

theorem ui (hW : 0 < c.W) : UI c s := UI_of_UU (I.uu hW) I.rk

omit I in
theorem init : Inv c (init c) where
  good := by simp only [Good, Model.SchedD.init]; exact SI_init c
  lo := Lo_init c
  ri := RI_init c
  ti := TI_init c
  ci _ := ci_init c
  xi _ := XI_init c
  lj _ := LJ_init c
  hi _ := Hi_init c
  ii _ := ii_init c
  uu _ := UU_init c
  rk := fun ph hph => nomatch hph
  tok _ hn _ := Tok.TokI_init hn
  ki _ ho _ := UCap.KI_init ho

theorem step {s' : State} {l : Label} (hs : step c s l = some s') : Inv c s' :=
  have hf := step_not_failed hs
  have hS := I.si hf
  { good := good_step I.good hs
    lo := (lo_step I.lo hS hs).1
    ri := ri_step I.ri hs
    ti := ti_step I.ti I.lo hs
    ci := ci_step (I.ci hf) hs
    xi := xi_step (I.xi hf) hS I.lo hs
    lj := lj_step (I.lj hf) hs
    hi := fun hW => hi_step hW (I.hi hW) I.ri hS I.lo hs
    ii := fun hW => ii_step (I.ii hW) hs I.lo.hp
      fun sp hsp => ⟨I.lo.sc sp hsp, (I.hi hW).sq sp hsp⟩
    uu := fun hW => uu_step hW (I.uu hW) hS I.lo (I.hi hW) I.ri I.rk (I.lj hf).lc hs
    rk := rk_step I.rk I.lo I.ri hs
    tok := fun hW hn => Tok.toki_step (I.tok hW hn hf) hS (I.ui hW) hs
    ki := fun hW ho =>
      UCap.ki_step (I.ki hW ho hf) hS (I.xi hf).x0 I.lo (I.lj hf) (I.uu hW) hs }

end Inv

theorem inv_reach {c : Cfg} {s : State} (h : Reach c s) : Inv c s := by
  induction h with
  | init => exact Inv.init
  | step l _ hs ih => exact ih.step hs

theorem good_reach {c : Cfg} {s : State} (h : Reach c s) : Good c s :=
  (inv_reach h).good

theorem lo_reach {c : Cfg} {s : State} (h : Reach c s) : Lo c s :=
  (inv_reach h).lo

/-- **attach_in_range**: in every reachable state every retrieve job in
    `retr_q`, every scan job and (while parsing is not done) the parser
    position lie at or after `head_offs`. -/
theorem attach_in_range {c : Cfg} {s : State} (h : Reach c s) :
    (∀ j ∈ s.retrQ, headOffs c s ≤ j.curr) ∧ (∀ sp ∈ s.scanQ, headOffs c s ≤ sp) ∧
    (s.pdone = false → headOffs c s ≤ s.ppos) ∧ staleAttach c s = false := by
  have a := lo_reach h
  refine ⟨a.arQ, a.sc, a.hp, ?_⟩
  unfold staleAttach
  rw [Bool.eq_false_iff]
  intro hh
  simp only [List.any_eq_true, decide_eq_true_eq] at hh
  obtain ⟨j, hj, hlt⟩ := hh
  have := a.arQ j hj
  omega

theorem pi_reach_all {c : Cfg} {s : State} (h : Reach c s) : PI c s :=
  (inv_reach h).pi

/-- **parser position invariant**: in every reachable (non-failed) state the
    parser position lies inside the attached input block, before the next block
    header, inside every master-capable retrieve job and at or after every
    block of `order_q`. -/
theorem pi_reach {c : Cfg} {s : State} (h : Reach c s) (hf : s.failed = false) : PI c s := by
  have _ := hf
  exact pi_reach_all h

theorem ppos_mono {c : Cfg} {s s' : State} {l : Label} (I : Inv c s)
    (hs : step c s l = some s') (hd : s'.pdone = false) : s.ppos ≤ s'.ppos :=
  (lo_step I.lo (I.si (step_not_failed hs)) hs).2 hd

theorem ti_reach {c : Cfg} {s : State} (h : Reach c s) : TI s :=
  (inv_reach h).ti

/-- **no_taint**: no stale-attached retrieve job ever acts as master, is taken
    over by the parser, or reaches the sink. -/
theorem no_taint {c : Cfg} {s : State} (h : Reach c s) : s.taint = false :=
  (ti_reach h).tt

/-- nothing written to the sink, queued or running is corrupt -/
theorem no_corrupt {c : Cfg} {s : State} (h : Reach c s) :
    (∀ j ∈ s.retrQ, j.corrupt = false) ∧ (∀ ph ∈ s.busy, phOK ph) ∧
    (∀ e ∈ s.emitQ, e.corrupt = false) ∧ (∀ o ∈ s.reordQ, o.corrupt = false) ∧
    (∀ u ∈ s.orphans, u.corrupt = false) :=
  ⟨(ti_reach h).jq, (ti_reach h).bz, (ti_reach h).eq, (ti_reach h).ob, (ti_reach h).ub⟩

theorem ci_reach {c : Cfg} {s : State} (h : Reach c s) (hf : s.failed = false) : CI c s :=
  (inv_reach h).ci hf

theorem cap_emitBusy {c : Cfg} {s : State} (h : Reach c s) (hf : s.failed = false) :
    emitBusy s ≤ c.totalOut := by have := (ci_reach h hf).osC; omega

theorem capacities {c : Cfg} {s : State} (h : Reach c s) (hf : s.failed = false) :
    s.retrQ.length ≤ c.n ∧ s.emitQ.length ≤ c.n ∧ s.reordQ.length ≤ c.totalOut ∧
    s.outq ≤ c.totalOut ∧ s.wu ≤ c.n ∧ s.outSlots ≤ c.totalOut ∧ busyCount s ≤ c.n :=
  have hw := (ci_reach h hf).wuC
  have ho := (ci_reach h hf).osC
  ⟨by omega, by omega, by omega, by omega, by omega, by omega, by omega⟩

theorem terminated_quiescent {c : Cfg} {s : State} (h : Reach c s) (ht : terminated c s = true) :
    s.retrQ = [] ∧ s.emitQ = [] ∧ s.busy = [] ∧ s.pphase = none ∧ s.reordQ = [] ∧ s.outq = 0 :=
  (ci_reach h (terminated_facts ht).1).quiescent ht

theorem hi_reach {c : Cfg} (hW : 0 < c.W) {s : State} (h : Reach c s) : Hi c s :=
  (inv_reach h).hi hW

/-- **scan_in_range**: every queued scan position lies in `[head_offs, tail_offs)` -/
theorem scan_in_range {c : Cfg} (hW : 0 < c.W) {s : State} (h : Reach c s) :
    ∀ sp ∈ s.scanQ, headOffs c s ≤ sp ∧ sp < tailOffs c s :=
  fun sp hsp => ⟨(lo_reach h).sc sp hsp, (hi_reach hW h).sq sp hsp⟩

theorem in_slots_conserved {c : Cfg} (hW : 0 < c.W) {s : State} (h : Reach c s) :
    s.inSlots + inputAlive s = c.totalIn :=
  ((inv_reach h).ii hW).inC

/-- if the parser position (parser or master retriever) stands at `tail_offs`, `input_q` is empty:
    every input slot is free, held by the reader, or still attached behind `head_offs` -/
theorem no_input_wait {c : Cfg} (hW : 0 < c.W) {s : State} (h : Reach c s)
    (hd : s.pdone = false) (hp : s.ppos = tailOffs c s) : s.head = s.rd := by
  have hN := hi_reach hW h
  have hr := (lo_reach h).hr
  by_cases he : s.head = s.rd
  · exact he
  · exfalso
    have := hN.hn hd (s.rd - 1) (by omega) (by omega)
    rw [show s.rd - 1 + 1 = s.rd from by omega] at this
    unfold tailOffs at hp
    omega

/-- no retrieve job, queued or running, is ahead of the delivered input -/
theorem retr_within_input {c : Cfg} (hW : 0 < c.W) {s : State} (h : Reach c s) :
    (∀ j ∈ s.retrQ, j.curr ≤ tailOffs c s) ∧
    (∀ j k, Phase.retr j k ∈ s.busy → j.curr ≤ tailOffs c s) :=
  ⟨(hi_reach hW h).jq, fun _ _ hk => ((hi_reach hW h).bz _ hk).1⟩

theorem order_entry_has {c : Cfg} {s : State} (h : Reach c s) (hf : s.failed = false)
    {b i : Nat} (hi : (b, i) ∈ s.orderQ) :
    McJob s b ∨ (∃ o ∈ s.reordQ, o.key = (b, i)) ∨ (∃ e, EIn s e ∧ e.base = b ∧ e.idx ≤ i) := by
  rcases ((inv_reach h).xi hf).x1 b i hi with hm | ⟨o, ho, h1, h2⟩ | he
  · exact Or.inl hm
  · exact Or.inr (Or.inl ⟨o, ho, by simp only [OB.key, h1, h2]⟩)
  · exact Or.inr (Or.inr he)

theorem order_head_has {c : Cfg} {s : State} (h : Reach c s) (hf : s.failed = false)
    {b i : Nat} {r : List (Nat × Nat)} (ho : s.orderQ = (b, i) :: r) :
    McJob s b ∨ (∃ o ∈ s.reordQ, o.key = (b, i)) ∨ (∃ e, EIn s e ∧ e.base = b ∧ e.idx ≤ i) :=
  order_entry_has h hf (by rw [ho]; exact List.mem_cons_self)

theorem holder_reach {c : Cfg} {s : State} (h : Reach c s) (hf : s.failed = false) : HI c s :=
  (inv_reach h).holder hf

theorem order_entry_has_producer {c : Cfg} {s : State} (h : Reach c s) (hf : s.failed = false)
    {b i : Nat} (hi : (b, i) ∈ s.orderQ) :
    (∃ j, (j ∈ s.retrQ ∨ ∃ k, Phase.retr j k ∈ s.busy) ∧ j.base = b ∧ Job.mc j = true) ∨
    (∃ e, (e ∈ s.emitQ ∨ Phase.retr2 e ∈ s.busy ∨ Phase.emit e ∈ s.busy) ∧ e.base = b ∧
      i < e.idx + e.left) ∨
    (∃ o ∈ s.reordQ, o.base = b ∧ i ≤ o.idx) :=
  (holder_reach h hf).h1 b i hi

theorem terminated_order_empty {c : Cfg} {s : State} (h : Reach c s)
    (ht : terminated c s = true) : s.orderQ = [] := by
  obtain ⟨hf, _, _⟩ := terminated_facts ht
  obtain ⟨q1, q2, q3, _, q5, _⟩ := terminated_quiescent h ht
  cases hq : s.orderQ with
  | nil => rfl
  | cons x r =>
    have hx : (x.1, x.2) ∈ s.orderQ := by rw [hq]; exact List.mem_cons_self
    rcases order_entry_has_producer h hf hx with ⟨j, hj, _⟩ | ⟨e, he, _⟩ | ⟨o, ho, _⟩
    · have := JIn_idle q3 hj
      rw [q1] at this; cases this
    · have := EIn_idle q3 he
      rw [q2] at this; cases this
    · rw [q5] at ho; cases ho

/-- `|order_q| ≤ n + total_out` = `Gen.orderCap`, what `deque_init(order_q, …)` allocates -/
theorem order_cap {c : Cfg} {s : State} (h : Reach c s) (hf : s.failed = false) :
    s.orderQ.length ≤ orderCap c.n c.totalOut :=
  order_cap_of_HI (holder_reach h hf) (ci_reach h hf)

/-- when every output slot is taken by a buffer waiting in `reord_q` and
    `order_q` is not empty, some buffer of `reord_q` is not after the head of
    `order_q` -/
theorem not_all_ahead {c : Cfg} (hW : 0 < c.W) (ho : EMIT_THRESH < c.totalOut) {s : State}
    (h : Reach c s) (hf : s.failed = false) {hd : Nat × Nat} {r : List (Nat × Nat)}
    (hq : s.orderQ = hd :: r) (hb : s.busy = []) (h0 : s.outSlots = 0) (hw : s.outq = 0) :
    ∃ o ∈ s.reordQ, posLt hd o.key = false := by
  have := ((inv_reach h).ki hW ho hf).sl.not_ahead hb h0 hw
  rwa [hq] at this

/-- every unord_blk without a job is still in unord_q (the parser frees it
    when it pops it / at FINISH); once parsing is done none is left -/
theorem no_unord_leak {c : Cfg} {s : State} (h : Reach c s) (hf : s.failed = false) :
    (∀ u ∈ s.orphans, u.f.inq = true) ∧ (s.pdone = true → s.orphans = []) := by
  have hl := (inv_reach h).li hf
  exact ⟨fun u hu => (hl.oc u hu).1, fun hp => (hl.od hp).1⟩

theorem no_unord_leak_terminated {c : Cfg} {s : State} (h : Reach c s)
    (ht : terminated c s = true) : s.orphans = [] ∧ s.retrQ = [] := by
  obtain ⟨hf, -, -, hp, -⟩ := terminated_facts ht
  have hl := (inv_reach h).li hf
  exact ⟨(hl.od hp).1, (hl.od hp).2.1⟩

/-- finding F2 (DESIGN 7) cannot occur: no unord_blk that nobody will ever free -/
theorem leakedCount_zero {c : Cfg} {s : State} (h : Reach c s) (hf : s.failed = false) :
    leakedCount s = 0 := by
  have hl := (inv_reach h).li hf
  unfold leakedCount
  rw [List.countP_eq_zero]
  intro u hu
  simp [(hl.oc u hu).1]

theorem ui_reach {c : Cfg} (hW : 0 < c.W) {s : State} (h : Reach c s) : UI c s :=
  (inv_reach h).ui hW

/-- `UI` carries over a step from a reachable state (reachability supplies the other invariants
    of the pre-state) -/
theorem ui_step {c : Cfg} (hW : 0 < c.W) {s s' : State} {l : Label} (hr : Reach c s)
    (h : UI c s) (hs : step c s l = some s') : UI c s' :=
  have I := inv_reach hr
  have hf := step_not_failed hs
  UI_of_UU (uu_step hW (UU_of_UI h) (I.si hf) I.lo (I.hi hW) I.ri I.rk (I.lj hf).lc hs)
    (inv_reach (.step _ hr hs)).rk

theorem job_bases_nodup {c : Cfg} (hW : 0 < c.W) {s : State} (h : Reach c s) :
    (jobBases s).Nodup :=
  List.Nodup.sublist (List.sublist_append_left _ _) (ui_reach hW h).u1

theorem orphan_bases_nodup {c : Cfg} (hW : 0 < c.W) {s : State} (h : Reach c s) :
    (orphanBases s).Nodup :=
  List.Nodup.sublist (List.sublist_append_right _ _) (ui_reach hW h).u1

theorem orphan_bases_nodup' {c : Cfg} (hW : 0 < c.W) {s : State} (h : Reach c s) :
    (s.orphans.map (·.base)).Nodup := by
  rw [← orphanBases_eq_map]; exact orphan_bases_nodup hW h

theorem retrQ_bases_nodup {c : Cfg} (hW : 0 < c.W) {s : State} (h : Reach c s) :
    (s.retrQ.map (·.base)).Nodup := by
  have := job_bases_nodup hW h
  rw [jobBases_eq_map] at this
  exact List.Nodup.sublist (List.sublist_append_left _ _) this

/-- a live retrieve job never sits on the base of a finished-but-unconfirmed block -/
theorem inq_job_not_orphan_base {c : Cfg} (hW : 0 < c.W) {s : State} (h : Reach c s) {j : Job}
    (hj : JIn s j) : j.base ∉ orphanBases s := by
  intro ho
  have hn := (ui_reach hW h).u1
  exact (List.nodup_append.1 hn).2.2 j.base (mem_jobBases.2 ⟨j, hj, rfl⟩) j.base ho rfl

theorem item_not_job_base {c : Cfg} (hW : 0 < c.W) {s : State} (h : Reach c s) {y : Nat}
    (hy : ItemBase s y) : y ∉ jobBases s :=
  (ui_reach hW h).u2 y hy

/-- … in terms of the objects themselves -/
theorem emit_job_base_ne_job {c : Cfg} (hW : 0 < c.W) {s : State} (h : Reach c s) {e : EJob}
    {j : Job} (he : EIn s e) (hj : JIn s j) : e.base ≠ j.base := by
  intro hb
  exact item_not_job_base hW h (Or.inl ⟨e, he, rfl⟩) (mem_jobBases.2 ⟨j, hj, hb.symm⟩)

theorem out_buf_base_ne_job {c : Cfg} (hW : 0 < c.W) {s : State} (h : Reach c s) {o : OB}
    {j : Job} (ho : o ∈ s.reordQ) (hj : JIn s j) : o.base ≠ j.base := by
  intro hb
  exact item_not_job_base hW h (Or.inr ⟨o, ho, rfl⟩) (mem_jobBases.2 ⟨j, hj, hb.symm⟩)

/-- a queued and a running retrieve job never share a base -/
theorem queued_running_base_ne {c : Cfg} (hW : 0 < c.W) {s : State} (h : Reach c s) {j j' : Job}
    {k : Option Nat} (hq : j ∈ s.retrQ) (hb : Phase.retr j' k ∈ s.busy) : j.base ≠ j'.base := by
  have hn := job_bases_nodup hW h
  unfold jobBases at hn
  refine (List.nodup_append.1 hn).2.2 j.base ?_ j'.base ?_
  · exact List.mem_flatMap.2 ⟨j, hq, by simp [Job.baseL]⟩
  · exact List.mem_flatMap.2 ⟨_, hb, by simp [Phase.jobBase, Job.baseL]⟩

/-- needs `num_worker ≥ 1`: with no worker the initial state has the token and no unit -/
theorem toki_reach {c : Cfg} (hW : 0 < c.W) (hn : 1 ≤ c.n) {s : State} (h : Reach c s)
    (hf : s.failed = false) : TokI s :=
  (inv_reach h).tok hW hn hf

/-- One work unit is free or held by something non-speculative: by the parser or the master
    job while the token is away (`XI.tk`); else it is free or with the emit job of a block in
    `order_q` (`TokI.tu`), and such a block is not finished-but-unconfirmed (`KG.ox`). -/
theorem UCap.RS_pos {c : Cfg} {s : State} (hK : UCap.KI s) (hX : XI c s) (hT : TokI s)
    (hS : SI c s) (hL : LJ s) : 1 ≤ UCap.RS (orphanBases s) s := by
  cases ht : s.ptok with
  | false =>
    rcases hX.tk ht with hp | hm
    · simp only [UCap.RS, UCap.pp, hp, Bool.toNat_true]; omega
    · have := UCap.Mq_pos_of_HasMc hS hm
      simp only [UCap.RS]; omega
  | true =>
    rcases hT.tu ht with h1 | ⟨e, he, i, hi⟩
    · simp only [UCap.RS]; omega
    · have hns : UCap.nsB (orphanBases s) e.base = true :=
        UCap.nsB_iff.2 fun hin => Nat.lt_irrefl _ ((UCap.orphan_after hK.kg hL hin).2 _ i hi)
      have : 1 ≤ UCap.Ens (orphanBases s) s := by
        rcases he with he | he | he
        · have := (List.countP_pos_iff (p := UCap.ejns (orphanBases s))).2 ⟨e, he, hns⟩
          simp only [UCap.Ens]; omega
        · have := (List.countP_pos_iff (p := UCap.pens (orphanBases s))).2 ⟨_, he, hns⟩
          simp only [UCap.Ens]; omega
        · have := (List.countP_pos_iff (p := UCap.pens (orphanBases s))).2 ⟨_, he, hns⟩
          simp only [UCap.Ens]; omega
      simp only [UCap.RS]; omega

/-- **capacity of `unord_q`**: in every reachable state in which `failf` has not been
    called, `unord_q` holds at most `num_worker + total_out_slots - UNORD_THRESH` entries,
    the capacity `init()` gives it
    (`pqueue_init(unord_q, work_units + out_slots > UNORD_THRESH ? … - UNORD_THRESH : 0)`).
    Needs `total_out_slots > EMIT_THRESH` (with fewer slots the bound is exceeded). -/
theorem unord_cap {c : Cfg} (hW : 0 < c.W) (hn : 1 ≤ c.n) (ho : EMIT_THRESH < c.totalOut)
    {s : State} (h : Reach c s) (hf : s.failed = false) : unordSize s ≤ unordCapOf c :=
  have I := inv_reach h
  UCap.unord_cap_of_KI hn ho (I.ki hW ho hf)
    (UCap.RS_pos (I.ki hW ho hf) (I.xi hf) (I.tok hW hn hf) (I.si hf) (I.lj hf)) (ci_reach h hf) (I.lj hf)
    (orphan_bases_nodup hW h)

/-- what `unord_cap` rests on: one work unit and two output slots are never held by
    speculative jobs / buffers -/
theorem unord_reserve {c : Cfg} (hW : 0 < c.W) (hn : 1 ≤ c.n) (ho : EMIT_THRESH < c.totalOut)
    {s : State} (h : Reach c s) (hf : s.failed = false) :
    1 ≤ UCap.RS (orphanBases s) s ∧ 2 ≤ UCap.SS (orphanBases s) s :=
  have I := inv_reach h
  ⟨UCap.RS_pos (I.ki hW ho hf) (I.xi hf) (I.tok hW hn hf) (I.si hf) (I.lj hf), (I.ki hW ho hf).sl.ss⟩

theorem si_reach {c : Cfg} {s : State} (h : Reach c s) (hf : s.failed = false) : SI c s :=
  (inv_reach h).si hf

/-- after `failf` the sequential decoding fails too, and the sink holds a prefix of its output -/
theorem failOK_reach {c : Cfg} {s : State} (h : Reach c s) (hf : s.failed = true) :
    (seqRun c).2 = false ∧ s.written <+: (seqRun c).1 := by
  have g := good_reach h
  rwa [Good, hf, if_pos rfl] at g

end LbzVerif.Lemmas.SchedD
