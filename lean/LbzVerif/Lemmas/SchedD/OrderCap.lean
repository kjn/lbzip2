/-
  Capacity of `order_q` (deque_init(order_q, work_units + out_slots)):
  |order_q| ≤ n + total_out.  Every entry has a producer of its own block
  (holder invariant), entries have pairwise different bases, and every
  producer holds a work unit or an output slot (conservation).
-/
import LbzVerif.Lemmas.SchedD.Exact

namespace LbzVerif.Lemmas.SchedD
open LbzVerif.Model.SchedD LbzVerif.Gen

def Phase.prodBase : Phase → List Nat
  | .retr j _ => [j.base]
  | .retr2 e => [e.base]
  | .emit e => [e.base]
  | .scan _ _ => []

/-- bases of everything that can be the producer of an `order_q` entry -/
def prodBases (s : State) : List Nat :=
  s.retrQ.map (·.base) ++ s.busy.flatMap Phase.prodBase ++ s.emitQ.map (·.base)
    ++ s.reordQ.map (·.base)

theorem flatMap_prodBase_le (l : List Phase) : (l.flatMap Phase.prodBase).length ≤ l.length := by
  induction l with
  | nil => simp
  | cons x xs ih =>
    have hx : (Phase.prodBase x).length ≤ 1 := by cases x <;> simp [Phase.prodBase]
    rw [List.flatMap_cons, List.length_append, List.length_cons]
    omega

theorem prodBases_length (s : State) :
    (prodBases s).length ≤ s.retrQ.length + s.busy.length + s.emitQ.length + s.reordQ.length := by
  have := flatMap_prodBase_le s.busy
  simp only [prodBases, List.length_append, List.length_map]
  omega

theorem pairwise_lt_nodup_fst (l : List (Nat × Nat)) (h : l.Pairwise (fun x y => x.1 < y.1)) :
    (l.map (·.1)).Nodup :=
  List.pairwise_map.2 (h.imp Nat.ne_of_lt)

theorem order_cap_of_HI {c : Cfg} {s : State} (hi : HI c s) (ci : CI c s) :
    s.orderQ.length ≤ orderCap c.n c.totalOut := by
  have hnd := pairwise_lt_nodup_fst s.orderQ hi.h0.srt
  have hsub : ∀ b ∈ s.orderQ.map (·.1), b ∈ prodBases s := by
    intro b hb
    obtain ⟨⟨b', i⟩, hmem, rfl⟩ := List.mem_map.1 hb
    simp only [prodBases, List.mem_append, List.mem_map, List.mem_flatMap]
    rcases hi.h1 b' i hmem with ⟨j, hj, hjb, _⟩ | ⟨e, he, heb, _⟩ | ⟨o, ho, hob, _⟩
    · rcases hj with hj | ⟨k, hk⟩
      · exact Or.inl (Or.inl (Or.inl ⟨j, hj, hjb⟩))
      · exact Or.inl (Or.inl (Or.inr ⟨_, hk, by simp [Phase.prodBase, hjb]⟩))
    · rcases he with he | he | he
      · exact Or.inl (Or.inr ⟨e, he, heb⟩)
      · exact Or.inl (Or.inl (Or.inr ⟨_, he, by simp [Phase.prodBase, heb]⟩))
      · exact Or.inl (Or.inl (Or.inr ⟨_, he, by simp [Phase.prodBase, heb]⟩))
    · exact Or.inr ⟨o, ho, hob⟩
  have h1 := hnd.length_le_of_subset hsub
  have h2 := prodBases_length s
  have hw := ci.wuC
  have ho := ci.osC
  simp only [List.length_map] at h1
  simp only [busyCount] at hw
  unfold orderCap
  omega

end LbzVerif.Lemmas.SchedD
