/-
  Closed runs of the refined expansion scheduler `Model.SchedDW`, evaluated once by the kernel
  (`wake_run1`, `wake_run2`; two workers, an empty compressed stream), and what is read off them:
  the states that make `no_lost_wakeup`, `exit_final`, `deadlock_free_w`, `stepW_measure` and
  `spurious_cost_w` non-vacuous.
-/
import LbzVerif.Lemmas.SchedD.WakeLive

namespace LbzVerif.Lemmas.SchedD
open LbzVerif.Gen LbzVerif.Model.SchedD LbzVerif.Model.SchedDW

theorem reachW_of_any {c : Cfg} {ls : List WLabel} {p : WState → Bool}
    (h : (runW c (initW c) ls).any p = true) : ∃ w, ReachW c w ∧ p w = true :=
  let ⟨w, hr, hp⟩ := (Option.any_eq_true _ _).1 h
  ⟨w, reachW_run ls .init hr, hp⟩

theorem any_imp {α} {o : Option α} {p q : α → Bool} (h : o.any p = true)
    (hpq : ∀ a, p a = true → q a = true) : o.any q = true :=
  let ⟨a, e, hp⟩ := (Option.any_eq_true _ _).1 h
  (Option.any_eq_true _ _).2 ⟨a, e, hpq a hp⟩

/-- two workers, an empty compressed stream (the parser answers FINISH at
    once, but it can only attach once `eof` is set) -/
def wakeCfg : Cfg :=
  { n := 2, W := 2, T := 0, totalIn := 2, totalOut := 4, ultra := false,
    parseAt := fun _ => .finish 0 true, retrieveFrom := fun b => ⟨false, b, 1, false⟩,
    cand := [] }

/-- both workers find nothing to do and go to sleep; the reader meets end of
    file; its `sched_unlock` (`eof = 1`) selects `parse` and signals worker 0 -/
def wakeTrace1 : List WLabel :=
  [.acquire 0, .wait 0, .acquire 1, .wait 1, .io .rTake, .io .rEmpty, .ioS .rEof 0]

/-- worker 0 parses (FINISH), finds `can_terminate()`, leaves the loop and
    broadcasts; worker 1 wakes up and leaves too -/
def wakeTrace2 : List WLabel :=
  wakeTrace1 ++ [.acquire 0, .runTask 0 .parseStart 1, .relock 0 .parseEnd 0, .exit 0,
    .acquire 1, .exit 1]

theorem wake_run1 :
    (runW wakeCfg (initW wakeCfg) wakeTrace1).any
      (fun w => decide (w.holder = none) && decide (w.nextTask = some "parse")
                && decide (w.ws = [.ready, .waiting]) && !w.base.failed
                && !terminated wakeCfg w.base) = true := by
  decide +kernel

theorem wake_run2 :
    (runW wakeCfg (initW wakeCfg) wakeTrace2).any
      (fun w => decide (w.ws = [.exited, .exited]) && terminated wakeCfg w.base
                && !w.base.failed) = true := by
  decide +kernel

/-- a reachable state with the mutex free, a task selected, one worker still in
    `xwait` and the other one woken (the non-trivial case of `no_lost_wakeup`) -/
theorem wake_witness_signal :
    (runW wakeCfg (initW wakeCfg) wakeTrace1).any
      (fun w => decide (w.holder = none) && decide (w.nextTask = some "parse")
                && decide (w.ws = [.ready, .waiting])) = true :=
  any_imp wake_run1 fun w h => by
    simp only [Bool.and_eq_true] at h ⊢
    exact h.1.1

/-- a reachable state in which both workers have left the loop (the
    non-trivial case of `exit_final`) -/
theorem wake_witness_exit :
    (runW wakeCfg (initW wakeCfg) wakeTrace2).any
      (fun w => decide (w.ws = [.exited, .exited]) && terminated wakeCfg w.base) = true :=
  any_imp wake_run2 fun w h => by
    simp only [Bool.and_eq_true] at h ⊢
    exact h.1

theorem wake_reach_signal : ∃ w, ReachW wakeCfg w ∧ w.holder = none ∧
    w.nextTask.isSome = true ∧ WPh.waiting ∈ w.ws ∧ WPh.ready ∈ w.ws := by
  obtain ⟨w, hr, hp⟩ := reachW_of_any wake_witness_signal
  simp only [Bool.and_eq_true, decide_eq_true_eq] at hp
  obtain ⟨⟨h1, h2⟩, h3⟩ := hp
  exact ⟨w, hr, h1, by rw [h2]; rfl, by rw [h3]; simp, by rw [h3]; simp⟩

theorem wake_reach_exit : ∃ w, ReachW wakeCfg w ∧ WPh.exited ∈ w.ws := by
  obtain ⟨w, hr, hp⟩ := reachW_of_any wake_witness_exit
  simp only [Bool.and_eq_true, decide_eq_true_eq] at hp
  exact ⟨w, hr, by rw [hp.1]; simp⟩

example : ∃ w, ReachW wakeCfg w ∧ w.holder = none ∧ w.nextTask.isSome = true ∧
    WPh.waiting ∈ w.ws ∧ WPh.ready ∈ w.ws :=
  wake_reach_signal

example : ∃ w, ReachW wakeCfg w ∧ WPh.exited ∈ w.ws :=
  wake_reach_exit

/-- the hypotheses of `deadlock_free_w` hold for `wakeCfg` -/
example : finalW wakeCfg (initW wakeCfg) = false ∧
    ∃ l, WLabel.isSpurious l = false ∧ (stepW wakeCfg (initW wakeCfg) l).isSome = true :=
  have hnf : finalW wakeCfg (initW wakeCfg) = false := by decide +kernel
  ⟨hnf, deadlock_free_w (by decide) (by decide) (by decide) (by decide) .init hnf⟩

/-- after `wakeTrace1` (mutex free, `parse` selected, worker 0 woken by the
    reader's signal, worker 1 still in `xwait`) the state is not final -/
theorem wake_witness_live :
    (runW wakeCfg (initW wakeCfg) wakeTrace1).any
      (fun w => !finalW wakeCfg w && decide (w.ws = [.ready, .waiting])) = true :=
  any_imp wake_run1 fun w h => by
    simp only [Bool.and_eq_true, Bool.not_eq_true'] at h
    simp [finalW, h.1.2, h.2, h.1.1.2]

theorem wake_reach_live : ∃ w, ReachW wakeCfg w ∧ WPh.waiting ∈ w.ws ∧
    finalW wakeCfg w = false ∧
    ∃ l, WLabel.isSpurious l = false ∧ (stepW wakeCfg w l).isSome = true := by
  obtain ⟨w, hr, hp⟩ := reachW_of_any wake_witness_live
  simp only [Bool.and_eq_true, Bool.not_eq_true', decide_eq_true_eq] at hp
  obtain ⟨hnf, h3⟩ := hp
  exact ⟨w, hr, by rw [h3]; simp, hnf,
    deadlock_free_w (by decide) (by decide) (by decide) (by decide) hr hnf⟩

example : ∃ w, ReachW wakeCfg w ∧ WPh.waiting ∈ w.ws ∧ finalW wakeCfg w = false ∧
    ∃ l, WLabel.isSpurious l = false ∧ (stepW wakeCfg w l).isSome = true :=
  wake_reach_live

/-- initially both workers are about to take the mutex (`phase` 2 each); after `wakeTrace2` both
    are gone -/
example : live (initW wakeCfg) = 2 ∧ phW (initW wakeCfg) = 4 ∧
    (runW wakeCfg (initW wakeCfg) wakeTrace2).any (fun w => live w == 0 && phW w == 0) = true :=
  ⟨by decide, by decide, any_imp wake_run2 fun w h => by
    simp only [Bool.and_eq_true, decide_eq_true_eq] at h
    simp only [live, phW, h.1.1]
    decide⟩

theorem wake_first_step : ∃ w', stepW wakeCfg (initW wakeCfg) (.acquire 0) = some w' ∧
    phW w' = 3 ∧ muLtW (muW wakeCfg w') (muW wakeCfg (initW wakeCfg)) :=
  have h := stepW_of (c := wakeCfg) (w := initW wakeCfg) rfl (.acquire (i := 0) rfl rfl)
  ⟨_, h, by decide, stepW_measure (by decide) .init rfl h⟩

example : ∃ w', stepW wakeCfg (initW wakeCfg) (.acquire 0) = some w' ∧
    phW w' = 3 ∧ muLtW (muW wakeCfg w') (muW wakeCfg (initW wakeCfg)) :=
  wake_first_step

theorem wake_spurious : ∃ w w', ReachW wakeCfg w ∧ stepW wakeCfg w (.spurious 0) = some w' ∧
    w'.base = w.base ∧ live w' = live w ∧ phW w' = phW w + 2 := by
  have hx : ((runW wakeCfg (initW wakeCfg) [.acquire 0, .wait 0]).bind
      (fun w => stepW wakeCfg w (.spurious 0))).isSome = true := by decide +kernel
  obtain ⟨w', hw'⟩ := Option.isSome_iff_exists.1 hx
  obtain ⟨w, hw, h2⟩ := Option.bind_eq_some_iff.1 hw'
  exact ⟨w, w', reachW_run _ .init hw, h2, spurious_cost_w h2⟩

example : ∃ w w', ReachW wakeCfg w ∧ stepW wakeCfg w (.spurious 0) = some w' ∧
    phW w' = phW w + 2 :=
  let ⟨w, w', hr, hs, hc⟩ := wake_spurious
  ⟨w, w', hr, hs, hc.2.2⟩

end LbzVerif.Lemmas.SchedD
