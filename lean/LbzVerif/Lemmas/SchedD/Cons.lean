/-
  Conservation laws of the expansion scheduler model.  Work units and output slots are neither
  created nor lost by any transition that does not call `failf` (`CI`, `step_cons`):

    wu       + |retr_q| + |emit_q| + #busy workers (incl. parser) = num_worker
    outSlots + |reord_q| + outq    + #workers inside emit()       = total_out_slots

  so a terminated state is quiescent (`CI.quiescent`).
-/
import LbzVerif.Lemmas.SchedD.Step

namespace LbzVerif.Lemmas.SchedD
open LbzVerif.Model.SchedD LbzVerif.Gen

theorem forall_mem_replaceFirst {α} {P : α → Prop} {q : α → Bool} {g : α → α} {l : List α}
    (h : ∀ x ∈ l, P x) (hg : ∀ x ∈ l, q x = true → P (g x)) : ∀ y ∈ replaceFirst q g l, P y := by
  intro y hy
  rcases mem_replaceFirst _ _ hy with hy | ⟨x, hx, hq, rfl⟩
  · exact h y hy
  · exact hg x hx hq

structure CI (c : Cfg) (s : State) : Prop where
  /-- work units: free + held by queued jobs + held by busy workers (incl. the parser) -/
  wuC : s.wu + s.retrQ.length + s.emitQ.length + busyCount s = c.n
  /-- output slots: free + in reord_q + in output_q + held by a running `emit()` -/
  osC : s.outSlots + s.reordQ.length + s.outq + emitBusy s = c.totalOut

def isEmit : Phase → Bool
  | .emit _ => true
  | _ => false

theorem emitBusy_eq (s : State) : emitBusy s = s.busy.countP isEmit := by
  unfold emitBusy; congr 1

/-- work units outside the parser -/
def wuT (s : State) : Nat := s.wu + s.retrQ.length + s.emitQ.length + s.busy.length
/-- the work unit of a running parser -/
def ppc (s : State) : Nat := if s.pphase.isSome then 1 else 0
def osT (s : State) : Nat := s.outSlots + s.reordQ.length + s.outq + s.busy.countP isEmit

theorem ci_iff {c : Cfg} {s : State} : CI c s ↔ (wuT s + ppc s = c.n ∧ osT s = c.totalOut) := by
  constructor
  · rintro ⟨h1, h2⟩
    rw [emitBusy_eq] at h2
    simp only [busyCount] at h1
    simp only [wuT, ppc, osT]
    omega
  · rintro ⟨h1, h2⟩
    simp only [wuT, ppc, osT] at h1 h2
    refine ⟨?_, ?_⟩
    · simp only [busyCount]; omega
    · rw [emitBusy_eq]; omega

def Cons (s s' : State) : Prop := wuT s' + ppc s' = wuT s + ppc s ∧ osT s' = osT s

/-- `s'` is `s` with `d` more work units outside the parser; nothing else that
    the conservation laws read has changed -/
structure Eqv (s s' : State) (d : Nat) : Prop where
  wu : wuT s' = wuT s + d
  os : osT s' = osT s
  pp : s'.pphase = s.pphase
  fl : s'.failed = s.failed

theorem Eqv.refl (s : State) : Eqv s s 0 := ⟨rfl, rfl, rfl, rfl⟩

theorem Eqv.trans {s s' s'' : State} {d e : Nat} (h1 : Eqv s s' d) (h2 : Eqv s' s'' e) :
    Eqv s s'' (d + e) :=
  ⟨by rw [h2.wu, h1.wu]; omega, h2.os.trans h1.os, h2.pp.trans h1.pp, h2.fl.trans h1.fl⟩

theorem eqv_wu1 (s : State) : Eqv s { s with wu := s.wu + 1 } 1 :=
  ⟨by simp only [wuT]; omega, rfl, rfl, rfl⟩

theorem isEmit_flagPhase (p : Nat → Bool) (ph : Phase) : isEmit (flagPhase p ph) = isEmit ph := by
  cases ph <;> rfl

theorem isEmit_good (ph : Phase) : isEmit (Phase.good ph) = isEmit ph := by
  cases ph <;> rfl

theorem countP_isEmit_flag (p : Nat → Bool) (l : List Phase) :
    (l.map (flagPhase p)).countP isEmit = l.countP isEmit := by
  simp only [List.countP_map, Function.comp_def, isEmit_flagPhase]

theorem countP_isEmit_good (q : Phase → Bool) (l : List Phase) :
    (replaceFirst q Phase.good l).countP isEmit = l.countP isEmit := by
  have := congrArg (List.countP id) (map_replaceFirst_key isEmit_good q l)
  rwa [List.countP_map, List.countP_map] at this

theorem busy_erase {l : List Phase} {ph : Phase} (h : ph ∈ l) :
    (l.erase ph).length + 1 = l.length ∧
    (l.erase ph).countP isEmit + (if isEmit ph then 1 else 0) = l.countP isEmit :=
  ⟨length_erase_succ h, countP_erase_add isEmit h⟩

theorem eqv_detach (s : State) (k : Option Nat) : Eqv s (detach s k) 0 := by
  rw [detach_eq]
  exact ⟨rfl, rfl, rfl, rfl⟩

theorem eqv_advance (c : Cfg) (s : State) (p : Nat) : Eqv s (advance c s p) 0 := by
  refine ⟨?_, rfl, rfl, rfl⟩
  have := advance_wu_retrQ c s p
  show (advance c s p).wu + (advance c s p).retrQ.length + s.emitQ.length + s.busy.length = _
  simp only [wuT]
  omega

theorem eqv_parsePush (c : Cfg) (s : State) (b : Nat) : Eqv s (parsePush c s b) 0 := by
  have a := eqv_advance c s b
  rw [parsePush_eq]
  refine ⟨?_, ?_, rfl, rfl⟩
  · have := a.wu
    simp only [wuT, List.length_map] at this ⊢
    exact this
  · simp only [osT, countP_isEmit_flag]
    rfl

theorem eqv_parseMatch (c : Cfg) (s : State) (b : Nat) : Eqv s (parseMatch c s b) 1 := by
  rcases parseMatch_cases c s b with ⟨j, a, -, -, -, rfl, e⟩ | ⟨j, k, a, -, -, -, -, rfl, e⟩ |
    ⟨u, a, -, -, -, -, -, -, rfl, e⟩ | ⟨u, a, -, -, -, -, -, -, rfl, e⟩ | ⟨-, -, -, e⟩
  · have h1 : Eqv s { s with retrQ := replaceFirst (Job.inqAt b) Job.good s.retrQ } 0 :=
      ⟨by simp only [wuT, length_replaceFirst]; omega, rfl, rfl, rfl⟩
    rw [e]
    exact (h1.trans (eqv_advance c _ j.endp)).trans (eqv_wu1 _)
  · have h1 : Eqv s { s with busy := replaceFirst (Phase.inqAt b) Phase.good s.busy } 0 :=
      ⟨by simp only [wuT, length_replaceFirst]; omega,
       by simp only [osT, countP_isEmit_good], rfl, rfl⟩
    rw [e]
    exact (h1.trans (eqv_advance c _ j.endp)).trans (eqv_wu1 _)
  · rw [e]
    exact (eqv_advance c s u.f.endp).trans (e := 1) ⟨by simp only [wuT]; omega, rfl, rfl, rfl⟩
  · rw [e]
    exact (eqv_advance c s u.f.endp).trans (e := 1) ⟨by simp only [wuT]; omega, rfl, rfl, rfl⟩
  · rw [e]
    exact ⟨by simp only [wuT, List.length_cons]; omega, rfl, rfl, rfl⟩

theorem eqv_parseOk (c : Cfg) (s : State) (b : Nat) : Eqv s (parseOk c s b) 1 :=
  (eqv_parsePush c s b).trans (eqv_parseMatch c _ b)

theorem eqv_parseFinish (s : State) (u : Nat) : Eqv s (parseFinish s u) 1 := by
  rw [parseFinish_eq]
  refine ⟨?_, ?_, rfl, rfl⟩
  · simp only [wuT, List.length_map, List.length_nil]; omega
  · simp only [osT, countP_isEmit_flag]

theorem eqv_parseMore (c : Cfg) (s : State) (k : Option Nat) : Eqv s (parseMore c s k) 1 := by
  rw [parseMore_eq]
  exact (eqv_advance c s (offs c (k.getD 0 + 1))).trans (e := 1)
    ⟨by simp only [wuT]; omega, rfl, rfl, rfl⟩

theorem eqv_retrMove (c : Cfg) (s : State) (j : Job) (n : Nat) : Eqv s (retrMove c s j n) 0 :=
  retrMove_ind (P := fun t => Eqv s t 0) c s j n (Eqv.refl s)
    ((eqv_advance c s n).trans (e := 0) ⟨rfl, rfl, rfl, rfl⟩)

theorem eqv_addJob (s : State) (j : Job) : Eqv s { s with retrQ := j :: s.retrQ } 1 :=
  ⟨by simp only [wuT, List.length_cons]; omega, rfl, rfl, rfl⟩

theorem eqv_retrDone (c : Cfg) (s : State) (j : Job) (n : Nat) : Eqv s (retrDone c s j n) 1 := by
  obtain ⟨pt, po, orp, e⟩ := retrDone_frame c s j n
  rw [e]
  exact ⟨by simp only [wuT, List.length_cons]; omega, by simp [osT, isEmit], rfl, rfl⟩

theorem eqv_scanNew (c : Cfg) (s : State) (x : Nat) : Eqv s (scanNew c s x) 1 :=
  scanNew_ind (P := fun t => Eqv s t 1) c s x (eqv_wu1 s) fun _ _ => eqv_addJob s _

theorem eqv_scanRequeue (c : Cfg) (s : State) (x hi : Nat) : Eqv s (scanRequeue c s x hi) 0 := by
  rw [scanRequeue_eq]
  exact ⟨rfl, rfl, rfl, rfl⟩

theorem Eqv.cons {s s' : State} (h : Eqv s s' 0) : Cons s s' :=
  ⟨by rw [h.wu]; simp only [ppc, h.pp]; omega, h.os⟩

/-- a worker other than the parser ends its section: it leaves `busy`, and what follows
    frees its work unit -/
theorem Cons.of_busy {s s' : State} {ph : Phase} (hm : ph ∈ s.busy) (he : isEmit ph = false)
    (h : Eqv { s with busy := s.busy.erase ph } s' 1) : Cons s s' := by
  obtain ⟨e1, e2⟩ := busy_erase hm
  simp only [he, Bool.false_eq_true, if_false, Nat.add_zero] at e2
  refine ⟨?_, ?_⟩
  · rw [h.wu]
    simp only [ppc, h.pp, wuT]
    omega
  · rw [h.os]
    simp only [osT, e2]

theorem Cons.of_parser {s s' : State} {k : Option Nat} (hk : s.pphase = some k)
    (h : Eqv { s with pphase := none } s' 1) : Cons s s' := by
  refine ⟨?_, h.os⟩
  rw [h.wu]
  simp only [ppc, h.pp, hk, Option.isSome_some, Option.isSome_none, if_true, Bool.false_eq_true,
    if_false, wuT]

theorem step_cons {c : Cfg} {s s' : State} {l : Label} (hs : step c s l = some s')
    (hf : s'.failed = false) : Cons s s' := by
  obtain ⟨-, h⟩ := step_inv hs
  cases h with
  | rTake | rQuit | rBlockDrop | rBlock | rEmpty | rEof => exact ⟨rfl, rfl⟩
  | wDone hq => exact ⟨rfl, by simp only [osT]; omega⟩
  | reorderErr | parseErr | parseEof => exact Bool.noConfusion hf
  | reorderBogus ob _ hmem | reorderMore ob r _ hmem | reorderOk ob r _ hmem =>
    have := length_erase_succ hmem
    exact ⟨rfl, by simp only [osT]; omega⟩
  | parseStart hsel hpp =>
    have := (selectTask_parse hsel).2.2.1
    refine ⟨?_, rfl⟩
    simp only [wuT, ppc, hpp, Option.isSome_some, Option.isSome_none, if_true, Bool.false_eq_true,
      if_false]
    omega
  | parseMore k hpp => exact .of_parser hpp ((eqv_detach _ k).trans (eqv_parseMore c _ k))
  | parseFinish k u hpp => exact .of_parser hpp ((eqv_detach _ k).trans (eqv_parseFinish _ u))
  | parseOk k b hpp => exact .of_parser hpp ((eqv_detach _ k).trans (eqv_parseOk c _ b))
  | retrStart j _ hmem =>
    have := length_erase_succ hmem
    exact ⟨by simp only [wuT, ppc, List.length_cons]; omega,
      by simp only [osT, List.countP_cons, isEmit]; simp⟩
  | retrQuit j k hmem =>
    exact .of_busy hmem rfl ((eqv_detach _ k).trans (eqv_wu1 _))
  | retrOvertaken j k hmem =>
    exact .of_busy hmem rfl
      (((eqv_detach _ k).trans (eqv_retrMove c _ j _)).trans (eqv_wu1 _))
  | retrMore j k hmem =>
    exact .of_busy hmem rfl
      (((eqv_detach _ k).trans (eqv_retrMove c _ j _)).trans (eqv_addJob _ _))
  | retrDone j k hmem =>
    exact .of_busy hmem rfl
      (((eqv_detach _ k).trans (eqv_retrMove c _ j _)).trans (eqv_retrDone c _ j _))
  | retrPost e hmem =>
    exact .of_busy hmem rfl
      ⟨by simp only [wuT, List.length_cons]; omega, rfl, rfl, rfl⟩
  | emitStart e hsel hmem =>
    have := (selectTask_emit hsel).1
    have := length_erase_succ hmem
    exact ⟨by simp only [wuT, ppc, List.length_cons]; omega,
      by simp only [osT, List.countP_cons, isEmit]; simp; omega⟩
  | emitMore e hmem | emitLast e hmem =>
    obtain ⟨e1, e2⟩ := busy_erase hmem
    simp only [isEmit, if_true] at e2
    exact ⟨by simp only [wuT, ppc, List.length_cons]; omega,
      by simp only [osT, List.length_cons]; omega⟩
  | scanStart sp hsel =>
    have := (selectTask_scan hsel).1
    exact ⟨by simp only [wuT, ppc, List.length_cons]; omega,
      by simp only [osT, List.countP_cons, isEmit]; simp⟩
  | scanNone st k hmem =>
    exact .of_busy hmem rfl ((eqv_detach _ (some k)).trans (eqv_wu1 _))
  | scanFound st k x hmem =>
    exact .of_busy hmem rfl
      (((eqv_detach _ (some k)).trans (eqv_scanNew c _ x)).trans (eqv_scanRequeue c _ x _))

theorem ci_init (c : Cfg) : CI c (init c) := by
  refine ⟨?_, ?_⟩ <;> simp [init, busyCount, emitBusy]

theorem ci_step {c : Cfg} {s s' : State} {l : Label} (h : CI c s) (hs : step c s l = some s')
    (hf : s'.failed = false) : CI c s' := by
  obtain ⟨h1, h2⟩ := ci_iff.1 h
  obtain ⟨k1, k2⟩ := step_cons hs hf
  exact ci_iff.2 ⟨k1.trans h1, k2.trans h2⟩

theorem terminated_facts {c : Cfg} {s : State} (ht : terminated c s = true) :
    s.failed = false ∧ s.wu = c.n ∧ s.outSlots = c.totalOut ∧ s.pdone = true ∧ s.eof = true ∧
    selectTask c s = none ∧ dCanTerminate (view c s) = true := by
  simp only [terminated, Bool.and_eq_true, Bool.not_eq_true', Option.isNone_iff_eq_none] at ht
  obtain ⟨⟨hf, hd⟩, hs⟩ := ht
  have hd' := hd
  simp only [dCanTerminate, view, Bool.and_eq_true] at hd'
  exact ⟨hf, of_decide_eq_true hd'.1.2, of_decide_eq_true hd'.2, hd'.1.1.1.2, hd'.1.1.1.1, hs, hd⟩

theorem CI.quiescent {c : Cfg} {s : State} (h : CI c s) (ht : terminated c s = true) :
    s.retrQ = [] ∧ s.emitQ = [] ∧ s.busy = [] ∧ s.pphase = none ∧ s.reordQ = [] ∧ s.outq = 0 := by
  obtain ⟨hf, hw, ho, -⟩ := terminated_facts ht
  obtain ⟨h1, h2⟩ := h
  simp only [busyCount] at h1
  have r4 : s.pphase = none := by
    cases hp : s.pphase with
    | none => rfl
    | some k => rw [hp] at h1; simp at h1; omega
  exact ⟨List.eq_nil_of_length_eq_zero (by omega), List.eq_nil_of_length_eq_zero (by omega),
    List.eq_nil_of_length_eq_zero (by omega), r4, List.eq_nil_of_length_eq_zero (by omega),
    by omega⟩

end LbzVerif.Lemmas.SchedD
