/-
  "While the parse token is available, a work unit is free or on its way back": the
  invariant `TokI` of the states in which `failf` has not been called.  If `parse_token` is
  set, then `work_units ≥ 1`, or some emit job of a block that is in `order_q` exists: that
  job will run to its last buffer and hand its work unit back (`tu`; `v1`, `v2`, `mb` carry it).
  Together with `SCAN_THRESH = 1` (a scan never takes the last unit while the token is
  available) this is why `can_parse` cannot stay false for want of a work unit.
-/
import LbzVerif.Lemmas.SchedD.Uniq
import LbzVerif.Lemmas.SchedD.Exact

namespace LbzVerif.Lemmas.SchedD
open LbzVerif.Model.SchedD LbzVerif.Gen
open Uniq

structure TokI (s : State) : Prop where
  v1 : (emitBases s).Nodup
  v2 : ∀ e, EIn s e → ∀ o ∈ s.reordQ, e.base = o.base → o.idx < e.idx
  mb : ∀ j, JIn s j → Job.mc j = true → ∃ i, (j.base, i) ∈ s.orderQ
  tu : s.ptok = true → 1 ≤ s.wu ∨ ∃ e, EIn s e ∧ ∃ i, (e.base, i) ∈ s.orderQ

namespace Tok

theorem map_flatMap_ejob (l : List Phase) :
    (l.flatMap ejob).map (·.base) = l.flatMap Phase.emitBase := by
  induction l with
  | nil => rfl
  | cons x xs ih =>
    simp only [List.flatMap_cons, List.map_append, ih]
    cases x <;> rfl

theorem emitBases_eq (s : State) : emitBases s = (emitJobs s).map (·.base) := by
  simp only [emitBases, emitJobs, List.map_append, map_flatMap_ejob]

structure TF (s s' : State) : Prop where
  ej : (emitJobs s').Perm (emitJobs s)
  ro : ∀ o ∈ s'.reordQ, o ∈ s.reordQ
  oq : ∀ b i, (b, i) ∈ s.orderQ → ∃ i', (b, i') ∈ s'.orderQ
  mj : ∀ j', JIn s' j' → Job.mc j' = true →
        (∃ j, JIn s j ∧ Job.mc j = true ∧ j.base = j'.base) ∨ ∃ i, (j'.base, i) ∈ s'.orderQ
  tu : s'.ptok = true → (s.ptok = true ∧ s.wu ≤ s'.wu) ∨ 1 ≤ s'.wu

theorem TF.refl (s : State) : TF s s :=
  ⟨List.Perm.refl _, fun _ h => h, fun _ i h => ⟨i, h⟩,
    fun j hj hm => Or.inl ⟨j, hj, hm, rfl⟩, fun h => Or.inl ⟨h, Nat.le_refl _⟩⟩

theorem TF.trans {s s' s'' : State} (f : TF s s') (g : TF s' s'') : TF s s'' := by
  refine ⟨g.ej.trans f.ej, fun o ho => f.ro o (g.ro o ho), ?_, ?_, ?_⟩
  · intro b i hi
    obtain ⟨i', hi'⟩ := f.oq b i hi
    exact g.oq b i' hi'
  · intro j'' hj'' hm''
    rcases g.mj j'' hj'' hm'' with ⟨j', hj', hm', hb'⟩ | h2
    · rcases f.mj j' hj' hm' with ⟨j, hj, hm, hb⟩ | ⟨i, hi⟩
      · exact Or.inl ⟨j, hj, hm, hb.trans hb'⟩
      · rw [hb'] at hi
        exact Or.inr (g.oq _ i hi)
    · exact Or.inr h2
  · intro ht
    rcases g.tu ht with ⟨h1, h2⟩ | h1
    · rcases f.tu h1 with ⟨h3, h4⟩ | h3
      · exact Or.inl ⟨h3, Nat.le_trans h4 h2⟩
      · exact Or.inr (Nat.le_trans h3 h2)
    · exact Or.inr h1

theorem TF.ein {s s' : State} (f : TF s s') (e : EJob) : EIn s' e ↔ EIn s e :=
  ⟨EIn_of_perm f.ej, EIn_of_perm f.ej.symm⟩

theorem TF.item {s s' : State} (f : TF s s') {y : Nat} (h : ItemBase s' y) : ItemBase s y := by
  rcases h with ⟨e, he, hb⟩ | ⟨o, ho, hb⟩
  · exact Or.inl ⟨e, (f.ein e).1 he, hb⟩
  · exact Or.inr ⟨o, f.ro o ho, hb⟩

theorem TokI_frame {s s' : State} (h : TokI s) (f : TF s s') : TokI s' := by
  refine ⟨?_, ?_, ?_, ?_⟩
  · have := h.v1
    rw [emitBases_eq] at this ⊢
    exact ((f.ej.map _).nodup_iff).2 this
  · intro e he o ho hb
    exact h.v2 e ((f.ein e).1 he) o (f.ro o ho) hb
  · intro j' hj' hmc
    rcases f.mj j' hj' hmc with ⟨j, hj, hm, hb⟩ | h2
    · obtain ⟨i, hi⟩ := h.mb j hj hm
      rw [hb] at hi
      exact f.oq _ i hi
    · exact h2
  · intro ht
    rcases f.tu ht with ⟨h1, h2⟩ | h1
    · rcases h.tu h1 with h3 | ⟨e, he, i, hi⟩
      · exact Or.inl (Nat.le_trans h3 h2)
      · exact Or.inr ⟨e, (f.ein e).2 he, f.oq _ i hi⟩
    · exact Or.inl h1

theorem tu_same {s s' : State} (e1 : s'.ptok = s.ptok) (e2 : s.wu ≤ s'.wu) :
    s'.ptok = true → (s.ptok = true ∧ s.wu ≤ s'.wu) ∨ 1 ≤ s'.wu :=
  fun h => Or.inl ⟨e1 ▸ h, e2⟩

/-- the defaults hold when `s'` is `s` with fields other than `reord_q`, `order_q`, the token
    and the work units updated -/
theorem TF_mk {s s' : State} (ej : (emitJobs s').Perm (emitJobs s))
    (ji : ∀ j, JIn s' j → JIn s j)
    (ro : ∀ o ∈ s'.reordQ, o ∈ s.reordQ := by exact fun _ h => h)
    (oq : ∀ b i, (b, i) ∈ s.orderQ → ∃ i', (b, i') ∈ s'.orderQ := by exact fun _ i h => ⟨i, h⟩)
    (tu : s'.ptok = true → (s.ptok = true ∧ s.wu ≤ s'.wu) ∨ 1 ≤ s'.wu := by
      exact tu_same rfl (Nat.le_refl _)) : TF s s' :=
  ⟨ej, ro, oq, fun j hj hm => Or.inl ⟨j, ji j hj, hm, rfl⟩, tu⟩

theorem TF_same {s s' : State} (e1 : s'.emitQ = s.emitQ := by rfl)
    (e2 : s'.busy = s.busy := by rfl) (e3 : s'.reordQ = s.reordQ := by rfl)
    (e4 : s'.orderQ = s.orderQ := by rfl) (e5 : s'.retrQ = s.retrQ := by rfl)
    (tu : s'.ptok = true → (s.ptok = true ∧ s.wu ≤ s'.wu) ∨ 1 ≤ s'.wu := by
      exact tu_same rfl (Nat.le_refl _)) : TF s s' :=
  TF_mk (.of_eq (emitJobs_same e1 e2))
    (fun _ hj => JIn_mono hj (fun _ h => e5 ▸ h) (fun _ _ h => e2 ▸ h))
    (fun _ h => e3 ▸ h) (fun _ i h => ⟨i, e4 ▸ h⟩) tu

theorem TF_detach (s : State) (k : Option Nat) : TF s (detach s k) := by
  rw [detach_eq]
  exact TF_same

theorem TF_advance (c : Cfg) (s : State) (p : Nat) : TF s (advance c s p) :=
  TF_mk (.refl _)
    (fun _ hj => JIn_mono hj (fun _ h => (List.mem_filter.1 h).1) (fun _ _ h => h))
    (tu := tu_same rfl (Nat.le_add_right _ _))

theorem TF_busy_erase (s : State) {ph : Phase} (hp : ejob ph = []) :
    TF s { s with busy := s.busy.erase ph } :=
  TF_mk (.of_eq (emitJobs_erase rfl rfl hp)) (fun _ hj => JIn_of_busy_erase hj)

theorem TF_leave (s : State) {ph : Phase} (hp : ejob ph = []) (k : Option Nat) :
    TF s (detach { s with busy := s.busy.erase ph } k) :=
  (TF_busy_erase s hp).trans (TF_detach _ k)

theorem TF_addJob (s : State) (jn : Job)
    (h : Job.mc jn = true → ∃ i, (jn.base, i) ∈ s.orderQ) :
    TF s { s with retrQ := jn :: s.retrQ } := by
  refine ⟨List.Perm.refl _, fun _ h => h, fun _ i h => ⟨i, h⟩, ?_, tu_same rfl (Nat.le_refl _)⟩
  intro j' hj' hm
  rcases JIn_addJob jn j' hj' with rfl | hj
  · exact Or.inr (h hm)
  · exact Or.inl ⟨j', hj, hm, rfl⟩

theorem TF_wu (s : State) (w : Nat) (hw : s.wu ≤ w) : TF s { s with wu := w } :=
  TF_same (tu := tu_same rfl hw)

theorem TF_scanNew (c : Cfg) (s1 : State) (x : Nat) : TF s1 (scanNew c s1 x) :=
  scanNew_ind (P := TF s1) c s1 x (TF_wu s1 _ (Nat.le_succ _))
    (fun _ _ => TF_addJob s1 _ (fun hm => by cases hm))

theorem TF_scanRequeue (c : Cfg) (s2 : State) (x hi : Nat) : TF s2 (scanRequeue c s2 x hi) := by
  rw [scanRequeue_eq]
  exact TF_same

theorem TF_retrExit (s1 : State) (j : Job) : TF s1 (retrExit s1 j) :=
  TF_wu s1 _ (Nat.le_succ _)

theorem TF_retrMove (c : Cfg) (s1 : State) (j : Job) (newc : Nat) :
    TF s1 (retrMove c s1 j newc) :=
  retrMove_ind (P := TF s1) c s1 j newc (TF.refl s1) ((TF_advance c s1 newc).trans TF_same)

theorem TF_retrMoved (c : Cfg) (s : State) (j : Job) (k : Option Nat) :
    TF s (retrMove c (detach { s with busy := s.busy.erase (.retr j k) } k) j (retrNewc c j k)) :=
  (TF_leave s rfl k).trans (TF_retrMove c _ j _)

theorem TF_flag (s2 : State) (p : Nat → Bool) (extra : List (Nat × Nat)) (g : Nat) :
    TF s2 { s2 with orderQ := s2.orderQ ++ extra, gnext := g,
                    retrQ := s2.retrQ.map (flagJob p), busy := s2.busy.map (flagPhase p),
                    orphans := popOrphans p s2.orphans } := by
  refine ⟨List.Perm.of_eq (emitJobs_flag (s := s2) (p := p) rfl rfl), fun _ h => h,
    fun _ i hi => ⟨i, List.mem_append_left _ hi⟩, ?_, tu_same rfl (Nat.le_refl _)⟩
  intro j' hj' hm
  obtain ⟨j0, h0, rfl⟩ := JIn_of_flag (s := s2) (p := p) hj' (fun _ h => List.mem_map.1 h) rfl
  exact Or.inl ⟨j0, h0, mc_flagJob hm, rfl⟩

theorem TF_parsePush (c : Cfg) (s1 : State) (b : Nat) : TF s1 (parsePush c s1 b) :=
  (TF_advance c s1 b).trans (TF_flag _ (fun x => decide (x < b)) [(b, 0)] _)

theorem TF_parseMatch (c : Cfg) (s3 : State) (b : Nat) (hb : (b, 0) ∈ s3.orderQ) :
    TF s3 (parseMatch c s3 b) := by
  rcases parseMatch_cases c s3 b with ⟨j, a, -, -, -, rfl, e⟩ | ⟨j, k, a, -, -, -, -, rfl, e⟩ |
    ⟨u, a, -, -, -, -, -, -, rfl, e⟩ | ⟨u, a, -, -, -, -, -, -, rfl, e⟩ | ⟨-, -, -, e⟩
  · rw [e]
    have f1 : TF s3 { s3 with retrQ := replaceFirst (Job.inqAt b) Job.good s3.retrQ } := by
      refine ⟨List.Perm.refl _, fun _ h => h, fun _ i h => ⟨i, h⟩, ?_, tu_same rfl (Nat.le_refl _)⟩
      rintro j' (hq | ⟨k, hk⟩) hm
      · rcases mem_replaceFirst _ _ hq with h1 | ⟨x, _, hx, rfl⟩
        · exact Or.inl ⟨j', Or.inl h1, hm, rfl⟩
        · exact Or.inr ⟨0, by rw [(good_of_inqAt hx).2.1]; exact hb⟩
      · exact Or.inl ⟨j', Or.inr ⟨k, hk⟩, hm, rfl⟩
    exact f1.trans ((TF_advance c _ j.endp).trans (TF_wu _ _ (Nat.le_succ _)))
  · rw [e]
    have f1 : TF s3 { s3 with busy := replaceFirst (Phase.inqAt b) Phase.good s3.busy } := by
      refine ⟨List.Perm.of_eq (emitJobs_good (s := s3) (q := Phase.inqAt b) rfl rfl),
        fun _ h => h, fun _ i h => ⟨i, h⟩, ?_, tu_same rfl (Nat.le_refl _)⟩
      rintro j' (hq | ⟨k', hk⟩) hm
      · exact Or.inl ⟨j', Or.inl hq, hm, rfl⟩
      · rcases mem_replaceFirst_good hk with h1 | ⟨j0, k0, _, hx, e'⟩
        · exact Or.inl ⟨j', Or.inr ⟨k', h1⟩, hm, rfl⟩
        · injection e' with e1 e2
          subst e1
          exact Or.inr ⟨0, by rw [(good_of_inqAt (j := j0) hx).2.1]; exact hb⟩
    exact f1.trans ((TF_advance c _ j.endp).trans (TF_wu _ _ (Nat.le_succ _)))
  · rw [e]
    exact (TF_advance c s3 u.f.endp).trans
      (TF_same (tu := fun _ => Or.inr (Nat.le_add_left _ _)))
  · rw [e]
    exact (TF_advance c s3 u.f.endp).trans
      (TF_same (tu := tu_same rfl (Nat.le_succ _)))
  · rw [e]
    exact TF_addJob s3 _ (fun _ => ⟨0, hb⟩)

theorem TF_parseFinish (s1 : State) (u : Nat) : TF s1 (parseFinish s1 u) := by
  refine ⟨List.Perm.of_eq
    (emitJobs_flag (s' := parseFinish s1 u) (s := s1) (p := fun _ => true) rfl rfl),
    fun _ h => h, fun _ i h => ⟨i, h⟩, ?_, fun _ => Or.inr ?_⟩
  · rintro j' (hj | ⟨k, hk⟩) hm
    · cases hj
    · rcases mem_map_flagPhase hk with ⟨j0, k0, h0, e⟩ | ⟨_, hn⟩
      · injection e with e1 e2
        subst e1
        exact Or.inl ⟨j0, Or.inr ⟨k0, h0⟩, mc_flagJob hm, rfl⟩
      · exact absurd rfl (hn j' k)
  · exact Nat.le_add_left _ _

theorem TF_parseMore (c : Cfg) (s1 : State) (k : Option Nat) : TF s1 (parseMore c s1 k) :=
  (TF_advance c s1 _).trans
    (TF_same (tu := fun _ => Or.inr (Nat.le_add_left _ _)))

theorem TF_leave_parser (s : State) (k : Option Nat) :
    TF s (detach { s with pphase := none } k) :=
  (TF_same (s := s) (s' := { s with pphase := none })).trans (TF_detach _ k)

theorem TokI_emitEnd_core {s : State} {e : EJob} {onew : OB} (q : List EJob) (w : Nat)
    (h : TokI s) (hm : Phase.emit e ∈ s.busy) (o1 : onew.base = e.base) (o2 : onew.idx = e.idx)
    (hw : (q = s.emitQ ∧ w = s.wu + 1) ∨
      (∃ e', q = e' :: s.emitQ ∧ e'.base = e.base ∧ e'.idx = e.idx + 1 ∧ w = s.wu)) :
    TokI { s with busy := s.busy.erase (.emit e), wu := w, emitQ := q,
                   reordQ := onew :: s.reordQ } := by
  -- the other emit jobs; with `e'` in front they are the emit jobs of the new state
  let rest := s.emitQ ++ (s.busy.erase (.emit e)).flatMap ejob
  have hP : (emitJobs s).Perm (e :: rest) := emitJobs_perm_erase hm rfl
  have hv1 := h.v1
  rw [emitBases_eq] at hv1
  obtain ⟨hnot, hnd⟩ : e.base ∉ rest.map (·.base) ∧ (rest.map (·.base)).Nodup :=
    List.nodup_cons.1 (((hP.map (·.base)).nodup_iff).1 hv1)
  have hsub : ∀ e0 ∈ rest, EIn s e0 := fun e0 he0 =>
    mem_emitJobs.1 (hP.mem_iff.2 (List.mem_cons_of_mem _ he0))
  have hne : ∀ e0 ∈ rest, e0.base ≠ e.base := fun e0 he0 hb =>
    hnot (List.mem_map.2 ⟨e0, he0, hb⟩)
  have hee : EIn s e := Or.inr (Or.inr hm)
  -- old emit jobs against the buffers of the new state
  have old : ∀ e0 ∈ rest, ∀ o ∈ onew :: s.reordQ, e0.base = o.base → o.idx < e0.idx := by
    intro e0 he0 o ho hb
    rcases List.mem_cons.1 ho with rfl | ho
    · exact absurd (hb.trans o1) (hne e0 he0)
    · exact h.v2 e0 (hsub e0 he0) o ho hb
  have hmb : ∀ j, JIn { s with busy := s.busy.erase (.emit e) } j → Job.mc j = true →
      ∃ i, (j.base, i) ∈ s.orderQ :=
    fun j hj => h.mb j (JIn_of_busy_erase hj)
  rcases hw with ⟨rfl, rfl⟩ | ⟨e', rfl, hb', hi', rfl⟩
  · refine ⟨?_, fun e0 he0 => old e0 (mem_emitJobs.2 he0), hmb,
      fun _ => Or.inl (Nat.le_add_left _ _)⟩
    rw [emitBases_eq]
    exact hnd
  · refine ⟨?_, ?_, hmb, ?_⟩
    · rw [emitBases_eq]
      exact List.nodup_cons.2 ⟨show e'.base ∉ rest.map (·.base) from hb' ▸ hnot, hnd⟩
    · intro e0 he0 o ho hb
      rcases List.mem_cons.1 (mem_emitJobs.2 he0) with rfl | he0'
      · rcases List.mem_cons.1 ho with rfl | ho
        · omega
        · have := h.v2 e hee o ho (hb' ▸ hb)
          omega
      · exact old e0 he0' o ho hb
    · intro ht
      rcases h.tu ht with h1 | ⟨e0, he0, i, hi⟩
      · exact Or.inl h1
      · right
        rcases List.mem_cons.1 (hP.mem_iff.1 (mem_emitJobs.2 he0)) with rfl | he0'
        · exact ⟨e', mem_emitJobs.1 List.mem_cons_self, i, hb' ▸ hi⟩
        · exact ⟨e0, mem_emitJobs.1 (List.mem_cons_of_mem _ he0'), i, hi⟩

theorem TokI_reorder_ok {c : Cfg} {s : State} {ob : OB} {r : List (Nat × Nat)} (h : TokI s)
    (hS : SI c s) (hU : UI c s) (hm : ob ∈ s.reordQ) (hst : ob.st = .ok)
    (hq : s.orderQ = (ob.base, ob.idx) :: r) (w : List (Nat × Nat)) (q : Nat) (tn : Bool) :
    TokI { s with reordQ := s.reordQ.erase ob, orderQ := r, written := w, outq := q,
                   taint := tn } := by
  refine ⟨h.v1, fun e he o ho hb => h.v2 e he o (List.mem_of_mem_erase ho) hb, ?_, ?_⟩
  · intro j hj hmc
    obtain ⟨i, hi⟩ := h.mb j hj hmc
    rw [hq] at hi
    rcases List.mem_cons.1 hi with e | hi
    · have hb : j.base = ob.base := (Prod.mk.inj e).1
      exact absurd (mem_jobBases.2 ⟨j, hj, hb⟩) (hU.u2 ob.base (Or.inr ⟨ob, hm, rfl⟩))
    · exact ⟨i, hi⟩
  · intro ht
    rcases h.tu ht with h1 | ⟨e, he, i, hi⟩
    · exact Or.inl h1
    · refine Or.inr ⟨e, he, i, ?_⟩
      rw [hq] at hi
      rcases List.mem_cons.1 hi with e' | hi
      · -- the emit job of the block would be past its last buffer
        exfalso
        have hb : e.base = ob.base := (Prod.mk.inj e').1
        have hlt := h.v2 e he ob hm hb
        have hob := hS.obs ob hm
        simp only [obOK, hst] at hob
        obtain ⟨hl, hej, _⟩ := hS.ejOK_of_EIn he
        rw [hb] at hej
        have := (hej hob.1).1
        omega
      · exact hi

/-- `e8`: only the master touches the token, and its block is in order_q -/
theorem TokI_newEmit {s2 : State} (ej : EJob) (pt : Bool) (po : Nat) (os : List UB)
    (h : TokI s2) (hni : ¬ ItemBase s2 ej.base)
    (e8 : pt = s2.ptok ∨ ∃ i, (ej.base, i) ∈ s2.orderQ) :
    TokI { s2 with ptok := pt, porig := po, busy := .retr2 ej :: s2.busy, orphans := os } := by
  have hJ : (emitJobs { s2 with ptok := pt, porig := po, busy := .retr2 ej :: s2.busy,
                                orphans := os }).Perm (ej :: emitJobs s2) := List.perm_middle
  refine ⟨?_, ?_, ?_, ?_⟩
  · have := h.v1
    rw [emitBases_eq] at this ⊢
    refine ((hJ.map (·.base)).nodup_iff).2 (List.nodup_cons.2 ⟨?_, this⟩)
    intro hm
    obtain ⟨e0, he0, hb⟩ := List.mem_map.1 hm
    exact hni (Or.inl ⟨e0, mem_emitJobs.1 he0, hb⟩)
  · intro e he o ho hb
    rcases List.mem_cons.1 (hJ.mem_iff.1 (mem_emitJobs.2 he)) with rfl | he'
    · exact absurd (Or.inr ⟨o, ho, hb.symm⟩) hni
    · exact h.v2 e (mem_emitJobs.1 he') o ho hb
  · intro j hj hmc
    exact h.mb j (JIn_of_busy_cons hj (fun _ _ hh => Phase.noConfusion hh)) hmc
  · intro ht
    rcases e8 with rfl | ⟨i, hi⟩
    · rcases h.tu ht with h1 | ⟨e, he, i, hi⟩
      · exact Or.inl h1
      · exact Or.inr ⟨e, mem_emitJobs.1 (hJ.mem_iff.2 (List.mem_cons_of_mem _
          (mem_emitJobs.2 he))), i, hi⟩
    · exact Or.inr ⟨ej, Or.inr (Or.inl List.mem_cons_self), i, hi⟩

theorem TokI_retrDone {c : Cfg} {s2 : State} {j : Job} {newc : Nat} (h : TokI s2)
    (hni : ¬ ItemBase s2 j.base) (hmb : j.master = true → ∃ i, (j.base, i) ∈ s2.orderQ) :
    TokI (retrDone c s2 j newc) := by
  cases hmas : j.master with
  | true =>
    rw [retrDone_master c s2 newc hmas]
    exact TokI_newEmit (doneEJob c j) true newc s2.orphans h hni (Or.inr (hmb hmas))
  | false =>
    obtain ⟨f, hub, hc⟩ := Job.master_eq_false.1 hmas
    rw [retrDone_spec c s2 newc hub hc]
    exact TokI_newEmit (doneEJob c j) s2.ptok s2.porig _ h hni (Or.inl rfl)

theorem TokI_init {c : Cfg} (hn : 1 ≤ c.n) : TokI (init c) := by
  refine ⟨?_, ?_, ?_, ?_⟩
  · simp [emitBases, init]
  · rintro e (he | he | he) <;> simp [init] at he
  · rintro j (hj | ⟨k, hk⟩)
    · simp [init] at hj
    · simp [init] at hk
  · intro _; exact Or.inl hn

theorem toki_step {c : Cfg} {s s' : State} {l : Label} (h : TokI s) (hS : SI c s) (hU : UI c s)
    (hs : step c s l = some s') (hf' : s'.failed = false) : TokI s' := by
  obtain ⟨-, st⟩ := step_inv hs
  cases st with
  | rTake | rQuit | rBlockDrop | rBlock | rEmpty | rEof | wDone =>
    exact TokI_frame h TF_same
  | reorderErr | parseErr | parseEof => exact Bool.noConfusion hf'
  | reorderBogus ob =>
    exact TokI_frame h (TF_mk (.refl _) (fun _ hj => hj) (ro := fun _ ho => List.mem_of_mem_erase ho))
  | reorderMore ob r _ _ _ hord =>
    refine TokI_frame h (TF_mk (.refl _) (fun _ hj => hj)
      (ro := fun _ ho => List.mem_of_mem_erase ho) (oq := ?_))
    intro b i hi
    rw [hord] at hi
    rcases List.mem_cons.1 hi with e | hm
    · cases e; exact ⟨_, List.mem_cons_self⟩
    · exact ⟨i, List.mem_cons_of_mem _ hm⟩
  | reorderOk ob r _ hmem _ hord hst =>
    exact TokI_reorder_ok h hS hU hmem hst hord _ _ _
  | parseStart =>
    -- `do_parse` takes the token
    exact TokI_frame h (TF_same (tu := fun ht => Bool.noConfusion ht))
  | parseMore k => exact TokI_frame h ((TF_leave_parser s k).trans (TF_parseMore c _ k))
  | parseFinish k u => exact TokI_frame h ((TF_leave_parser s k).trans (TF_parseFinish _ u))
  | parseOk k b =>
    exact TokI_frame h ((TF_leave_parser s k).trans
      ((TF_parsePush c _ b).trans (TF_parseMatch c _ b (mem_parsePush_orderQ.2 (Or.inr ⟨rfl, rfl⟩)))))
  | retrStart j _ hmem =>
    refine TokI_frame h ⟨List.Perm.of_eq (emitJobs_cons rfl rfl rfl), fun _ ho => ho,
      fun _ i hi => ⟨i, hi⟩, ?_, tu_same rfl (Nat.le_refl _)⟩
    rintro j' (hq | ⟨k', hk'⟩) hm
    · exact Or.inl ⟨j', Or.inl (List.mem_of_mem_erase hq), hm, rfl⟩
    · rcases List.mem_cons.1 hk' with e | hk'
      · injection e with e1 e2
        subst e1
        exact Or.inl ⟨j, Or.inl hmem, hm, rfl⟩
      · exact Or.inl ⟨j', Or.inr ⟨k', hk'⟩, hm, rfl⟩
  | retrQuit j k =>
    exact TokI_frame h ((TF_leave s rfl k).trans (TF_retrExit _ j))
  | retrOvertaken j k => exact TokI_frame h ((TF_retrMoved c s j k).trans (TF_retrExit _ _))
  | retrMore j k hmem =>
    refine TokI_frame h ((TF_retrMoved c s j k).trans (TF_addJob _ _ ?_))
    intro hmc
    rw [mc_retrMoreJob] at hmc
    obtain ⟨i, hi⟩ := h.mb j (Or.inr ⟨k, hmem⟩) hmc
    exact (TF_retrMoved c s j k).oq _ i hi
  | retrDone j k hmem _ hred =>
    have hjin : JIn s j := Or.inr ⟨k, hmem⟩
    refine TokI_retrDone (TokI_frame h (TF_retrMoved c s j k))
      (fun hi => hU.u2 j.base ((TF_retrMoved c s j k).item hi) (mem_jobBases.2 ⟨j, hjin, rfl⟩)) ?_
    intro hmas
    obtain ⟨i, hi⟩ := h.mb j hjin (master_mc hmas hred)
    exact (TF_retrMoved c s j k).oq _ i hi
  | retrPost e hmem =>
    exact TokI_frame h (TF_mk (emitJobs_perm_erase hmem rfl).symm (fun _ hj => JIn_of_busy_erase hj))
  | emitStart e _ hmem =>
    exact TokI_frame h (TF_mk (emitJobs_perm_start hmem)
      (fun _ hj => JIn_of_busy_cons hj (fun _ _ hh => Phase.noConfusion hh)))
  | emitMore e hmem =>
    exact TokI_emitEnd_core _ _ h hmem rfl rfl (Or.inr ⟨_, rfl, rfl, rfl, rfl⟩)
  | emitLast e hmem =>
    exact TokI_emitEnd_core _ _ h hmem rfl rfl (Or.inl ⟨rfl, rfl⟩)
  | scanStart sp hsel =>
    -- `SCAN_THRESH`: while the token is available a scan does not take the last unit
    obtain ⟨hwu, -, -⟩ := selectTask_scan hsel
    refine TokI_frame h (TF_mk (.of_eq (emitJobs_cons rfl rfl rfl))
      (fun _ hj => JIn_of_busy_cons hj (fun _ _ hh => Phase.noConfusion hh)) (tu := ?_))
    intro ht
    have ht' : s.ptok = true := ht
    right
    show 1 ≤ s.wu - 1
    rcases hwu with h1 | ⟨_, h2⟩
    · omega
    · rw [ht'] at h2; cases h2
  | scanNone st k =>
    exact TokI_frame h ((TF_leave s rfl (some k)).trans (TF_wu _ _ (Nat.le_succ _)))
  | scanFound st k x =>
    exact TokI_frame h ((TF_leave s rfl (some k)).trans
      ((TF_scanNew c _ x).trans (TF_scanRequeue c _ x _)))

end Tok

end LbzVerif.Lemmas.SchedD
