/-
  The upper bounds of the input window (`0 < W`: a freshly read block is not empty).  `Hi`: nothing —
  parser, retrieve job, scan job, recorded end position — lies beyond the delivered input
  `tail_offs`, every running parser / retriever / scanner is attached to a block that has been
  pushed to `input_q`, and `input_q` holds no block entirely before `parser_bs`.
-/
import LbzVerif.Lemmas.SchedD.Lo
import LbzVerif.Lemmas.SchedD.Input

namespace LbzVerif.Lemmas.SchedD
open LbzVerif.Model.SchedD LbzVerif.Gen

/-- a busy worker against the delivered input (`r` blocks pushed to `input_q`, `t = tail_offs`):
    `retrieve()` has not read past `t`; the block it or `scan()` is attached to has been pushed -/
def PhaseHi (r t : Nat) : Phase → Prop
  | .retr j k => j.curr ≤ t ∧ ∀ kk, k = some kk → kk < r
  | .scan _ k => k < r
  | _ => True

structure Hi (c : Cfg) (s : State) : Prop where
  pt : s.pdone = false → s.ppos ≤ tailOffs c s
  /-- `advance()` has released every block that lies entirely before `parser_bs` -/
  hn : s.pdone = false → ∀ k, s.head ≤ k → k < s.rd → s.ppos < offs c (k + 1)
  pkb : ∀ k, s.pphase = some (some k) → k < s.rd
  /-- the parser attached "at end of input" -/
  pn : s.pphase = some none → s.eof = true
  jq : ∀ j ∈ s.retrQ, j.curr ≤ tailOffs c s
  bz : ∀ ph ∈ s.busy, PhaseHi s.rd (tailOffs c s) ph
  sq : ∀ sp ∈ s.scanQ, sp < tailOffs c s
  ot : ∀ u ∈ s.orphans, u.f.endp ≤ tailOffs c s

theorem PhaseHi.mono {r r' t t' : Nat} (hr : r ≤ r') (ht : t ≤ t') {ph : Phase}
    (h : PhaseHi r t ph) : PhaseHi r' t' ph := by
  cases ph with
  | retr j k => exact ⟨Nat.le_trans h.1 ht, fun kk e => Nat.lt_of_lt_of_le (h.2 kk e) hr⟩
  | scan st k => exact Nat.lt_of_lt_of_le h hr
  | _ => trivial

theorem PhaseHi.flag {r t : Nat} (p : Nat → Bool) {ph : Phase} (h : PhaseHi r t ph) :
    PhaseHi r t (flagPhase p ph) := by
  cases ph <;> exact h

theorem PhaseHi.good {r t : Nat} {ph : Phase} (h : PhaseHi r t ph) : PhaseHi r t ph.good := by
  cases ph <;> exact h

theorem tailOffs_leave (c : Cfg) (s : State) (ph : Phase) (k : Option Nat) :
    tailOffs c (detach { s with busy := s.busy.erase ph } k) = tailOffs c s := by
  rw [detach_eq]; rfl

theorem tailOffs_leave_parser (c : Cfg) (s : State) (k : Option Nat) :
    tailOffs c (detach { s with pphase := none } k) = tailOffs c s := by
  rw [detach_eq]; rfl

theorem Hi_init (c : Cfg) : Hi c (init c) := by
  refine ⟨?_, ?_, ?_, ?_, ?_, ?_, ?_, ?_⟩ <;> simp [init]

theorem Hi_of {c : Cfg} {s s' : State} (h : Hi c s)
    (hq : ∀ j ∈ s'.retrQ, j.curr ≤ tailOffs c s)
    (hb : ∀ ph ∈ s'.busy, PhaseHi s.rd (tailOffs c s) ph)
    (hs : ∀ sp ∈ s'.scanQ, sp ∈ s.scanQ) (ho : ∀ u ∈ s'.orphans, u.f.endp ≤ tailOffs c s)
    (e : (s'.rd, s'.head, s'.pdone, s'.ppos, s'.pphase) =
         (s.rd, s.head, s.pdone, s.ppos, s.pphase) := by rfl)
    (e6 : s.eof = true → s'.eof = true := by exact fun he => he) : Hi c s' := by
  simp only [Prod.mk.injEq] at e
  obtain ⟨e1, e3, e4, e5, e7⟩ := e
  obtain ⟨a2, a3, a4, a5, _, _, a8, _⟩ := h
  have ht : tailOffs c s' = tailOffs c s := by unfold tailOffs; rw [e1]
  refine ⟨by rw [ht, e4, e5]; exact a2, by rw [e1, e3, e4, e5]; exact a3,
    by rw [e1, e7]; exact a4, ?_, by rw [ht]; exact hq, by rw [ht, e1]; exact hb,
    by rw [ht]; exact fun sp hsp => a8 sp (hs sp hsp), by rw [ht]; exact ho⟩
  exact fun hp => e6 (a5 (by rw [← e7]; exact hp))

theorem Hi_congr {c : Cfg} {s s' : State} (h : Hi c s)
    (e : (s'.rd, s'.head, s'.pdone, s'.ppos, s'.pphase, s'.eof, s'.retrQ, s'.busy, s'.scanQ,
          s'.orphans) =
         (s.rd, s.head, s.pdone, s.ppos, s.pphase, s.eof, s.retrQ, s.busy, s.scanQ,
          s.orphans) := by rfl) : Hi c s' := by
  simp only [Prod.mk.injEq] at e
  obtain ⟨e1, e3, e4, e5, e6, e7, e8, e9, e10, e11⟩ := e
  exact Hi_of h (e8 ▸ h.jq) (e9 ▸ h.bz) (e10 ▸ fun _ hm => hm) (e11 ▸ h.ot)
    (by rw [e1, e3, e4, e5, e6]) (fun he => e7 ▸ he)

theorem Hi_detach {c : Cfg} {s : State} (k : Option Nat) (h : Hi c s) : Hi c (detach s k) := by
  rw [detach_eq]
  exact Hi_congr h

theorem Hi_busy_erase {c : Cfg} {s : State} (ph : Phase) (h : Hi c s) :
    Hi c { s with busy := s.busy.erase ph } :=
  Hi_of h h.jq (fun x hx => h.bz x (List.mem_of_mem_erase hx)) (fun _ hm => hm) h.ot

theorem Hi_busy_cons {c : Cfg} {s : State} {ph : Phase} (h : Hi c s)
    (hp : PhaseHi s.rd (tailOffs c s) ph) : Hi c { s with busy := ph :: s.busy } :=
  Hi_of h h.jq (List.forall_mem_cons.2 ⟨hp, h.bz⟩) (fun _ hm => hm) h.ot

theorem Hi_leave {c : Cfg} {s : State} (ph : Phase) (k : Option Nat) (h : Hi c s) :
    Hi c (detach { s with busy := s.busy.erase ph } k) :=
  Hi_detach k (Hi_busy_erase ph h)

theorem Hi_leave_parser {c : Cfg} {s : State} (k : Option Nat) (h : Hi c s) :
    Hi c (detach { s with pphase := none } k) :=
  Hi_detach k { h with pkb := fun _ hk => (nomatch hk), pn := fun hk => (nomatch hk) }

theorem Hi_retrQ_cons {c : Cfg} {s : State} {j : Job} (h : Hi c s) (hj : j.curr ≤ tailOffs c s) :
    Hi c { s with retrQ := j :: s.retrQ } :=
  { h with jq := List.forall_mem_cons.2 ⟨hj, h.jq⟩ }

/-- `advance(p)` with `p` in the delivered input (`advance_head_near` is the one new fact) -/
theorem Hi_advance {c : Cfg} (hW : 0 < c.W) {s : State} (p : Nat) (h : Hi c s)
    (hp : p ≤ tailOffs c s) : Hi c (advance c s p) :=
  { h with
    pt := fun _ => hp
    hn := fun _ k h1 h2 => advance_head_near hW s p k h1 h2
    jq := fun j hj => h.jq j (List.mem_filter.1 hj).1
    sq := fun sp hsp => h.sq sp (List.mem_filter.1 hsp).1 }

theorem Hi_flag {c : Cfg} {s : State} (p : Nat → Bool) (h : Hi c s) :
    Hi c { s with retrQ := s.retrQ.map (flagJob p), busy := s.busy.map (flagPhase p),
                  orphans := popOrphans p s.orphans } := by
  refine Hi_of h (fun j hj => ?_) (fun ph hph => ?_) (fun _ hm => hm) (fun u hu => ?_)
  · obtain ⟨x, hx, rfl⟩ := List.mem_map.1 hj
    exact h.jq x hx
  · obtain ⟨x, hx, rfl⟩ := List.mem_map.1 hph
    exact (h.bz x hx).flag p
  · rcases mem_popOrphans.1 hu with ⟨hu, -⟩ | ⟨v, hv, -, -, -, rfl⟩
    · exact h.ot u hu
    · exact h.ot v hv

theorem Hi_scanNew {c : Cfg} {s1 : State} (x : Nat) (h1 : Hi c s1) (hx : x ≤ tailOffs c s1) :
    Hi c (scanNew c s1 x) ∧ (scanNew c s1 x).rd = s1.rd :=
  scanNew_ind (P := fun t => Hi c t ∧ t.rd = s1.rd) c s1 x ⟨Hi_congr h1, rfl⟩
    fun _ _ => ⟨Hi_retrQ_cons h1 hx, rfl⟩

/-- the scan job goes back to `scan_q` only strictly inside its (pushed) block -/
theorem Hi_scanRequeue {c : Cfg} {s : State} {x k : Nat} (h : Hi c s) (hk : k < s.rd)
    (hx : x ≤ offs c (k + 1)) : Hi c (scanRequeue c s x (offs c (k + 1))) := by
  rw [scanRequeue_eq]
  split
  · next hq =>
    refine { h with sq := List.forall_mem_cons.2 ⟨?_, h.sq⟩ }
    have := offs_mono c (show k + 1 ≤ s.rd from hk)
    have := hq.1
    show x < offs c s.rd
    omega
  · exact Hi_congr h

theorem Hi.newc_le_tail {c : Cfg} {s : State} {j : Job} {k : Option Nat} (h : Hi c s)
    (hm : Phase.retr j k ∈ s.busy) : retrNewc c j k ≤ tailOffs c s := by
  obtain ⟨hc, hk⟩ := h.bz _ hm
  cases k with
  | none => exact hc
  | some kk =>
    have hmono := offs_mono c (show kk + 1 ≤ s.rd from hk kk rfl)
    show max j.curr (min (rres c j.base).e (offs c (kk + 1))) ≤ tailOffs c s
    unfold tailOffs at hc ⊢
    omega

theorem Hi_retrEnd_move {c : Cfg} (hW : 0 < c.W) {s : State} {j : Job} {k : Option Nat}
    (h : Hi c s) (hmem : Phase.retr j k ∈ s.busy) :
    Hi c (retrMove c (detach { s with busy := s.busy.erase (.retr j k) } k) j (retrNewc c j k)) ∧
    retrNewc c j k ≤ tailOffs c
      (retrMove c (detach { s with busy := s.busy.erase (.retr j k) } k) j (retrNewc c j k)) := by
  have h1 := Hi_leave (.retr j k) k h
  have hnt : retrNewc c j k ≤ tailOffs c (detach { s with busy := s.busy.erase (.retr j k) } k) := by
    rw [tailOffs_leave]; exact h.newc_le_tail hmem
  cases hmas : j.master with
  | false => rw [retrMove_spec _ _ _ hmas]; exact ⟨h1, hnt⟩
  | true =>
    rw [retrMove_master _ _ _ hmas]
    exact ⟨Hi_congr (Hi_advance hW _ h1 hnt), hnt⟩

theorem Hi_retrDone {c : Cfg} {s2 : State} (j : Job) {newc : Nat} (h2 : Hi c s2)
    (hn : newc ≤ tailOffs c s2) : Hi c (retrDone c s2 j newc) := by
  have h3 := Hi_busy_cons (ph := .retr2 (doneEJob c j)) h2 trivial
  cases hm : j.master with
  | true =>
    rw [retrDone_master c s2 newc hm]
    exact Hi_congr h3
  | false =>
    obtain ⟨f, hub, hc⟩ := Job.master_eq_false.1 hm
    rw [retrDone_spec c s2 newc hub hc]
    exact Hi_of h3 h3.jq h3.bz (fun _ hm => hm) (List.forall_mem_cons.2 ⟨hn, h2.ot⟩)

theorem Hi_parsePush {c : Cfg} (hW : 0 < c.W) {s1 : State} {b : Nat} (h1 : Hi c s1)
    (hb : b ≤ tailOffs c s1) : Hi c (parsePush c s1 b) := by
  rw [parsePush_eq]
  exact Hi_congr (Hi_flag (fun x => decide (x < b)) (Hi_advance hW b h1 hb))

theorem Hi_parseMatch {c : Cfg} (hW : 0 < c.W) {s3 : State} {b : Nat} (h3 : Hi c s3)
    (hL : Lo c s3) (hb : b ≤ tailOffs c s3) :
    Hi c (parseMatch c s3 b) := by
  rcases parseMatch_cases c s3 b with ⟨j, a, hj, hjm, hjq, rfl, e⟩ |
    ⟨j, k, a, -, hph, hpm, hpq, rfl, e⟩ | ⟨u, a, -, -, hum, -, -, -, rfl, e⟩ |
    ⟨u, a, -, -, hu, -, -, -, rfl, e⟩ | ⟨-, -, -, e⟩
  · have hend := inqAt_endp hjq (hL.jq j hjm).ec
    have hjt := h3.jq j hjm
    have hS : Hi c { s3 with retrQ := replaceFirst (Job.inqAt b) Job.good s3.retrQ } :=
      { h3 with jq := forall_mem_replaceFirst h3.jq fun x hx _ => h3.jq x hx }
    rw [e]
    exact Hi_congr (Hi_advance hW j.endp hS (by show j.endp ≤ tailOffs c s3; omega))
  · have hend := inqAt_endp hpq (hL.jb j k hpm).ec
    have hjt := (h3.bz _ hpm).1
    have hS : Hi c { s3 with busy := replaceFirst (Phase.inqAt b) Phase.good s3.busy } :=
      Hi_of h3 h3.jq (forall_mem_replaceFirst h3.bz fun x hx _ => (h3.bz x hx).good)
        (fun _ hm => hm) h3.ot
    rw [e]
    exact Hi_congr (Hi_advance hW j.endp hS (by show j.endp ≤ tailOffs c s3; omega))
  · have hAd := Hi_advance hW u.f.endp h3 (h3.ot u hum)
    rw [e]
    exact Hi_of hAd hAd.jq hAd.bz (fun _ hm => hm) (fun y hy => hAd.ot y (List.mem_of_mem_erase hy))
  · have hAd := Hi_advance hW u.f.endp h3 (h3.ot u hu)
    rw [e]
    exact Hi_of hAd hAd.jq hAd.bz (fun _ hm => hm)
      (forall_mem_replaceFirst hAd.ot fun x hx _ => hAd.ot x hx)
  · rw [e]
    exact Hi_retrQ_cons h3 hb

theorem Hi_parseFinish {c : Cfg} {s1 : State} (u : Nat) (h1 : Hi c s1) :
    Hi c (parseFinish s1 u) := by
  have h2 := Hi_flag (c := c) (fun _ => true) h1
  rw [parseFinish_eq]
  exact { h2 with pt := nofun, hn := nofun, jq := nofun, sq := nofun }

/-- a header that `parse()` reports without asking for more input lies in the delivered input -/
theorem Hi.hdr_le_tail {c : Cfg} {s : State} {k : Option Nat} {b : Nat} (h : Hi c s) (hR : RI c s)
    (hpd : s.pdone = false) (hk : s.pphase = some k)
    (hmore : parseMoreP c k b = false) (hb : pres c s.gnext = .hdr b) : b ≤ tailOffs c s := by
  cases k with
  | some kk =>
    have hk1 : kk < s.rd := h.pkb kk hk
    have hmono := offs_mono c (show kk + 1 ≤ s.rd from hk1)
    have hnm : ¬ offs c (kk + 1) < b := by simpa [parseMoreP] using hmore
    unfold tailOffs
    omega
  | none =>
    -- attached at end of input: everything has been read, and the header lies in the input
    rw [hR.tail_eq (h.pn hk) hpd]
    exact (pres_hdr hb).2

theorem hi_step {c : Cfg} (hW : 0 < c.W) {s s' : State} {l : Label} (h : Hi c s) (hR : RI c s)
    (hS : SI c s) (hL : Lo c s) (hs : step c s l = some s') : Hi c s' := by
  obtain ⟨hf, st⟩ := step_inv hs
  cases st with
  | rTake | rQuit | rBlockDrop | rEmpty | wDone | reorderBogus | reorderErr | reorderMore | reorderOk =>
    exact Hi_congr h
  | rEof => exact Hi_of h h.jq h.bz (fun _ hm => hm) h.ot (e6 := fun _ => rfl)
  | rBlock hrph hlt hpd =>
    -- a new block is delivered: `tail_offs` grows, the new block is not empty
    have hlt : offs c s.rd < offs c (s.rd + 1) := hR.rn hpd ▸ offs_lt_succ hW hlt
    have hle : tailOffs c s ≤ offs c (s.rd + 1) := Nat.le_of_lt hlt
    refine ⟨fun hd => Nat.le_trans (h.pt hd) hle, fun hd k h1 h2 => ?_,
      fun k hk => Nat.lt_succ_of_lt (h.pkb k hk), fun hp => ?_,
      fun j hj => Nat.le_trans (h.jq j hj) hle,
      fun ph hph => (h.bz ph hph).mono (Nat.le_succ _) hle,
      List.forall_mem_cons.2 ⟨hlt, fun sp hm => Nat.lt_trans (h.sq sp hm) hlt⟩,
      fun u hu => Nat.le_trans (h.ot u hu) hle⟩
    · rcases Nat.lt_succ_iff_lt_or_eq.1 h2 with hk | rfl
      · exact h.hn hd k h1 hk
      · exact Nat.lt_of_le_of_lt (h.pt hd) hlt
    · have := hR.dn.2 (h.pn hp)
      rw [hrph] at this; cases this
  | parseStart hsel =>
    have hca := (selectTask_parse hsel).2.2.2
    refine { h with pkb := fun k hk => ?_, pn := fun hk => ?_ }
    · obtain ⟨hlt, rfl⟩ := parseStart_attach_some hk
      exact div_lt_of_lt_offs (c := c) hlt
    · have hlt := parseStart_attach_none hk
      unfold canAttach at hca
      simp only [Bool.or_eq_true, decide_eq_true_eq, Bool.and_eq_true] at hca
      rcases hca with hca | hca
      · exact absurd hca hlt
      · exact hca.1
  | parseMore k hpp hmore =>
    obtain ⟨kk, rfl, -⟩ := parseMoreP_eq_true hmore
    have hmono := offs_mono c (show kk + 1 ≤ s.rd from h.pkb kk hpp)
    rw [parseMore_eq]
    exact Hi_congr (Hi_advance hW (offs c (kk + 1)) (Hi_leave_parser (some kk) h)
      (by rw [tailOffs_leave_parser]; exact hmono))
  | parseErr k => exact Hi_congr (Hi_leave_parser k h)
  | parseEof k => exact { Hi_leave_parser k h with pt := nofun, hn := nofun }
  | parseFinish k u => exact Hi_parseFinish u (Hi_leave_parser k h)
  | parseOk k b hpp hmore hres =>
    obtain ⟨hP, hpo, hg⟩ := PPre_parsing hS hf hpp
    rw [hres] at hmore
    rw [← hg] at hres
    have hb : b ≤ tailOffs c (detach { s with pphase := none } k) := by
      rw [tailOffs_leave_parser]
      refine h.hdr_le_tail hR (hS.pd (by simp [hpp])) hpp hmore ?_
      rw [detach_eq] at hres
      exact hres
    exact Hi_parseMatch hW (Hi_parsePush hW (Hi_leave_parser k h) hb)
      (Lo_parsePush (Lo_leave_parser k hL) hP hres).1 hb
  | retrStart j _ hj =>
    refine Hi_of h (fun y hy => h.jq y (List.mem_of_mem_erase hy)) (fun ph hph => ?_)
      (fun _ hm => hm) h.ot
    rcases List.mem_cons.1 hph with rfl | hm
    · refine ⟨h.jq j hj, fun kk e => ?_⟩
      obtain ⟨hlt, ⟨-, hh, rfl⟩ | ⟨-, rfl⟩⟩ := retrStart_attach_some e
      · exact hh
      · exact div_lt_of_lt_offs (c := c) hlt
    · exact h.bz ph hm
  | retrQuit j k => exact Hi_congr (Hi_leave (.retr j k) k h)
  | retrOvertaken j k hmem => exact Hi_congr (Hi_retrEnd_move hW h hmem).1
  | retrMore j k hmem =>
    obtain ⟨h2, hn⟩ := Hi_retrEnd_move hW h hmem
    rw [retrMore_eq]
    exact Hi_retrQ_cons h2 hn
  | retrDone j k hmem =>
    obtain ⟨h2, hn⟩ := Hi_retrEnd_move hW h hmem
    exact Hi_retrDone j h2 hn
  | retrPost e => exact Hi_congr (Hi_busy_erase (.retr2 e) h)
  | emitStart e => exact Hi_congr (Hi_busy_cons (ph := .emit e) h trivial)
  | emitMore e | emitLast e => exact Hi_congr (Hi_busy_erase (.emit e) h)
  | scanStart sp _ hsp =>
    have hk : sp / c.W < s.rd := div_lt_of_lt_offs (h.sq sp hsp)
    exact Hi_of h h.jq (List.forall_mem_cons.2 ⟨hk, h.bz⟩) (fun x hx => List.mem_of_mem_erase hx) h.ot
  | scanNone st k => exact Hi_congr (Hi_leave (.scan st k) (some k) h)
  | scanFound st k x hmem hfind =>
    have hk : k < s.rd := h.bz _ hmem
    have hxr := (scanFind_range hfind).2
    have hmono := offs_mono c (show k + 1 ≤ s.rd from hk)
    obtain ⟨hN, hrd⟩ := Hi_scanNew x (Hi_leave (.scan st k) (some k) h)
      (by rw [tailOffs_leave]; unfold tailOffs; omega)
    refine Hi_scanRequeue hN ?_ hxr
    rw [hrd, detach_eq]
    exact hk

end LbzVerif.Lemmas.SchedD
