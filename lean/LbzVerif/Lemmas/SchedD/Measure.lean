/-
  Termination of the expansion scheduler: the measure `mu c s`, a 10-tuple of naturals ordered
  lexicographically, goes down with every transition of a reachable state.
-/
import LbzVerif.Lemmas.Lts
import LbzVerif.Lemmas.ListSum
import LbzVerif.Lemmas.SchedD.Inv
import LbzVerif.Lemmas.SchedD.Witness

namespace LbzVerif.Lemmas.SchedD
open LbzVerif.Model.SchedD LbzVerif.Gen

def msum {α} (f : α → Nat) (l : List α) : Nat := (l.map f).sum

theorem msum_nil {α} (f : α → Nat) : msum f [] = 0 := rfl

theorem msum_cons {α} (f : α → Nat) (a : α) (l : List α) : msum f (a :: l) = f a + msum f l := by
  simp [msum]

theorem msum_erase {α} [BEq α] [LawfulBEq α] (f : α → Nat) {a : α} {l : List α} (h : a ∈ l) :
    msum f (l.erase a) + f a = msum f l := by
  have := ((List.perm_cons_erase h).map f).sum_nat
  simp only [List.map_cons, List.sum_cons] at this
  unfold msum
  omega

theorem msum_filter_le {α} (f : α → Nat) (p : α → Bool) (l : List α) :
    msum f (l.filter p) ≤ msum f l := by
  induction l with
  | nil => exact Nat.le_refl _
  | cons x xs ih =>
    rw [List.filter_cons]
    split
    · rw [msum_cons, msum_cons]; omega
    · rw [msum_cons]; omega

theorem msum_map {α} (f : α → Nat) (g : α → α) (h : ∀ x, f (g x) = f x) (l : List α) :
    msum f (l.map g) = msum f l := by
  simp only [msum, List.map_map, Function.comp_def, h]

theorem msum_replaceFirst {α} (f : α → Nat) (p : α → Bool) (g : α → α) (h : ∀ x, f (g x) = f x)
    (l : List α) : msum f (replaceFirst p g l) = msum f l :=
  congrArg List.sum (map_replaceFirst_key h p l)

theorem msum_set {α} {f : α → Nat} {l : List α} {i : Nat} {q : α} (p : α) (h : l[i]? = some q) :
    msum f (l.set i p) + f q = msum f l + f p :=
  ListSum.sum_map_set f p h

theorem msum_indicator {α} {f : α → Nat} {p : α → Bool} (h : ∀ a, f a = if p a then 1 else 0)
    (l : List α) : msum f l = (l.filter p).length := by
  rw [msum, funext h, ListSum.sum_ite_filter, Nat.mul_one]

theorem filter_len_mono (p q : Nat → Bool) (h : ∀ x, p x = true → q x = true) (l : List Nat) :
    (l.filter p).length ≤ (l.filter q).length := by
  rw [← List.countP_eq_length_filter, ← List.countP_eq_length_filter]
  exact List.countP_mono_left fun x _ => h x

theorem filter_len_lt (p q : Nat → Bool) (h : ∀ x, p x = true → q x = true) {l : List Nat}
    {a : Nat} (ha : a ∈ l) (hq : q a = true) (hp : p a = false) :
    (l.filter p).length < (l.filter q).length := by
  obtain ⟨l1, l2, rfl⟩ := List.append_of_mem ha
  have h1 := filter_len_mono p q h l1
  have h2 := filter_len_mono p q h l2
  simp only [List.filter_append, List.filter_cons, hp, hq, List.length_append, List.length_cons,
    if_true, Bool.false_eq_true, if_false]
  omega

def candP (lo hi : Nat) (x : Nat) : Bool := decide (lo < x) && decide (x ≤ hi)

def candCnt (c : Cfg) (lo hi : Nat) : Nat := (c.cand.filter (candP lo hi)).length

theorem candCnt_mono (c : Cfg) {lo lo' : Nat} (hi : Nat) (h : lo ≤ lo') :
    candCnt c lo' hi ≤ candCnt c lo hi := by
  unfold candCnt
  apply filter_len_mono
  intro x hx
  simp only [candP, Bool.and_eq_true, decide_eq_true_eq] at hx ⊢
  omega

theorem scanFind_eq (c : Cfg) (start hi : Nat) :
    scanFind c start hi = minNat? (c.cand.filter (candP start hi)) := rfl

theorem candCnt_found {c : Cfg} {start hi x : Nat} (h : scanFind c start hi = some x) :
    candCnt c x hi < candCnt c start hi := by
  rw [scanFind_eq] at h
  have hm := List.mem_filter.1 (minNat?_eq_some h).1
  have hr := hm.2
  unfold candCnt
  refine filter_len_lt _ _ ?_ hm.1 hr ?_
  · intro y hy
    simp only [candP, Bool.and_eq_true, decide_eq_true_eq] at hy hr ⊢
    omega
  · simp [candP]

def rphW : RPhase → Nat
  | .idle => 3
  | .hold => 2
  | .ateof => 1
  | .done => 0

/-- a queued scan task at `sp` (it will attach to block `sp / W`) -/
def scanQW (c : Cfg) (sp : Nat) : Nat := 1 + candCnt c sp (offs c (sp / c.W + 1))

def scanBW (c : Cfg) : Phase → Nat
  | .scan st k => 1 + candCnt c st (offs c (k + 1))
  | _ => 0

def jobW (c : Cfg) (j : Job) : Nat := c.T + 1 - j.curr

def retrBW (c : Cfg) : Phase → Nat
  | .retr j _ => jobW c j
  | _ => 0

def emitBW : Phase → Nat
  | .retr2 e => e.left
  | .emit e => e.left
  | _ => 0

def moveBW : Phase → Nat
  | .retr2 _ => 3
  | _ => 1

def m0 (s : State) : Nat := if s.failed then 0 else 1
def m1 (c : Cfg) (s : State) : Nat := 4 * (c.T - s.nread) + rphW s.rph
def m2 (s : State) : Nat := if s.pdone then 0 else 1
def m3 (c : Cfg) (s : State) : Nat := c.T + 1 - s.gnext
def m4 (c : Cfg) (s : State) : Nat := if s.pdone then 0 else c.T + 1 - s.ppos
def m5 (c : Cfg) (s : State) : Nat := msum (scanQW c) s.scanQ + msum (scanBW c) s.busy
def m6 (c : Cfg) (s : State) : Nat := msum (jobW c) s.retrQ + msum (retrBW c) s.busy
def m7 (s : State) : Nat := msum EJob.left s.emitQ + msum emitBW s.busy
def m8 (s : State) : Nat := 2 * s.reordQ.length + s.outq
def m9 (s : State) : Nat :=
  2 * s.scanQ.length + 2 * s.retrQ.length + 2 * s.emitQ.length + msum moveBW s.busy +
    (if s.ptok then 2 else 0) + (if s.pphase.isSome then 1 else 0)

abbrev MTuple := Nat × Nat × Nat × Nat × Nat × Nat × Nat × Nat × Nat × Nat

/-- The measure, most significant component first:
    0. `failf` not yet called
    1. the reader: blocks still to be read and its phase
    2. parsing not yet done
    3. the parser chain: distance of `gnext` (origin of the next header parse) from the end
       of the input
    4. the parser position: distance of `parser_bs` from the end of the input
    5. scan tasks (queued / running), each weighted `1 + number of candidates still ahead of
       it inside its input block`
    6. retrieve jobs (queued / running), each weighted by the distance of its position from
       the end of the input
    7. emit jobs (queued / in `decode()` / in `emit()`): buffers still to emit
    8. `2 * |reord_q| + buffers at the writer`
    9. hand-overs between queues and workers that are still due -/
def mu (c : Cfg) (s : State) : MTuple :=
  (m0 s, m1 c s, m2 s, m3 c s, m4 c s, m5 c s, m6 c s, m7 s, m8 s, m9 s)

def lexN {β : Type} (r : β → β → Prop) : Nat × β → Nat × β → Prop := Prod.Lex (· < ·) r

theorem lexN_wf {β : Type} {r : β → β → Prop} (h : WellFounded r) : WellFounded (lexN r) :=
  (Prod.lex Nat.lt_wfRel ⟨r, h⟩).wf

theorem lexN_lt {β : Type} {r : β → β → Prop} {a b : Nat} {x y : β} (h : a < b) :
    lexN r (a, x) (b, y) := Prod.Lex.left _ _ h

theorem lexN_le {β : Type} {r : β → β → Prop} {a b : Nat} {x y : β} (h : a ≤ b) (h2 : r x y) :
    lexN r (a, x) (b, y) := by
  rcases Nat.lt_or_eq_of_le h with h' | h'
  · exact Prod.Lex.left _ _ h'
  · subst h'; exact Prod.Lex.right _ h2

def muLt : MTuple → MTuple → Prop :=
  lexN (lexN (lexN (lexN (lexN (lexN (lexN (lexN (lexN (· < ·)))))))))

theorem muLt_wf : WellFounded muLt :=
  lexN_wf (lexN_wf (lexN_wf (lexN_wf (lexN_wf (lexN_wf (lexN_wf (lexN_wf (lexN_wf
    Nat.lt_wfRel.wf))))))))

local macro "mfin" : tactic =>
  `(tactic| (all_goals simp only [m5, m6, m7, m8, m9, msum_cons, scanBW, retrBW, emitBW, moveBW,
               jobW, List.length_cons]
             all_goals omega))

theorem rphW_le (r : RPhase) : rphW r ≤ 3 := by cases r <;> simp [rphW]

theorem m0_lt {s s' : State} (hf : s.failed = false) (hf' : s'.failed = true) : m0 s' < m0 s := by
  simp [m0, hf, hf']

structure MU (c : Cfg) (s s' : State) : Prop where
  fl : s'.failed = s.failed
  nr : s'.nread = s.nread
  rp : s'.rph = s.rph
  pd : s'.pdone = s.pdone
  gn : s'.gnext = s.gnext
  bz : s'.busy = s.busy
  sq : msum (scanQW c) s'.scanQ ≤ msum (scanQW c) s.scanQ
  rq : msum (jobW c) s'.retrQ ≤ msum (jobW c) s.retrQ

theorem MU.refl (c : Cfg) (s : State) : MU c s s :=
  ⟨rfl, rfl, rfl, rfl, rfl, rfl, Nat.le_refl _, Nat.le_refl _⟩

theorem MU.trans {c : Cfg} {s s' s'' : State} (h1 : MU c s s') (h2 : MU c s' s'') : MU c s s'' :=
  ⟨h2.fl.trans h1.fl, h2.nr.trans h1.nr, h2.rp.trans h1.rp, h2.pd.trans h1.pd, h2.gn.trans h1.gn,
   h2.bz.trans h1.bz, Nat.le_trans h2.sq h1.sq, Nat.le_trans h2.rq h1.rq⟩

theorem MU_detach (c : Cfg) (s : State) (k : Option Nat) : MU c s (detach s k) := by
  rw [detach_eq]
  exact ⟨rfl, rfl, rfl, rfl, rfl, rfl, Nat.le_refl _, Nat.le_refl _⟩

theorem MU_advance (c : Cfg) (s : State) (p : Nat) : MU c s (advance c s p) :=
  ⟨rfl, rfl, rfl, rfl, rfl, rfl, msum_filter_le _ _ _, msum_filter_le _ _ _⟩

theorem MU_retrMove (c : Cfg) (s : State) (j : Job) (n : Nat) : MU c s (retrMove c s j n) := by
  cases hm : j.master with
  | true =>
    rw [retrMove_master c s n hm]
    exact ⟨rfl, rfl, rfl, rfl, rfl, rfl, msum_filter_le _ _ _, msum_filter_le _ _ _⟩
  | false => rw [retrMove_spec c s n hm]; exact MU.refl c s

theorem m4_le {c : Cfg} {s s' : State} (hpd : s'.pdone = s.pdone)
    (hpp : s'.pdone = false → s.ppos ≤ s'.ppos) : m4 c s' ≤ m4 c s := by
  unfold m4; rw [hpd]
  cases h : s.pdone with
  | true => exact Nat.le_refl _
  | false =>
    have := hpp (hpd.trans h)
    simp only [Bool.false_eq_true, if_false]; omega

/-- A worker leaves its phase `ph` (then `detach` / `advance`, giving `t`) and `s'` differs from
    `t` in the queues only: the measure goes down if the weight of `ph` is not given back in full.
    (The frame is asked for field by field: `rfl` proves it without unfolding the components.) -/
theorem mu_leave {c : Cfg} {s t s' : State} {ph : Phase} (hm : ph ∈ s.busy)
    (ht : MU c { s with busy := s.busy.erase ph } t)
    (hpp : s'.pdone = false → s.ppos ≤ s'.ppos)
    (hf : s'.failed = t.failed) (hn : s'.nread = t.nread) (hr : s'.rph = t.rph)
    (hd : s'.pdone = t.pdone) (hg : s'.gnext = t.gnext)
    (h : m5 c s' < m5 c t + scanBW c ph ∨
      (m5 c s' ≤ m5 c t + scanBW c ph ∧ m6 c s' < m6 c t + retrBW c ph)) :
    muLt (mu c s') (mu c s) := by
  obtain ⟨a1, a2, a3, a4, a5, a6, a7, a8⟩ := ht
  dsimp only at a1 a2 a3 a4 a5 a6 a7 a8
  have e1 := msum_erase (scanBW c) hm
  have e2 := msum_erase (retrBW c) hm
  have u0 : m0 s' = m0 s := by unfold m0; rw [hf, a1]
  have u1 : m1 c s' = m1 c s := by unfold m1; rw [hn, hr, a2, a3]
  have u2 : m2 s' = m2 s := by unfold m2; rw [hd, a4]
  have u3 : m3 c s' = m3 c s := by unfold m3; rw [hg, a5]
  have u5 : m5 c t + scanBW c ph ≤ m5 c s := by unfold m5; rw [a6]; omega
  have u6 : m6 c t + retrBW c ph ≤ m6 c s := by unfold m6; rw [a6]; omega
  refine lexN_le (Nat.le_of_eq u0) (lexN_le (Nat.le_of_eq u1) (lexN_le (Nat.le_of_eq u2)
    (lexN_le (Nat.le_of_eq u3) (lexN_le (m4_le (hd.trans a4) hpp) ?_))))
  rcases h with h | ⟨h5, h6⟩
  · exact lexN_lt (by omega)
  · exact lexN_le (by omega) (lexN_lt (by omega))

theorem mu_parser {c : Cfg} {s s' : State} (e0 : m0 s' = m0 s) (e1 : m1 c s' = m1 c s)
    (h : m2 s' < m2 s ∨ m2 s' = m2 s ∧
      (m3 c s' < m3 c s ∨ m3 c s' = m3 c s ∧ m4 c s' < m4 c s)) :
    muLt (mu c s') (mu c s) := by
  refine lexN_le (Nat.le_of_eq e0) (lexN_le (Nat.le_of_eq e1) ?_)
  rcases h with h2 | ⟨e2, h3 | ⟨e3, h4⟩⟩
  · exact lexN_lt h2
  · exact lexN_le (Nat.le_of_eq e2) (lexN_lt h3)
  · exact lexN_le (Nat.le_of_eq e2) (lexN_le (Nat.le_of_eq e3) (lexN_lt h4))

theorem mu_queues {c : Cfg} {s s' : State} (e0 : m0 s' = m0 s) (e1 : m1 c s' = m1 c s)
    (e2 : m2 s' = m2 s) (e3 : m3 c s' = m3 c s) (e4 : m4 c s' = m4 c s)
    (h : m5 c s' ≤ m5 c s ∧ m6 c s' ≤ m6 c s ∧
      (m7 s' < m7 s ∨ m7 s' = m7 s ∧ (m8 s' < m8 s ∨ m8 s' = m8 s ∧ m9 s' < m9 s))) :
    muLt (mu c s') (mu c s) := by
  obtain ⟨h5, h6, h⟩ := h
  refine lexN_le (Nat.le_of_eq e0) (lexN_le (Nat.le_of_eq e1) (lexN_le (Nat.le_of_eq e2)
    (lexN_le (Nat.le_of_eq e3) (lexN_le (Nat.le_of_eq e4) (lexN_le h5 (lexN_le h6 ?_))))))
  rcases h with h7 | ⟨e7, h8 | ⟨e8, h9⟩⟩
  · exact lexN_lt h7
  · exact lexN_le (Nat.le_of_eq e7) (lexN_lt h8)
  · exact lexN_le (Nat.le_of_eq e7) (lexN_le (Nat.le_of_eq e8) h9)

theorem scanFound_m (c : Cfg) (s : State) (x hi : Nat) (t : State)
    (ht : t = scanRequeue c (scanNew c s x) x hi) :
    t.failed = s.failed ∧ t.nread = s.nread ∧ t.rph = s.rph ∧ t.pdone = s.pdone ∧
    t.gnext = s.gnext ∧ m5 c t ≤ m5 c s + (if x = hi then 0 else scanQW c x) := by
  obtain ⟨w, rq, e⟩ : ∃ w rq, scanNew c s x = { s with wu := w, retrQ := rq } := by
    by_cases hk : x ≤ s.ppos ∨ x < headOffs c s
    · exact ⟨_, _, scanNew_known hk⟩
    · exact ⟨_, _, scanNew_new (by omega) (by omega)⟩
  rw [ht, scanRequeue_eq, e]
  refine ⟨rfl, rfl, rfl, rfl, rfl, ?_⟩
  simp only [m5]
  split
  · next hq => rw [msum_cons, if_neg hq.1]; omega
  · omega

theorem retrDone_m (c : Cfg) (t : State) (j : Job) (n : Nat) :
    (retrDone c t j n).failed = t.failed ∧ (retrDone c t j n).nread = t.nread ∧
    (retrDone c t j n).rph = t.rph ∧ (retrDone c t j n).pdone = t.pdone ∧
    (retrDone c t j n).gnext = t.gnext ∧
    m5 c (retrDone c t j n) = m5 c t ∧ m6 c (retrDone c t j n) = m6 c t := by
  unfold retrDone
  dsimp only
  split <;> refine ⟨rfl, rfl, rfl, rfl, rfl, ?_, ?_⟩ <;>
    simp only [m5, m6, msum_cons, scanBW, retrBW] <;> omega

theorem retrMore_m6 (c : Cfg) (t : State) (j : Job) (n : Nat) :
    m6 c (retrMore t j n) = (c.T + 1 - n) + m6 c t := by
  simp only [m6, retrMore, msum_cons, jobW, retrMoreJob]; omega

theorem retr_curr_le {c : Cfg} {s : State} (hN : Hi c s) {j : Job}
    {k : Option Nat} (hm : .retr j k ∈ s.busy) : j.curr ≤ c.T :=
  Nat.le_trans (hN.bz _ hm).1 (tailOffs_le c s)

/-- **the measure decreases**: every transition of a reachable state of the
    expansion scheduler (reader, writer, and every section of every task — the
    model has no spurious wake-up label) strictly decreases `mu` in the
    lexicographic order `muLt` (well-founded: `muLt_wf`).  Needs only non-empty
    input blocks (`0 < W`); no assumption on the number of workers or slots. -/
theorem step_measure {c : Cfg} (hW : 0 < c.W) {s s' : State} {l : Label} (h : Reach c s)
    (hs : step c s l = some s') : muLt (mu c s') (mu c s) := by
  have I := inv_reach h
  have hpp : s'.pdone = false → s.ppos ≤ s'.ppos := ppos_mono I hs
  obtain ⟨hf, st⟩ := step_inv hs
  have hS : SI c s := I.si hf
  have hN : Hi c s := I.hi hW
  cases st with
  | rTake hrph | rQuit hrph | rEmpty hrph | rEof hrph =>
    refine lexN_le (Nat.le_refl _) (lexN_lt ?_)
    simp only [m1, hrph, rphW]; omega
  | rBlockDrop hrph hlt | rBlock hrph hlt =>
    have hn : s.nread < c.T := by
      have : s.nread ≤ s.nread * c.W := Nat.le_mul_of_pos_right _ hW
      omega
    have h3 := rphW_le (if (s.nread + 1) * c.W ≤ c.T then RPhase.idle else RPhase.ateof)
    have h2 : rphW RPhase.hold = 2 := rfl
    refine lexN_le (Nat.le_refl _) (lexN_lt ?_)
    simp only [m1, hrph]; omega
  | wDone hq =>
    refine mu_queues rfl rfl rfl rfl rfl ⟨?_, ?_, Or.inr ⟨?_, Or.inl ?_⟩⟩
    mfin
  | reorderErr | parseErr | parseEof => exact lexN_lt (m0_lt hf rfl)
  | reorderBogus ob _ hmem | reorderMore ob r _ hmem | reorderOk ob r _ hmem =>
    have := length_erase_succ hmem
    refine mu_queues rfl rfl rfl rfl rfl ⟨?_, ?_, Or.inr ⟨?_, Or.inl ?_⟩⟩
    mfin
  | parseStart hsel hpp' =>
    have hpt := (selectTask_parse hsel).2.1
    refine mu_queues rfl rfl rfl rfl rfl
      ⟨Nat.le_refl _, Nat.le_refl _, Or.inr ⟨rfl, Or.inr ⟨rfl, ?_⟩⟩⟩
    simp [m9, hpt, hpp']
  | parseMore k hpk hmore =>
    have hpd : s.pdone = false := hS.pd (by simp [hpk])
    cases k with
    | none => simp [parseMoreP] at hmore
    | some kk =>
      have hlt := I.pi.pk kk hpk
      have hpT : s.ppos ≤ c.T := Nat.le_trans (hN.pt hpd) (tailOffs_le c s)
      rw [detach_eq]
      refine mu_parser rfl rfl (Or.inr ⟨rfl, Or.inr ⟨rfl, ?_⟩⟩)
      show (if s.pdone then 0 else c.T + 1 - offs c (kk + 1)) < m4 c s
      unfold m4
      rw [hpd]
      simp only [Bool.false_eq_true, if_false]
      omega
  | parseFinish k u hpk =>
    have hpd : s.pdone = false := hS.pd (by simp [hpk])
    rw [detach_eq]
    refine mu_parser rfl rfl (Or.inl ?_)
    simp [m2, parseFinish_eq, hpd]
  | parseOk k b hpk _ hres =>
    have hpo : s.porig = s.gnext := hS.porig (Or.inr (by simp [hpk]))
    have hgT := hS.gle
    have hb := pres_hdr hres
    have hge := rres_ge c b
    obtain ⟨hd, isl, sq, rq, orp, pt, pp, po, w, bz, t, e⟩ :=
      parseMatch_frame c (parsePush c (detach { s with pphase := none } k) b) b
    rw [parseOk_eq, e, detach_eq]
    refine mu_parser rfl rfl (Or.inr ⟨rfl, Or.inl ?_⟩)
    show c.T + 1 - (rres c b).e < c.T + 1 - s.gnext
    omega
  | retrStart j _ hmem =>
    have e1 := length_erase_succ hmem
    have e3 := msum_erase (jobW c) hmem
    simp only [jobW] at e3
    refine mu_queues rfl rfl rfl rfl rfl ⟨?_, ?_, Or.inr ⟨?_, Or.inr ⟨?_, ?_⟩⟩⟩
    mfin
  | retrQuit j k hmem =>
    have hcT := retr_curr_le hN hmem
    exact mu_leave hmem (MU_detach c _ k) hpp rfl rfl rfl rfl rfl
      (Or.inr ⟨Nat.le_refl _, Nat.lt_add_of_pos_right (show 0 < c.T + 1 - j.curr by omega)⟩)
  | retrOvertaken j k hmem =>
    have hcT := retr_curr_le hN hmem
    exact mu_leave hmem ((MU_detach c _ k).trans (MU_retrMove c _ j _)) hpp rfl rfl rfl rfl rfl
      (Or.inr ⟨Nat.le_refl _, Nat.lt_add_of_pos_right (show 0 < c.T + 1 - j.curr by omega)⟩)
  | retrMore j k hmem hpd _ hmore =>
    have hcT := retr_curr_le hN hmem
    -- the attached block lies ahead of the job, so the job has moved on
    have hlt : j.curr < retrNewc c j k := by
      have hK : retrK c s.pdone (.retr j k) := I.rk _ hmem
      cases k with
      | none =>
        rcases hK with hK | hK
        · rw [hpd] at hK; cases hK
        · simp only [retrNewc] at hmore; omega
      | some kk =>
        have : j.curr < offs c (kk + 1) := hK.2
        simp only [retrNewc] at hmore ⊢; omega
    refine mu_leave hmem ((MU_detach c _ k).trans (MU_retrMove c _ j _)) hpp rfl rfl rfl rfl rfl
      (Or.inr ⟨Nat.le_refl _, ?_⟩)
    rw [retrMore_m6]
    show _ < _ + (c.T + 1 - j.curr)
    omega
  | retrDone j k hmem =>
    have hcT := retr_curr_le hN hmem
    obtain ⟨d0, d1, d2, d3, dpd, d5, d6⟩ := retrDone_m c
      (retrMove c (detach { s with busy := s.busy.erase (.retr j k) } k) j (retrNewc c j k)) j
      (retrNewc c j k)
    refine mu_leave hmem ((MU_detach c _ k).trans (MU_retrMove c _ j _)) hpp d0 d1 d2 d3 dpd
      (Or.inr ⟨Nat.le_of_eq d5, ?_⟩)
    rw [d6]
    exact Nat.lt_add_of_pos_right (show 0 < c.T + 1 - j.curr by omega)
  | retrPost e hmem =>
    have e1 := msum_erase (scanBW c) hmem
    have e2 := msum_erase (retrBW c) hmem
    have e3 := msum_erase emitBW hmem
    have e4 := msum_erase moveBW hmem
    simp only [scanBW, retrBW, emitBW, moveBW] at e1 e2 e3 e4
    refine mu_queues rfl rfl rfl rfl rfl ⟨?_, ?_, Or.inr ⟨?_, Or.inr ⟨?_, ?_⟩⟩⟩
    mfin
  | emitStart e _ hmem =>
    have e1 := length_erase_succ hmem
    have e3 := msum_erase EJob.left hmem
    refine mu_queues rfl rfl rfl rfl rfl ⟨?_, ?_, Or.inr ⟨?_, Or.inr ⟨?_, ?_⟩⟩⟩
    mfin
  | emitMore e hmem | emitLast e hmem =>
    have hl : 1 ≤ e.left := (hS.busy _ hmem).1
    have e1 := msum_erase (scanBW c) hmem
    have e2 := msum_erase (retrBW c) hmem
    have e3 := msum_erase emitBW hmem
    simp only [scanBW, retrBW, emitBW] at e1 e2 e3
    refine mu_queues rfl rfl rfl rfl rfl ⟨?_, ?_, Or.inl ?_⟩
    mfin
  | scanStart sp _ hmem =>
    have e1 := length_erase_succ hmem
    have e3 := msum_erase (scanQW c) hmem
    have hge : sp ≤ (if sp / c.W = s.ppos / c.W ∧ sp < s.ppos then s.ppos else sp) := by
      split
      · omega
      · exact Nat.le_refl _
    generalize (if sp / c.W = s.ppos / c.W ∧ sp < s.ppos then s.ppos else sp) = start at *
    have e4 := candCnt_mono c (offs c (sp / c.W + 1)) hge
    simp only [scanQW] at e3
    refine mu_queues rfl rfl rfl rfl rfl ⟨?_, ?_, Or.inr ⟨?_, Or.inr ⟨?_, ?_⟩⟩⟩
    mfin
  | scanNone st k hmem =>
    exact mu_leave hmem (MU_detach c _ (some k)) hpp rfl rfl rfl rfl rfl
      (Or.inl (Nat.lt_add_of_pos_right (show 0 < 1 + candCnt c st (offs c (k + 1)) by omega)))
  | scanFound st k x hmem hfind =>
    have htb := (I.ui hW).tb st k hmem
    obtain ⟨h0, h1, h2, h3, hpd, h5⟩ := scanFound_m c _ x (offs c (k + 1)) _ rfl
    have hrg := scanFind_range hfind
    have hcnt := candCnt_found hfind
    refine mu_leave hmem (MU_detach c _ (some k)) hpp h0 h1 h2 h3 hpd (Or.inl ?_)
    show _ < _ + (1 + candCnt c st (offs c (k + 1)))
    by_cases hxe : x = offs c (k + 1)
    · rw [if_pos hxe] at h5; omega
    · rw [if_neg hxe] at h5
      have hk : x / c.W = k := div_eq_block htb hrg.1 (by omega)
      have : scanQW c x = 1 + candCnt c x (offs c (k + 1)) := by unfold scanQW; rw [hk]
      omega

theorem run_measure {c : Cfg} (hW : 0 < c.W) {s s' : State} (ls : List Label) (h : Reach c s)
    (hr : run c s ls = some s') (hne : ls ≠ []) : Relation.TransGen muLt (mu c s') (mu c s) := by
  induction ls generalizing s with
  | nil => exact absurd rfl hne
  | cons l ls ih =>
    simp only [run] at hr
    split at hr
    · next s1 h1 =>
      have hd := step_measure hW h h1
      cases ls with
      | nil =>
        simp only [run, Option.some.injEq] at hr; subst hr
        exact .single hd
      | cons l2 ls2 =>
        exact .tail (ih (Reach.step l h h1) hr (by simp)) hd
    · exact absurd hr (by simp)

/-- the measure of the initial state of the witness configuration `cfgF4`
    (6 input blocks of 2 units, T = 12) -/
example : m0 (init cfgF4) = 1 ∧ m1 cfgF4 (init cfgF4) = 4 * 12 + 3 ∧ m2 (init cfgF4) = 1 ∧
    m3 cfgF4 (init cfgF4) = 13 ∧ m4 cfgF4 (init cfgF4) = 13 ∧ m5 cfgF4 (init cfgF4) = 0 ∧
    m6 cfgF4 (init cfgF4) = 0 ∧ m7 (init cfgF4) = 0 ∧ m8 (init cfgF4) = 0 ∧
    m9 (init cfgF4) = 2 := by decide +kernel

example : ∃ s', step cfgF4 (init cfgF4) .rTake = some s' ∧
    muLt (mu cfgF4 s') (mu cfgF4 (init cfgF4)) := by
  cases h : step cfgF4 (init cfgF4) .rTake with
  | none => exact absurd h (by decide +kernel)
  | some s' => exact ⟨s', rfl, step_measure (by decide) .init h⟩

/-- the complete run `traceF2` (37 transitions, ending in the terminated
    state): the measure goes down all the way -/
example : ∃ s', run cfgF4 (init cfgF4) traceF2 = some s' ∧ terminated cfgF4 s' = true ∧
    Relation.TransGen muLt (mu cfgF4 s') (mu cfgF4 (init cfgF4)) := by
  have hf := f2_repaired
  cases h : run cfgF4 (init cfgF4) traceF2 with
  | none => rw [h] at hf; cases hf
  | some s' =>
    rw [h] at hf
    simp only [Option.any_some, Bool.and_eq_true] at hf
    exact ⟨s', rfl, hf.1.1.1, run_measure (by decide) traceF2 .init h (by decide)⟩

end LbzVerif.Lemmas.SchedD
