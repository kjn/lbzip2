/-
  `no_unord_leak` for the SchedD model (F2 repaired by `discard()`): every live `struct unord_blk` is
  either still in `unord_q` (so the parser frees it when it pops it / at FINISH) or owned by a live
  retrieve job; after parsing is done nothing is left behind.  In the model "linked from exactly one
  live job" holds by construction for `Job.ub`; the content is about `orphans`.
-/
import LbzVerif.Lemmas.SchedD.Objects

namespace LbzVerif.Lemmas.SchedD
open LbzVerif.Model.SchedD LbzVerif.Gen

structure LI (c : Cfg) (s : State) : Prop where
  /-- every job-less unord_blk is in unord_q, marked complete -/
  oc  : ∀ u ∈ s.orphans, u.f.inq = true ∧ u.f.complete = true
  /-- an owned entry that is not complete is in unord_q -/
  atQ : ∀ j ∈ s.retrQ, ∀ f, j.ub = some f → f.complete = false → f.inq = true
  atB : ∀ j k, Phase.retr j k ∈ s.busy → ∀ f, j.ub = some f → f.complete = false → f.inq = true
  pd  : s.pphase.isSome = true → s.pdone = false
  od  : s.pdone = true → s.orphans = [] ∧ s.retrQ = [] ∧
          (∀ j k, Phase.retr j k ∈ s.busy → ∀ f, j.ub = some f → f.complete = true)

namespace Leak

def JL (j : Job) : Prop := ∀ f, j.ub = some f → f.complete = false → f.inq = true
def JC (j : Job) : Prop := ∀ f, j.ub = some f → f.complete = true
def PL : Phase → Prop
  | .retr j _ => JL j
  | _ => True
def PC : Phase → Prop
  | .retr j _ => JC j
  | _ => True
def UC (u : UB) : Prop := u.f.inq = true ∧ u.f.complete = true

theorem JC_JL {j : Job} (h : JC j) : JL j := by
  intro f hf hc
  rw [h f hf] at hc
  cases hc

theorem PC_PL {ph : Phase} (h : PC ph) : PL ph := by
  cases ph with
  | retr j k => exact JC_JL h
  | _ => trivial

def lcP : OP := ⟨JL, PL, fun _ => True, fun _ => True, UC, fun _ => True⟩

abbrev LC (s : State) : Prop := OI lcP s

structure LJ (s : State) : Prop where
  lc : LC s
  pd : s.pphase.isSome = true → s.pdone = false
  od : s.pdone = true → s.orphans = [] ∧ s.retrQ = [] ∧ ∀ ph ∈ s.busy, PC ph

theorem LJ_of_LC {s : State} (h : LC s) (hp : s.pdone = false) : LJ s :=
  ⟨h, fun _ => hp, fun hh => by rw [hp] at hh; cases hh⟩

theorem LJ_mono {s s' : State} (h : LJ s)
    (e1 : ∀ u ∈ s'.orphans, u ∈ s.orphans) (e2 : ∀ j ∈ s'.retrQ, j ∈ s.retrQ)
    (e3 : ∀ ph ∈ s'.busy, ph ∈ s.busy ∨ PC ph)
    (e : (s'.pdone, s'.pphase) = (s.pdone, s.pphase) := by rfl) : LJ s' := by
  simp only [Prod.mk.injEq] at e
  obtain ⟨e4, e5⟩ := e
  obtain ⟨a, a4, a5⟩ := h
  refine ⟨⟨fun j hj => a.jq j (e2 j hj), fun ph hph => (e3 ph hph).elim (a.bz ph) PC_PL,
    fun _ _ => trivial, fun _ _ => trivial, fun u hu => a.ub u (e1 u hu), trivial⟩, ?_, ?_⟩
  · rw [e4, e5]; exact a4
  · intro hh
    rw [e4] at hh
    obtain ⟨b1, b2, b3⟩ := a5 hh
    exact ⟨List.eq_nil_of_subset_nil fun u hu => b1 ▸ e1 u hu,
      List.eq_nil_of_subset_nil fun j hj => b2 ▸ e2 j hj, fun ph hph => (e3 ph hph).elim (b3 ph) id⟩

theorem LJ_congr {s s' : State} (h : LJ s)
    (e : (s'.orphans, s'.retrQ, s'.busy, s'.pdone, s'.pphase) =
         (s.orphans, s.retrQ, s.busy, s.pdone, s.pphase) := by rfl) : LJ s' := by
  simp only [Prod.mk.injEq] at e
  obtain ⟨e1, e2, e3, e4, e5⟩ := e
  exact LJ_mono h (e1 ▸ fun _ h => h) (e2 ▸ fun _ h => h) (e3 ▸ fun _ h => Or.inl h)
    (by rw [e4, e5])

theorem LJ_busy_erase {s : State} (ph : Phase) (h : LJ s) :
    LJ { s with busy := s.busy.erase ph } :=
  LJ_mono h (fun _ h => h) (fun _ h => h) (fun _ hp => Or.inl (List.mem_of_mem_erase hp))

theorem LJ_busy_cons {s : State} {ph : Phase} (hp : PC ph) (h : LJ s) :
    LJ { s with busy := ph :: s.busy } :=
  LJ_mono h (fun _ h => h) (fun _ h => h)
    (fun _ hx => (List.mem_cons.1 hx).elim (fun e => Or.inr (e ▸ hp)) Or.inl)

theorem LJ_detach {s : State} (k : Option Nat) (h : LJ s) : LJ (detach s k) := by
  rw [detach_eq]
  exact LJ_congr h

theorem LJ_leave {s : State} (ph : Phase) (k : Option Nat) (h : LJ s) :
    LJ (detach { s with busy := s.busy.erase ph } k) :=
  LJ_detach k (LJ_busy_erase ph h)

theorem JL_flagJob {p : Nat → Bool} {j : Job} (h : JL j) : JL (flagJob p j) := by
  intro f hf hc
  obtain ⟨f0, hu, rfl | rfl⟩ := flagJob_ub_some hf
  · exact h f hu hc
  · cases hc

theorem PL_flagPhase {p : Nat → Bool} {ph : Phase} (h : PL ph) : PL (flagPhase p ph) := by
  cases ph with
  | retr j k => exact JL_flagJob (p := p) h
  | _ => trivial

/-- FINISH pops every entry of unord_q: what a job still owns afterwards is complete -/
theorem JC_flagAll {j : Job} (h : JL j) : JC (flagJob (fun _ => true) j) := by
  intro f hf
  rw [flagJob_ub] at hf
  cases hu : j.ub with
  | none => rw [hu] at hf; cases hf
  | some f0 =>
    rw [hu, Option.map_some, Option.some.injEq, Bool.and_true] at hf
    split at hf
    · subst hf; rfl
    · next hi =>
      subst hf
      cases hc : f0.complete with
      | true => rfl
      | false => exact absurd (h f0 hu hc) hi

theorem PC_flagAll {ph : Phase} (h : PL ph) : PC (flagPhase (fun _ => true) ph) := by
  cases ph with
  | retr j k => exact JC_flagAll h
  | _ => trivial

theorem JL_good (j : Job) : JL j.good := by
  intro f hf hc
  rw [Job.good_ub] at hf
  obtain ⟨f0, -, rfl⟩ := Option.map_eq_some_iff.1 hf
  cases hc

theorem PL_good (ph : Phase) : PL ph.good := by
  cases ph with
  | retr j k => exact JL_good j
  | _ => trivial

theorem popOrphans_all_nil {os : List UB} (h : ∀ u ∈ os, UC u) :
    popOrphans (fun _ => true) os = [] := by
  apply List.eq_nil_iff_forall_not_mem.2
  intro u hu
  rcases mem_popOrphans.1 hu with ⟨hu, hq⟩ | ⟨v, hv, _, _, hc, _⟩
  · rw [(h u hu).1] at hq; cases hq
  · rw [(h v hv).2] at hc; cases hc

theorem LJ_parseFinish {s1 : State} (u : Nat) (h : LC s1) (hpp : s1.pphase = none) :
    LJ (parseFinish s1 u) := by
  have hb : ∀ ph ∈ s1.busy.map (flagPhase (fun _ => true)), PC ph := by
    intro ph hph
    obtain ⟨x, hx, rfl⟩ := List.mem_map.1 hph
    exact PC_flagAll (h.bz x hx)
  rw [parseFinish_eq]
  refine ⟨⟨fun j hj => (nomatch hj), fun ph hph => PC_PL (hb ph hph), fun _ _ => trivial,
    fun _ _ => trivial, ?_, trivial⟩, ?_, fun _ => ⟨popOrphans_all_nil h.ub, rfl, hb⟩⟩
  · intro x hx
    rw [show popOrphans (fun _ => true) s1.orphans = [] from popOrphans_all_nil h.ub] at hx
    cases hx
  · intro hh
    rw [show s1.pphase = none from hpp] at hh
    cases hh

theorem JL_retrMoreJob {j : Job} (newc : Nat) (h : JL j) : JL (retrMoreJob j newc) := by
  intro f hf hc
  obtain ⟨f0, hu, ⟨-, rfl⟩ | ⟨-, rfl⟩⟩ := retrMoreJob_ub_some hf
  · exact h f hu hc
  · exact h f0 hu hc

/-- an orphan is in unord_q and complete, so the parser never flags one: it frees it; the entry
    of a job that finishes speculatively is in unord_q (`JL`) and becomes complete -/
theorem lcP_OC (c : Cfg) : OC c lcP where
  flagJ _ _ := JL_flagJob
  flagP _ _ := PL_flagPhase
  goodJ j _ := JL_good j
  goodP ph _ := PL_good ph
  flagU _ h hc := by rw [h.2] at hc; cases hc
  goodU _ h hc := by rw [h.2] at hc; cases hc
  newJ _ _ hf := nomatch hf
  scanJ _ _ hf _ := by cases hf; rfl
  moreJ _ _ n := JL_retrMoreJob n
  doneP _ _ _ := trivial
  doneU _ _ f _ h hub hc := ⟨h f hub hc, rfl⟩
  postE _ _ := trivial
  emitP _ _ := trivial
  nextE _ _ := trivial
  outO _ _ _ := trivial
  taintJ _ _ _ _ _ := trivial
  taintU _ _ _ _ := trivial
  taintO _ _ _ _ := trivial

theorem LJ_init (c : Cfg) : LJ (init c) := by
  refine ⟨⟨?_, ?_, ?_, ?_, ?_, trivial⟩, ?_, ?_⟩ <;> simp [init]

theorem lj_step {c : Cfg} {s s' : State} {l : Label} (h : LJ s) (hs : step c s l = some s')
    (hf' : s'.failed = false) : LJ s' := by
  obtain ⟨-, st⟩ := step_inv hs
  -- the objects (`oi_step`); the rest of the walk is about `parsing_done`
  have lc : LC s' := oi_step (lcP_OC c) st h.lc fun ph hst => by
    cases st with
    | retrStart j _ hmem => cases hst; exact h.lc.jq j hmem
    | scanStart sp => cases hst; trivial
    | _ => cases hst
  cases st with
  | rTake | rQuit | rBlockDrop | rBlock | rEmpty | rEof | wDone | reorderBogus | reorderMore
  | reorderOk =>
    exact LJ_congr h
  | reorderErr | parseErr | parseEof => exact Bool.noConfusion hf'
  | parseStart hsel => exact LJ_of_LC lc (selectTask_parse hsel).1
  | parseMore k hpp =>
    exact LJ_of_LC lc ((detach_pdone _ k).trans (h.pd (by rw [hpp]; rfl)))
  | parseFinish k u hpp =>
    exact LJ_parseFinish u (OI_leave_parser k h.lc) (by rw [detach_eq])
  | parseOk k b hpp =>
    exact LJ_of_LC lc
      ((parseMatch_pdone c _ b).trans ((detach_pdone _ k).trans (h.pd (by rw [hpp]; rfl))))
  | retrStart j _ hmem =>
    -- retr_q is empty once parsing is done
    refine LJ_of_LC lc ?_
    cases hp : s.pdone with
    | false => rfl
    | true => rw [(h.od hp).2.1] at hmem; cases hmem
  | retrQuit j k =>
    exact LJ_congr (LJ_leave _ k h)
  | retrOvertaken j k _ hpd | retrMore j k _ hpd =>
    exact LJ_of_LC lc ((retrMove_pdone c _ j _).trans ((detach_pdone _ k).trans hpd))
  | retrDone j k _ hpd =>
    exact LJ_of_LC lc ((retrDone_pdone c _ j _).trans ((retrMove_pdone c _ j _).trans
      ((detach_pdone _ k).trans hpd)))
  | retrPost e | emitMore e | emitLast e =>
    exact LJ_congr (LJ_busy_erase _ h)
  | emitStart e =>
    exact LJ_congr (LJ_busy_cons (ph := .emit e) trivial h)
  | scanStart sp =>
    exact LJ_congr (LJ_busy_cons (ph := .scan _ (sp / c.W)) trivial h)
  | scanNone st k =>
    exact LJ_congr (LJ_leave _ (some k) h)
  | scanFound st k x hmem hfind hpd =>
    exact LJ_of_LC lc ((scanRequeue_pdone c _ x _).trans ((scanNew_pdone c _ x).trans
        ((detach_pdone _ (some k)).trans hpd)))

theorem LI_of_LJ {c : Cfg} {s : State} (h : LJ s) : LI c s :=
  ⟨h.lc.ub, h.lc.jq, fun _ _ hm => h.lc.bz _ hm, h.pd,
    fun hh => ⟨(h.od hh).1, (h.od hh).2.1, fun _ _ hm => (h.od hh).2.2 _ hm⟩⟩

theorem LJ_of_LI {c : Cfg} {s : State} (h : LI c s) : LJ s := by
  refine ⟨⟨h.atQ, fun ph hph => ?_, fun _ _ => trivial, fun _ _ => trivial, h.oc, trivial⟩, h.pd,
    fun hh => ⟨(h.od hh).1, (h.od hh).2.1, fun ph hph => ?_⟩⟩
  · cases ph with
    | retr j k => exact h.atB j k hph
    | _ => trivial
  · cases ph with
    | retr j k => exact (h.od hh).2.2 j k hph
    | _ => trivial

end Leak

open Leak

theorem li_init (c : Cfg) : LI c (init c) := LI_of_LJ (LJ_init c)

/-- `LI` is preserved by every transition that does not call `failf`
    (transitions that set `failed` are terminal) -/
theorem li_step {c : Cfg} {s s' : State} {l : Label} (h : LI c s) (hs : step c s l = some s')
    (hf' : s'.failed = false) : LI c s' :=
  LI_of_LJ (lj_step (LJ_of_LI h) hs hf')

end LbzVerif.Lemmas.SchedD
