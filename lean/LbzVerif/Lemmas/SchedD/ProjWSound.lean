/-
  Soundness of the thread-level trace projection (ProjW.lean): every
  transition of the refined model `Model.SchedDW` from a reachable state that
  does not call `failf` projects onto a transition of `stepWP`, the relation
  the hook-trace replay `acceptTraceW` (driver command `schedd-acceptw`) checks
  line by line.  So a trace line refused by `stepWP` is refused by
  `Model.SchedDW.stepW` for every value of the data the trace does not show.
-/
import LbzVerif.Lemmas.SchedD.ProjW
import LbzVerif.Lemmas.SchedD.ProjSound
import LbzVerif.Lemmas.SchedD.Wake

namespace LbzVerif.Lemmas.SchedD
open LbzVerif.Model.SchedD LbzVerif.Model.SchedDW LbzVerif.Gen

theorem finishedP_proj (c : Cfg) (s : State) :
    finishedP c.n c.totalOut c.ultra (proj c s) = finished c s := rfl

theorem unlock_proj_map (c : Cfg) (w : WState) (k : Nat) :
    unlockWP c.n c.totalOut c.ultra (projW c w) (selectTask c w.base) k
      = (unlockW c w k).map (projW c) := by
  unfold unlockW unlockWP
  by_cases hc : ((selectTask c w.base).isSome || finished c w.base) = true
  · simp only [projW, select_selectable c w.base, finishedP_proj, hc, if_true]
    cases signal w.ws k <;> rfl
  · simp only [projW, select_selectable c w.base, finishedP_proj, hc, if_true]
    rfl

theorem unlock_proj {c : Cfg} {w w' : WState} {k : Nat} (h : unlockW c w k = some w') :
    unlockWP c.n c.totalOut c.ultra (projW c w) (selectTask c w.base) k = some (projW c w') := by
  rw [unlock_proj_map, h]; rfl

def ioWho : Label → String
  | .wDone => "writer"
  | _ => "reader"

def endPhase : Label → String
  | .parseEnd => "parse"
  | .retrEnd _ _ => "retrieve"
  | .retrPost _ => "retr2"
  | .emitEnd _ => "emit"
  | _ => "scan"

def plOf (c : Cfg) (w : WState) (l : WLabel) (w' : WState) : PL :=
  match l with
  | .io _ => .io
  | .ioS bl k => .ioS (ioWho bl) (proj c w'.base) w'.nextTask k
  | .acquire i => .acquire i
  | .runTask i _ k => .runTask i (proj c w'.base) w'.nextTask k
  | .relock i bl k =>
    .relock i (endPhase bl) (decide (retrFinished bl w.base w'.base)) (proj c w'.base) w'.nextTask k
  | .wait i => .wait i
  | .exit i => .exit i
  | .spurious i => .spurious i

section rules
variable {c : Cfg} {s s' : State} {l : Label} (hW : 0 < c.W) (h : Reach c s)
  (hs : step c s l = some s') (hnf : s'.failed = false)
include hW h hs hnf

theorem proj_io (hl : lockFreeIO l = true) : proj c s' = proj c s := by
  have hp := proj_sound hW h hs
  simp only [projStepOk, hnf, Bool.false_eq_true, if_false] at hp
  cases l with
  | rTake | rQuit | rEmpty => simpa using hp
  | _ => cases hl

theorem proj_ioS (hl : lockedIO l = true) : tailOk (ioWho l) (proj c s) (proj c s') = true := by
  have hp := proj_sound hW h hs
  simp only [projStepOk, hnf, Bool.false_eq_true, if_false] at hp
  cases l with
  | rBlock | rEof | wDone => exact hp
  | _ => cases hl

theorem proj_reorder (hl : taskOf l = some "reorder") :
    reorderOk (proj c s) (proj c s') = true := by
  have hp := proj_sound hW h hs
  simp only [projStepOk, hnf, Bool.false_eq_true, if_false] at hp
  cases l with
  | reorder => exact hp
  | _ => simp [taskOf] at hl

theorem proj_head {t : String} (hl : taskOf l = some t) (ht : t ≠ "reorder") :
    headOk t (proj c s) (proj c s') = true := by
  have hp := proj_sound hW h hs
  simp only [projStepOk, hnf, Bool.false_eq_true, if_false] at hp
  cases l with
  | parseStart | retrStart | emitStart | scanStart => cases hl; exact hp
  | reorder => cases hl; exact absurd rfl ht
  | _ => cases hl

theorem proj_end (hl : isEnd l = true) : tailOk (endPhase l) (proj c s) (proj c s') = true := by
  have hp := proj_sound hW h hs
  simp only [projStepOk, hnf, Bool.false_eq_true, if_false] at hp
  cases l with
  | parseEnd | retrEnd | retrPost | emitEnd | scanEnd => exact hp
  | _ => cases hl

end rules

theorem ioWho_io (l : Label) : (ioWho l == "reader" || ioWho l == "writer") = true := by
  cases l <;> rfl

theorem endPhase_end {l : Label} (hl : isEnd l = true) :
    (endPhase l == "parse" || endPhase l == "retrieve" || endPhase l == "retr2"
      || endPhase l == "emit" || endPhase l == "scan") = true := by
  cases l <;> first | rfl | cases hl

theorem endPhase_retr {l : Label} {b b' : State} (h : retrFinished l b b') :
    endPhase l = "retrieve" := by
  have hr := h.1
  cases l <;> first | rfl | cases hr

/-- **projW_sound**: a transition of `Model.SchedDW` from a reachable state,
    not ending in `failf`, is a transition of the projected system `stepWP`
    (label `plOf`). -/
theorem projW_sound {c : Cfg} (hW : 0 < c.W) {w w' : WState} {l : WLabel} (h : ReachW c w)
    (hs : stepW c w l = some w') (hnf : w'.base.failed = false) :
    stepWP c.n c.totalOut c.ultra (projW c w) (plOf c w l w') = some (projW c w') := by
  have hB := reachW_base h
  cases (stepW_inv hs).2 with
  | @io bl b hl hb =>
    show some (projW c w) = some (projW c { w with base := b })
    simp only [projW, proj_io hW hB hb hnf hl]
  | @ioS bl k b w' hl hh hb hu =>
    have hbase : w'.base = b := (unlockW_inv hu).1
    have hnext : w'.nextTask = selectTask c b := (unlockW_inv hu).2.1
    have ht := proj_ioS hW hB hb (hbase ▸ hnf) hl
    show stepWP _ _ _ _ (.ioS (ioWho bl) (proj c w'.base) w'.nextTask k) = _
    rw [hbase, hnext, ← unlock_proj hu]
    simp [stepWP, projW, ioWho_io, ht, hh]
  | @acquire i hh hi =>
    simp [plOf, stepWP, projW, hh, hi]
  | @reorder i bl k b hh hi hn hl hb =>
    have hro := proj_reorder hW hB hb hnf hl
    simp [plOf, stepWP, projW, hh, hi, hn, hro, select_selectable c b]
  | @run i bl k t b w' hh hi hn hl ht hb hu =>
    have hbase : w'.base = b := (unlockW_inv hu).1
    have hnext : w'.nextTask = selectTask c b := (unlockW_inv hu).2.1
    have hho := proj_head hW hB hb (hbase ▸ hnf) hl ht
    show stepWP _ _ _ _ (.runTask i (proj c w'.base) w'.nextTask k) = _
    rw [hbase, hnext, ← unlock_proj hu]
    simp [stepWP, projW, hh, hi, hn, ht, hho]
  | @relockU i bl k b w' hh hi hl hb hfin hu =>
    have hbase : w'.base = b := (unlockW_inv hu).1
    have hnext : w'.nextTask = selectTask c b := (unlockW_inv hu).2.1
    have htl := proj_end hW hB hb (hbase ▸ hnf) hl
    rw [endPhase_retr hfin] at htl
    show stepWP _ _ _ _ (.relock i (endPhase bl) (decide (retrFinished bl w.base w'.base))
      (proj c w'.base) w'.nextTask k) = _
    rw [hbase, hnext, ← unlock_proj hu]
    simp [stepWP, projW, hh, hi, htl, hfin, endPhase_retr hfin]
  | @relockL i bl k b hh hi hl hb hfin =>
    have htl := proj_end hW hB hb hnf hl
    simp [plOf, stepWP, projW, hh, hi, endPhase_end hl, htl, hfin, select_selectable c b]
  | @wait i hh hi hn hfin =>
    simp [plOf, stepWP, projW, hh, hi, hn, finishedP_proj, hfin]
  | @exit i hh hi hn hfin =>
    simp [plOf, stepWP, projW, hh, hi, hn, finishedP_proj, hfin]
  | @spurious i hi =>
    simp [plOf, stepWP, projW, hi]

end LbzVerif.Lemmas.SchedD
