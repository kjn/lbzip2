/-
  Input-slot conservation: `inSlots + inputAlive = totalIn` (`II`) is preserved by every
  transition (failing or not) PROVIDED a parser / scanner never attaches to an input block that
  has already been shifted out of `input_q`.  That side condition follows from positions
  (`head_offs ≤ parser_bs`, `head_offs ≤ x < tail_offs` for `x ∈ scan_q`, see `fresh_of_pos`);
  `ii_step` takes them as hypotheses and `Lo` and `Hi` supply them (`Inv.step`).  `do_retrieve`
  needs no side condition (a stale job attaches to `head`).
-/
import LbzVerif.Lemmas.SchedD.Step

namespace LbzVerif.Lemmas.SchedD
open LbzVerif.Model.SchedD LbzVerif.Gen

def attCnt (s : State) : Nat :=
  ((List.range s.head).filter (fun k => attachedTo s k)).length
def holdc (s : State) : Nat := if s.rph == .hold then 1 else 0

theorem inputAlive_eq (s : State) : inputAlive s = (s.rd - s.head) + attCnt s + holdc s := rfl

structure II (c : Cfg) (s : State) : Prop where
  /-- input slots: free + blocks in input_q + released-but-still-attached blocks + the reader's -/
  inC : s.inSlots + inputAlive s = c.totalIn
  hr : s.head ≤ s.rd

theorem filter_range_split (P : Nat → Bool) {h h' : Nat} (hh : h ≤ h') :
    ((List.range h').filter P).length =
      ((List.range h).filter P).length + ((List.range' h (h' - h)).filter P).length := by
  have e : List.range h' = List.range h ++ List.range' h (h' - h) := by
    rw [List.range_eq_range', List.range_eq_range']
    have := List.range'_append (s := 0) (m := h) (n := h' - h) (step := 1)
    simp only [Nat.one_mul, Nat.zero_add] at this
    rw [this]; congr 1; omega
  rw [e, List.filter_append, List.length_append]

theorem count_diff (P Q : Nat → Bool) (k : Nat) (hne : ∀ x, x ≠ k → P x = Q x)
    (hP : P k = true) (hQ : Q k = false) : ∀ n, k < n →
    ((List.range n).filter P).length = ((List.range n).filter Q).length + 1 := by
  intro n
  induction n with
  | zero => intro h; omega
  | succ n ih =>
    intro hk
    rw [List.range_succ, List.filter_append, List.filter_append, List.length_append,
      List.length_append]
    by_cases hkn : k = n
    · subst hkn
      have : List.filter P (List.range k) = List.filter Q (List.range k) :=
        List.filter_congr (fun x hx => hne x (by have := List.mem_range.1 hx; omega))
      rw [this]; simp [hP, hQ]
    · have h1 := ih (by omega)
      have e : P n = Q n := hne n (fun h => hkn h.symm)
      have e2 : List.filter P [n] = List.filter Q [n] :=
        List.filter_congr (fun x hx => by
          have : x = n := by simpa using hx
          subst this; exact e)
      rw [h1, e2]; omega

theorem block_flagPhase (p : Nat → Bool) (ph : Phase) : (flagPhase p ph).block = ph.block := by
  cases ph <;> rfl

theorem block_good (ph : Phase) : (Phase.good ph).block = ph.block := by
  cases ph <;> rfl

theorem any_flag (p : Nat → Bool) (x : Nat) (l : List Phase) :
    (l.map (flagPhase p)).any (fun ph => ph.block == some x) =
      l.any (fun ph => ph.block == some x) := by
  simp only [List.any_map, Function.comp_def, block_flagPhase]

theorem any_good (q : Phase → Bool) (x : Nat) (l : List Phase) :
    (replaceFirst q Phase.good l).any (fun ph => ph.block == some x) =
      l.any (fun ph => ph.block == some x) := by
  have := congrArg (List.any · (· == some x)) (map_replaceFirst_key block_good q l)
  rwa [List.any_map, List.any_map] at this

theorem att_erase {s : State} {ph : Phase} (hm : ph ∈ s.busy) (x : Nat) :
    attachedTo s x =
      (attachedTo { s with busy := s.busy.erase ph } x || (ph.block == some x)) := by
  simp only [attachedTo]
  rw [(List.perm_cons_erase hm).any_eq, List.any_cons, Bool.or_comm (ph.block == some x),
    Bool.or_assoc]

theorem ii_congr {c : Cfg} {s s' : State} (h : II c s)
    (e : (s'.rd, s'.rph, s'.head, s'.inSlots) = (s.rd, s.rph, s.head, s.inSlots) := by rfl)
    (hatt : ∀ k, k < s.head → attachedTo s' k = attachedTo s k := by exact fun _ _ => rfl) :
    II c s' := by
  simp only [Prod.mk.injEq] at e
  obtain ⟨hrd, hrph, hhd, hin⟩ := e
  obtain ⟨h1, h2⟩ := h
  refine ⟨?_, by omega⟩
  rw [inputAlive_eq] at h1 ⊢
  have e1 : attCnt s' = attCnt s := by
    unfold attCnt; rw [hhd]
    rw [List.filter_congr (fun x hx => hatt x (List.mem_range.1 hx))]
  have e3 : holdc s' = holdc s := by unfold holdc; rw [hrph]
  rw [hin, e1, e3, hrd, hhd]; exact h1

theorem ii_of {c : Cfg} {s s' : State} (h : II c s) (hrd : s'.rd = s.rd)
    (hrph : s'.rph = s.rph) (hh : s.head ≤ s'.head) (hh' : s'.head ≤ s.rd)
    (hatt : ∀ k, attachedTo s' k = attachedTo s k)
    (hin : s'.inSlots = s.inSlots + releaseCount s s.head s'.head) : II c s' := by
  obtain ⟨h1, h2⟩ := h
  refine ⟨?_, by omega⟩
  rw [inputAlive_eq] at h1 ⊢
  have e1 : attCnt s' = attCnt s +
      ((List.range' s.head (s'.head - s.head)).filter (fun k => attachedTo s k)).length := by
    unfold attCnt
    have : (fun k => attachedTo s' k) = (fun k => attachedTo s k) := funext hatt
    rw [this]; exact filter_range_split _ hh
  have e2 := length_filter_split (fun k => attachedTo s k)
    (List.range' s.head (s'.head - s.head))
  rw [List.length_range'] at e2
  have e3 : holdc s' = holdc s := by unfold holdc; rw [hrph]
  unfold releaseCount at hin
  rw [hin, e1, e3, hrd]; omega

theorem ii_gen {c : Cfg} {s s' : State} (h : II c s) (hr : s.rd ≤ s'.rd)
    (e : s'.inSlots + (s'.rd - s.rd) + holdc s' = s.inSlots + holdc s)
    (hatt : attCnt s' = attCnt s := by rfl) (hhd : s'.head = s.head := by rfl) : II c s' := by
  obtain ⟨h1, h2⟩ := h
  refine ⟨?_, by omega⟩
  rw [inputAlive_eq] at h1 ⊢
  rw [hatt, hhd]; omega

/-- `detach()`: `s` is the state before the phase was removed, `s0` after -/
theorem ii_detach {c : Cfg} {s s0 : State} {k : Option Nat} (h : II c s)
    (hrd : s0.rd = s.rd) (hrph : s0.rph = s.rph) (hhd : s0.head = s.head)
    (hin : s0.inSlots = s.inSlots)
    (hk : ∀ kk, k = some kk → attachedTo s kk = true)
    (hne : ∀ x, k ≠ some x → attachedTo s0 x = attachedTo s x) : II c (detach s0 k) := by
  unfold detach
  cases k with
  | none => exact ii_congr h (by rw [hrd, hrph, hhd, hin]) (fun x _ => hne x (by simp))
  | some kk =>
    dsimp only
    split
    · next hg =>
      simp only [Bool.and_eq_true, decide_eq_true_eq, Bool.not_eq_true'] at hg
      obtain ⟨g1, g2⟩ := hg
      obtain ⟨h1, h2⟩ := h
      refine ⟨?_, by show s0.head ≤ s0.rd; omega⟩
      rw [inputAlive_eq] at h1 ⊢
      have e1 : attCnt s = attCnt s0 + 1 := by
        unfold attCnt; rw [hhd]
        exact count_diff (fun k => attachedTo s k) (fun k => attachedTo s0 k) kk
          (fun x hx => (hne x (fun e => hx (Option.some.inj e).symm)).symm)
          (hk kk rfl) g2 _ (hhd ▸ g1)
      have e3 : holdc s0 = holdc s := by unfold holdc; rw [hrph]
      show s0.inSlots + 1 + ((s0.rd - s0.head) + attCnt s0 + holdc s0) = c.totalIn
      rw [hin, e3, hrd, hhd]; omega
    · next hg =>
      simp only [Bool.and_eq_true, decide_eq_true_eq, Bool.not_eq_true'] at hg
      refine ii_congr h (by rw [hrd, hrph, hhd, hin]) (fun x hx => ?_)
      by_cases hxk : kk = x
      · subst hxk
        rw [hk kk rfl, Bool.of_not_eq_false fun ha => hg ⟨hhd ▸ hx, ha⟩]
      · exact hne x (fun e => hxk (Option.some.inj e))

theorem ii_advance {c : Cfg} {s : State} (p : Nat) (h : II c s) : II c (advance c s p) :=
  ii_of h rfl rfl (head_le_advance c s p) (advance_head_le p h.hr) (fun _ => rfl) rfl

theorem ii_parsePush {c : Cfg} {s : State} (b : Nat) (h : II c s) : II c (parsePush c s b) := by
  rw [parsePush_eq]
  refine ii_congr (ii_advance b h) (hatt := fun x _ => ?_)
  simp only [attachedTo, any_flag]
  rfl

theorem ii_parseMatch {c : Cfg} {s : State} (b : Nat) (h : II c s) : II c (parseMatch c s b) := by
  rcases parseMatch_cases c s b with ⟨j, a, -, -, -, rfl, e⟩ | ⟨j, k, a, -, -, -, -, rfl, e⟩ |
    ⟨u, a, -, -, -, -, -, -, rfl, e⟩ | ⟨u, a, -, -, -, -, -, -, rfl, e⟩ | ⟨-, -, -, e⟩
  · have h1 : II c { s with retrQ := replaceFirst (Job.inqAt b) Job.good s.retrQ } :=
      ii_congr h
    rw [e]
    exact ii_congr (ii_advance j.endp h1)
  · have h1 : II c { s with busy := replaceFirst (Phase.inqAt b) Phase.good s.busy } :=
      ii_congr h (hatt := fun x _ => by simp only [attachedTo, any_good])
    rw [e]
    exact ii_congr (ii_advance j.endp h1)
  · rw [e]
    exact ii_congr (ii_advance u.f.endp h)
  · rw [e]
    exact ii_congr (ii_advance u.f.endp h)
  · rw [e]
    exact ii_congr h

theorem ii_parseFinish {c : Cfg} {s : State} (u : Nat) (h : II c s) : II c (parseFinish s u) := by
  rw [parseFinish_eq]
  refine ii_of h rfl rfl h.hr (Nat.le_refl _) (fun x => ?_) rfl
  simp only [attachedTo, any_flag]

theorem ii_parseMore {c : Cfg} {s : State} (k : Option Nat) (h : II c s) :
    II c (parseMore c s k) := by
  rw [parseMore_eq]
  exact ii_congr (ii_advance _ h)

theorem ii_retrMove {c : Cfg} {s : State} (j : Job) (n : Nat) (h : II c s) :
    II c (retrMove c s j n) :=
  retrMove_ind c s j n h (ii_congr (ii_advance n h))

theorem ii_retrDone {c : Cfg} {s : State} (j : Job) (n : Nat) (h : II c s) :
    II c (retrDone c s j n) := by
  obtain ⟨pt, po, orp, e⟩ := retrDone_frame c s j n
  rw [e]
  exact ii_congr h

theorem ii_scanNew {c : Cfg} {s : State} (x : Nat) (h : II c s) : II c (scanNew c s x) :=
  scanNew_ind c s x (ii_congr h) fun _ _ => ii_congr h

theorem ii_leave {c : Cfg} {s : State} {ph : Phase} (h : II c s) (hm : ph ∈ s.busy) :
    II c (detach { s with busy := s.busy.erase ph } ph.block) := by
  refine ii_detach h rfl rfl rfl rfl (fun kk hk => ?_) (fun x hx => ?_)
  · rw [att_erase hm kk, hk]; simp
  · rw [att_erase hm x, beq_eq_false_iff_ne.2 hx, Bool.or_false]

theorem ii_leave_parser {c : Cfg} {s : State} {k : Option Nat} (h : II c s)
    (hk : s.pphase = some k) : II c (detach { s with pphase := none } k) := by
  refine ii_detach h rfl rfl rfl rfl (fun kk e => ?_) (fun x hx => ?_)
  · simp [attachedTo, hk, e]
  · simp only [attachedTo, hk]
    have : (some k == some (some x)) = false := by
      simp only [beq_eq_false_iff_ne, ne_eq, Option.some.injEq]; exact hx
    rw [this]; simp

theorem ii_erase_none {c : Cfg} {s s' : State} {ph : Phase} (h : II c s) (hm : ph ∈ s.busy)
    (hb : ph.block = none)
    (e : (s'.rd, s'.rph, s'.head, s'.inSlots, s'.pphase, s'.busy) =
         (s.rd, s.rph, s.head, s.inSlots, s.pphase, s.busy.erase ph) := by rfl) : II c s' := by
  simp only [Prod.mk.injEq] at e
  obtain ⟨hrd, hrph, hhd, hin, hpp, hbusy⟩ := e
  refine ii_congr h (by rw [hrd, hrph, hhd, hin]) (fun x _ => ?_)
  rw [att_erase hm x, hb]
  simp only [attachedTo, hpp, hbusy]
  simp

/-- a worker starts: it attaches to no block, or to one still in `input_q` -/
theorem ii_busy_cons {c : Cfg} {s s' : State} {ph : Phase} (h : II c s)
    (hb : ∀ x, ph.block = some x → s.head ≤ x)
    (e : (s'.rd, s'.rph, s'.head, s'.inSlots, s'.pphase, s'.busy) =
         (s.rd, s.rph, s.head, s.inSlots, s.pphase, ph :: s.busy) := by rfl) : II c s' := by
  simp only [Prod.mk.injEq] at e
  obtain ⟨hrd, hrph, hhd, hin, hpp, hbusy⟩ := e
  refine ii_congr h (by rw [hrd, hrph, hhd, hin]) (fun x hx => ?_)
  have : (ph.block == some x) = false :=
    beq_eq_false_iff_ne.2 fun e => absurd (hb x e) (Nat.not_le_of_lt hx)
  simp only [attachedTo, hpp, hbusy, List.any_cons, this, Bool.false_or]

theorem ii_step {c : Cfg} {s s' : State} {l : Label} (h : II c s) (hs : step c s l = some s')
    (hp : s.pdone = false → headOffs c s ≤ s.ppos)
    (hq : ∀ sp ∈ s.scanQ, headOffs c s ≤ sp ∧ sp < tailOffs c s) : II c s' := by
  obtain ⟨-, st⟩ := step_inv hs
  cases st with
  | rTake hrph hin => exact ii_gen h (Nat.le_refl _) (by simp [holdc, hrph]; omega)
  | rQuit hrph | rEof hrph | rEmpty hrph =>
    exact ii_gen h (Nat.le_refl _) (by simp [holdc, hrph])
  | rBlockDrop hrph =>
    refine ii_gen h (Nat.le_refl _) ?_
    simp only [holdc, hrph]
    split <;> simp
  | rBlock hrph =>
    refine ii_gen h (Nat.le_succ _) ?_
    simp only [holdc, hrph]
    split <;> simp
  | wDone | reorderBogus | reorderErr | reorderMore | reorderOk =>
    exact ii_congr h
  | parseStart hsel hpp =>
    refine ii_congr h (hatt := fun x hx => ?_)
    simp only [attachedTo, hpp]
    have : (some (if s.ppos < tailOffs c s then some (s.ppos / c.W) else none)
        == some (some x)) = false := by
      split
      · next hlt =>
        have := fresh_of_pos (hp (selectTask_parse hsel).1) hlt
        simp only [beq_eq_false_iff_ne, ne_eq, Option.some.injEq]
        omega
      · simp
    rw [this]; simp
  | parseMore k hpp => exact ii_parseMore k (ii_leave_parser h hpp)
  | parseErr k u hpp | parseEof k u hpp => exact ii_congr (ii_leave_parser h hpp)
  | parseFinish k u hpp => exact ii_parseFinish u (ii_leave_parser h hpp)
  | parseOk k b hpp => exact ii_parseMatch b (ii_parsePush b (ii_leave_parser h hpp))
  | retrStart j =>
    refine ii_busy_cons h fun x e => ?_
    obtain ⟨hlt, ⟨-, -, rfl⟩ | ⟨hge, rfl⟩⟩ := retrStart_attach_some e
    · exact Nat.le_refl _
    · exact fresh_of_pos hge hlt
  | retrQuit j k hmem => exact ii_congr (ii_leave h hmem)
  | retrOvertaken j k hmem | retrMore j k hmem =>
    exact ii_congr (ii_retrMove j _ (ii_leave h hmem))
  | retrDone j k hmem => exact ii_retrDone _ _ (ii_retrMove j _ (ii_leave h hmem))
  | retrPost e hmem | emitMore e hmem | emitLast e hmem =>
    exact ii_erase_none h hmem rfl
  | emitStart e => exact ii_busy_cons (ph := .emit e) h nofun
  | scanStart sp _ hmem =>
    refine ii_busy_cons h fun x e => ?_
    cases e
    exact fresh_of_pos (hq sp hmem).1 (hq sp hmem).2
  | scanNone st k hmem => exact ii_congr (ii_leave h hmem)
  | scanFound st k x hmem =>
    rw [scanRequeue_eq]
    exact ii_congr (ii_scanNew x (ii_leave h hmem))

theorem ii_init (c : Cfg) : II c (init c) := by
  refine ⟨?_, Nat.le_refl _⟩
  simp [inputAlive_eq, attCnt, holdc, init]

end LbzVerif.Lemmas.SchedD
