/-
  "Every entry of `order_q` still has a producer": the ownership invariant `HI` behind
  `terminated_order_empty`, the missing piece of C09 `output_eq`.  Items are compared BY VALUE
  (base, index): two producers of the same base produce identical buffers in this model, so no
  uniqueness of producers is needed.  `HI` itself is obtained at the end of Exact.lean
  (`HI_of_XI`) from the sharper invariant `XI`.
-/
import LbzVerif.Lemmas.SchedD.Safe
import LbzVerif.Lemmas.SchedD.Cons

namespace LbzVerif.Lemmas.SchedD
open LbzVerif.Model.SchedD LbzVerif.Gen

/-- the emit job exists: queued, being decoded, or emitting -/
def EIn (s : State) (e : EJob) : Prop :=
  e ∈ s.emitQ ∨ Phase.retr2 e ∈ s.busy ∨ Phase.emit e ∈ s.busy

/-- the retrieve job exists: queued or running -/
def JIn (s : State) (j : Job) : Prop := j ∈ s.retrQ ∨ ∃ k, Phase.retr j k ∈ s.busy

theorem JIn_mono {s s' : State} {j : Job} (h : JIn s' j) (hq : ∀ j ∈ s'.retrQ, j ∈ s.retrQ)
    (hb : ∀ j k, Phase.retr j k ∈ s'.busy → Phase.retr j k ∈ s.busy) : JIn s j :=
  h.elim (fun h => .inl (hq j h)) (fun ⟨k, h⟩ => .inr ⟨k, hb j k h⟩)

theorem JIn_of_busy_erase {s s' : State} {ph : Phase} {j : Job} (h : JIn s' j)
    (hq : s'.retrQ = s.retrQ := by rfl) (hb : s'.busy = s.busy.erase ph := by rfl) : JIn s j :=
  JIn_mono h (fun _ h => hq ▸ h) (fun _ _ h => List.mem_of_mem_erase (hb ▸ h))

theorem JIn_of_busy_cons {s s' : State} {ph : Phase} {j : Job} (h : JIn s' j)
    (hn : ∀ j k, ph ≠ Phase.retr j k) (hq : s'.retrQ = s.retrQ := by rfl)
    (hb : s'.busy = ph :: s.busy := by rfl) : JIn s j :=
  JIn_mono h (fun _ h => hq ▸ h)
    (fun j k h => (List.mem_cons.1 (hb ▸ h)).resolve_left (fun e => hn j k e.symm))

theorem JIn_addJob {s : State} (jn : Job) :
    ∀ j, JIn { s with retrQ := jn :: s.retrQ } j → j = jn ∨ JIn s j := by
  rintro j (hj | ⟨k, hk⟩)
  · rcases List.mem_cons.1 hj with e | hm
    · exact Or.inl e
    · exact Or.inr (Or.inl hm)
  · exact Or.inr (Or.inr ⟨k, hk⟩)

theorem JIn_of_flag {s s' : State} {p : Nat → Bool} {j : Job} (h : JIn s' j)
    (hq : ∀ j ∈ s'.retrQ, ∃ j0, j0 ∈ s.retrQ ∧ flagJob p j0 = j)
    (hb : s'.busy = s.busy.map (flagPhase p)) : ∃ j0, JIn s j0 ∧ j = flagJob p j0 := by
  rcases h with hj | ⟨k, hk⟩
  · obtain ⟨j0, h0, e⟩ := hq j hj
    exact ⟨j0, Or.inl h0, e.symm⟩
  · obtain ⟨j0, h0, e⟩ := mem_map_flagPhase_retr (hb ▸ hk)
    exact ⟨j0, Or.inr ⟨k, h0⟩, e⟩

def McJob (s : State) (b : Nat) : Prop := ∃ j, JIn s j ∧ j.base = b ∧ Job.mc j = true

/-- an item that has, or will still produce, a buffer of block `b` with index ≥ `m` -/
def Cov (s : State) (b m : Nat) : Prop :=
  (∃ e, EIn s e ∧ e.base = b ∧ m < e.idx + e.left) ∨ (∃ o ∈ s.reordQ, o.base = b ∧ m ≤ o.idx)

structure HI0 (c : Cfg) (s : State) : Prop where
  ch  : ∀ o ∈ s.reordQ, o.st = .more → ∀ i, (o.base, i) ∈ s.orderQ → i ≤ o.idx →
          Cov s o.base (o.idx + 1)
  chf : s.pdone = false → ∀ o ∈ s.reordQ, o.st = .more → s.gnext < o.base →
          Cov s o.base (o.idx + 1)
  srt : s.orderQ.Pairwise (fun x y => x.1 < y.1)
  og  : ∀ b i, (b, i) ∈ s.orderQ → b ≤ s.gnext
  ei  : ∀ b i, (b, i) ∈ s.orderQ → i < (if (rres c b).ok then (rres c b).nb else 1)
  gs  : s.pdone = false → ∀ u ∈ s.orphans, u.f.inq = true → s.gnext < u.base → Cov s u.base 0
  pt  : s.pdone = true → s.ptok = true

structure HI (c : Cfg) (s : State) : Prop where
  h0 : HI0 c s
  h1 : ∀ b i, (b, i) ∈ s.orderQ → McJob s b ∨ Cov s b i

theorem Cov_le {s : State} {b m m' : Nat} (hm : m' ≤ m) (h : Cov s b m) : Cov s b m' := by
  rcases h with ⟨e, he, h1, h2⟩ | ⟨o, ho, h1, h2⟩
  · exact Or.inl ⟨e, he, h1, by omega⟩
  · exact Or.inr ⟨o, ho, h1, by omega⟩

theorem ejOK.inside {c : Cfg} {e : EJob} (h : ejOK c e) {m : Nat}
    (hm : m < nbufs c e.base) : m < e.idx + e.left := by
  obtain ⟨_, l2, l3⟩ := h
  cases hok : (rres c e.base).ok with
  | true =>
    have := (l2 hok).1
    simp only [nbufs, hok, if_true] at hm
    omega
  | false =>
    have := (l3 hok).1
    simp only [nbufs, hok, Bool.false_eq_true, if_false] at hm
    omega

theorem obOK.succ_inside {c : Cfg} {o : OB} (h : obOK c o) (hst : o.st = .more) :
    o.idx + 1 < nbufs c o.base := by
  have hob : (rres c o.base).ok = true ∧ o.idx + 1 < (rres c o.base).nb := by
    simpa [obOK, hst] using h
  simp only [nbufs, hob.1, if_true]
  exact hob.2

theorem Phase.retr_not_ej (j : Job) (k : Option Nat) (e : EJob) :
    Phase.retr j k ≠ Phase.retr2 e ∧ Phase.retr j k ≠ Phase.emit e :=
  ⟨fun h => Phase.noConfusion h, fun h => Phase.noConfusion h⟩

theorem Phase.scan_not_ej (st k : Nat) (e : EJob) :
    Phase.scan st k ≠ Phase.retr2 e ∧ Phase.scan st k ≠ Phase.emit e :=
  ⟨fun h => Phase.noConfusion h, fun h => Phase.noConfusion h⟩

theorem EIn_erase {s : State} {ph : Phase} (hn : ∀ e, ph ≠ Phase.retr2 e ∧ ph ≠ Phase.emit e)
    {e : EJob} (he : EIn s e) : EIn { s with busy := s.busy.erase ph } e :=
  he.imp id (Or.imp (fun h => mem_erase_ne h (fun hh => (hn e).1 hh.symm))
    (fun h => mem_erase_ne h (fun hh => (hn e).2 hh.symm)))

theorem EIn_emitEnd {s : State} {e e0 : EJob} {q : List EJob} {r : List OB} {w : Nat}
    (hq : ∀ x ∈ s.emitQ, x ∈ q) (he : EIn s e0) (hne : e0 ≠ e) :
    EIn { s with busy := s.busy.erase (.emit e), wu := w, emitQ := q, reordQ := r } e0 := by
  rcases he with he | he | he
  · exact Or.inl (hq e0 he)
  · exact Or.inr (Or.inl (mem_erase_ne he (fun hh => Phase.noConfusion hh)))
  · exact Or.inr (Or.inr (mem_erase_ne he (fun hh => hne (Phase.emit.inj hh))))

theorem EIn_cons {s : State} (ph : Phase) {e : EJob} (he : EIn s e) :
    EIn { s with busy := ph :: s.busy } e :=
  he.imp id (Or.imp (List.mem_cons_of_mem _) (List.mem_cons_of_mem _))

theorem JIn_cons {s : State} (ph : Phase) {j : Job} (h : JIn s j) :
    JIn { s with busy := ph :: s.busy } j :=
  h.imp id (fun ⟨k, hk⟩ => ⟨k, List.mem_cons_of_mem _ hk⟩)

theorem JIn_erase {s : State} {ph : Phase} (hn : ∀ j k, ph ≠ Phase.retr j k) {j : Job}
    (h : JIn s j) : JIn { s with busy := s.busy.erase ph } j :=
  h.imp id (fun ⟨k, hk⟩ => ⟨k, mem_erase_ne hk (fun hh => hn j k hh.symm)⟩)

theorem JIn_erase_retr {s : State} {j j0 : Job} {k : Option Nat} (h : JIn s j0) :
    j0 = j ∨ JIn { s with busy := s.busy.erase (.retr j k) } j0 := by
  rcases h with hq | ⟨k0, hk0⟩
  · exact Or.inr (Or.inl hq)
  · by_cases he : Phase.retr j0 k0 = Phase.retr j k
    · cases he; exact Or.inl rfl
    · exact Or.inr (Or.inr ⟨k0, mem_erase_ne hk0 he⟩)

theorem JIn_idle {s : State} {j : Job} (hb : s.busy = []) (h : JIn s j) : j ∈ s.retrQ := by
  rcases h with h | ⟨k, hk⟩
  · exact h
  · rw [hb] at hk; cases hk

theorem EIn_idle {s : State} {e : EJob} (hb : s.busy = []) (h : EIn s e) : e ∈ s.emitQ := by
  rcases h with h | h | h
  · exact h
  · rw [hb] at h; cases h
  · rw [hb] at h; cases h

/-- jobs only move -/
def JM (s s' : State) : Prop := ∀ j, JIn s j → JIn s' j

theorem JM.mc {s s' : State} (m : JM s s') {b : Nat} (h : McJob s b) : McJob s' b := by
  obtain ⟨j, hj, hb, hmc⟩ := h
  exact ⟨j, m j hj, hb, hmc⟩

theorem JM_of_eq {s s' : State} (e6 : s'.busy = s.busy) (e7 : s'.retrQ = s.retrQ) : JM s s' := by
  intro j hj; simpa [JIn, e6, e7] using hj

theorem JM_detach (s : State) (k : Option Nat) : JM s (detach s k) := by
  rw [detach_eq]; exact fun _ h => h

namespace Uniq

theorem flatMap_sublist {α β} (f : α → List β) {l' l : List α} (h : List.Sublist l' l) :
    List.Sublist (l'.flatMap f) (l.flatMap f) := by
  induction h with
  | slnil => exact List.Sublist.refl _
  | cons a _ ih =>
    simp only [List.flatMap_cons]
    exact ih.trans (List.sublist_append_right _ _)
  | cons_cons a _ ih =>
    simp only [List.flatMap_cons]
    exact List.Sublist.append (List.Sublist.refl _) ih

theorem flatMap_erase_perm {α β} [BEq α] [LawfulBEq α] (f : α → List β) {a : α} {l : List α}
    (h : a ∈ l) : List.Perm (l.flatMap f) (f a ++ (l.erase a).flatMap f) := by
  have := (List.perm_cons_erase h).flatMap_right f
  simpa only [List.flatMap_cons] using this

theorem flatMap_erase_nil {α β} [BEq α] [LawfulBEq α] (f : α → List β) {a : α} (l : List α)
    (h : f a = []) : (l.erase a).flatMap f = l.flatMap f := by
  induction l with
  | nil => rfl
  | cons x xs ih =>
    by_cases hx : x = a
    · subst hx; simp [h]
    · have : (x == a) = false := by simpa using hx
      simp only [List.erase_cons, this, Bool.false_eq_true, if_false, List.flatMap_cons, ih]

theorem flatMap_map_eq {α β} (f : α → List β) (g : α → α) (l : List α)
    (h : ∀ x, f (g x) = f x) : (l.map g).flatMap f = l.flatMap f := by
  simp only [List.flatMap_map, h]

theorem flatMap_replaceFirst_eq {α β} (f : α → List β) (q : α → Bool) (g : α → α) (l : List α)
    (h : ∀ x, f (g x) = f x) : (replaceFirst q g l).flatMap f = l.flatMap f := by
  rw [List.flatMap_def, List.flatMap_def, map_replaceFirst_key h]

theorem nodup_cons_middle {a : Nat} {l₁ l₂ : List Nat} (h : (l₁ ++ l₂).Nodup) (ha : a ∉ l₁ ++ l₂) :
    (l₁ ++ a :: l₂).Nodup :=
  (List.perm_middle.nodup_iff).2 (List.nodup_cons.2 ⟨ha, h⟩)

end Uniq
open Uniq

/-- the emit job a busy worker holds: being decoded (`retr2`) or emitting -/
def ejob : Phase → List EJob
  | .retr2 e => [e]
  | .emit e => [e]
  | _ => []

def emitJobs (s : State) : List EJob := s.emitQ ++ s.busy.flatMap ejob

theorem mem_emitJobs {s : State} {e : EJob} : e ∈ emitJobs s ↔ EIn s e := by
  simp only [emitJobs, EIn, List.mem_append, List.mem_flatMap]
  constructor
  · rintro (h | ⟨ph, hph, he⟩)
    · exact Or.inl h
    · cases ph with
      | retr2 e' =>
        rw [List.mem_singleton.1 he]
        exact Or.inr (Or.inl hph)
      | emit e' =>
        rw [List.mem_singleton.1 he]
        exact Or.inr (Or.inr hph)
      | _ => nomatch he
  · rintro (h | h | h)
    · exact Or.inl h
    · exact Or.inr ⟨_, h, by simp [ejob]⟩
    · exact Or.inr ⟨_, h, by simp [ejob]⟩

theorem ejob_flagPhase (p : Nat → Bool) (ph : Phase) : ejob (flagPhase p ph) = ejob ph := by
  cases ph <;> rfl

theorem ejob_good (ph : Phase) : ejob ph.good = ejob ph := by
  cases ph <;> rfl

theorem emitJobs_cons {s s' : State} {ph : Phase} (hq : s'.emitQ = s.emitQ)
    (hb : s'.busy = ph :: s.busy) (hp : ejob ph = []) : emitJobs s' = emitJobs s := by
  simp only [emitJobs, hq, hb, List.flatMap_cons, hp, List.nil_append]

theorem emitJobs_erase {s s' : State} {ph : Phase} (hq : s'.emitQ = s.emitQ)
    (hb : s'.busy = s.busy.erase ph) (hp : ejob ph = []) : emitJobs s' = emitJobs s := by
  simp only [emitJobs, hq, hb, flatMap_erase_nil ejob s.busy hp]

theorem emitJobs_flag {s s' : State} {p : Nat → Bool} (hq : s'.emitQ = s.emitQ)
    (hb : s'.busy = s.busy.map (flagPhase p)) : emitJobs s' = emitJobs s := by
  simp only [emitJobs, hq, hb, flatMap_map_eq ejob (flagPhase p) s.busy (ejob_flagPhase p)]

theorem emitJobs_good {s s' : State} {q : Phase → Bool} (hq : s'.emitQ = s.emitQ)
    (hb : s'.busy = replaceFirst q Phase.good s.busy) : emitJobs s' = emitJobs s := by
  simp only [emitJobs, hq, hb, flatMap_replaceFirst_eq ejob q Phase.good s.busy ejob_good]

theorem emitJobs_same {s s' : State} (hq : s'.emitQ = s.emitQ) (hb : s'.busy = s.busy) :
    emitJobs s' = emitJobs s := by
  simp only [emitJobs, hq, hb]

theorem emitJobs_perm_erase {s : State} {ph : Phase} {e : EJob} (hm : ph ∈ s.busy)
    (hp : ejob ph = [e]) :
    (emitJobs s).Perm (e :: (s.emitQ ++ (s.busy.erase ph).flatMap ejob)) := by
  have h1 := flatMap_erase_perm ejob hm
  rw [hp] at h1
  exact (List.Perm.append_left s.emitQ h1).trans List.perm_middle

theorem emitJobs_perm_start {s : State} {e : EJob} (hm : e ∈ s.emitQ) :
    (s.emitQ.erase e ++ (Phase.emit e :: s.busy).flatMap ejob).Perm (emitJobs s) := by
  simp only [emitJobs, List.flatMap_cons, ejob, List.singleton_append]
  exact List.perm_middle.trans (List.Perm.append_right _ (List.perm_cons_erase hm).symm)

theorem EIn_of_perm {s s' : State} (p : (emitJobs s).Perm (emitJobs s')) {e : EJob}
    (he : EIn s e) : EIn s' e :=
  mem_emitJobs.1 (p.mem_iff.1 (mem_emitJobs.2 he))


theorem EIn_of_flag {s s' : State} {p : Nat → Bool} {e : EJob} (h : EIn s' e)
    (hq : s'.emitQ = s.emitQ) (hb : s'.busy = s.busy.map (flagPhase p)) : EIn s e :=
  EIn_of_perm (.of_eq (emitJobs_flag hq hb)) h

theorem EIn_flag {s : State} {p : Nat → Bool} {e : EJob} (he : EIn s e) (s' : State)
    (e5 : s'.emitQ = s.emitQ) (e6 : s'.busy = s.busy.map (flagPhase p)) : EIn s' e :=
  EIn_of_perm (.of_eq (emitJobs_flag e5 e6).symm) he

theorem no_mc_JIn {s : State} (h : mcount s = 0) {j : Job} (hj : JIn s j)
    (hmc : Job.mc j = true) : False := by
  have hz := mcount_zero_jobs h
  rcases hj with hq | ⟨k, hk⟩
  · rw [hz.1 j hq] at hmc; cases hmc
  · have := hz.2 _ hk
    rw [show Phase.mc (.retr j k) = Job.mc j from rfl, hmc] at this
    cases this

/-- A master-capable job other than `j` survives `j`'s `retrMove`: only the master
    advances the queues, and then there is no other master-capable job. -/
theorem JIn_retrMove {c : Cfg} {s1 : State} {j j0 : Job} (n : Nat) (hred : j.redundant = false)
    (h1 : mcount s1 + (if Job.mc j then 1 else 0) ≤ 1) (hj0 : JIn s1 j0)
    (hmc : Job.mc j0 = true) : JIn (retrMove c s1 j n) j0 := by
  cases hm : j.master with
  | false => rw [retrMove_spec c s1 n hm]; exact hj0
  | true =>
    rw [master_mc hm hred] at h1
    exact (no_mc_JIn (by simpa using h1) hj0 hmc).elim

theorem mem_parsePush_orderQ {c : Cfg} {s : State} {b b' i : Nat} :
    (b', i) ∈ (parsePush c s b).orderQ ↔ (b', i) ∈ s.orderQ ∨ (b' = b ∧ i = 0) := by
  show (b', i) ∈ s.orderQ ++ [(b, 0)] ↔ _
  rw [List.mem_append, List.mem_singleton, Prod.mk.injEq]

theorem retrDone_facts (c : Cfg) (s2 : State) (j : Job) (newc : Nat) :
    JM s2 (retrDone c s2 j newc) ∧
    EIn (retrDone c s2 j newc) (doneEJob c j) := by
  obtain ⟨pt, po, orp, e⟩ := retrDone_frame c s2 j newc
  rw [e]
  exact ⟨fun _ hj => JIn_cons _ hj, Or.inr (Or.inl List.mem_cons_self)⟩

end LbzVerif.Lemmas.SchedD
