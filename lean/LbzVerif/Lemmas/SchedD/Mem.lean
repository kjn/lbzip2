/-
  Counting the live heap objects of the expansion scheduler (for C13): every allocation site of
  src/expand.c is charged to a holder of the model (the table of sites and holders stands at
  `Props.C13.Expand.liveBytes`), and the number of holders of each kind is bounded by a conserved
  total or a queue capacity.  The state in which `failf` has just been called holds no more heap
  objects than the state before, so the bounds extend from the non-failed reachable states, where
  the conservation laws are stated, to ALL reachable states.
-/
import LbzVerif.Lemmas.SchedD.Inv

namespace LbzVerif.Lemmas.SchedD
open LbzVerif.Model.SchedD LbzVerif.Gen

/-- the busy worker holds a decoder (`tt` + `retriever_internal_state`, inside
    a retr_blk or an emit_blk) -/
def isDec : Phase → Bool
  | .retr _ _ => true
  | .retr2 _ => true
  | .emit _ => true
  | .scan _ _ => false

def isScan : Phase → Bool
  | .scan _ _ => true
  | _ => false

def decHolders (s : State) : Nat := s.retrQ.length + s.emitQ.length + s.busy.countP isDec

def Job.hasUb (j : Job) : Bool := j.ub.isSome
def Phase.hasUb : Phase → Bool
  | .retr j _ => Job.hasUb j
  | _ => false

def unordLive (s : State) : Nat :=
  s.orphans.length + s.retrQ.countP Job.hasUb + s.busy.countP Phase.hasUb

/-- scan descriptors alive: queued, with a running scanner, or just allocated
    by the reader (on_input_avail, before its `sched_lock`) -/
def scanLive (s : State) : Nat := s.scanQ.length + s.busy.countP isScan + holdc s

theorem decHolders_le_units (s : State) : decHolders s ≤ unitsHeld s := by
  have := List.countP_le_length (p := isDec) (l := s.busy)
  simp only [decHolders, unitsHeld, busyCount]; omega

/-- `≤`, not `=`: a scanner and the parser hold a work unit and no decoder -/
theorem dec_le {c : Cfg} {s : State} (h : Reach c s) (hf : s.failed = false) :
    decHolders s + s.wu ≤ c.n := by
  have := (ci_reach h hf).wuC
  have := decHolders_le_units s
  simp only [unitsHeld] at this
  omega

theorem slots_eq {c : Cfg} {s : State} (h : Reach c s) (hf : s.failed = false) :
    slotsHeld s + s.outSlots = c.totalOut := by
  have := (ci_reach h hf).osC
  simp only [slotsHeld]; omega

/-- every unord_blk is in `unord_q` (an orphan: `no_unord_leak`) or linked from
    a live retrieve job -/
theorem unordLive_le {c : Cfg} (hW : 0 < c.W) (hn : 1 ≤ c.n) (ho : EMIT_THRESH < c.totalOut)
    {s : State} (h : Reach c s) (hf : s.failed = false) :
    unordLive s ≤ unordCap c.n c.totalOut + c.n := by
  have hcap := unord_cap hW hn ho h hf
  have hall := (no_unord_leak h hf).1
  have e : s.orphans.countP (·.f.inq) = s.orphans.length :=
    List.countP_eq_length.2 hall
  have h1 := List.countP_le_length (p := Job.hasUb) (l := s.retrQ)
  have h2 := List.countP_le_length (p := Phase.hasUb) (l := s.busy)
  have hw := (ci_reach h hf).wuC
  simp only [busyCount] at hw
  simp only [unordSize, unordCapOf] at hcap
  simp only [unordLive]
  omega

theorem length_flatMap_scanBlock (l : List Phase) :
    (l.flatMap Phase.scanBlock).length = l.countP isScan := by
  induction l with
  | nil => rfl
  | cons x xs ih =>
    simp only [List.flatMap_cons, List.length_append, List.countP_cons, ih]
    cases x <;> simp [Phase.scanBlock, isScan] <;> omega

theorem scanBlocks_length (c : Cfg) (s : State) :
    (scanBlocks c s).length = s.scanQ.length + s.busy.countP isScan := by
  simp only [scanBlocks, List.length_append, List.length_map, length_flatMap_scanBlock]

/-- the input blocks that are alive: released but still attached, or in input_q -/
def aliveBlocks (s : State) : List Nat :=
  (List.range s.head).filter (fun k => attachedTo s k) ++ List.range' s.head (s.rd - s.head)

theorem aliveBlocks_length (s : State) : (aliveBlocks s).length = attCnt s + (s.rd - s.head) := by
  simp only [aliveBlocks, List.length_append, attCnt, List.length_range']

theorem scanBlocks_alive {c : Cfg} (hW : 0 < c.W) {s : State} (h : Reach c s) :
    ∀ k ∈ scanBlocks c s, k ∈ aliveBlocks s := by
  have hA := lo_reach h
  have hQ := hi_reach hW h
  intro k hk
  simp only [scanBlocks, List.mem_append, List.mem_map, List.mem_flatMap] at hk
  simp only [aliveBlocks, List.mem_append, List.mem_filter, List.mem_range, List.mem_range'_1]
  rcases hk with ⟨sp, hsp, rfl⟩ | ⟨ph, hph, hk⟩
  · have h1 := hA.sc sp hsp
    have h2 := hQ.sq sp hsp
    have h3 : s.head ≤ sp / c.W := fresh_of_pos (h := s.head) h1 h2
    have h4 := div_lt_of_lt_offs h2
    right; omega
  · cases ph with
    | scan st k' =>
      simp only [Phase.scanBlock, List.mem_singleton] at hk
      subst hk
      have h1 : k < s.rd := hQ.bz _ hph
      by_cases hh : s.head ≤ k
      · right; omega
      · left
        refine ⟨by omega, ?_⟩
        simp only [attachedTo, Bool.or_eq_true, List.any_eq_true]
        exact Or.inr ⟨_, hph, by simp [Phase.block]⟩
    | _ => simp [Phase.scanBlock] at hk

theorem scanLive_le_input {c : Cfg} (hW : 0 < c.W) {s : State} (h : Reach c s) :
    scanLive s ≤ inputAlive s := by
  have hn := (ui_reach hW h).t1
  have := hn.length_le_of_subset (scanBlocks_alive hW h)
  rw [scanBlocks_length, aliveBlocks_length] at this
  simp only [scanLive, inputAlive_eq]
  omega

theorem scanLive_le {c : Cfg} (hW : 0 < c.W) {s : State} (h : Reach c s) :
    scanLive s ≤ c.totalIn := by
  have := scanLive_le_input hW h
  have := in_slots_conserved hW h
  omega

/-- capacity of `scan_q` (`pqueue_init(scan_q, in_slots)`) and of `input_q`
    (`deque_init(input_q, in_slots)`) -/
theorem scan_q_cap {c : Cfg} (hW : 0 < c.W) {s : State} (h : Reach c s) :
    s.scanQ.length ≤ c.totalIn ∧ s.rd - s.head ≤ c.totalIn := by
  have := scanLive_le hW h
  have := in_slots_conserved hW h
  simp only [scanLive] at *
  simp only [inputAlive_eq] at *
  omega

theorem unordCap_le (a b : Nat) : unordCap a b ≤ a + b := by
  unfold unordCap; split <;> omega

structure FK (s s' : State) : Prop where
  rq : s'.retrQ = s.retrQ
  eq : s'.emitQ = s.emitQ
  bz : s'.busy = s.busy
  orp : s'.orphans = s.orphans
  oq : s'.outq = s.outq
  ro : s'.reordQ.length ≤ s.reordQ.length

/-- Only `reorderErr`, `parseErr` and `parseEof` set `failed`; every other transition hands the
    flag on unchanged. -/
theorem failed_step {c : Cfg} {s s' : State} {l : Label} (hs : step c s l = some s')
    (hf' : s'.failed = true) : FK s s' := by
  obtain ⟨hf, st⟩ := step_inv hs
  have no : ∀ {t : State}, t.failed = true → t.failed = s.failed → FK s s' :=
    fun h e => absurd (hf.symm.trans (e.symm.trans h)) Bool.false_ne_true
  cases st with
  | rTake | rQuit | rBlockDrop | rBlock | rEmpty | rEof | wDone | reorderBogus | reorderMore
  | reorderOk | parseStart | retrStart | retrPost | emitStart | emitMore | emitLast | scanStart =>
    exact no hf' rfl
  | reorderErr =>
    exact ⟨rfl, rfl, rfl, rfl, rfl, List.Sublist.length_le List.erase_sublist⟩
  | parseErr k u =>
    rw [parseVerdict_err, detach_eq]
    exact ⟨rfl, rfl, rfl, rfl, rfl, Nat.le_refl _⟩
  | parseEof k u =>
    rw [parseVerdict_eof, detach_eq]
    exact ⟨rfl, rfl, rfl, rfl, rfl, Nat.le_refl _⟩
  | parseMore k | parseFinish k u => exact no hf' (eqv_detach _ k).fl
  | parseOk k b => exact no hf' ((eqv_parseMatch c _ b).fl.trans (eqv_detach _ k).fl)
  | retrQuit j k => exact no hf' (eqv_detach _ k).fl
  | retrOvertaken j k | retrMore j k =>
    exact no hf' ((eqv_retrMove c _ j _).fl.trans (eqv_detach _ k).fl)
  | retrDone j k =>
    exact no hf' ((eqv_retrDone c _ j _).fl.trans ((eqv_retrMove c _ j _).fl.trans
      (eqv_detach _ k).fl))
  | scanNone st k => exact no hf' (eqv_detach _ (some k)).fl
  | scanFound st k x =>
    exact no hf' ((eqv_scanRequeue c _ x _).fl.trans ((eqv_scanNew c _ x).fl.trans
      (eqv_detach _ (some k)).fl))

theorem failed_pred {c : Cfg} {s : State} (h : Reach c s) (hf : s.failed = true) :
    ∃ s0, Reach c s0 ∧ s0.failed = false ∧ FK s0 s := by
  cases h with
  | init => simp [init] at hf
  | step l hr hs => exact ⟨_, hr, step_not_failed hs, failed_step hs hf⟩

theorem holders_le_all {c : Cfg} (hW : 0 < c.W) (hn : 1 ≤ c.n) (ho : EMIT_THRESH < c.totalOut)
    {s : State} (h : Reach c s) :
    decHolders s ≤ c.n ∧ slotsHeld s ≤ c.totalOut ∧ unordLive s ≤ unordCap c.n c.totalOut + c.n := by
  cases hf : s.failed with
  | false =>
    have a := dec_le h hf
    have b := slots_eq h hf
    exact ⟨by omega, by omega, unordLive_le hW hn ho h hf⟩
  | true =>
    obtain ⟨s0, h0, hf0, k⟩ := failed_pred h hf
    have a := dec_le h0 hf0
    have b := slots_eq h0 hf0
    have d := unordLive_le hW hn ho h0 hf0
    have e1 : decHolders s = decHolders s0 := by simp only [decHolders, k.rq, k.eq, k.bz]
    have e2 : slotsHeld s ≤ slotsHeld s0 := by
      have := k.ro
      simp only [slotsHeld, emitBusy, k.bz, k.oq]; omega
    have e3 : unordLive s = unordLive s0 := by simp only [unordLive, k.rq, k.orp, k.bz]
    exact ⟨by omega, by omega, by omega⟩

end LbzVerif.Lemmas.SchedD
