/-
  The EMIT_THRESH reservation of the expansion scheduler (`can_emit`):
      out_slots > EMIT_THRESH
   || (out_slots > 0 && !empty(order_q) && pos_le(peek(emit_q), head(order_q)))
  An output slot is held by a buffer waiting in `reord_q` or by a worker inside `emit()`.  A
  holder is ahead of the output position (`aheadKey`) when its position (base, index) lies strictly
  after the head of `order_q` or, when `order_q` is empty, its base lies after `gnext` (every future
  entry of `order_q` has a base > `gnext`).  The last EMIT_THRESH slots only go to a job that is not
  ahead; the invariant that says so is `UCap.SL` (UnordCap), this file has the order facts it uses.
-/
import LbzVerif.Lemmas.SchedD.Exact

namespace LbzVerif.Lemmas.SchedD
open LbzVerif.Model.SchedD LbzVerif.Gen

def aheadKey (oq : List (Nat × Nat)) (g : Nat) (k : Nat × Nat) : Bool :=
  match oq with
  | [] => decide (g < k.1)
  | h :: _ => posLt h k

namespace Reserve

theorem posLt_succ {b i : Nat} {k : Nat × Nat} (h : posLt (b, i + 1) k = true) :
    posLt (b, i) k = true := by
  simp only [posLt, Bool.or_eq_true, Bool.and_eq_true, decide_eq_true_eq, beq_iff_eq] at h ⊢
  omega

theorem posLt_of_base_lt {a h k : Nat × Nat} (hb : a.1 < h.1) (hk : posLt h k = true) :
    posLt a k = true := by
  simp only [posLt, Bool.or_eq_true, Bool.and_eq_true, decide_eq_true_eq, beq_iff_eq] at hk ⊢
  omega

theorem posLt_of_gnext {a k : Nat × Nat} {g : Nat} (hb : a.1 ≤ g) (hk : g < k.1) :
    posLt a k = true := by
  simp only [posLt, Bool.or_eq_true, Bool.and_eq_true, decide_eq_true_eq, beq_iff_eq]
  omega

theorem base_ge_of_posLt {b : Nat} {k : Nat × Nat} (hk : posLt (b, 0) k = true) : b ≤ k.1 := by
  simp only [posLt, Bool.or_eq_true, Bool.and_eq_true, decide_eq_true_eq, beq_iff_eq] at hk
  omega

/-- `push(order_q)`: a non-empty `order_q` keeps its head; the first entry of an empty one has a
    base after the old `gnext` -/
theorem ahead_parsePush {oq : List (Nat × Nat)} {g g' b : Nat} (hg : g < b) (k : Nat × Nat)
    (ha : aheadKey (oq ++ [(b, 0)]) g' k = true) : aheadKey oq g k = true := by
  cases oq with
  | nil =>
    have := base_ge_of_posLt (show posLt (b, 0) k = true from ha)
    show decide (g < k.1) = true
    simp only [decide_eq_true_eq]; omega
  | cons x r => exact ha

/-- the buffer `order_q` waits for is written: what is ahead of the new head was ahead of the old -/
theorem ahead_reorderHead {c : Cfg} {s : State} {ob : OB} {r q' : List (Nat × Nat)} (hH : X0 c s)
    (hord : s.orderQ = (ob.base, ob.idx) :: r)
    (hq : q' = r ∨ q' = (ob.base, ob.idx + 1) :: r) (k : Nat × Nat)
    (hk : aheadKey q' s.gnext k = true) : aheadKey s.orderQ s.gnext k = true := by
  have hpc := List.pairwise_cons.1 (hord ▸ hH.srt)
  have hog : ob.base ≤ s.gnext := hH.og _ _ (by rw [hord]; exact List.mem_cons_self)
  rw [hord]
  show posLt (ob.base, ob.idx) k = true
  rcases hq with rfl | rfl
  · cases q' with
    | nil =>
      have hk' : decide (s.gnext < k.1) = true := hk
      exact posLt_of_gnext (a := (ob.base, ob.idx)) hog (of_decide_eq_true hk')
    | cons h2 r2 =>
      have hk' : posLt h2 k = true := hk
      exact posLt_of_base_lt (hpc.1 h2 List.mem_cons_self) hk'
  · exact posLt_succ hk

/-- `can_emit`: more than `EMIT_THRESH` slots are free, or the job is not after the head of
    `order_q` -/
theorem emit_guard {c : Cfg} {s : State} {e : EJob} (hsel : selectTask c s = some "emit")
    (hmin : minKey? (s.emitQ.map EJob.key) = some e.key) :
    EMIT_THRESH < s.outSlots ∨
      0 < s.outSlots ∧ ∃ x r, s.orderQ = x :: r ∧ posLt x e.key = false := by
  obtain ⟨hos, h | ⟨e', o, r, he, ho, hle⟩⟩ := selectTask_emit hsel
  · exact Or.inl h
  · rw [hmin] at he
    cases he
    exact Or.inr ⟨hos, o, r, ho, by simpa [posLe] using hle⟩

end Reserve

end LbzVerif.Lemmas.SchedD
