/-
  `no_taint`: the ghost flags `corrupt` (a retrieve job was attached behind `head_offs`, i.e. read
  released input) and `taint` (such a job acted as master / its output was taken over by the parser /
  reached the sink) are never set in a reachable state.  The only place where `corrupt` can become
  `true` is `stepRetrStart` (`stale`), and `Lo` shows `stale = false` there; the rest is propagation
  from object to object (`oi_step`).
-/
import LbzVerif.Lemmas.SchedD.Lo
import LbzVerif.Lemmas.SchedD.Objects

namespace LbzVerif.Lemmas.SchedD
open LbzVerif.Model.SchedD LbzVerif.Gen

/-- the job carried by a busy phase is not corrupt -/
def phOK : Phase → Prop
  | .retr j _ => j.corrupt = false
  | .retr2 e => e.corrupt = false
  | .emit e => e.corrupt = false
  | .scan _ _ => True

def tiP : OP :=
  ⟨(·.corrupt = false), phOK, (·.corrupt = false), (·.corrupt = false), (·.corrupt = false),
    (· = false)⟩

abbrev TI (s : State) : Prop := OI tiP s

theorem TI_init (c : Cfg) : TI (init c) := by
  refine ⟨?_, ?_, ?_, ?_, ?_, rfl⟩ <;> simp [init]

/-- every object inherits the flag of the one it is made from -/
theorem tiP_OC (c : Cfg) : OC c tiP where
  flagJ _ _ h := h
  flagP _ ph h := by cases ph <;> exact h
  goodJ _ h := h
  goodP ph h := by cases ph <;> exact h
  flagU _ h _ := h
  goodU _ h _ := h
  newJ _ := rfl
  scanJ _ := rfl
  moreJ _ _ _ h := h
  doneP _ _ h := h
  doneU _ _ _ _ h _ _ := h
  postE _ h := h
  emitP _ h := h
  nextE _ h := h
  outO _ _ h := h
  taintJ t j _ (ht : t = false) (hj : j.corrupt = false) := by
    show (t || j.corrupt) = false; rw [ht, hj]; rfl
  taintU t u (ht : t = false) (hu : u.corrupt = false) := by
    show (t || u.corrupt) = false; rw [ht, hu]; rfl
  taintO t o (ht : t = false) (ho : o.corrupt = false) := by
    show (t || o.corrupt) = false; rw [ht, ho]; rfl

theorem ti_step {c : Cfg} {s s' : State} {l : Label} (h : TI s) (hL : Lo c s)
    (hs : step c s l = some s') : TI s' := by
  obtain ⟨-, st⟩ := step_inv hs
  refine oi_step (tiP_OC c) st h fun ph hst => ?_
  cases st with
  | retrStart j _ hmem =>
    -- the only step that can set `corrupt`; `attach_in_range` says it does not
    cases hst
    have hle : headOffs c s ≤ j.curr := hL.arQ j hmem
    have hj : j.corrupt = false := h.jq j hmem
    show (j.corrupt || decide (j.curr < headOffs c s)) = false
    rw [hj, decide_eq_false (by omega)]; rfl
  | scanStart sp => cases hst; trivial
  | _ => cases hst

end LbzVerif.Lemmas.SchedD
