/-
  "Every block position has at most one producer" for the SchedD model:
  the scanner reports every candidate at most once and the parser creates a
  master job only where no scanner-found entry exists, so no two retrieve jobs /
  finished-but-unconfirmed blocks share a base, and no emit job or output buffer
  shares its base with a live retrieve job.
-/
import LbzVerif.Lemmas.SchedD.Holder
import LbzVerif.Lemmas.SchedD.Hi
import LbzVerif.Lemmas.SchedD.Leak
import LbzVerif.Lemmas.SchedD.RetrK

namespace LbzVerif.Lemmas.SchedD
open LbzVerif.Model.SchedD LbzVerif.Gen

def Job.baseL (j : Job) : List Nat := [j.base]
/-- the job was created by the scanner (it owns an unord_blk) -/
def Job.specL (j : Job) : List Nat := if j.ub.isSome then [j.base] else []
def UB.baseL (u : UB) : List Nat := [u.base]
def Phase.jobBase : Phase → List Nat
  | .retr j _ => Job.baseL j
  | _ => []
def Phase.specBase : Phase → List Nat
  | .retr j _ => Job.specL j
  | _ => []
def Phase.scanBlock : Phase → List Nat
  | .scan _ k => [k]
  | _ => []

def Phase.emitBase : Phase → List Nat
  | .retr2 e => [e.base]
  | .emit e => [e.base]
  | _ => []

def emitBases (s : State) : List Nat :=
  s.emitQ.map (·.base) ++ s.busy.flatMap Phase.emitBase

def jobBases (s : State) : List Nat :=
  s.retrQ.flatMap Job.baseL ++ s.busy.flatMap Phase.jobBase
/-- bases of the finished-but-unconfirmed blocks -/
def orphanBases (s : State) : List Nat := s.orphans.flatMap UB.baseL
/-- bases of everything the scanner found and that is still around -/
def specBases (s : State) : List Nat :=
  s.retrQ.flatMap Job.specL ++ s.busy.flatMap Phase.specBase ++ orphanBases s
def scanBlocks (c : Cfg) (s : State) : List Nat :=
  s.scanQ.map (· / c.W) ++ s.busy.flatMap Phase.scanBlock
def ItemBase (s : State) (y : Nat) : Prop :=
  (∃ e, EIn s e ∧ e.base = y) ∨ (∃ o ∈ s.reordQ, o.base = y)

theorem jobBases_eq_map (s : State) :
    jobBases s = s.retrQ.map (·.base) ++ s.busy.flatMap Phase.jobBase := by
  unfold jobBases; rw [List.map_eq_flatMap]; rfl

theorem orphanBases_eq_map (s : State) : orphanBases s = s.orphans.map (·.base) := by
  unfold orphanBases; rw [List.map_eq_flatMap]; rfl

open Uniq

theorem mem_jobBases {s : State} {y : Nat} : y ∈ jobBases s ↔ ∃ j, JIn s j ∧ j.base = y := by
  simp only [jobBases, List.mem_append, List.mem_flatMap]
  constructor
  · rintro (⟨j, hj, hy⟩ | ⟨ph, hph, hy⟩)
    · simp only [Job.baseL, List.mem_singleton] at hy
      exact ⟨j, Or.inl hj, hy.symm⟩
    · cases ph with
      | retr j k =>
        simp only [Phase.jobBase, Job.baseL, List.mem_singleton] at hy
        exact ⟨j, Or.inr ⟨k, hph⟩, hy.symm⟩
      | _ => nomatch hy
  · rintro ⟨j, hj | ⟨k, hk⟩, rfl⟩
    · exact Or.inl ⟨j, hj, by simp [Job.baseL]⟩
    · exact Or.inr ⟨_, hk, by simp [Phase.jobBase, Job.baseL]⟩

theorem mem_orphanBases {s : State} {y : Nat} :
    y ∈ orphanBases s ↔ ∃ u ∈ s.orphans, u.base = y := by
  simp only [orphanBases, List.mem_flatMap, UB.baseL, List.mem_singleton]
  constructor
  · rintro ⟨u, hu, rfl⟩; exact ⟨u, hu, rfl⟩
  · rintro ⟨u, hu, rfl⟩; exact ⟨u, hu, rfl⟩

theorem mem_specL {j : Job} {y : Nat} : y ∈ Job.specL j ↔ j.ub.isSome = true ∧ j.base = y := by
  unfold Job.specL
  split
  · next hs => simp only [List.mem_singleton, hs, true_and]; exact eq_comm
  · next hs => simp [hs]

theorem mem_specBases {s : State} {y : Nat} :
    y ∈ specBases s ↔ (∃ j, JIn s j ∧ j.ub.isSome = true ∧ j.base = y) ∨ y ∈ orphanBases s := by
  simp only [specBases, List.mem_append, List.mem_flatMap]
  constructor
  · rintro ((⟨j, hj, hy⟩ | ⟨ph, hph, hy⟩) | h)
    · exact Or.inl ⟨j, Or.inl hj, mem_specL.1 hy⟩
    · cases ph with
      | retr j k => exact Or.inl ⟨j, Or.inr ⟨k, hph⟩, mem_specL.1 hy⟩
      | _ => nomatch hy
    · exact Or.inr h
  · rintro (⟨j, hj | ⟨k, hk⟩, hs⟩ | h)
    · exact Or.inl (Or.inl ⟨j, hj, mem_specL.2 hs⟩)
    · exact Or.inl (Or.inr ⟨_, hk, mem_specL.2 hs⟩)
    · exact Or.inr h

theorem orphanBases_sub_spec {s : State} {y : Nat} (h : y ∈ orphanBases s) : y ∈ specBases s :=
  mem_specBases.2 (Or.inr h)

structure UIB (s : State) : Prop where
  /-- no two retrieve jobs and no two finished-but-unconfirmed blocks share a base, nor a job
      with such a block -/
  u1 : (jobBases s ++ orphanBases s).Nodup
  /-- an emit job / output buffer never shares its base with a live retrieve job -/
  u2 : ∀ y, ItemBase s y → y ∉ jobBases s
  /-- an emit job / output buffer lies at or before `parser_bs`, or belongs to a
      finished-but-unconfirmed block -/
  ib : s.pdone = false → ∀ y, ItemBase s y → y ≤ s.ppos ∨ y ∈ orphanBases s
  /-- a scanner-found job whose entry has left unord_q lies at or before `parser_bs` -/
  nq : s.pdone = false → ∀ j, JIn s j → ∀ f, j.ub = some f → f.inq = false → j.base ≤ s.ppos

structure UIT (c : Cfg) (s : State) : Prop where
  /-- at most one scan task (queued position or running `scan()`) per input block -/
  t1 : (scanBlocks c s).Nodup
  /-- a scanner-found origin inside a task's block lies at or before the task's position: the
      task will not report it again (`dq`: queued tasks, `db`: running ones) -/
  dq : ∀ x ∈ specBases s, ∀ sp ∈ s.scanQ,
        offs c (sp / c.W) < x → x ≤ offs c (sp / c.W + 1) → x ≤ sp
  db : ∀ x ∈ specBases s, ∀ st k, Phase.scan st k ∈ s.busy →
        offs c k < x → x ≤ offs c (k + 1) → x ≤ st
  /-- the scanner has found nothing beyond the input read so far (`tail_offs`) -/
  ot : ∀ x ∈ specBases s, x ≤ tailOffs c s

/-- the invariant carried through the steps; `UI` is the same with the fields side by side -/
abbrev UU (c : Cfg) (s : State) : Prop := UIB s ∧ UIT c s

/-- `s'` is `s` with jobs / orphans / items removed or re-flagged and the parser
    position moved forward -/
structure ShB (s s' : State) : Prop where
  u1 : (jobBases s ++ orphanBases s).Nodup → (jobBases s' ++ orphanBases s').Nodup
  ji : ∀ j, JIn s' j → ∃ j0, JIn s j0 ∧ j0.base = j.base ∧
        (j.ub.isSome = true → j0.ub.isSome = true)
  ob : ∀ y ∈ orphanBases s', y ∈ orphanBases s
  it : ∀ y, ItemBase s' y → ItemBase s y
  pp : s'.pdone = false → s.pdone = false ∧ s.ppos ≤ s'.ppos
  ol : s'.pdone = false → ∀ y ∈ orphanBases s, y ∈ orphanBases s' ∨ y ≤ s'.ppos
  nq : s'.pdone = false → ∀ j, JIn s' j → ∀ f, j.ub = some f → f.inq = false →
        j.base ≤ s'.ppos ∨
        ∃ j0 f0, JIn s j0 ∧ j0.ub = some f0 ∧ f0.inq = false ∧ j0.base = j.base

structure ShT (c : Cfg) (s s' : State) : Prop where
  t1 : (scanBlocks c s).Nodup → (scanBlocks c s').Nodup
  sq : ∀ sp ∈ s'.scanQ, sp ∈ s.scanQ
  sc : ∀ st k, Phase.scan st k ∈ s'.busy → Phase.scan st k ∈ s.busy
  rd : s.rd ≤ s'.rd

abbrev Sh (c : Cfg) (s s' : State) : Prop := ShB s s' ∧ ShT c s s'

theorem ShB.jb {s s' : State} (f : ShB s s') {y : Nat} (h : y ∈ jobBases s') : y ∈ jobBases s := by
  obtain ⟨j, hj, rfl⟩ := mem_jobBases.1 h
  obtain ⟨j0, h0, hb, _⟩ := f.ji j hj
  exact mem_jobBases.2 ⟨j0, h0, hb⟩

theorem ShB.sb {s s' : State} (f : ShB s s') {y : Nat} (h : y ∈ specBases s') :
    y ∈ specBases s := by
  rcases mem_specBases.1 h with ⟨j, hj, hs, rfl⟩ | h
  · obtain ⟨j0, h0, hb, hs0⟩ := f.ji j hj
    exact mem_specBases.2 (Or.inl ⟨j0, h0, hs0 hs, hb⟩)
  · exact mem_specBases.2 (Or.inr (f.ob y h))

structure FreshB (s : State) (b : Nat) : Prop where
  nj : b ∉ jobBases s ++ orphanBases s
  ni : ¬ ItemBase s b

structure FreshT (c : Cfg) (s : State) (b : Nat) : Prop where
  sq : ∀ sp ∈ s.scanQ, offs c (sp / c.W) < b → b ≤ offs c (sp / c.W + 1) → b ≤ sp
  sb : ∀ st k, Phase.scan st k ∈ s.busy → offs c k < b → b ≤ offs c (k + 1) → b ≤ st
  st : b ≤ tailOffs c s

theorem FreshT_frame {c : Cfg} {s s' : State} {b : Nat} (h : FreshT c s b) (ft : ShT c s s') :
    FreshT c s' b :=
  ⟨fun sp hsp => h.sq sp (ft.sq sp hsp), fun st k hm => h.sb st k (ft.sc st k hm),
    Nat.le_trans h.st (offs_mono c ft.rd)⟩

theorem FreshB_frame {s s' : State} {b : Nat} (h : FreshB s b) (f : ShB s s') : FreshB s' b := by
  refine ⟨?_, fun hi => h.ni (f.it b hi)⟩
  intro hm
  rcases List.mem_append.1 hm with hm | hm
  · exact h.nj (List.mem_append.2 (Or.inl (f.jb hm)))
  · exact h.nj (List.mem_append.2 (Or.inr (f.ob b hm)))

theorem FreshB_of {s : State} {b : Nat} (hmj : ∀ j, JIn s j → j.ub = none → j.base ≠ b)
    (hns : b ∉ specBases s) (hi : ItemBase s b → b ∈ orphanBases s) : FreshB s b := by
  refine ⟨fun hm => ?_, fun h => hns (orphanBases_sub_spec (hi h))⟩
  rcases List.mem_append.1 hm with hm | hm
  · obtain ⟨j, hj, hb⟩ := mem_jobBases.1 hm
    cases hu : j.ub with
    | none => exact hmj j hj hu hb
    | some f => exact hns (mem_specBases.2 (Or.inl ⟨j, hj, by rw [hu]; rfl, hb⟩))
  · exact hns (orphanBases_sub_spec hm)

theorem UIB_frame {s s' : State} (h : UIB s) (f : ShB s s') : UIB s' := by
  refine ⟨f.u1 h.u1, ?_, ?_, ?_⟩
  · intro y hy hj
    exact h.u2 y (f.it y hy) (f.jb hj)
  · intro hd y hy
    obtain ⟨hd0, hle⟩ := f.pp hd
    rcases h.ib hd0 y (f.it y hy) with h1 | h1
    · exact Or.inl (by omega)
    · rcases f.ol hd y h1 with h2 | h2
      · exact Or.inr h2
      · exact Or.inl h2
  · intro hd j hj fl hf hi
    obtain ⟨hd0, hle⟩ := f.pp hd
    rcases f.nq hd j hj fl hf hi with h1 | ⟨j0, f0, h0, hf0, hi0, hb⟩
    · exact h1
    · have := h.nq hd0 j0 h0 f0 hf0 hi0
      omega

theorem UIT.fresh {c : Cfg} {s : State} (h : UIT c s) {x : Nat} (hx : x ∈ specBases s) :
    FreshT c s x :=
  ⟨h.dq x hx, h.db x hx, h.ot x hx⟩

theorem UIT_spec {c : Cfg} {s s' : State} (h : UIT c s) (ft : ShT c s s')
    (hsp : ∀ x ∈ specBases s', x ∈ specBases s ∨ FreshT c s x) : UIT c s' := by
  have hf : ∀ x ∈ specBases s', FreshT c s' x := fun x hx =>
    FreshT_frame ((hsp x hx).elim h.fresh id) ft
  exact ⟨ft.t1 h.t1, fun x hx => (hf x hx).sq,
    fun x hx => (hf x hx).sb, fun x hx => (hf x hx).st⟩

theorem UIT_frame {c : Cfg} {s s' : State} (h : UIT c s) (fb : ShB s s') (ft : ShT c s s') :
    UIT c s' :=
  UIT_spec h ft (fun _ hx => Or.inl (fb.sb hx))

theorem UU_sh {c : Cfg} {s s' : State} (h : UU c s) (f : Sh c s s') : UU c s' :=
  ⟨UIB_frame h.1 f.1, UIT_frame h.2 f.1 f.2⟩

theorem ItemBase_mono {s s' : State} (hE : ∀ e, EIn s' e → ItemBase s e.base)
    (hO : ∀ o ∈ s'.reordQ, ItemBase s o.base) : ∀ y, ItemBase s' y → ItemBase s y := by
  rintro y (⟨e, he, rfl⟩ | ⟨o, ho, rfl⟩)
  · exact hE e he
  · exact hO o ho

theorem ItemBase_sub {s s' : State} (hE : ∀ e ∈ emitJobs s', e ∈ emitJobs s)
    (hO : ∀ o ∈ s'.reordQ, o ∈ s.reordQ) : ∀ y, ItemBase s' y → ItemBase s y :=
  ItemBase_mono (fun e he => Or.inl ⟨e, mem_emitJobs.1 (hE e (mem_emitJobs.2 he)), rfl⟩)
    (fun o ho => Or.inr ⟨o, hO o ho, rfl⟩)

theorem ShB_busy {s s' : State} (e1 : List.Sublist s'.retrQ s.retrQ) (e2 : s'.orphans = s.orphans)
    (e5 : s'.pdone = false → s.ppos ≤ s'.ppos) (e6 : s'.pdone = s.pdone ∨ s'.pdone = true)
    (hj : List.Sublist (s'.busy.flatMap Phase.jobBase) (s.busy.flatMap Phase.jobBase))
    (hr : ∀ j k, Phase.retr j k ∈ s'.busy → Phase.retr j k ∈ s.busy)
    (hI : ∀ y, ItemBase s' y → ItemBase s y) : ShB s s' := by
  have hji : ∀ j, JIn s' j → JIn s j := fun j hj' => JIn_mono hj' (fun _ h => e1.subset h) hr
  have hpd : s'.pdone = false → s.pdone = false := by
    intro hd
    rcases e6 with e | e
    · exact e ▸ hd
    · rw [e] at hd; cases hd
  have hob : orphanBases s' = orphanBases s := by
    unfold orphanBases
    rw [e2]
  refine ⟨fun h => List.Nodup.sublist ?_ h, fun j hj' => ⟨j, hji j hj', rfl, fun h => h⟩,
    fun y hy => hob ▸ hy, hI, fun hd => ⟨hpd hd, e5 hd⟩, fun _ y hy => Or.inl (hob ▸ hy),
    fun _ j hj' f hf hi => Or.inr ⟨j, f, hji j hj', hf, hi, rfl⟩⟩
  rw [hob]
  exact List.Sublist.append (List.Sublist.append (flatMap_sublist _ e1) hj) (List.Sublist.refl _)

theorem ShT_busy {c : Cfg} {s s' : State} (hq : List.Sublist s'.scanQ s.scanQ)
    (hk : List.Sublist (s'.busy.flatMap Phase.scanBlock) (s.busy.flatMap Phase.scanBlock))
    (hs : ∀ st k, Phase.scan st k ∈ s'.busy → Phase.scan st k ∈ s.busy) (hr : s.rd ≤ s'.rd) :
    ShT c s s' :=
  ⟨fun h => List.Nodup.sublist (List.Sublist.append (hq.map _) hk) h,
    fun _ h => hq.subset h, hs, hr⟩

/-- In `ShB_same`, `ShT_same`, `UU_congr` and `Sh_busy_sub` the equations hold by `rfl` when
    `s'` is `s` with other fields updated. -/
theorem ShB_same {s s' : State} (e1 : s'.retrQ = s.retrQ := by rfl)
    (e2 : s'.orphans = s.orphans := by rfl) (e3 : s'.busy = s.busy := by rfl)
    (e4 : s'.emitQ = s.emitQ := by rfl) (e5 : s'.reordQ = s.reordQ := by rfl)
    (e6 : s'.ppos = s.ppos := by rfl)
    (e7 : s'.pdone = s.pdone ∨ s'.pdone = true := by exact Or.inl rfl) : ShB s s' := by
  refine ShB_busy (e1 ▸ List.Sublist.refl _) e2 (fun _ => Nat.le_of_eq e6.symm) e7
    (by rw [e3]; exact List.Sublist.refl _) (by rw [e3]; exact fun _ _ h => h) ?_
  intro y hy
  simpa only [ItemBase, EIn, e3, e4, e5] using hy

theorem ShT_same {c : Cfg} {s s' : State} (e1 : s'.scanQ = s.scanQ := by rfl)
    (e2 : s'.busy = s.busy := by rfl) (e3 : s.rd ≤ s'.rd := by exact Nat.le_refl _) :
    ShT c s s' :=
  ShT_busy (by rw [e1]; exact List.Sublist.refl _) (by rw [e2]; exact List.Sublist.refl _)
    (by rw [e2]; exact fun _ _ h => h) e3

theorem UU_congr {c : Cfg} {s s' : State} (h : UU c s) (e1 : s'.retrQ = s.retrQ := by rfl)
    (e2 : s'.orphans = s.orphans := by rfl) (e3 : s'.busy = s.busy := by rfl)
    (e4 : s'.emitQ = s.emitQ := by rfl) (e5 : s'.reordQ = s.reordQ := by rfl)
    (e6 : s'.ppos = s.ppos := by rfl)
    (e7 : s'.pdone = s.pdone ∨ s'.pdone = true := by exact Or.inl rfl)
    (e8 : s'.scanQ = s.scanQ := by rfl) (e9 : s.rd ≤ s'.rd := by exact Nat.le_refl _) :
    UU c s' :=
  UU_sh h ⟨ShB_same e1 e2 e3 e4 e5 e6 e7, ShT_same e8 e3 e9⟩

theorem Sh_detach (c : Cfg) (s : State) (k : Option Nat) :
    Sh c s (detach s k) := by
  rw [detach_eq]
  exact ⟨ShB_same, ShT_same⟩

theorem Sh_busy_sub {c : Cfg} {s s' : State} (hb : List.Sublist s'.busy s.busy)
    (hI : ∀ y, ItemBase s' y → ItemBase s y) (e1 : s'.retrQ = s.retrQ := by rfl)
    (e2 : s'.orphans = s.orphans := by rfl) (e5 : s'.ppos = s.ppos := by rfl)
    (e6 : s'.pdone = s.pdone := by rfl) (e7 : s'.scanQ = s.scanQ := by rfl)
    (e8 : s'.rd = s.rd := by rfl) : Sh c s s' :=
  ⟨ShB_busy (by rw [e1]; exact List.Sublist.refl _) e2 (fun _ => Nat.le_of_eq e5.symm) (Or.inl e6)
      (flatMap_sublist _ hb) (fun _ _ h => hb.subset h) hI,
    ShT_busy (by rw [e7]; exact List.Sublist.refl _) (flatMap_sublist _ hb)
      (fun _ _ h => hb.subset h) (Nat.le_of_eq e8.symm)⟩

theorem Sh_busy_erase (c : Cfg) (s : State) (ph : Phase) :
    Sh c s { s with busy := s.busy.erase ph } :=
  Sh_busy_sub List.erase_sublist (ItemBase_sub
    (List.Sublist.append (List.Sublist.refl _) (flatMap_sublist ejob List.erase_sublist)).subset
    (fun _ h => h))

theorem UU_leave {c : Cfg} {s : State} (h : UU c s) (ph : Phase) (k : Option Nat) :
    UU c (detach { s with busy := s.busy.erase ph } k) :=
  UU_sh (UU_sh h (Sh_busy_erase c s ph)) (Sh_detach c _ k)

/-- `advance` with `taint` set, as in the master's `retrMove`: the frame does not read `taint` -/
theorem Sh_advance_taint {c : Cfg} {s : State} (p : Nat) (hp : s.pdone = false → s.ppos ≤ p)
    (t : Bool) : Sh c s { advance c s p with taint := t } :=
  ⟨ShB_busy List.filter_sublist rfl hp (Or.inl rfl) (List.Sublist.refl _) (fun _ _ h => h)
      (fun _ h => h),
    ShT_busy List.filter_sublist (List.Sublist.refl _) (fun _ _ h => h) (Nat.le_refl _)⟩

theorem Sh_advance {c : Cfg} {s : State} (p : Nat) (hp : s.pdone = false → s.ppos ≤ p) :
    Sh c s (advance c s p) :=
  Sh_advance_taint p hp s.taint

theorem UU_advance {c : Cfg} {s : State} (h : UU c s) (p : Nat)
    (hp : s.pdone = false → s.ppos ≤ p) : UU c (advance c s p) :=
  UU_sh h (Sh_advance p hp)

theorem specBases_addJob {s : State} (jn : Job) :
    ∀ x, x ∈ specBases { s with retrQ := jn :: s.retrQ } →
      (jn.ub.isSome = true ∧ x = jn.base) ∨ x ∈ specBases s := by
  intro x hx
  rcases mem_specBases.1 hx with ⟨j, hj, hs, rfl⟩ | ho
  · rcases JIn_addJob jn j hj with rfl | hj
    · exact Or.inl ⟨hs, rfl⟩
    · exact Or.inr (mem_specBases.2 (Or.inl ⟨j, hj, hs, rfl⟩))
  · exact Or.inr (mem_specBases.2 (Or.inr ho))

theorem UU_addJob {c : Cfg} {s : State} (jn : Job) (h : UU c s)
    (fb : FreshB s jn.base) (ft : jn.ub.isSome = true → FreshT c s jn.base)
    (hn : s.pdone = false → ∀ f, jn.ub = some f → f.inq = false → jn.base ≤ s.ppos) :
    UU c { s with retrQ := jn :: s.retrQ } := by
  obtain ⟨hB, hT⟩ := h
  have hjb : jobBases { s with retrQ := jn :: s.retrQ } = jn.base :: jobBases s := rfl
  refine ⟨⟨List.nodup_cons.2 ⟨fb.nj, hB.u1⟩, ?_, hB.ib, ?_⟩, UIT_spec hT ShT_same ?_⟩
  · intro y hy hm
    rcases List.mem_cons.1 (hjb ▸ hm) with rfl | hm
    · exact fb.ni hy
    · exact hB.u2 y hy hm
  · intro hd j hj f hf hi
    rcases JIn_addJob jn j hj with rfl | hj
    · exact hn hd f hf hi
    · exact hB.nq hd j hj f hf hi
  · intro x hx
    rcases specBases_addJob jn x hx with ⟨hs, rfl⟩ | hx
    · exact Or.inr (ft hs)
    · exact Or.inl hx

theorem mem_scanBlocks {c : Cfg} {s : State} {y : Nat} :
    y ∈ scanBlocks c s ↔ (∃ sp ∈ s.scanQ, sp / c.W = y) ∨ (∃ st, Phase.scan st y ∈ s.busy) := by
  simp only [scanBlocks, List.mem_append, List.mem_map, List.mem_flatMap]
  constructor
  · rintro (h | ⟨ph, hph, hy⟩)
    · exact Or.inl h
    · cases ph with
      | scan a b =>
        simp only [Phase.scanBlock, List.mem_singleton] at hy
        subst hy; exact Or.inr ⟨a, hph⟩
      | _ => nomatch hy
  · rintro (h | ⟨st, h⟩)
    · exact Or.inl h
    · exact Or.inr ⟨_, h, by simp [Phase.scanBlock]⟩

theorem scanBlocks_detach (c : Cfg) (s : State) (k : Option Nat) :
    scanBlocks c (detach s k) = scanBlocks c s := by
  rw [detach_eq]
  rfl

theorem block_excl {c : Cfg} {k k' st x : Nat} (hne : k' ≠ k) (ta : offs c k ≤ st) (hx1 : st < x)
    (hx2 : x ≤ offs c (k + 1)) (h1 : offs c k' < x) (h2 : x ≤ offs c (k' + 1)) : False := by
  rcases Nat.lt_or_gt_of_ne hne with hlt | hgt
  · have := offs_mono c (show k' + 1 ≤ k by omega); omega
  · have := offs_mono c (show k + 1 ≤ k' by omega); omega

theorem div_eq_block {c : Cfg} {k st x : Nat} (ta : offs c k ≤ st) (h1 : st < x)
    (h2 : x < offs c (k + 1)) : x / c.W = k := by
  unfold offs at ta h2
  have e : (k + 1) * c.W = k * c.W + c.W := Nat.succ_mul _ _
  apply Nat.div_eq_of_lt_le <;> omega

theorem Sh_reorder (c : Cfg) (s : State) (ob : OB) :
    Sh c s { s with reordQ := s.reordQ.erase ob } :=
  Sh_busy_sub (List.Sublist.refl _)
    (ItemBase_sub (fun _ h => h) (fun _ h => List.mem_of_mem_erase h))

theorem UU_addScan {c : Cfg} {s : State} {sp : Nat} (h : UU c s)
    (hk : sp / c.W ∉ scanBlocks c s)
    (hd : ∀ x ∈ specBases s, offs c (sp / c.W) < x → x ≤ offs c (sp / c.W + 1) → x ≤ sp) :
    UU c { s with scanQ := sp :: s.scanQ } := by
  obtain ⟨hB, hT⟩ := h
  refine ⟨UIB_frame hB ShB_same, List.nodup_cons.2 ⟨hk, hT.t1⟩, ?_, hT.db, hT.ot⟩
  intro x hx q hq
  rcases List.mem_cons.1 hq with rfl | hm
  · exact hd x hx
  · exact hT.dq x hx q hm

theorem UU_rBlock {c : Cfg} (hW : 0 < c.W) {s : State} (h : UU c s) (hQ : Hi c s)
    (hrn : s.rd ≤ s.nread) (hlt : s.nread * c.W < c.T) (n : Nat) (r : RPhase) :
    UU c { s with nread := n, rd := s.rd + 1, scanQ := offs c s.rd :: s.scanQ, rph := r } := by
  have hmul : s.rd * c.W ≤ s.nread * c.W := Nat.mul_le_mul_right _ hrn
  have ho : offs c s.rd = s.rd * c.W := by unfold offs; omega
  have hdiv : offs c s.rd / c.W = s.rd := by rw [ho]; exact Nat.mul_div_cancel _ hW
  refine UU_congr (s := { s with scanQ := offs c s.rd :: s.scanQ }) (UU_addScan h ?_ ?_)
    (e9 := Nat.le_succ _)
  · rw [hdiv]
    intro hm
    rcases mem_scanBlocks.1 hm with ⟨sp, hsp, e⟩ | ⟨st, hst⟩
    · have := div_lt_of_lt_offs (hQ.sq sp hsp); omega
    · exact Nat.lt_irrefl _ (hQ.bz _ hst)
  · intro x hx _ _
    exact h.2.ot x hx

theorem Sh_retrStart (c : Cfg) (s : State) {j j' : Job} (k : Option Nat) (hj : j ∈ s.retrQ)
    (hb : j'.base = j.base) (hu : j'.ub = j.ub) :
    Sh c s { s with retrQ := s.retrQ.erase j, busy := .retr j' k :: s.busy } := by
  have hji : ∀ x, JIn { s with retrQ := s.retrQ.erase j, busy := .retr j' k :: s.busy } x →
      ∃ j0, JIn s j0 ∧ j0.base = x.base ∧ j0.ub = x.ub := by
    rintro x (hq | ⟨k', hk'⟩)
    · exact ⟨x, Or.inl (List.mem_of_mem_erase hq), rfl, rfl⟩
    · rcases List.mem_cons.1 hk' with e | hm
      · injection e with e1 e2
        rw [e1]; exact ⟨j, Or.inl hj, hb.symm, hu.symm⟩
      · exact ⟨x, Or.inr ⟨k', hm⟩, rfl, rfl⟩
  constructor
  · refine ⟨?_, ?_, fun _ h => h, ?_, fun hd => ⟨hd, Nat.le_refl _⟩, fun _ _ h => Or.inl h, ?_⟩
    · intro hn
      have p1 := flatMap_erase_perm Job.baseL hj
      have p2 : List.Perm (jobBases s ++ orphanBases s)
          ((s.retrQ.erase j).flatMap Job.baseL ++ j.base :: s.busy.flatMap Phase.jobBase
            ++ orphanBases s) :=
        List.Perm.append_right _ ((p1.append_right _).trans List.perm_middle.symm)
      have := (p2.nodup_iff).1 hn
      rw [← hb] at this
      exact this
    · intro x hx
      obtain ⟨j0, h0, hb0, hu0⟩ := hji x hx
      exact ⟨j0, h0, hb0, fun hs => by rw [hu0]; exact hs⟩
    · exact ItemBase_sub (fun _ h => h) (fun _ h => h)
    · intro _ x hx f hf hi
      obtain ⟨j0, h0, hb0, hu0⟩ := hji x hx
      exact Or.inr ⟨j0, f, h0, by rw [hu0]; exact hf, hi, hb0⟩
  · exact ShT_busy (List.Sublist.refl _) (List.Sublist.refl _)
      (fun _ _ hm => (List.mem_cons.1 hm).resolve_left (fun e => nomatch e)) (Nat.le_refl _)

theorem Sh_retrPost (c : Cfg) {s : State} {e : EJob} (hm : Phase.retr2 e ∈ s.busy) :
    Sh c s { s with busy := s.busy.erase (.retr2 e), emitQ := e :: s.emitQ } :=
  Sh_busy_sub List.erase_sublist
    (ItemBase_sub (fun _ h => (emitJobs_perm_erase hm rfl).mem_iff.2 h) (fun _ h => h))

theorem Sh_emitStart (c : Cfg) {s : State} {e : EJob} (hm : e ∈ s.emitQ) (os : Nat) :
    Sh c s { s with outSlots := os, emitQ := s.emitQ.erase e, busy := .emit e :: s.busy } :=
  ⟨ShB_busy (List.Sublist.refl _) rfl (fun _ => Nat.le_refl _) (Or.inl rfl)
      (List.Sublist.refl _)
      (fun _ _ hk => (List.mem_cons.1 hk).resolve_left (fun e' => nomatch e'))
      (ItemBase_sub (fun _ h => (emitJobs_perm_start hm).mem_iff.1 h) (fun _ h => h)),
    ShT_busy (List.Sublist.refl _) (List.Sublist.refl _)
      (fun _ _ hk => (List.mem_cons.1 hk).resolve_left (fun e' => nomatch e')) (Nat.le_refl _)⟩

/-- `q'`: `emit_q` with the job back in it unless that was its last buffer -/
theorem Sh_emitEnd (c : Cfg) {s : State} {e : EJob} (hm : Phase.emit e ∈ s.busy) {o : OB}
    (ho : o.base = e.base) {q' : List EJob} (hq : ∀ e' ∈ q', e' ∈ s.emitQ ∨ e'.base = e.base)
    (w : Nat) :
    Sh c s { s with busy := s.busy.erase (.emit e), emitQ := q', wu := w,
                    reordQ := o :: s.reordQ } := by
  have hie : ItemBase s e.base := Or.inl ⟨e, Or.inr (Or.inr hm), rfl⟩
  refine Sh_busy_sub List.erase_sublist (ItemBase_mono ?_ ?_)
  · rintro x (he | he | he)
    · exact (hq x he).elim (fun h1 => Or.inl ⟨x, Or.inl h1, rfl⟩) (fun h1 => h1 ▸ hie)
    · exact Or.inl ⟨x, Or.inr (Or.inl (List.mem_of_mem_erase he)), rfl⟩
    · exact Or.inl ⟨x, Or.inr (Or.inr (List.mem_of_mem_erase he)), rfl⟩
  · intro o' ho'
    rcases List.mem_cons.1 ho' with e' | hm'
    · exact e' ▸ ho ▸ hie
    · exact Or.inr ⟨o', hm', rfl⟩

theorem UU_scanMove {c : Cfg} {s : State} {sp start : Nat} (h : UU c s)
    (hsp : sp ∈ s.scanQ) (hge : sp ≤ start) (w : Nat) :
    UU c { s with wu := w, scanQ := s.scanQ.erase sp,
                  busy := .scan start (sp / c.W) :: s.busy } := by
  obtain ⟨hB, hT⟩ := h
  have fb : ShB s { s with wu := w, scanQ := s.scanQ.erase sp,
                           busy := .scan start (sp / c.W) :: s.busy } :=
    ShB_busy (List.Sublist.refl _) rfl (fun _ => Nat.le_refl _) (Or.inl rfl) (List.Sublist.refl _)
      (fun _ _ hk => (List.mem_cons.1 hk).resolve_left (fun e' => nomatch e'))
      (ItemBase_sub (fun _ h => h) (fun _ h => h))
  refine ⟨UIB_frame hB fb, ?_, ?_, ?_, ?_⟩
  · have p1 : List.Perm (s.scanQ.map (· / c.W)) ((sp / c.W) :: (s.scanQ.erase sp).map (· / c.W)) :=
      (List.perm_cons_erase hsp).map _
    have p2 : List.Perm (scanBlocks c s)
        ((s.scanQ.erase sp).map (· / c.W) ++ (sp / c.W) :: s.busy.flatMap Phase.scanBlock) :=
      (p1.append_right _).trans List.perm_middle.symm
    exact (p2.nodup_iff).1 hT.t1
  · intro x hx q hq
    exact hT.dq x (fb.sb hx) q (List.mem_of_mem_erase hq)
  · intro x hx st k hm h1 h2
    rcases List.mem_cons.1 hm with e | hm
    · cases e
      have := hT.dq x (fb.sb hx) sp hsp h1 h2
      omega
    · exact hT.db x (fb.sb hx) st k hm h1 h2
  · intro x hx; exact hT.ot x (fb.sb hx)

theorem FreshT_in_block {c : Cfg} {s : State} {x st k : Nat} (tk : k ∉ scanBlocks c s)
    (trd : k < s.rd) (ta : offs c k ≤ st) (hx1 : st < x) (hx2 : x ≤ offs c (k + 1)) :
    FreshT c s x := by
  refine ⟨?_, ?_, Nat.le_trans hx2 (offs_mono c trd)⟩
  · intro sp hsp h1 h2
    have hne : sp / c.W ≠ k := fun e => tk (mem_scanBlocks.2 (Or.inl ⟨sp, hsp, e⟩))
    exact (block_excl hne ta hx1 hx2 h1 h2).elim
  · intro st' k' hm h1 h2
    have hne : k' ≠ k := fun e => tk (mem_scanBlocks.2 (Or.inr ⟨st', e ▸ hm⟩))
    exact (block_excl hne ta hx1 hx2 h1 h2).elim

theorem UU_scanNew {c : Cfg} {s1 : State} {x st k : Nat} (h : UU c s1) (hP : PI c s1)
    (hd : s1.pdone = false) (ta : offs c k ≤ st)
    (tsp : ∀ y ∈ specBases s1, offs c k < y → y ≤ offs c (k + 1) → y ≤ st)
    (tk : k ∉ scanBlocks c s1) (trd : k < s1.rd) (hx1 : st < x) (hx2 : x ≤ offs c (k + 1)) :
    UU c (scanNew c s1 x) ∧
    (∀ y ∈ specBases (scanNew c s1 x), offs c k < y → y ≤ offs c (k + 1) → y ≤ x) ∧
    k ∉ scanBlocks c (scanNew c s1 x) := by
  by_cases hk : x ≤ s1.ppos ∨ x < headOffs c s1
  · rw [scanNew_known hk]
    refine ⟨UU_congr h, ?_, tk⟩
    intro y hy h1 h2
    have := tsp y hy h1 h2
    omega
  · rw [scanNew_new (by omega) (by omega)]
    have hns : x ∉ specBases s1 := fun hm => by
      have := tsp x hm (by omega) hx2; omega
    have fb : FreshB s1 x := by
      refine FreshB_of (fun j hj hu hb => ?_) hns (fun hi => (h.1.ib hd x hi).resolve_left ?_)
      · have := hP.mb j hj (by unfold Job.mc; rw [hu])
        omega
      · omega
    refine ⟨UU_addJob (scanJob x) h fb (fun _ => FreshT_in_block tk trd ta hx1 hx2) ?_, ?_, tk⟩
    · intro _ f hf hi
      cases hf
      cases hi
    · intro y hy h1 h2
      rcases specBases_addJob _ y hy with ⟨_, e⟩ | hy
      · exact Nat.le_of_eq e
      · have := tsp y hy h1 h2
        omega

theorem UU_requeue {c : Cfg} {s2 : State} {x st k : Nat} (h : UU c s2)
    (ta : offs c k ≤ st) (hx1 : st < x) (hx2 : x ≤ offs c (k + 1))
    (tsp : ∀ y ∈ specBases s2, offs c k < y → y ≤ offs c (k + 1) → y ≤ x)
    (tk : k ∉ scanBlocks c s2) :
    UU c (scanRequeue c s2 x (offs c (k + 1))) := by
  rw [scanRequeue_eq]
  split
  · have hdiv : x / c.W = k := div_eq_block ta hx1 (by omega)
    refine UU_addScan h (hdiv ▸ tk) ?_
    rw [hdiv]
    exact tsp
  · exact h

theorem UU_scanFound {c : Cfg} {s : State} {st k x : Nat} (h : UU c s) (hLo : Lo c s)
    (hQ : Hi c s) (hK : RK c s) (hm : Phase.scan st k ∈ s.busy)
    (hfind : scanFind c st (offs c (k + 1)) = some x) (hpd : s.pdone = false) :
    UU c (scanRequeue c (scanNew c (detach { s with busy := s.busy.erase (.scan st k) } (some k)) x)
      x (offs c (k + 1))) := by
  have ta : offs c k ≤ st := hK _ hm
  obtain ⟨b0, t0⟩ := Sh_busy_erase c s (.scan st k)
  obtain ⟨bd, td⟩ := Sh_detach c { s with busy := s.busy.erase (.scan st k) } (some k)
  obtain ⟨hx1, hx2⟩ := scanFind_range hfind
  -- the block's own scan task has left `busy`
  have tk1 : k ∉ scanBlocks c (detach { s with busy := s.busy.erase (.scan st k) } (some k)) := by
    rw [scanBlocks_detach]
    have hp := flatMap_erase_perm Phase.scanBlock hm
    have hn := ((List.Perm.append_left (s.scanQ.map (· / c.W)) hp).nodup_iff).1 h.2.t1
    exact (List.nodup_cons.1 ((List.perm_middle.nodup_iff).1 hn)).1
  obtain ⟨n1, n2, n3⟩ := UU_scanNew (UU_leave h (.scan st k) (some k))
    (Lo_leave _ _ hLo).pi (by rw [detach_eq]; exact hpd) ta
    (fun y hy => h.2.db y (b0.sb (bd.sb hy)) st k hm) tk1
    (Nat.lt_of_lt_of_le (hQ.bz _ hm) (Nat.le_trans t0.rd td.rd)) hx1 hx2
  exact UU_requeue n1 ta hx1 hx2 n2 n3

theorem UU_addOrphan {c : Cfg} {s2 : State} (u : UB) (h : UU c s2)
    (hn : u.base ∉ jobBases s2 ++ orphanBases s2) (ft : FreshT c s2 u.base) :
    UU c { s2 with orphans := u :: s2.orphans } := by
  obtain ⟨hB, hT⟩ := h
  have hob : orphanBases { s2 with orphans := u :: s2.orphans } = u.base :: orphanBases s2 := rfl
  refine ⟨⟨nodup_cons_middle hB.u1 hn, hB.u2, ?_, hB.nq⟩, UIT_spec hT ShT_same ?_⟩
  · intro hd y hy
    exact (hB.ib hd y hy).imp_right (fun h1 => hob ▸ List.mem_cons_of_mem _ h1)
  · intro x hx
    rcases mem_specBases.1 hx with ⟨j, hj, hs, rfl⟩ | ho
    · exact Or.inl (mem_specBases.2 (Or.inl ⟨j, hj, hs, rfl⟩))
    · rcases List.mem_cons.1 (hob ▸ ho) with rfl | hm
      · exact Or.inr ft
      · exact Or.inl (orphanBases_sub_spec hm)

theorem UU_addItem {c : Cfg} {s2 : State} (ej : EJob) (pt : Bool) (po : Nat)
    (h : UU c s2) (hn : ej.base ∉ jobBases s2)
    (hp : s2.pdone = false → ej.base ≤ s2.ppos ∨ ej.base ∈ orphanBases s2) :
    UU c { s2 with ptok := pt, porig := po, busy := .retr2 ej :: s2.busy } := by
  obtain ⟨hB, hT⟩ := h
  have hit : ∀ y, ItemBase { s2 with ptok := pt, porig := po, busy := .retr2 ej :: s2.busy } y →
      y = ej.base ∨ ItemBase s2 y := by
    rintro y (⟨e, he, rfl⟩ | ⟨o, ho, rfl⟩)
    · have he' : e ∈ ej :: emitJobs s2 := List.perm_middle.mem_iff.1 (mem_emitJobs.2 he)
      rcases List.mem_cons.1 he' with rfl | h1
      · exact Or.inl rfl
      · exact Or.inr (Or.inl ⟨e, mem_emitJobs.1 h1, rfl⟩)
    · exact Or.inr (Or.inr ⟨o, ho, rfl⟩)
  have hJ : ∀ {j}, JIn { s2 with ptok := pt, porig := po, busy := .retr2 ej :: s2.busy } j →
      JIn s2 j :=
    fun hj => JIn_mono hj (fun _ h => h)
      (fun _ _ h => (List.mem_cons.1 h).resolve_left (fun e => nomatch e))
  have hSc : ∀ {st k}, Phase.scan st k ∈ Phase.retr2 ej :: s2.busy → Phase.scan st k ∈ s2.busy :=
    fun h => (List.mem_cons.1 h).resolve_left (fun e => nomatch e)
  refine ⟨⟨hB.u1, ?_, ?_, fun hd j hj => hB.nq hd j (hJ hj)⟩,
    ⟨hT.t1, fun x hx => hT.dq x hx,
      fun x hx st k hm => hT.db x hx st k (hSc hm), hT.ot⟩⟩
  · intro y hy hm
    rcases hit y hy with rfl | hy
    · exact hn hm
    · exact hB.u2 y hy hm
  · intro hd y hy
    rcases hit y hy with rfl | hy
    · exact hp hd
    · exact hB.ib hd y hy

/-- the master's emit job lies at or before the parser position; a speculative job leaves its
    unord_blk behind as an orphan with the same base, and that is where its emit job lives -/
theorem UU_retrDone {c : Cfg} {s2 : State} {j : Job} {newc : Nat} (h : UU c s2)
    (fb : FreshB s2 j.base) (ft : j.ub.isSome = true → FreshT c s2 j.base)
    (hmp : j.master = true → s2.pdone = false → j.base ≤ s2.ppos) :
    UU c (retrDone c s2 j newc) := by
  have hn : j.base ∉ jobBases s2 := fun hm => fb.nj (List.mem_append.2 (Or.inl hm))
  cases hmas : j.master with
  | true =>
    rw [retrDone_master c s2 newc hmas]
    exact UU_addItem (doneEJob c j) true newc h hn (fun hd => Or.inl (hmp hmas hd))
  | false =>
    obtain ⟨f, hu, hc⟩ := Job.master_eq_false.1 hmas
    rw [retrDone_spec c s2 newc hu hc]
    exact UU_addItem (doneEJob c j) _ _ (UU_addOrphan _ h fb.nj (ft (by rw [hu]; rfl))) hn
      (fun _ => Or.inr (mem_orphanBases.2 ⟨_, List.mem_cons_self, rfl⟩))

theorem Fresh_of_busy_retr {c : Cfg} {s : State} {j : Job} {k : Option Nat} (h : UU c s)
    (hm : Phase.retr j k ∈ s.busy) :
    FreshB { s with busy := s.busy.erase (.retr j k) } j.base ∧
    (j.ub.isSome = true → FreshT c { s with busy := s.busy.erase (.retr j k) } j.base) := by
  obtain ⟨hB, hT⟩ := h
  obtain ⟨b0, t0⟩ := Sh_busy_erase c s (.retr j k)
  have hjin : JIn s j := Or.inr ⟨k, hm⟩
  refine ⟨⟨?_, ?_⟩, ?_⟩
  · have p1 := flatMap_erase_perm Phase.jobBase hm
    have p2 : List.Perm (jobBases s ++ orphanBases s)
        (j.base :: (s.retrQ.flatMap Job.baseL ++ (s.busy.erase (.retr j k)).flatMap Phase.jobBase
          ++ orphanBases s)) :=
      List.Perm.append_right _ ((List.Perm.append_left _ p1).trans List.perm_middle)
    exact (List.nodup_cons.1 ((p2.nodup_iff).1 hB.u1)).1
  · intro hi
    exact hB.u2 j.base (b0.it _ hi) (mem_jobBases.2 ⟨j, hjin, rfl⟩)
  · intro hs
    have hx : j.base ∈ specBases s := mem_specBases.2 (Or.inl ⟨j, hjin, hs, rfl⟩)
    exact FreshT_frame (hT.fresh hx) t0

theorem Sh_retrMove {c : Cfg} {s1 : State} (j : Job) (newc : Nat)
    (hm : j.master = true → s1.pdone = false → s1.ppos ≤ newc) :
    Sh c s1 (retrMove c s1 j newc) := by
  cases hmas : j.master with
  | true =>
    rw [retrMove_master c s1 newc hmas]
    exact Sh_advance_taint newc (hm hmas) _
  | false =>
    rw [retrMove_spec c s1 newc hmas]
    exact ⟨ShB_same, ShT_same⟩

/-- `s2`: `do_retrieve` at the point where the outcome of `retrieve()` is looked at -/
theorem UU_retrMoved {c : Cfg} {s s2 : State} {j : Job} {k : Option Nat} (h : UU c s)
    (hP : PI c s) (hmem : Phase.retr j k ∈ s.busy) (hred : j.redundant = false)
    (hs2 : s2 = retrMove c (detach { s with busy := s.busy.erase (.retr j k) } k) j
      (retrNewc c j k)) :
    UU c s2 ∧ FreshB s2 j.base ∧ (j.ub.isSome = true → FreshT c s2 j.base) ∧
    (s2.pdone = false → s.pdone = false ∧ s.ppos ≤ s2.ppos) := by
  subst hs2
  obtain ⟨fb0, ft0⟩ := Fresh_of_busy_retr h hmem
  obtain ⟨bd, td⟩ := Sh_detach c { s with busy := s.busy.erase (.retr j k) } k
  have hnew : j.master = true → s.ppos ≤ retrNewc c j k := by
    intro hmas
    have := hP.ml j (Or.inr ⟨k, hmem⟩) (master_mc hmas hred)
    have := newc_ge c j k
    omega
  obtain ⟨bm, tm⟩ := Sh_retrMove (c := c)
    (s1 := detach { s with busy := s.busy.erase (.retr j k) } k) j (retrNewc c j k)
    (fun hmas _ => by
      rw [detach_eq]
      exact hnew hmas)
  refine ⟨UU_sh (UU_leave h (.retr j k) k) ⟨bm, tm⟩, FreshB_frame (FreshB_frame fb0 bd) bm,
    fun hs => FreshT_frame (FreshT_frame (ft0 hs) td) tm, ?_⟩
  intro hd
  obtain ⟨hd1, hle1⟩ := bm.pp hd
  obtain ⟨hd0, hle0⟩ := bd.pp hd1
  exact ⟨hd0, Nat.le_trans hle0 hle1⟩

theorem baseL_flagJob (p : Nat → Bool) (j : Job) : Job.baseL (flagJob p j) = Job.baseL j := rfl
theorem baseL_good (j : Job) : Job.baseL j.good = Job.baseL j := rfl

theorem jobBase_flagPhase (p : Nat → Bool) (ph : Phase) :
    Phase.jobBase (flagPhase p ph) = Phase.jobBase ph := by
  cases ph <;> rfl

theorem jobBase_good (ph : Phase) : Phase.jobBase ph.good = Phase.jobBase ph := by
  cases ph <;> rfl

theorem scanBlock_flagPhase (p : Nat → Bool) (ph : Phase) :
    Phase.scanBlock (flagPhase p ph) = Phase.scanBlock ph := by
  cases ph <;> rfl

theorem scanBlock_good (ph : Phase) : Phase.scanBlock ph.good = Phase.scanBlock ph := by
  cases ph <;> rfl

theorem baseL_popMap (p : Nat → Bool) (u : UB) :
    UB.baseL (if u.f.inq && p u.base then { u with f := u.f.flagBad } else u) = UB.baseL u := by
  split <;> rfl

theorem popOrphans_sublist (p : Nat → Bool) (os : List UB) :
    List.Sublist ((popOrphans p os).flatMap UB.baseL) (os.flatMap UB.baseL) := by
  unfold popOrphans
  rw [flatMap_map_eq UB.baseL _ _ (baseL_popMap p)]
  exact flatMap_sublist _ List.filter_sublist

theorem orphanBases_pop {s s' : State} {p : Nat → Bool} (e : s'.orphans = popOrphans p s.orphans)
    {y : Nat} (h : y ∈ orphanBases s) : y ∈ orphanBases s' ∨ p y = true := by
  obtain ⟨u, hu, rfl⟩ := mem_orphanBases.1 h
  rcases mem_popOrphans_or (p := p) hu with ⟨u', hu', e'⟩ | hpu
  · exact Or.inl (mem_orphanBases.2 ⟨u', e ▸ hu', e'⟩)
  · exact Or.inr hpu

theorem JIn_flag_nq {s s' : State} {p : Nat → Bool} (eq : s'.retrQ = s.retrQ.map (flagJob p))
    (eb : s'.busy = s.busy.map (flagPhase p)) {j : Job} {f : UF} (hj : JIn s' j)
    (hf : j.ub = some f) (hi : f.inq = false) :
    p j.base = true ∨ ∃ j0 f0, JIn s j0 ∧ j0.ub = some f0 ∧ f0.inq = false ∧ j0.base = j.base := by
  obtain ⟨j0, h0, rfl⟩ := JIn_of_flag hj (fun _ h => List.mem_map.1 (eq ▸ h)) eb
  exact (flagJob_inq_false hf hi).imp_right (fun ⟨f0, hf0, hi0⟩ => ⟨j0, f0, h0, hf0, hi0, rfl⟩)

/-- the second half of `parsePush`, and `parseFinish` up to the fields that are cleared -/
theorem Sh_flag (c : Cfg) (s2 : State) (p : Nat → Bool) (oq : List (Nat × Nat)) (g : Nat)
    (hp : s2.pdone = false → ∀ y, p y = true → y ≤ s2.ppos) :
    Sh c s2 { s2 with orderQ := oq, gnext := g, retrQ := s2.retrQ.map (flagJob p),
                      busy := s2.busy.map (flagPhase p), orphans := popOrphans p s2.orphans } := by
  constructor
  · refine ⟨?_, ?_, fun y hy => (popOrphans_sublist p _).subset hy,
      ItemBase_mono (fun e he => Or.inl ⟨e, EIn_of_flag he rfl rfl, rfl⟩)
        (fun o ho => Or.inr ⟨o, ho, rfl⟩),
      fun hd => ⟨hd, Nat.le_refl _⟩,
      fun hd y hy => (orphanBases_pop rfl hy).imp_right (hp hd y),
      fun hd j hj f hf hi => (JIn_flag_nq rfl rfl hj hf hi).imp_left (hp hd _)⟩
    · intro hn
      refine List.Nodup.sublist ?_ hn
      show List.Sublist
        ((s2.retrQ.map (flagJob p)).flatMap Job.baseL
          ++ (s2.busy.map (flagPhase p)).flatMap Phase.jobBase
          ++ (popOrphans p s2.orphans).flatMap UB.baseL) _
      rw [flatMap_map_eq Job.baseL _ _ (baseL_flagJob p),
        flatMap_map_eq Phase.jobBase _ _ (jobBase_flagPhase p)]
      exact List.Sublist.append (List.Sublist.refl _) (popOrphans_sublist p _)
    · intro j hj
      obtain ⟨j0, h0, rfl⟩ := JIn_of_flag hj (fun _ => List.mem_map.1) rfl
      exact ⟨j0, h0, rfl, fun hs => by rw [← flagJob_isSome p j0]; exact hs⟩
  · refine ShT_busy (List.Sublist.refl _) ?_
      (fun st k hm => mem_of_mem_map_flagPhase (fun _ _ e' => nomatch e') hm) (Nat.le_refl _)
    show List.Sublist ((s2.busy.map (flagPhase p)).flatMap Phase.scanBlock) _
    rw [flatMap_map_eq Phase.scanBlock _ _ (scanBlock_flagPhase p)]
    exact List.Sublist.refl _

theorem UU_parsePush {c : Cfg} {s1 : State} {b : Nat} (h : UU c s1)
    (hlt : s1.ppos < b) (hd : s1.pdone = false) :
    UU c (parsePush c s1 b) ∧
    (∀ j, JIn (parsePush c s1 b) j → ∀ f, j.ub = some f → f.inq = false → j.base < b) ∧
    (∀ y, ItemBase (parsePush c s1 b) y → y < b ∨ y ∈ orphanBases (parsePush c s1 b)) := by
  have sa := Sh_advance (c := c) (s := s1) b (fun _ => Nat.le_of_lt hlt)
  have sf := Sh_flag c (advance c s1 b) (fun x => decide (x < b))
    ((advance c s1 b).orderQ ++ [(b, 0)]) (rres c b).e
    (fun _ y hy => Nat.le_of_lt (of_decide_eq_true hy))
  refine ⟨UU_sh (UU_sh h sa) sf, ?_, ?_⟩
  · intro j hj f hf hi
    rcases JIn_flag_nq (s := advance c s1 b) rfl rfl hj hf hi with hpj | ⟨j1, f1, h1, hf1, hi1, hb⟩
    · exact of_decide_eq_true hpj
    · -- `advance` does not touch flags: the same job is in `s1`
      have hq1 : JIn s1 j1 := JIn_mono h1 (fun _ hq => (List.mem_filter.1 hq).1) (fun _ _ hk => hk)
      have := h.1.nq hd j1 hq1 f1 hf1 hi1
      omega
  · intro y hy
    have hy1 : ItemBase s1 y := sa.1.it y (sf.1.it y hy)
    rcases h.1.ib hd y hy1 with h1 | h1
    · exact Or.inl (by omega)
    · exact (orphanBases_pop (p := fun x => decide (x < b)) rfl h1).symm.imp of_decide_eq_true id

theorem Sh_parseStop (c : Cfg) (s1 : State) (rc pt : Bool) (pp hd is w : Nat) :
    Sh c s1 { s1 with rclose := rc, ptok := pt, pdone := true, ppos := pp, head := hd,
                      inSlots := is, wu := w, retrQ := [], scanQ := [] } :=
  ⟨ShB_busy (List.nil_sublist _) rfl (fun h => Bool.noConfusion h) (Or.inr rfl)
      (List.Sublist.refl _) (fun _ _ h => h) (ItemBase_sub (fun _ h => h) (fun _ h => h)),
    ShT_busy (List.nil_sublist _) (List.Sublist.refl _) (fun _ _ h => h) (Nat.le_refl _)⟩

theorem UU_parseFinish {c : Cfg} {s1 : State} (h : UU c s1) (u : Nat) :
    UU c (parseFinish s1 u) :=
  UU_sh (UU_sh h (Sh_parseStop c s1 true true u s1.rd _ _))
    (Sh_flag c _ (fun _ => true) s1.orderQ s1.gnext (fun hd => Bool.noConfusion hd))

theorem ShB_good {s3 s' : State} {b : Nat} (hle : b ≤ s3.ppos) (hjb : jobBases s' = jobBases s3)
    (e2 : s'.orphans = s3.orphans) (e6 : s'.ppos = s3.ppos) (e7 : s'.pdone = s3.pdone)
    (hji : ∀ j, JIn s' j → JIn s3 j ∨ ∃ x, JIn s3 x ∧ Job.inqAt b x = true ∧ j = x.good)
    (hI : ∀ y, ItemBase s' y → ItemBase s3 y) : ShB s3 s' := by
  have hob : orphanBases s' = orphanBases s3 := by
    unfold orphanBases
    rw [e2]
  refine ⟨fun hn => ?_, ?_, fun y hy => hob ▸ hy, hI, fun hd => ⟨e7 ▸ hd, Nat.le_of_eq e6.symm⟩,
    fun _ y hy => Or.inl (hob ▸ hy), ?_⟩
  · rw [hjb, hob]
    exact hn
  · intro j hj
    rcases hji j hj with h0 | ⟨x, hx, _, rfl⟩
    · exact ⟨j, h0, rfl, fun h => h⟩
    · exact ⟨x, hx, rfl, fun hs => by rw [← good_isSome x]; exact hs⟩
  · intro _ j hj f hf hi
    rcases hji j hj with h0 | ⟨x, hx, hq, rfl⟩
    · exact Or.inr ⟨j, f, h0, hf, hi, rfl⟩
    · left
      have := inqAt_base hq
      show x.base ≤ s'.ppos
      omega

theorem Sh_goodQ (c : Cfg) (s3 : State) (b : Nat) (hle : b ≤ s3.ppos) :
    Sh c s3 { s3 with retrQ := replaceFirst (Job.inqAt b) Job.good s3.retrQ } := by
  refine ⟨ShB_good hle ?_ rfl rfl rfl ?_ (fun _ h => h), ShT_same⟩
  · show (replaceFirst (Job.inqAt b) Job.good s3.retrQ).flatMap Job.baseL ++ _ = _
    rw [flatMap_replaceFirst_eq Job.baseL _ _ _ baseL_good]
    rfl
  · rintro j (hj | ⟨k, hk⟩)
    · rcases mem_replaceFirst _ _ hj with hm | ⟨x, hx, hq, e⟩
      · exact Or.inl (Or.inl hm)
      · exact Or.inr ⟨x, Or.inl hx, hq, e⟩
    · exact Or.inl (Or.inr ⟨k, hk⟩)

theorem Sh_goodB (c : Cfg) (s3 : State) (b : Nat) (hle : b ≤ s3.ppos) :
    Sh c s3 { s3 with busy := replaceFirst (Phase.inqAt b) Phase.good s3.busy } := by
  have e : emitJobs { s3 with busy := replaceFirst (Phase.inqAt b) Phase.good s3.busy }
      = emitJobs s3 := emitJobs_good rfl rfl
  refine ⟨ShB_good hle ?_ rfl rfl rfl ?_ (ItemBase_sub (fun _ h => e ▸ h) (fun _ h => h)),
    ShT_busy (List.Sublist.refl _) ?_ ?_ (Nat.le_refl _)⟩
  · show _ ++ (replaceFirst (Phase.inqAt b) Phase.good s3.busy).flatMap Phase.jobBase = _
    rw [flatMap_replaceFirst_eq Phase.jobBase _ _ _ jobBase_good]
    rfl
  · rintro j (hj | ⟨k, hk⟩)
    · exact Or.inl (Or.inl hj)
    · rcases mem_replaceFirst_good hk with hm | ⟨j0, k0, h0, hq, e⟩
      · exact Or.inl (Or.inr ⟨k, hm⟩)
      · injection e with e1 e2
        exact Or.inr ⟨j0, Or.inr ⟨k0, h0⟩, hq, e1⟩
  · show List.Sublist ((replaceFirst (Phase.inqAt b) Phase.good s3.busy).flatMap Phase.scanBlock) _
    rw [flatMap_replaceFirst_eq Phase.scanBlock _ _ _ scanBlock_good]
    exact List.Sublist.refl _
  · intro st k hm
    rcases mem_replaceFirst_good hm with hm | ⟨_, _, _, _, e'⟩
    · exact hm
    · cases e'

theorem Sh_orphanErase (c : Cfg) (a : State) (u : UB) (pt : Bool) (po w : Nat) (tn : Bool)
    (hle : u.base ≤ a.ppos) :
    Sh c a { a with orphans := a.orphans.erase u, ptok := pt, porig := po, wu := w, taint := tn } := by
  refine ⟨⟨?_, fun j hj => ⟨j, hj, rfl, fun h => h⟩, ?_, fun _ h => h,
    fun hd => ⟨hd, Nat.le_refl _⟩, ?_, fun _ j hj f hf hi => Or.inr ⟨j, f, hj, hf, hi, rfl⟩⟩,
    ShT_same⟩
  · intro hn
    refine List.Nodup.sublist ?_ hn
    exact List.Sublist.append (List.Sublist.refl _) (flatMap_sublist _ List.erase_sublist)
  · intro y hy
    exact (flatMap_sublist UB.baseL (List.erase_sublist (a := u) (l := a.orphans))).subset hy
  · intro _ y hy
    obtain ⟨u', hu', rfl⟩ := mem_orphanBases.1 hy
    by_cases e : u' = u
    · subst e; exact Or.inr hle
    · exact Or.inl (mem_orphanBases.2 ⟨u', (List.mem_erase_of_ne e).2 hu', rfl⟩)

theorem UU_parseMatch {c : Cfg} {s3 : State} {b : Nat} (h : UU c s3) (hLo : Lo c s3)
    (hLC : Leak.LC s3) (hPP : PPre c s3) (hpp : s3.ppos = b)
    (hnq : ∀ j, JIn s3 j → ∀ f, j.ub = some f → f.inq = false → j.base < b)
    (hit : ∀ y, ItemBase s3 y → y < b ∨ y ∈ orphanBases s3) :
    UU c (parseMatch c s3 b) := by
  have hpos : b ≤ s3.ppos := Nat.le_of_eq hpp.symm
  rcases parseMatch_cases c s3 b with ⟨j, a, -, hjm, hjq, rfl, e⟩ |
    ⟨j, k, a, -, -, hpm, hpq, rfl, e⟩ | ⟨u, a, -, -, hum, -, hbase, -, rfl, e⟩ |
    ⟨u, a, -, -, hfind, -, -, hc, rfl, e⟩ | ⟨hqn, hbn, hon, e⟩
  · rw [e]
    have hend := inqAt_endp hjq (hLo.jq j hjm).ec
    exact UU_congr (UU_advance (UU_sh h (Sh_goodQ c s3 b hpos)) j.endp
        (fun _ => by show s3.ppos ≤ j.endp; omega))
  · rw [e]
    have hend := inqAt_endp hpq (hLo.jb j k hpm).ec
    exact UU_congr (UU_advance (UU_sh h (Sh_goodB c s3 b hpos)) j.endp
        (fun _ => by show s3.ppos ≤ j.endp; omega))
  · rw [e]
    have hend : b ≤ u.f.endp := by
      rw [(hPP.si.orph hPP.pd u hum).2, hbase]; exact rres_ge c b
    exact UU_sh (UU_advance h u.f.endp (fun _ => by omega))
      (Sh_orphanErase c _ u true u.f.endp _ _ (by show u.base ≤ u.f.endp; omega))
  · -- an orphan is complete
    have := (hLC.ub u hfind).2
    rw [hc] at this
    cases this
  · rw [e]
    have hno : b ∉ orphanBases s3 := by
      intro hm
      obtain ⟨u, hu, hb⟩ := mem_orphanBases.1 hm
      have := hon u hu
      simp [(hLC.ub u hu).1, hb] at this
    have hns : b ∉ specBases s3 := by
      intro hm
      rcases mem_specBases.1 hm with ⟨j, hj, hs, hb⟩ | hm
      · obtain ⟨f, hu⟩ := Option.isSome_iff_exists.1 hs
        cases hi : f.inq with
        | false => have := hnq j hj f hu hi; omega
        | true =>
          have hq : Job.inqAt b j = true := Job.inqAt_iff.2 ⟨f, hu, hi, hb⟩
          rcases hj with hq' | ⟨k, hk⟩
          · exact Bool.false_ne_true ((hqn j hq').symm.trans hq)
          · exact Bool.false_ne_true ((hbn _ hk).symm.trans hq)
      · exact hno hm
    refine UU_addJob (masterJob b) h
      (FreshB_of (fun j hj hu _ => no_mc_JIn hPP.m0 hj (by unfold Job.mc; rw [hu])) hns
        (fun hi => (hit b hi).resolve_left (by omega)))
      nofun (fun _ f hf _ => by cases hf)

theorem UU_leave_parser {c : Cfg} {s : State} (h : UU c s) (k : Option Nat) :
    UU c (detach { s with pphase := none } k) :=
  UU_sh (UU_congr (s' := { s with pphase := none }) h) (Sh_detach c _ k)

theorem UU_parseOk {c : Cfg} {s : State} {k : Option Nat} {b : Nat} (h : UU c s)
    (hS : SI c s) (hLo : Lo c s) (l : Leak.LC s) (hf : s.failed = false)
    (hpp : s.pphase = some k) (hres : pres c s.porig = .hdr b) :
    UU c (parseOk c (detach { s with pphase := none } k) b) := by
  obtain ⟨hPP, -, hg⟩ := PPre_parsing hS hf hpp
  have hu : pres c (detach { s with pphase := none } k).gnext = .hdr b := by
    rw [hg]
    exact hres
  have hP1 := Lo_leave_parser k hLo
  have hL1 : Leak.LC (detach { s with pphase := none } k) := OI_leave_parser k l
  obtain ⟨p1, p2, p3⟩ := UU_parsePush (c := c) (b := b) (UU_leave_parser h k)
    (hP1.pb hPP.pd b hu) hPP.pd
  exact UU_parseMatch p1 (Lo_parsePush hP1 hPP hu).1 (OI_parsePush (Leak.lcP_OC c) b hL1)
    (PPre_push hPP hu) rfl p2 p3

theorem UU_init (c : Cfg) : UU c (init c) := by
  have hi : ∀ y, ¬ ItemBase (init c) y := by
    intro y hy
    simp [ItemBase, EIn, init] at hy
  have hs : ∀ x, x ∉ specBases (init c) := by
    intro x hx
    simp [specBases, orphanBases, init] at hx
  refine ⟨⟨?_, fun y hy => (hi y hy).elim, fun _ y hy => (hi y hy).elim, ?_⟩,
    ⟨?_, fun x hx => (hs x hx).elim, fun x hx => (hs x hx).elim, fun x hx => (hs x hx).elim⟩⟩
  · simp [jobBases, orphanBases, init]
  · rintro _ j (hj | ⟨k, hk⟩)
    · simp [init] at hj
    · simp [init] at hk
  · simp [scanBlocks, init]

theorem uu_step {c : Cfg} (hW : 0 < c.W) {s s' : State} {l : Label} (h : UU c s)
    (hS : SI c s) (hLo : Lo c s) (hQ : Hi c s) (hR : RI c s) (hK : RK c s) (hL : Leak.LC s)
    (hs : step c s l = some s') : UU c s' := by
  obtain ⟨hf, st⟩ := step_inv hs
  have hP := hLo.pi
  cases st with
  | rTake | rQuit | rBlockDrop | rEmpty | rEof | wDone | parseStart => exact UU_congr h
  | rBlock _ hlt hpd => exact UU_rBlock hW h hQ (Nat.le_of_eq (hR.rn hpd)) hlt _ _
  | reorderBogus ob | reorderErr ob | reorderMore ob | reorderOk ob =>
    exact UU_congr (UU_sh h (Sh_reorder c s ob))
  | parseMore k hpp hmore =>
    cases k with
    | none => simp [parseMoreP] at hmore
    | some kk =>
      rw [parseMore_eq]
      refine UU_congr (UU_advance (UU_leave_parser h (some kk)) _ (fun _ => ?_))
      rw [detach_eq]
      exact Nat.le_of_lt (hP.pk kk hpp)
  | parseErr k u => exact UU_congr (UU_leave_parser h k)
  | parseEof k u => exact UU_congr (UU_leave_parser h k) (e7 := Or.inr rfl)
  | parseFinish k u => exact UU_parseFinish (UU_leave_parser h k) u
  | parseOk k b hpp _ hres => exact UU_parseOk h hS hLo hL hf hpp hres
  | retrStart j _ hmem => exact UU_sh h (Sh_retrStart c s _ hmem rfl rfl)
  | retrQuit j k => exact UU_congr (UU_leave h (.retr j k) k)
  | retrOvertaken j k hmem _ hred => exact UU_congr (UU_retrMoved h hP hmem hred rfl).1
  | retrMore j k hmem _ hred =>
    obtain ⟨h2, fb2, ft2, hpp2⟩ := UU_retrMoved h hP hmem hred rfl
    rw [retrMore_eq]
    refine UU_addJob (retrMoreJob j (retrNewc c j k)) h2 fb2
      (fun hs => ft2 (by rw [← retrMoreJob_isSome j (retrNewc c j k)]; exact hs)) ?_
    intro hd f hf hi
    obtain ⟨f0, hf0, hi0⟩ := retrMoreJob_ub_inq hf
    obtain ⟨hd0, hle⟩ := hpp2 hd
    exact Nat.le_trans (h.1.nq hd0 j (Or.inr ⟨k, hmem⟩) f0 hf0 (hi0.trans hi)) hle
  | retrDone j k hmem _ hred =>
    obtain ⟨h2, fb2, ft2, -⟩ := UU_retrMoved h hP hmem hred rfl
    refine UU_retrDone h2 fb2 ft2 (fun hmas _ => ?_)
    rw [retrMove_ppos c _ _ hmas]
    exact Nat.le_trans (hLo.jb j k hmem).base_le_cur (newc_ge c j k)
  | retrPost e hmem => exact UU_sh h (Sh_retrPost c hmem)
  | emitStart e _ hmem => exact UU_sh h (Sh_emitStart c hmem _)
  | emitMore e hmem =>
    exact UU_sh h (Sh_emitEnd c hmem rfl
      (q' := { e with idx := e.idx + 1, left := e.left - 1 } :: s.emitQ)
      (fun _ he => (List.mem_cons.1 he).elim (fun h => Or.inr (by rw [h])) Or.inl) _)
  | emitLast e hmem => exact UU_sh h (Sh_emitEnd c hmem rfl (fun _ he => Or.inl he) _)
  | scanStart sp _ hmem => exact UU_scanMove h hmem (by split <;> omega) _
  | scanNone st k => exact UU_congr (UU_leave h (.scan st k) (some k))
  | scanFound st k x hmem hfind hpd => exact UU_scanFound h hLo hQ hK hmem hfind hpd

/-- **every block position has at most one producer** -/
structure UI (c : Cfg) (s : State) : Prop where
  u1 : (jobBases s ++ orphanBases s).Nodup
  u2 : ∀ y, ItemBase s y → y ∉ jobBases s
  ib : s.pdone = false → ∀ y, ItemBase s y → y ≤ s.ppos ∨ y ∈ orphanBases s
  nq : s.pdone = false → ∀ j, JIn s j → ∀ f, j.ub = some f → f.inq = false → j.base ≤ s.ppos
  t1 : (scanBlocks c s).Nodup
  tb : ∀ st k, Phase.scan st k ∈ s.busy → offs c k ≤ st
  dq : ∀ x ∈ specBases s, ∀ sp ∈ s.scanQ,
        offs c (sp / c.W) < x → x ≤ offs c (sp / c.W + 1) → x ≤ sp
  db : ∀ x ∈ specBases s, ∀ st k, Phase.scan st k ∈ s.busy →
        offs c k < x → x ≤ offs c (k + 1) → x ≤ st
  ot : ∀ x ∈ specBases s, x ≤ tailOffs c s

theorem UI_of_UU {c : Cfg} {s : State} (h : UU c s) (hK : RK c s) : UI c s :=
  ⟨h.1.u1, h.1.u2, h.1.ib, h.1.nq, h.2.t1, fun _ _ hm => hK _ hm, h.2.dq, h.2.db, h.2.ot⟩

theorem UU_of_UI {c : Cfg} {s : State} (h : UI c s) : UU c s :=
  ⟨⟨h.u1, h.u2, h.ib, h.nq⟩, ⟨h.t1, h.dq, h.db, h.ot⟩⟩

end LbzVerif.Lemmas.SchedD
