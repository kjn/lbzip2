/-
  What a transition of the base model does to the guards and to the busy workers, by the class of
  its label (`Model.SchedDW.lockFreeIO`, `lockedIO`, `taskOf`, `isEnd`).  This is all the waiting
  layer uses of a base step.
-/
import LbzVerif.Model.SchedDW
import LbzVerif.Lemmas.SchedD.Progress
import LbzVerif.Lemmas.SchedD.Inv

namespace LbzVerif.Lemmas.SchedD
open LbzVerif.Gen LbzVerif.Model.SchedD LbzVerif.Model.SchedDW

theorem label_class (l : Label) :
    lockFreeIO l = true ∨ lockedIO l = true ∨ (∃ t, taskOf l = some t) ∨ isEnd l = true := by
  cases l <;> simp [lockFreeIO, lockedIO, taskOf, isEnd]

/-- the reader's `source_mutex`-only steps change nothing the guards read -/
theorem view_io {c : Cfg} {s s' : State} {l : Label} (hl : lockFreeIO l = true)
    (h : step c s l = some s') : view c s' = view c s := by
  cases (step_inv h).2 with
  | rTake | rQuit | rEmpty => rfl
  | _ => cases hl

theorem guards_io {c : Cfg} {s s' : State} {l : Label} (hl : lockFreeIO l = true)
    (h : step c s l = some s') :
    selectTask c s' = selectTask c s ∧ finished c s' = finished c s := by
  unfold selectTask finished; rw [view_io hl h]; exact ⟨rfl, rfl⟩

def BL (s s' : State) : Prop := s'.busy.length = s.busy.length ∧ s'.pphase = s.pphase

theorem BL.trans {s s' s'' : State} (h1 : BL s s') (h2 : BL s' s'') : BL s s'' :=
  ⟨h2.1.trans h1.1, h2.2.trans h1.2⟩

theorem bl_detach (s : State) (k : Option Nat) : BL s (detach s k) := by
  rw [detach_eq]; exact ⟨rfl, rfl⟩

theorem bl_advance (c : Cfg) (s : State) (p : Nat) : BL s (advance c s p) := ⟨rfl, rfl⟩

theorem bl_parseFinish (s : State) (u : Nat) : BL s (parseFinish s u) :=
  ⟨List.length_map _, rfl⟩

theorem bl_parsePush (c : Cfg) (s : State) (b : Nat) : BL s (parsePush c s b) :=
  ⟨List.length_map _, rfl⟩

theorem bl_parseMatch (c : Cfg) (s : State) (b : Nat) : BL s (parseMatch c s b) := by
  rcases parseMatch_cases c s b with ⟨_, _, _, _, _, rfl, e⟩ | ⟨_, _, _, _, _, _, _, rfl, e⟩ |
    ⟨_, _, _, _, _, _, _, _, rfl, e⟩ | ⟨_, _, _, _, _, _, _, _, rfl, e⟩ | ⟨_, _, _, e⟩
  · rw [e]; exact ⟨rfl, rfl⟩
  · rw [e]; exact ⟨length_replaceFirst .., rfl⟩
  · rw [e]; exact ⟨rfl, rfl⟩
  · rw [e]; exact ⟨rfl, rfl⟩
  · rw [e]; exact ⟨rfl, rfl⟩

theorem bl_parseOk (c : Cfg) (s : State) (b : Nat) : BL s (parseOk c s b) :=
  (bl_parsePush c s b).trans (bl_parseMatch c _ b)

theorem bl_retrMove (c : Cfg) (s : State) (j : Job) (n : Nat) : BL s (retrMove c s j n) := by
  cases hm : j.master with
  | true => rw [retrMove_master c s n hm]; exact ⟨rfl, rfl⟩
  | false => rw [retrMove_spec c s n hm]; exact ⟨rfl, rfl⟩

theorem retrDone_busy (c : Cfg) (s : State) (j : Job) (n : Nat) :
    (retrDone c s j n).busy.length = s.busy.length + 1 ∧ (retrDone c s j n).pphase = s.pphase := by
  obtain ⟨pt, po, orp, e⟩ := retrDone_frame c s j n
  rw [e]; exact ⟨rfl, rfl⟩

theorem bl_scanNew (c : Cfg) (s : State) (x : Nat) : BL s (scanNew c s x) := by
  by_cases h : x ≤ s.ppos ∨ x < headOffs c s
  · rw [scanNew_known h]; exact ⟨rfl, rfl⟩
  · rw [scanNew_new (by omega) (by omega)]; exact ⟨rfl, rfl⟩

theorem bl_scanRequeue (c : Cfg) (s : State) (x hi : Nat) : BL s (scanRequeue c s x hi) := by
  rw [scanRequeue_eq]; exact ⟨rfl, rfl⟩

theorem busy_same {c : Cfg} {s s' : State} {l : Label} (h : step c s l = some s')
    (hl : lockFreeIO l = true ∨ lockedIO l = true) : busyCount s' = busyCount s := by
  cases (step_inv h).2 with
  | rTake | rQuit | rBlockDrop | rBlock | rEmpty | rEof | wDone => rfl
  | _ => rcases hl with hl | hl <;> cases hl

/-- the first section of a task is guarded by `select_task() == that task`; it makes one
    more worker busy, except `do_reorder`, which runs to its end under the mutex -/
theorem busy_start {c : Cfg} {s s' : State} {l : Label} {t : String}
    (h : step c s l = some s') (hl : taskOf l = some t) :
    selectTask c s = some t ∧ (t = "reorder" → busyCount s' = busyCount s) ∧
    (t ≠ "reorder" → busyCount s' = busyCount s + 1) := by
  cases (step_inv h).2 with
  | reorderBogus _ hsel | reorderErr _ _ hsel | reorderMore _ _ hsel
  | reorderOk _ _ hsel =>
    cases hl; exact ⟨hsel, fun _ => rfl, fun ht => absurd rfl ht⟩
  | parseStart hsel hpp =>
    cases hl; exact ⟨hsel, fun ht => absurd ht (by decide), fun _ => by simp [busyCount, hpp]⟩
  | retrStart _ hsel | emitStart _ hsel | scanStart _ hsel =>
    cases hl
    exact ⟨hsel, fun ht => absurd ht (by decide),
      fun _ => by simp only [busyCount, List.length_cons]; omega⟩
  | _ => cases hl

/-- What a closing section does to the workers: the parser leaves; or a worker leaves `busy`;
    or `do_retrieve`, with `retrieve()` finished, goes on with `decode()` in a new phase. -/
theorem end_cases {c : Cfg} {s s' : State} {l : Label} (h : step c s l = some s')
    (hl : isEnd l = true) :
    (isRetrEnd l = false ∧ s.pphase.isSome = true ∧ BL { s with pphase := none } s') ∨
    (∃ ph ∈ s.busy, BL { s with busy := s.busy.erase ph } s') ∨
    (isRetrEnd l = true ∧ s.busy ≠ [] ∧ BL s s') := by
  cases (step_inv h).2 with
  | parseMore k hpp | parseErr k _ hpp | parseEof k _ hpp =>
    exact .inl ⟨rfl, by rw [hpp]; rfl, (bl_detach _ k).trans ⟨rfl, rfl⟩⟩
  | parseFinish k _ hpp =>
    exact .inl ⟨rfl, by rw [hpp]; rfl, (bl_detach _ k).trans (bl_parseFinish _ _)⟩
  | parseOk k _ hpp =>
    exact .inl ⟨rfl, by rw [hpp]; rfl, (bl_detach _ k).trans (bl_parseOk c _ _)⟩
  | retrQuit _ k hm =>
    exact .inr (.inl ⟨_, hm, (bl_detach _ k).trans ⟨rfl, rfl⟩⟩)
  | retrOvertaken _ k hm | retrMore _ k hm =>
    exact .inr (.inl ⟨_, hm, ((bl_detach _ k).trans (bl_retrMove c _ _ _)).trans ⟨rfl, rfl⟩⟩)
  | retrDone j k hm =>
    have h := (bl_detach { s with busy := s.busy.erase (.retr j k) } k).trans
      (bl_retrMove c _ j (retrNewc c j k))
    obtain ⟨e, hp⟩ := retrDone_busy c _ j (retrNewc c j k)
    exact .inr (.inr ⟨rfl, List.ne_nil_of_mem hm, (e.trans (congrArg (· + 1) h.1)).trans
      (length_erase_succ hm), hp.trans h.2⟩)
  | retrPost _ hm | emitMore _ hm | emitLast _ hm => exact .inr (.inl ⟨_, hm, rfl, rfl⟩)
  | scanNone _ k hm =>
    exact .inr (.inl ⟨_, hm, (bl_detach _ (some k)).trans ⟨rfl, rfl⟩⟩)
  | scanFound _ k _ hm =>
    exact .inr (.inl ⟨_, hm,
      ((bl_detach _ (some k)).trans (bl_scanNew c _ _)).trans (bl_scanRequeue c _ _ _)⟩)
  | _ => cases hl

theorem busy_end {c : Cfg} {s s' : State} {l : Label} (h : step c s l = some s')
    (hl : isEnd l = true) :
    0 < busyCount s ∧ (retrFinished l s s' → busyCount s' = busyCount s) ∧
    (¬ retrFinished l s s' → busyCount s' + 1 = busyCount s) := by
  rcases end_cases h hl with ⟨hn, hp, e, hp'⟩ | ⟨ph, hm, e, hp'⟩ | ⟨hr, hne, e, hp'⟩
  · have key : busyCount s' + 1 = busyCount s := by
      simp only [busyCount, e, hp', hp]; rfl
    exact ⟨by omega, fun hr => absurd hr.1 (by simp [hn]), fun _ => key⟩
  · have := length_erase_succ hm
    have e : s'.busy.length = (s.busy.erase ph).length := e
    have hp' : s'.pphase = s.pphase := hp'
    exact ⟨by simp only [busyCount]; omega, fun hr => by have := hr.2; omega,
      fun _ => by simp only [busyCount, hp']; omega⟩
  · have := List.length_pos_iff.2 hne
    exact ⟨by simp only [busyCount]; omega, fun _ => by simp only [busyCount, e, hp'],
      fun hn => absurd ⟨hr, e⟩ hn⟩

theorem no_step_of_terminated {c : Cfg} {s : State} {l : Label} (I : Inv c s)
    (ht : terminated c s = true) : step c s l = none := by
  obtain ⟨hf, -, -, -, heof, hsel, -⟩ := terminated_facts ht
  obtain ⟨-, -, hb, hpp, -, hoq⟩ := (I.ci hf).quiescent ht
  have hrd : s.rph = .done := I.ri.dn.2 heof
  cases hs : step c s l with
  | none => rfl
  | some s' =>
    exfalso
    rcases label_class l with hl | hl | ⟨t, hl⟩ | hl
    · cases (step_inv hs).2 with
      | rTake hg | rQuit hg | rEmpty hg => rw [hrd] at hg; cases hg
      | _ => cases hl
    · cases (step_inv hs).2 with
      | rBlockDrop hg | rBlock hg | rEof hg => rw [hrd] at hg; cases hg
      | wDone hg => omega
      | _ => cases hl
    · rw [(busy_start hs hl).1] at hsel; cases hsel
    · exact absurd (busy_end hs hl).1 (by rw [busyCount_eq_zero.2 ⟨hb, hpp⟩]; exact Nat.lt_irrefl 0)

theorem terminated_no_step {c : Cfg} {s : State} {l : Label} (h : Reach c s)
    (ht : terminated c s = true) : step c s l = none :=
  no_step_of_terminated (inv_reach h) ht

theorem terminated_finished {c : Cfg} {s : State} (ht : terminated c s = true) :
    finished c s = true :=
  (terminated_facts ht).2.2.2.2.2.2

end LbzVerif.Lemmas.SchedD
