/-
  The runs of `Model.SchedD`, found by `lbzdrv schedd-find`, on which the lifecycle gaps of
  overtaken speculative jobs showed (DESIGN 7.1 F2, F4, F5).  The C code has the repairs
  (/repo commits 7623822 and b64cc56) and the model follows it: the runs are replayed here by
  kernel evaluation as examples of the repaired behaviour (`f2_repaired`, `f4_repaired`,
  `f5_repaired`).  The statements themselves are proved for all reachable states in
  Lemmas/SchedD/Lo.lean, Leak.lean and UnordCap.lean.
-/
import LbzVerif.Model.SchedD

namespace LbzVerif.Lemmas.SchedD
open LbzVerif.Model.SchedD

theorem reach_of_run {c : Cfg} {ls : List Label} {p : State → Bool}
    (h : (run c (init c) ls).any p = true) : ∃ s, Reach c s ∧ p s = true :=
  let ⟨s, hr, hp⟩ := (Option.any_eq_true _ _).1 h
  ⟨s, reach_run _ Reach.init hr, hp⟩

/-- One block 1…11 (header at 0, end of stream at 11) cut into input blocks of
    2 units; the scanner reports a spurious candidate at 3 that decodes as a
    complete block up to 9.  n = 2, in_slots = 3, out_slots = 4 (= `-s` mode,
    2·n). -/
def cfgF5 : Cfg :=
  { n := 2, W := 2, T := 12, totalIn := 3, totalOut := 4, ultra := false,
    parseAt := fun p => if p = 0 then .hdr 1 else if p = 11 then .finish 12 true else .err p,
    retrieveFrom := fun b =>
      if b = 1 then ⟨true, 11, 1, true⟩ else if b = 3 then ⟨true, 9, 1, true⟩
      else ⟨false, b, 1, false⟩,
    cand := [3] }

def traceF5 : List Label :=
  [.rTake, .rBlock, .rTake, .rBlock, .rTake, .rBlock, .parseStart, .parseEnd,
   .retrStart ⟨1, 1, none, false⟩, .retrEnd ⟨1, 1, none, false⟩ (some 0),
   .retrStart ⟨2, 1, none, false⟩, .scanStart 2, .scanEnd 2 1,
   .retrStart ⟨3, 3, (some ⟨3, false, false, true⟩), false⟩, .retrEnd ⟨2, 1, none, false⟩ (some 1),
   .retrStart ⟨4, 1, none, false⟩, .retrEnd ⟨4, 1, none, false⟩ (some 2),
   .retrEnd ⟨3, 3, (some ⟨3, false, false, true⟩), false⟩ (some 1)]

/-- the F5 run: the overtaken speculative job (it would continue at
    offset 4 < head_offs = 6) is discarded: `retr_q` holds no job behind
    `head_offs`, the work unit is back, and its unord_blk has left unord_q
    with it. -/
theorem f5_repaired :
    (run cfgF5 (init cfgF5) traceF5).any
      (fun s => !staleAttach cfgF5 s && decide (headOffs cfgF5 s = 6) && s.retrQ.all (fun j => j.ub.isNone)
                && decide (unordSize s = 0)) = true := by
  decide +kernel

/-- the same block, with a spurious candidate (an immediate decode error) in
    each of four input blocks; n = 2, in_slots = 2, out_slots = 4, so the
    capacity of `unord_q` is 2 + 4 − 3 = 3. -/
def cfgF4 : Cfg :=
  { n := 2, W := 2, T := 12, totalIn := 2, totalOut := 4, ultra := false,
    parseAt := fun p => if p = 0 then .hdr 1 else if p = 11 then .finish 12 true else .err p,
    retrieveFrom := fun b => if b = 1 then ⟨true, 11, 1, true⟩ else ⟨false, b, 1, false⟩,
    cand := [3, 5, 7, 9] }

def traceF4 : List Label :=
  [.rTake, .rBlock, .rTake, .rBlock, .parseStart, .parseEnd,
   .retrStart ⟨1, 1, none, false⟩, .retrEnd ⟨1, 1, none, false⟩ (some 0), .rTake, .rBlock,
   .retrStart ⟨2, 1, none, false⟩, .scanStart 2, .scanEnd 2 1,
   .retrEnd ⟨2, 1, none, false⟩ (some 1), .rTake, .rBlock,
   .retrStart ⟨4, 1, none, false⟩, .scanStart 4, .scanEnd 4 2,
   .retrEnd ⟨4, 1, none, false⟩ (some 2), .rTake, .rBlock,
   .retrStart ⟨6, 1, none, false⟩, .scanStart 6, .scanEnd 6 3,
   .retrEnd ⟨6, 1, none, false⟩ (some 3),
   .retrStart ⟨8, 1, none, false⟩, .scanStart 8, .scanEnd 8 4]

/-- the F4 run (three speculative jobs dropped by `advance()` before they
    ran, a fourth one just created): the dropped jobs' entries have left
    unord_q with them; one entry is queued, capacity 3. -/
theorem f4_repaired :
    (run cfgF4 (init cfgF4) traceF4).any
      (fun s => decide (unordSize s = 1) && decide (unordCapOf cfgF4 = 3)
                && decide (s.orphans = [])) = true := by
  decide +kernel

def traceF2 : List Label :=
  [.rTake, .rBlock, .rTake, .rBlock, .parseStart, .parseEnd,
   .retrStart ⟨1, 1, none, false⟩, .retrEnd ⟨1, 1, none, false⟩ (some 0), .rTake, .rBlock,
   .retrStart ⟨2, 1, none, false⟩, .scanStart 2, .scanEnd 2 1,
   .retrEnd ⟨2, 1, none, false⟩ (some 1), .rTake, .rBlock,
   .retrStart ⟨4, 1, none, false⟩, .retrEnd ⟨4, 1, none, false⟩ (some 2), .rTake, .rBlock,
   .retrStart ⟨6, 1, none, false⟩, .retrEnd ⟨6, 1, none, false⟩ (some 3), .rTake, .rBlock,
   .retrStart ⟨8, 1, none, false⟩, .retrEnd ⟨8, 1, none, false⟩ (some 4),
   .retrStart ⟨10, 1, none, false⟩, .retrEnd ⟨10, 1, none, false⟩ (some 5),
   .parseStart, .parseEnd, .rQuit, .rEof, .retrPost ⟨1, 0, 1, true, false⟩,
   .emitStart ⟨1, 0, 1, true, false⟩, .emitEnd ⟨1, 0, 1, true, false⟩,
   .reorder ⟨1, 0, .ok, false⟩, .wDone]

/-- the F2 run (a speculative job dropped by `advance()` before it ever
    ran): it terminates cleanly with the right output and NO unord_blk left. -/
theorem f2_repaired :
    (run cfgF4 (init cfgF4) traceF2).any
      (fun s => terminated cfgF4 s && decide (s.orphans = []) && decide (s.orderQ = [])
                && decide ((s.written, true) = seqRun cfgF4)) = true := by
  decide +kernel

end LbzVerif.Lemmas.SchedD
