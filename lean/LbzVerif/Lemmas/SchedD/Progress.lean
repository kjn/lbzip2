/-
  Deadlock-freedom, first half: a state from which no transition
  is enabled is QUIESCENT — no worker is inside a task, the writer has nothing
  to write, the reader is finished or blocked on `in_slots = 0`, and
  `select_task()` finds nothing to run (or there is no worker at all).
-/
import LbzVerif.Lemmas.SchedD.Step
import LbzVerif.Model.SchedDW

namespace LbzVerif.Lemmas.SchedD
open LbzVerif.Model.SchedD LbzVerif.Gen

theorem busyCount_eq_zero {s : State} : busyCount s = 0 ↔ s.busy = [] ∧ s.pphase = none := by
  unfold busyCount
  cases s.pphase <;> simp

def Quiescent (c : Cfg) (s : State) : Prop :=
  s.busy = [] ∧ s.pphase = none ∧ s.outq = 0 ∧
  (s.rph = .done ∨ (s.rph = .idle ∧ s.rclose = false ∧ s.inSlots = 0)) ∧
  (selectTask c s = none ∨ c.n = 0)

theorem none_enabled {c : Cfg} {s : State} (h : enabled c s = []) :
    ∀ l ∈ candLabels s, (step c s l).isSome = false := by
  intro l hl
  unfold enabled at h
  rw [List.filter_eq_nil_iff] at h
  simpa using h l hl

theorem retrEnd_some {c : Cfg} {s : State} {j : Job} {k : Option Nat} (hm : Phase.retr j k ∈ s.busy) :
    (stepRetrEnd c s j k).isSome = true := by
  unfold stepRetrEnd
  rw [if_pos (by simpa using hm)]
  dsimp only
  repeat' (first | rfl | split)

theorem retrPost_some {s : State} {e : EJob} (hm : Phase.retr2 e ∈ s.busy) :
    (stepRetrPost s e).isSome = true := by
  unfold stepRetrPost; rw [if_pos (by simpa using hm)]; rfl

theorem emitEnd_some {s : State} {e : EJob} (hm : Phase.emit e ∈ s.busy) :
    (stepEmitEnd s e).isSome = true := by
  unfold stepEmitEnd
  rw [if_pos (by simpa using hm)]
  dsimp only
  repeat' (first | rfl | split)

theorem scanEnd_some {c : Cfg} {s : State} {st k : Nat} (hm : Phase.scan st k ∈ s.busy) :
    (stepScanEnd c s st k).isSome = true := by
  unfold stepScanEnd
  rw [if_pos (by simpa using hm)]
  dsimp only
  repeat' (first | rfl | split)

theorem parseEnd_some {c : Cfg} {s : State} {k : Option Nat} (hk : s.pphase = some k) :
    (stepParseEnd c s).isSome = true := by
  unfold stepParseEnd
  rw [hk]
  dsimp only
  repeat' (first | rfl | split)

theorem mem_cand_busy {s : State} {ph : Phase} : ph ∈ s.busy →
    (match ph with
      | .retr j k => Label.retrEnd j k
      | .retr2 e => .retrPost e
      | .emit e => .emitEnd e
      | .scan st k => .scanEnd st k) ∈ candLabels s := by
  intro hm
  simp only [candLabels, List.mem_append, List.mem_map]
  exact Or.inr ⟨_, hm, rfl⟩

theorem end_cand {c : Cfg} {s : State} (hf : s.failed = false) (hb : 0 < busyCount s) :
    ∃ l ∈ candLabels s, LbzVerif.Model.SchedDW.isEnd l = true ∧ (step c s l).isSome = true := by
  simp only [step, hf, Bool.false_eq_true, if_false]
  cases hbusy : s.busy with
  | nil =>
    cases hk : s.pphase with
    | none => exact absurd (busyCount_eq_zero.2 ⟨hbusy, hk⟩) (by omega)
    | some k => exact ⟨.parseEnd, by simp [candLabels], rfl, parseEnd_some hk⟩
  | cons ph r =>
    have hm : ph ∈ s.busy := hbusy ▸ List.mem_cons_self
    have hc := mem_cand_busy hm
    cases ph with
    | retr j k => exact ⟨_, hc, rfl, retrEnd_some hm⟩
    | retr2 e => exact ⟨_, hc, rfl, retrPost_some hm⟩
    | emit e => exact ⟨_, hc, rfl, emitEnd_some hm⟩
    | scan st k => exact ⟨_, hc, rfl, scanEnd_some hm⟩

theorem start_cand {c : Cfg} {s : State} {t : String} (hf : s.failed = false)
    (hfree : freeWorker c s = true) (hex : s.ptok = true → s.pphase = none)
    (hsel : selectTask c s = some t) :
    ∃ l ∈ candLabels s,
      LbzVerif.Model.SchedDW.taskOf l = some t ∧ (step c s l).isSome = true := by
  simp only [step, hf, Bool.false_eq_true, if_false, candLabels, List.mem_append, List.mem_map]
  rcases mem_dTaskOrder hsel with rfl | rfl | rfl | rfl | rfl
  · obtain ⟨x, hx, hmin⟩ := minKey?_exists
      (mt List.map_eq_nil_iff.1 (selectTask_reorder_ne hsel) : s.reordQ.map OB.key ≠ [])
    obtain ⟨ob, hob, rfl⟩ := List.mem_map.1 hx
    refine ⟨.reorder ob, Or.inl (Or.inl (Or.inl (Or.inl (Or.inr ⟨_, hob, rfl⟩)))), rfl, ?_⟩
    simp only [stepReorder, hfree, hsel, beq_self_eq_true, Bool.true_and,
      List.contains_iff_mem.2 hob, hmin, if_true]
    repeat' (first | rfl | split)
  · have hpp := hex (selectTask_parse hsel).2.1
    refine ⟨.parseStart, by simp, rfl, ?_⟩
    simp [stepParseStart, hfree, hsel, hpp]
  · obtain ⟨x, hx, hmin⟩ := minKey?_exists
      (mt List.map_eq_nil_iff.1 (selectTask_emit_ne hsel) : s.emitQ.map EJob.key ≠ [])
    obtain ⟨e, he, rfl⟩ := List.mem_map.1 hx
    refine ⟨.emitStart e, Or.inl (Or.inl (Or.inr ⟨_, he, rfl⟩)), rfl, ?_⟩
    simp [stepEmitStart, hfree, hsel, he, hmin]
  · obtain ⟨m, hmin, -⟩ := selectTask_retrieve hsel
    obtain ⟨j, hj, rfl⟩ := List.mem_map.1 (minNat?_eq_some hmin).1
    refine ⟨.retrStart j, Or.inl (Or.inl (Or.inl (Or.inr ⟨_, hj, rfl⟩))), rfl, ?_⟩
    simp [stepRetrStart, hfree, hsel, hj, hmin]
  · obtain ⟨-, -, sp, hmin, -⟩ := selectTask_scan hsel
    have hsp := (minNat?_eq_some hmin).1
    refine ⟨.scanStart sp, Or.inl (Or.inr ⟨_, hsp, rfl⟩), rfl, ?_⟩
    simp [stepScanStart, hfree, hsel, hsp, hmin]

theorem stuck_quiescent {c : Cfg} {s : State} (hf : s.failed = false) (h : enabled c s = []) :
    Quiescent c s := by
  have hn := none_enabled h
  have key : ∀ l, l ∈ candLabels s → (step c s l).isSome = true → False := by
    intro l hl hs; rw [hn l hl] at hs; cases hs
  -- for a given label `step c s l` reduces to the label's own function
  have keyL := key
  simp only [step, hf, Bool.false_eq_true, if_false] at keyL
  obtain ⟨hbusy, hpp⟩ : s.busy = [] ∧ s.pphase = none := by
    rcases Nat.eq_zero_or_pos (busyCount s) with h0 | h0
    · exact busyCount_eq_zero.1 h0
    · obtain ⟨l, hl, -, hs⟩ := end_cand hf h0
      exact (key l hl hs).elim
  have hoq : s.outq = 0 := by
    rcases Nat.eq_zero_or_pos s.outq with h0 | h0
    · exact h0
    · exact (keyL .wDone (by simp [candLabels]) (by simp [stepWDone, h0])).elim
  have hrd : s.rph = .done ∨ (s.rph = .idle ∧ s.rclose = false ∧ s.inSlots = 0) := by
    cases hr : s.rph with
    | done => exact Or.inl rfl
    | idle =>
      cases hc : s.rclose with
      | true => exact (keyL .rQuit (by simp [candLabels]) (by simp [stepRQuit, hr, hc])).elim
      | false =>
        refine Or.inr ⟨rfl, rfl, ?_⟩
        rcases Nat.eq_zero_or_pos s.inSlots with h0 | h0
        · exact h0
        · exact (keyL .rTake (by simp [candLabels]) (by simp [stepRTake, hr, hc, h0])).elim
    | hold =>
      exfalso
      by_cases hlt : s.nread * c.W < c.T
      · refine keyL .rBlock (by simp [candLabels]) ?_
        simp only [stepRBlock, hr, beq_self_eq_true, Bool.true_and, hlt, decide_true, if_true]
        split <;> rfl
      · exact keyL .rEmpty (by simp [candLabels]) (by simp [stepREmpty, hr, hlt])
    | ateof => exact (keyL .rEof (by simp [candLabels]) (by simp [stepREof, hr])).elim
  refine ⟨hbusy, hpp, hoq, hrd, ?_⟩
  rcases Nat.eq_zero_or_pos c.n with hn0 | hn0
  · exact Or.inr hn0
  · left
    have hfree : freeWorker c s = true := by
      simp [freeWorker, busyCount_eq_zero.2 ⟨hbusy, hpp⟩, hn0]
    cases hsel : selectTask c s with
    | none => rfl
    | some t =>
      obtain ⟨l, hl, -, hs⟩ := start_cand hf hfree (fun _ => hpp) hsel
      exact (key l hl hs).elim

end LbzVerif.Lemmas.SchedD
