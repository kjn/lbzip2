/-
  Capacity of `unord_q`
  (`pqueue_init(unord_q, work_units + out_slots > UNORD_THRESH ?
                 work_units + out_slots - UNORD_THRESH : 0)`):

      |unord_q| ≤ num_worker + total_out_slots - 3      (0 < W, 1 ≤ n, 2 < total_out)

  Every entry of unord_q is backed by a work unit (a live speculative retrieve
  job, or an emit job of its finished block) or by an output slot (a buffer of
  its finished block waiting in reord_q); speculative things never hold the
  last work unit (SCAN_THRESH) nor the last two output slots (EMIT_THRESH).
-/
import LbzVerif.Lemmas.SchedD.Uniq
import LbzVerif.Lemmas.SchedD.OrderCap
import LbzVerif.Lemmas.SchedD.Reserve

namespace LbzVerif.Lemmas.SchedD
open LbzVerif.Model.SchedD LbzVerif.Gen

namespace UCap

/-- "not speculative": the base is not the base of a finished-but-unconfirmed block -/
def nsB (ob : List Nat) (x : Nat) : Bool := !ob.contains x
def spB (ob : List Nat) (x : Nat) : Bool := ob.contains x

theorem nsB_iff {ob : List Nat} {x : Nat} : nsB ob x = true ↔ x ∉ ob := by
  simp [nsB]

theorem spB_iff {ob : List Nat} {x : Nat} : spB ob x = true ↔ x ∈ ob := by
  simp [spB]

theorem sp_add_ns (ob : List Nat) (x : Nat) :
    (if spB ob x then 1 else 0) + (if nsB ob x then 1 else 0) = 1 := by
  unfold spB nsB; cases ob.contains x <;> rfl

/-- the retrieve job's entry is not in unord_q (master, flagged, confirmed) -/
def jnq (j : Job) : Bool := !Job.inq j
def pnq : Phase → Bool
  | .retr j _ => !Job.inq j
  | _ => false
def isRetr : Phase → Bool
  | .retr _ _ => true
  | _ => false
/-- the worker holds an emit job -/
def isEJ : Phase → Bool
  | .retr2 _ => true
  | .emit _ => true
  | _ => false
def ejns (ob : List Nat) (e : EJob) : Bool := nsB ob e.base
def ejsp (ob : List Nat) (e : EJob) : Bool := spB ob e.base
def obns (ob : List Nat) (o : OB) : Bool := nsB ob o.base
def obsp (ob : List Nat) (o : OB) : Bool := spB ob o.base
def pens (ob : List Nat) : Phase → Bool
  | .retr2 e => nsB ob e.base
  | .emit e => nsB ob e.base
  | _ => false
def pesp (ob : List Nat) : Phase → Bool
  | .retr2 e => spB ob e.base
  | .emit e => spB ob e.base
  | _ => false
/-- a worker inside `emit()` (it holds an output slot) for a block that is not speculative -/
def pebns (ob : List Nat) : Phase → Bool
  | .emit e => nsB ob e.base
  | _ => false

/-- The non-speculative holders, counted (`ob` = the bases of the finished-but-unconfirmed blocks):
    `Mq` retrieve jobs whose entry is not in unord_q, `Ens` emit jobs, `EBns` workers inside
    `emit()`, `Ons` buffers in `reord_q`, the last three of blocks not in `ob`. -/
def Mq (s : State) : Nat := s.retrQ.countP jnq + s.busy.countP pnq
def Ens (ob : List Nat) (s : State) : Nat := s.emitQ.countP (ejns ob) + s.busy.countP (pens ob)
def EBns (ob : List Nat) (s : State) : Nat := s.busy.countP (pebns ob)
def Ons (ob : List Nat) (s : State) : Nat := s.reordQ.countP (obns ob)

/-- the work unit of the running parser (`do_parse` between its `sched_unlock` and `sched_lock`) -/
def pp (s : State) : Nat := s.pphase.isSome.toNat
/-- work units that are free or held by something non-speculative -/
def RS (ob : List Nat) (s : State) : Nat := s.wu + pp s + Mq s + Ens ob s
/-- output slots that are free or held by something non-speculative -/
def SS (ob : List Nat) (s : State) : Nat := s.outSlots + s.outq + EBns ob s + Ons ob s

structure KG (s : State) : Prop where
  /-- a finished unconfirmed block still has an emit job or a buffer -/
  g   : ∀ u ∈ s.orphans, ItemBase s u.base
  /-- What is still in unord_q lies BEHIND every block of `order_q`: at each header `do_parse`
      pops unord_q up to the header (flags or frees what lies before it, confirms the entry at
      it), and the scanner queues nothing at or before `parser_bs`.  `ox`: the entries without
      a job, `oxj`: those of live retrieve jobs. -/
  ox  : s.pdone = false → ∀ u ∈ s.orphans, ∀ b i, (b, i) ∈ s.orderQ → b < u.base
  oxj : s.pdone = false → ∀ j, JIn s j → Job.inq j = true → ∀ b i, (b, i) ∈ s.orderQ → b < j.base

/-- the holder of an output slot at position `k` may have one of the last `EMIT_THRESH`: it is not
    ahead of the output position and its block is not finished-but-unconfirmed -/
def okK (ob : List Nat) (oq : List (Nat × Nat)) (g : Nat) (k : Nat × Nat) : Bool :=
  !aheadKey oq g k && nsB ob k.1

def phK (p : Nat × Nat → Bool) : Phase → Bool
  | .emit e => p e.key
  | _ => false

/-- output slots that are free, on their way to the writer, or held at a position satisfying `p` -/
def FS (p : Nat × Nat → Bool) (s : State) : Nat :=
  s.outSlots + s.outq + s.busy.countP (phK p) + s.reordQ.countP (fun o => p o.key)

/-- The `EMIT_THRESH` reservation: what `can_emit` lets through keeps two output slots free, on
    their way to the writer, or with a holder that is neither ahead of the output position nor
    speculative.  One count serves `unord_cap` (the two slots are not with speculative blocks,
    `SL.ss`) and deadlock-freedom (they are not all ahead of the head of `order_q`,
    `SL.not_ahead`). -/
def SL (s : State) : Prop := 2 ≤ FS (okK (orphanBases s) s.orderQ s.gnext) s

/-- With `TokI.tu`, `XI.tk` and `kg.ox` also give `1 ≤ RS`: one work unit is free or held by
    something non-speculative (`RS_pos` in `Inv`). -/
structure KI (s : State) : Prop where
  kg : KG s
  sl : SL s

theorem inqAt_of_isEJ {b : Nat} {ph : Phase} (h : isEJ ph = true) : Phase.inqAt b ph = false := by
  cases ph with
  | retr2 e => rfl
  | emit e => rfl
  | _ => exact Bool.noConfusion h

theorem pp_eq (s : State) : pp s = if s.pphase.isSome then 1 else 0 := by
  unfold pp; cases s.pphase.isSome <;> rfl

theorem countP_add_of {α} (p q r : α → Bool)
    (h : ∀ x, (if p x then 1 else 0) + (if q x then 1 else 0) = (if r x then 1 else 0))
    (l : List α) : l.countP p + l.countP q = l.countP r := by
  induction l with
  | nil => rfl
  | cons x xs ih =>
    simp only [List.countP_cons]
    have := h x
    omega

theorem countP_add_compl {α} {p q : α → Bool} (h : ∀ x, q x = !p x) (l : List α) :
    l.countP p + l.countP q = l.length := by
  have := countP_add_of p q (fun _ => true) (fun x => by rw [h x]; cases p x <;> rfl) l
  rwa [List.countP_true] at this

theorem countP_add_le_length {α} (p q : α → Bool) (h : ∀ x, p x = true → q x = true → False)
    (l : List α) : l.countP p + l.countP q ≤ l.length := by
  induction l with
  | nil => simp
  | cons x xs ih =>
    simp only [List.countP_cons, List.length_cons]
    have := h x
    cases hp : p x <;> cases hq : q x <;> simp_all <;> omega

theorem countP_flatMap_emitBase (ob : List Nat) (l : List Phase) :
    ((l.flatMap Phase.emitBase).filter (spB ob)).length = l.countP (pesp ob) := by
  induction l with
  | nil => rfl
  | cons x xs ih =>
    simp only [List.flatMap_cons, List.filter_append, List.length_append, List.countP_cons, ih]
    cases x with
    | retr j k => simp [Phase.emitBase, pesp]
    | retr2 e =>
      simp only [Phase.emitBase, pesp, List.filter_cons, List.filter_nil]
      by_cases h : spB ob e.base = true <;> simp [h] <;> omega
    | emit e =>
      simp only [Phase.emitBase, pesp, List.filter_cons, List.filter_nil]
      by_cases h : spB ob e.base = true <;> simp [h] <;> omega
    | scan a b => simp [Phase.emitBase, pesp]

def itemBases (s : State) : List Nat := emitBases s ++ s.reordQ.map (·.base)

theorem mem_itemBases {s : State} {y : Nat} (h : ItemBase s y) : y ∈ itemBases s := by
  simp only [itemBases, emitBases, List.mem_append, List.mem_map, List.mem_flatMap]
  rcases h with ⟨e, he | he | he, rfl⟩ | ⟨o, ho, rfl⟩
  · exact Or.inl (Or.inl ⟨e, he, rfl⟩)
  · exact Or.inl (Or.inr ⟨_, he, by simp [Phase.emitBase]⟩)
  · exact Or.inl (Or.inr ⟨_, he, by simp [Phase.emitBase]⟩)
  · exact Or.inr ⟨o, ho, rfl⟩

theorem length_filter_map {α} (q : Nat → Bool) (f : α → Nat) (l : List α) :
    ((l.map f).filter q).length = l.countP (fun x => q (f x)) := by
  induction l with
  | nil => rfl
  | cons x xs ih =>
    simp only [List.map_cons, List.filter_cons, List.countP_cons]
    split <;> simp [ih]

/-- pigeonhole: the bases are pairwise different and each has an item of its own -/
theorem orphans_le_spec {s : State} (hn : (orphanBases s).Nodup)
    (hg : ∀ u ∈ s.orphans, ItemBase s u.base) :
    s.orphans.length ≤ s.emitQ.countP (ejsp (orphanBases s)) + s.busy.countP (pesp (orphanBases s))
      + s.reordQ.countP (obsp (orphanBases s)) := by
  have hlen : (orphanBases s).length = s.orphans.length := by
    rw [orphanBases_eq_map, List.length_map]
  have h1 : (orphanBases s).length ≤ ((itemBases s).filter (spB (orphanBases s))).length :=
    hn.length_le_of_subset fun b hb => by
      obtain ⟨u, hu, rfl⟩ := mem_orphanBases.1 hb
      exact List.mem_filter.2 ⟨mem_itemBases (hg u hu), spB_iff.2 hb⟩
  have h2 : ((itemBases s).filter (spB (orphanBases s))).length
      = s.emitQ.countP (ejsp (orphanBases s)) + s.busy.countP (pesp (orphanBases s))
        + s.reordQ.countP (obsp (orphanBases s)) := by
    simp only [itemBases, emitBases, List.filter_append, List.length_append, length_filter_map,
      countP_flatMap_emitBase]
    rfl
  omega

theorem FS_mono {p p' : Nat × Nat → Bool} {s : State}
    (h : ∀ k, ItemBase s k.1 → p k = true → p' k = true) : FS p s ≤ FS p' s := by
  have c3 : s.busy.countP (phK p) ≤ s.busy.countP (phK p') :=
    List.countP_mono_left (fun ph hph hp => by
      cases ph with
      | emit e => exact h e.key (Or.inl ⟨e, Or.inr (Or.inr hph), rfl⟩) hp
      | _ => exact hp)
  have c4 : s.reordQ.countP (fun o => p o.key) ≤ s.reordQ.countP (fun o => p' o.key) :=
    List.countP_mono_left (fun o ho => h o.key (Or.inr ⟨o, ho, rfl⟩))
  simp only [FS]
  omega

theorem SL.ss {s : State} (h : SL s) : 2 ≤ SS (orphanBases s) s := by
  refine Nat.le_trans h ?_
  have c3 : s.busy.countP (phK (okK (orphanBases s) s.orderQ s.gnext))
      ≤ s.busy.countP (pebns (orphanBases s)) :=
    List.countP_mono_left (fun ph _ hp => by
      cases ph with
      | emit e => exact (Bool.and_eq_true _ _ ▸ hp).2
      | _ => exact hp)
  have c4 : s.reordQ.countP (fun o => okK (orphanBases s) s.orderQ s.gnext o.key)
      ≤ s.reordQ.countP (obns (orphanBases s)) :=
    List.countP_mono_left (fun o _ hp => (Bool.and_eq_true _ _ ▸ hp).2)
  simp only [FS, SS, EBns, Ons]
  omega

theorem SL.not_ahead {s : State} (h : SL s) (hb : s.busy = []) (h0 : s.outSlots = 0)
    (hw : s.outq = 0) : ∃ o ∈ s.reordQ, aheadKey s.orderQ s.gnext o.key = false := by
  have h : 2 ≤ FS _ s := h
  simp only [FS, hb, h0, hw, List.countP_nil] at h
  have hpos : 0 < s.reordQ.countP (fun o => okK (orphanBases s) s.orderQ s.gnext o.key) := by omega
  obtain ⟨o, ho, hp⟩ := List.countP_pos_iff.1 hpos
  have := (Bool.and_eq_true _ _ ▸ hp).1
  exact ⟨o, ho, by simpa using this⟩

theorem unordCapOf_eq {c : Cfg} (hn : 1 ≤ c.n) (ho : EMIT_THRESH < c.totalOut) :
    unordCapOf c = c.n + c.totalOut - 3 := by
  have : 2 < c.totalOut := ho
  unfold unordCapOf unordCap UNORD_THRESH
  split
  · rfl
  · next h => simp at h; omega

theorem unord_cap_of_KI {c : Cfg} (hn : 1 ≤ c.n) (ho : EMIT_THRESH < c.totalOut) {s : State}
    (hK : KI s) (hr : 1 ≤ RS (orphanBases s) s) (hC : CI c s) (hL : Leak.LJ s)
    (hU : (orphanBases s).Nodup) : unordSize s ≤ unordCapOf c := by
  rw [unordCapOf_eq hn ho]
  have ho' : 2 < c.totalOut := ho
  -- orphans: all in unord_q
  have e1 : s.orphans.countP (·.f.inq) = s.orphans.length :=
    List.countP_eq_length.2 (fun u hu => (hL.lc.ub u hu).1)
  have e2 : s.retrQ.countP Job.inq + s.retrQ.countP jnq = s.retrQ.length :=
    countP_add_compl (fun _ => rfl) _
  have e3 : s.busy.countP Phase.inq + s.busy.countP pnq = s.busy.countP isRetr :=
    countP_add_of _ _ _ (fun ph => by
      cases ph with
      | retr j k => cases h : Job.inq j <;> simp [Phase.inq, pnq, isRetr, h]
      | _ => simp [Phase.inq, pnq, isRetr]) _
  -- emit jobs and buffers: speculative + non-speculative
  have e4 : s.emitQ.countP (ejsp (orphanBases s)) + s.emitQ.countP (ejns (orphanBases s))
      = s.emitQ.length :=
    countP_add_compl (fun _ => rfl) _
  have e5 : s.busy.countP (pesp (orphanBases s)) + s.busy.countP (pens (orphanBases s))
      = s.busy.countP isEJ :=
    countP_add_of _ _ _ (fun ph => by
      cases ph with
      | retr2 e => exact sp_add_ns _ _
      | emit e => exact sp_add_ns _ _
      | _ => simp [pesp, pens, isEJ]) _
  have e6 : s.reordQ.countP (obsp (orphanBases s)) + s.reordQ.countP (obns (orphanBases s))
      = s.reordQ.length :=
    countP_add_compl (fun _ => rfl) _
  have e7 : s.busy.countP isRetr + s.busy.countP isEJ ≤ s.busy.length :=
    countP_add_le_length _ _ (fun ph h1 h2 => by cases ph <;> simp [isRetr, isEJ] at h1 h2) _
  have e8 : s.busy.countP (pebns (orphanBases s)) ≤ s.busy.countP isEmit :=
    List.countP_mono_left (fun ph _ h => by cases ph <;> simp [pebns, isEmit] at h ⊢)
  have e9 := orphans_le_spec hU hK.kg.g
  have hw := hC.wuC
  have hs := hC.osC
  rw [emitBusy_eq] at hs
  have hsl := hK.sl.ss
  simp only [RS, SS, Mq, Ens, EBns, Ons, pp_eq] at hr hsl
  simp only [busyCount] at hw
  simp only [unordSize]
  omega

structure KF (s s' : State) : Prop where
  ob : ∀ y ∈ orphanBases s', y ∈ orphanBases s
  it : ∀ y ∈ orphanBases s', ItemBase s y → ItemBase s' y
  ji : ∀ j', JIn s' j' → Job.inq j' = true → ∃ j, JIn s j ∧ Job.inq j = true ∧ j.base = j'.base
  oq : ∀ b i, (b, i) ∈ s'.orderQ → ∃ i', (b, i') ∈ s.orderQ
  pd : s'.pdone = false → s.pdone = false

theorem KF.trans {s s' s'' : State} (f : KF s s') (g : KF s' s'') : KF s s'' := by
  refine ⟨fun y hy => f.ob y (g.ob y hy), ?_, ?_, ?_, fun h => f.pd (g.pd h)⟩
  · intro y hy hi
    exact g.it y hy (f.it y (g.ob y hy) hi)
  · intro j'' hj hi
    obtain ⟨j', hj', hi', hb'⟩ := g.ji j'' hj hi
    obtain ⟨j, hj0, hi0, hb⟩ := f.ji j' hj' hi'
    exact ⟨j, hj0, hi0, hb.trans hb'⟩
  · intro b i hi
    obtain ⟨i', hi'⟩ := g.oq b i hi
    exact f.oq b i' hi'

theorem KG_frame {s s' : State} (h : KG s) (f : KF s s') : KG s' := by
  have hob : ∀ u' ∈ s'.orphans, ∃ u ∈ s.orphans, u.base = u'.base := by
    intro u' hu'
    exact mem_orphanBases.1 (f.ob _ (mem_orphanBases.2 ⟨u', hu', rfl⟩))
  refine ⟨?_, ?_, ?_⟩
  · intro u' hu'
    obtain ⟨u, hu, hb⟩ := hob u' hu'
    exact f.it _ (mem_orphanBases.2 ⟨u', hu', rfl⟩) (hb ▸ h.g u hu)
  · intro hd u' hu' b i hi
    obtain ⟨u, hu, hb⟩ := hob u' hu'
    obtain ⟨i', hi'⟩ := f.oq b i hi
    have := h.ox (f.pd hd) u hu b i' hi'
    omega
  · intro hd j' hj' hq b i hi
    obtain ⟨j, hj, hq0, hb⟩ := f.ji j' hj' hq
    obtain ⟨i', hi'⟩ := f.oq b i hi
    have := h.oxj (f.pd hd) j hj hq0 b i' hi'
    omega

theorem JM_of {s s' : State} (q : ∀ j ∈ s.retrQ, j ∈ s'.retrQ)
    (b : ∀ j k, Phase.retr j k ∈ s.busy → Phase.retr j k ∈ s'.busy) : JM s s' :=
  fun _ hj => JIn_mono hj q b

theorem retr_mem_of_cons {j : Job} {k : Option Nat} {ph : Phase} {l : List Phase}
    (h : Phase.retr j k ∈ ph :: l) (hn : isRetr ph = false) : Phase.retr j k ∈ l :=
  (List.mem_cons.1 h).resolve_left (fun e => by subst e; exact Bool.noConfusion hn)

theorem ItemBase_keep {s s' : State} {y : Nat} (hi : ItemBase s y)
    (q : ∀ e ∈ s.emitQ, e ∈ s'.emitQ) (b : ∀ ph ∈ s.busy, isEJ ph = true → ph ∈ s'.busy)
    (r : ∀ o ∈ s.reordQ, o ∈ s'.reordQ) : ItemBase s' y := by
  rcases hi with ⟨e, he | he | he, rfl⟩ | ⟨o, ho, rfl⟩
  · exact Or.inl ⟨e, Or.inl (q e he), rfl⟩
  · exact Or.inl ⟨e, Or.inr (Or.inl (b _ he rfl)), rfl⟩
  · exact Or.inl ⟨e, Or.inr (Or.inr (b _ he rfl)), rfl⟩
  · exact Or.inr ⟨o, r o ho, rfl⟩

theorem ItemBase_busy_cons {s s' : State} {ph : Phase} {y : Nat} (hi : ItemBase s y)
    (e3 : s'.busy = ph :: s.busy := by rfl) (e4 : s'.emitQ = s.emitQ := by rfl)
    (e5 : s'.reordQ = s.reordQ := by rfl) : ItemBase s' y :=
  ItemBase_keep hi (fun _ h => e4 ▸ h) (fun _ h _ => e3 ▸ List.mem_cons_of_mem _ h)
    (fun _ h => e5 ▸ h)

theorem KF_move {s s' : State} (hI : ∀ y, ItemBase s y → ItemBase s' y) (m : JM s' s)
    (e2 : s'.orphans = s.orphans := by rfl) (e6 : s'.orderQ = s.orderQ := by rfl)
    (e7 : s'.pdone = s.pdone := by rfl) : KF s s' :=
  ⟨fun y hy => by simpa only [orphanBases, e2] using hy, fun y _ => hI y,
    fun j hj hi => ⟨j, m j hj, hi, rfl⟩, fun b i hi => ⟨i, e6 ▸ hi⟩, fun hd => e7 ▸ hd⟩

/-- A step keeps `SL` if it takes no slot (`hs`, for every `p`), brings no base that an emit job or
    buffer has among the finished-but-unconfirmed ones (`hob`) and puts no holder ahead of the
    output position (`hk`); the defaults hold when `orphans`, `order_q` and `gnext` stay. -/
theorem SL_of {s s' : State} (h : SL s) (hs : ∀ p, FS p s ≤ FS p s')
    (hob : ∀ y ∈ orphanBases s', ItemBase s y → y ∈ orphanBases s := by exact fun _ h _ => h)
    (hk : ∀ k, aheadKey s'.orderQ s'.gnext k = true → aheadKey s.orderQ s.gnext k = true := by
      exact fun _ h => h) : SL s' := by
  refine Nat.le_trans h (Nat.le_trans (FS_mono fun k hi hp => ?_) (hs _))
  rw [okK, Bool.and_eq_true] at hp ⊢
  refine ⟨?_, nsB_iff.2 fun hy => nsB_iff.1 hp.2 (hob _ hy hi)⟩
  cases ha : aheadKey s'.orderQ s'.gnext k with
  | false => rfl
  | true => rw [hk k ha] at hp; exact hp.1

/-- a worker that enters `busy` takes no slot by that -/
theorem FS_le_cons (p : Nat × Nat → Bool) {s s' : State} {ph : Phase}
    (e3 : s'.busy = ph :: s.busy := by rfl) (e1 : s'.outSlots = s.outSlots := by rfl)
    (e2 : s'.outq = s.outq := by rfl) (e5 : s'.reordQ = s.reordQ := by rfl) :
    FS p s ≤ FS p s' := by
  simp only [FS, e1, e2, e3, e5, countP_cons']
  omega

theorem KG_congr {s s' : State} (h : KG s)
    (e1 : s'.retrQ = s.retrQ := by rfl) (e2 : s'.orphans = s.orphans := by rfl)
    (e3 : s'.busy = s.busy := by rfl) (e4 : s'.emitQ = s.emitQ := by rfl)
    (e5 : s'.reordQ = s.reordQ := by rfl) (e6 : s'.orderQ = s.orderQ := by rfl)
    (e7 : s'.pdone = s.pdone := by rfl) : KG s' :=
  KG_frame h (KF_move (fun y hi => by simpa only [ItemBase, EIn, e3, e4, e5] using hi)
    (JM_of_eq e3.symm e1.symm) e2 e6 e7)

theorem SL_congr {s s' : State} (h : SL s)
    (e11 : s.outSlots + s.outq ≤ s'.outSlots + s'.outq := by exact Nat.le_refl _)
    (e2 : s'.orphans = s.orphans := by rfl) (e3 : s'.busy = s.busy := by rfl)
    (e5 : s'.reordQ = s.reordQ := by rfl) (e6 : s'.orderQ = s.orderQ := by rfl)
    (e8 : s'.gnext = s.gnext := by rfl) : SL s' := by
  simp only [SL, FS, orphanBases, e2, e3, e5, e6, e8] at h ⊢
  omega

theorem KI_congr {s s' : State} (h : KI s)
    (e11 : s.outSlots + s.outq ≤ s'.outSlots + s'.outq := by exact Nat.le_refl _)
    (e1 : s'.retrQ = s.retrQ := by rfl) (e2 : s'.orphans = s.orphans := by rfl)
    (e3 : s'.busy = s.busy := by rfl) (e4 : s'.emitQ = s.emitQ := by rfl)
    (e5 : s'.reordQ = s.reordQ := by rfl) (e6 : s'.orderQ = s.orderQ := by rfl)
    (e7 : s'.pdone = s.pdone := by rfl) (e8 : s'.gnext = s.gnext := by rfl) : KI s' :=
  ⟨KG_congr h.kg e1 e2 e3 e4 e5 e6 e7, SL_congr h.sl e11 e2 e3 e5 e6 e8⟩

theorem KI_wu {s : State} (w : Nat) (h : KI s) : KI { s with wu := w } :=
  ⟨KG_congr h.kg, h.sl⟩

theorem KF_detach (s : State) (k : Option Nat) : KF s (detach s k) := by
  rw [detach_eq]
  exact KF_move (fun _ h => h) (fun _ h => h)

theorem RS_detach (ob : List Nat) (s : State) (k : Option Nat) : RS ob (detach s k) = RS ob s := by
  rw [detach_eq]
  rfl

theorem SS_detach (ob : List Nat) (s : State) (k : Option Nat) : SS ob (detach s k) = SS ob s := by
  rw [detach_eq]
  rfl

theorem KG_detach {s : State} (k : Option Nat) (h : KG s) : KG (detach s k) :=
  KG_frame h (KF_detach s k)

theorem SL_detach {s : State} (k : Option Nat) (h : SL s) : SL (detach s k) := by
  rw [detach_eq]
  exact SL_congr h

theorem KF_busy_erase (s : State) {ph : Phase}
    (hn : ∀ e, ph ≠ Phase.retr2 e ∧ ph ≠ Phase.emit e) :
    KF s { s with busy := s.busy.erase ph } := by
  refine KF_move ?_ (JM_of (fun _ h => h) (fun _ _ h => List.mem_of_mem_erase h))
  rintro y (⟨e, he, rfl⟩ | ⟨o, ho, rfl⟩)
  · exact Or.inl ⟨e, EIn_erase hn he, rfl⟩
  · exact Or.inr ⟨o, ho, rfl⟩

theorem SL_busy_erase {s : State} {ph : Phase} (h : SL s) (hm : ph ∈ s.busy)
    (hn : isEmit ph = false) : SL { s with busy := s.busy.erase ph } :=
  SL_of h fun p => by
    have h1 := countP_erase' (phK p) hm
    have h3 : phK p ph = false := by
      cases ph with
      | emit e => exact Bool.noConfusion hn
      | _ => rfl
    simp only [h3, Bool.toNat_false] at h1
    simp only [FS]
    omega

theorem KF_advance (c : Cfg) (s : State) (p : Nat) : KF s (advance c s p) :=
  KF_move (fun _ h => h)
    (JM_of (fun _ h => (mem_advance_retrQ.1 h).1) (fun _ _ h => h))

theorem SS_advance (ob : List Nat) (c : Cfg) (s : State) (p : Nat) :
    SS ob (advance c s p) = SS ob s := rfl

theorem SL_advance {s : State} (c : Cfg) (p : Nat) (h : SL s) : SL (advance c s p) := h

theorem KG_addJob {s : State} (jn : Job) (h : KG s)
    (hn : s.pdone = false → Job.inq jn = true → ∀ b i, (b, i) ∈ s.orderQ → b < jn.base) :
    KG { s with retrQ := jn :: s.retrQ } := by
  refine ⟨fun u hu => ItemBase_keep (h.g u hu) (fun _ h => h) (fun _ h _ => h) (fun _ h => h),
    h.ox, ?_⟩
  intro hd j hj hi b i hb
  rcases JIn_addJob jn j hj with rfl | hj
  · exact hn hd hi b i hb
  · exact h.oxj hd j hj hi b i hb

theorem mc_jnq {c : Cfg} {g : Nat} {j : Job} (hj : jobOK c g j) (hmc : Job.mc j = true) :
    jnq j = true := by
  unfold jnq Job.inq
  unfold Job.mc at hmc
  cases hu : j.ub with
  | none => rfl
  | some f =>
    simp only [hu, Bool.and_eq_true] at hmc ⊢
    cases hi : f.inq with
    | false => rfl
    | true => have := hj.inq_incomplete f hu hi; rw [this] at hmc; cases hmc.1

theorem Mq_pos_of_HasMc {c : Cfg} {s : State} (hS : SI c s) (h : HasMc s) : 1 ≤ Mq s := by
  obtain ⟨j, hq | ⟨k, hk⟩, hmc⟩ := h
  · have : 0 < s.retrQ.countP jnq :=
      List.countP_pos_iff.2 ⟨j, hq, mc_jnq (hS.jobs j hq) hmc⟩
    simp only [Mq]; omega
  · have : 0 < s.busy.countP pnq :=
      List.countP_pos_iff.2 ⟨_, hk, mc_jnq (hS.busy _ hk) hmc⟩
    simp only [Mq]; omega

theorem KI_init {c : Cfg} (ho : EMIT_THRESH < c.totalOut) : KI (init c) := by
  have ho' : 2 < c.totalOut := ho
  refine ⟨⟨?_, ?_, ?_⟩, ?_⟩
  · intro u hu; simp [init] at hu
  · intro _ u hu; simp [init] at hu
  · rintro _ j (hj | ⟨k, hk⟩)
    · simp [init] at hj
    · simp [init] at hk
  · simp [SL, FS, init]; omega

theorem KI_parseStart {s : State} (k : Option Nat) (w : Nat) (h : KI s) :
    KI { s with ptok := false, wu := w, pphase := some k } :=
  ⟨KG_congr h.kg, h.sl⟩

theorem KI_retrStart {s : State} {j : Job} (cb : Bool) (k : Option Nat) (h : KI s)
    (hj : j ∈ s.retrQ) :
    KI { s with retrQ := s.retrQ.erase j,
                  busy := .retr { j with corrupt := cb } k :: s.busy } := by
  refine ⟨KG_frame h.kg ⟨fun _ h => h, ?_, ?_, fun _ i h => ⟨i, h⟩, fun h => h⟩, ?_⟩
  · exact fun _ _ hi => ItemBase_busy_cons hi
  · rintro x (hq | ⟨k', hk'⟩) hi
    · exact ⟨x, Or.inl (List.mem_of_mem_erase hq), hi, rfl⟩
    · rcases List.mem_cons.1 hk' with e | hm
      · injection e with e1 e2
        subst e1
        exact ⟨j, Or.inl hj, hi, rfl⟩
      · exact ⟨x, Or.inr ⟨k', hm⟩, hi, rfl⟩
  · exact SL_of h.sl fun p => FS_le_cons p

theorem KI_retrPost {s : State} {e : EJob} (h : KI s) (hm : Phase.retr2 e ∈ s.busy) :
    KI { s with busy := s.busy.erase (.retr2 e), emitQ := e :: s.emitQ } := by
  refine ⟨KG_frame h.kg (KF_move ?_
      (JM_of (fun _ h => h) (fun _ _ h => List.mem_of_mem_erase h))),
    SL_congr (SL_busy_erase h.sl hm rfl)⟩
  exact ItemBase_sub (fun _ h => (emitJobs_perm_erase hm rfl).mem_iff.1 h) (fun _ h => h)

theorem orphan_after {s : State} (h : KG s) (hL : Leak.LJ s) {y : Nat}
    (hin : y ∈ orphanBases s) : s.pdone = false ∧ ∀ b i, (b, i) ∈ s.orderQ → b < y := by
  obtain ⟨u, hu, rfl⟩ := mem_orphanBases.1 hin
  have hpd : s.pdone = false := by
    cases hd : s.pdone with
    | false => rfl
    | true => rw [(hL.od hd).1] at hu; cases hu
  exact ⟨hpd, h.ox hpd u hu⟩

/-- An emit job of a finished-but-unconfirmed block is started only while more than
    `EMIT_THRESH` output slots are free: `can_emit` lets the last ones go only to the block
    `order_q` waits for. -/
theorem KI_emitStart {c : Cfg} {s : State} {e : EJob} (h : KI s) (hL : Leak.LJ s)
    (hsel : selectTask c s = some "emit") (hm : e ∈ s.emitQ)
    (hmin : minKey? (s.emitQ.map EJob.key) = some e.key) :
    KI { s with outSlots := s.outSlots - 1, emitQ := s.emitQ.erase e,
                  busy := .emit e :: s.busy } := by
  refine ⟨KG_frame h.kg (KF_move ?_
      (JM_of (fun _ h => h) (fun _ _ h => retr_mem_of_cons h rfl))), ?_⟩
  · exact ItemBase_sub (fun _ h => (emitJobs_perm_start hm).mem_iff.2 h) (fun _ h => h)
  · have := h.sl
    show 2 ≤ FS (okK (orphanBases s) s.orderQ s.gnext) _
    simp only [SL, FS, countP_cons', phK] at this ⊢
    rcases Reserve.emit_guard hsel hmin with hgt | ⟨hos, x, r, hq, hx⟩
    · have : 2 < s.outSlots := hgt
      omega
    · -- the job is not after the head of `order_q`, which a finished-but-unconfirmed block is
      have hok : okK (orphanBases s) s.orderQ s.gnext e.key = true := by
        rw [okK, Bool.and_eq_true, hq]
        refine ⟨by simpa [aheadKey] using hx, nsB_iff.2 fun hin => ?_⟩
        have hlt := (orphan_after h.kg hL hin).2 x.1 x.2 (hq ▸ List.mem_cons_self)
        have : posLt x e.key = true := by
          simp only [posLt, EJob.key, Bool.or_eq_true]
          exact Or.inl (decide_eq_true hlt)
        rw [this] at hx; cases hx
      rw [hok]
      simp only [Bool.toNat_true]
      omega

theorem KI_emitEnd {s : State} {e : EJob} {onew : OB} (q : List EJob) (w : Nat)
    (h : KI s) (hm : Phase.emit e ∈ s.busy) (o1 : onew.base = e.base) (o2 : onew.idx = e.idx)
    (e5 : ∀ e0 ∈ s.emitQ, e0 ∈ q) :
    KI { s with busy := s.busy.erase (.emit e), wu := w, emitQ := q,
                  reordQ := onew :: s.reordQ } := by
  refine ⟨KG_frame h.kg (KF_move ?_
      (JM_of (fun _ h => h) (fun _ _ h => List.mem_of_mem_erase h))), ?_⟩
  · rintro y (⟨e0, he, rfl⟩ | ⟨o, ho, rfl⟩)
    · by_cases hee : e0 = e
      · subst hee; exact Or.inr ⟨onew, List.mem_cons_self, o1⟩
      · exact Or.inl ⟨e0, EIn_emitEnd e5 he hee, rfl⟩
    · exact Or.inr ⟨o, List.mem_cons_of_mem _ ho, rfl⟩
  · refine SL_of h.sl fun p => ?_
    have h3 := countP_erase' (phK p) hm
    have hk : onew.key = e.key := Prod.ext o1 o2
    simp only [FS, countP_cons', phK, hk] at h3 ⊢
    omega

theorem KI_scanStart {s : State} (a b w : Nat) (q : List Nat) (h : KI s) :
    KI { s with wu := w, scanQ := q, busy := .scan a b :: s.busy } := by
  refine ⟨KG_frame h.kg (KF_move ?_
      (JM_of (fun _ h => h) (fun _ _ h => retr_mem_of_cons h rfl))), ?_⟩
  · exact fun _ hi => ItemBase_busy_cons hi
  · exact SL_of h.sl fun p => FS_le_cons p

theorem bogus_not_orphan {c : Cfg} {s : State} {ob : OB} (h : KG s) (hL : Leak.LJ s)
    (hsel : selectTask c s = some "reorder")
    (hmin : minKey? (s.reordQ.map OB.key) = some ob.key)
    (hb : dReorderBogus (view c s) = true) : ob.base ∉ orphanBases s := by
  intro hin
  obtain ⟨hpd, hlt⟩ := orphan_after h hL hin
  rcases bogus_facts hsel hmin hb with ⟨_, hd⟩ | ⟨x, r, hq, hx⟩
  · rw [hpd] at hd; cases hd
  · have := hlt x.1 x.2 (hq ▸ List.mem_cons_self)
    omega

theorem head_not_orphan {s : State} {x : Nat × Nat} {r : List (Nat × Nat)} (h : KG s)
    (hL : Leak.LJ s) (hq : s.orderQ = x :: r) : x.1 ∉ orphanBases s :=
  fun hin => Nat.lt_irrefl _ ((orphan_after h hL hin).2 x.1 x.2 (hq ▸ List.mem_cons_self))

/-- `e11`: the slot of the buffer is free again or on the way to the writer -/
theorem KI_reorder {s : State} {ob : OB} (oq wr : List (Nat × Nat)) (os oq' : Nat)
    (t : Bool) (h : KI s) (hno : ob.base ∉ orphanBases s) (hm : ob ∈ s.reordQ)
    (e6 : ∀ b i, (b, i) ∈ oq → ∃ i', (b, i') ∈ s.orderQ)
    (hk : ∀ k, aheadKey oq s.gnext k = true → aheadKey s.orderQ s.gnext k = true)
    (e11 : os + oq' = s.outSlots + s.outq + 1) :
    KI { s with reordQ := s.reordQ.erase ob, orderQ := oq, written := wr, outSlots := os,
                  outq := oq', taint := t } := by
  refine ⟨KG_frame h.kg ⟨fun _ h => h, ?_, fun j hj hi => ⟨j, hj, hi, rfl⟩, e6, fun h => h⟩, ?_⟩
  · rintro y hy (⟨e0, he, rfl⟩ | ⟨o, ho, rfl⟩)
    · exact Or.inl ⟨e0, he, rfl⟩
    · refine Or.inr ⟨o, mem_erase_ne ho ?_, rfl⟩
      rintro rfl
      exact hno hy
  · refine SL_of h.sl (fun p => ?_) (hk := hk)
    have h1 := countP_erase' (fun o : OB => p o.key) hm
    have hb := Bool.toNat_le (p ob.key)
    simp only [FS] at h1 ⊢
    omega

theorem KI_leave {s : State} {ph : Phase} (h : KI s) (hm : ph ∈ s.busy)
    (hn : isEJ ph = false) (k : Option Nat) :
    KI (detach { s with busy := s.busy.erase ph } k) := by
  refine ⟨KG_detach _ (KG_frame h.kg (KF_busy_erase s (fun e => ⟨?_, ?_⟩))),
    SL_detach k (SL_busy_erase h.sl hm (by cases ph <;> first | rfl | cases hn))⟩
  · rintro rfl; cases hn
  · rintro rfl; cases hn

theorem KI_scanNew {c : Cfg} {s1 : State} (x : Nat) (h : KI s1)
    (hP : PI c s1) : KI (scanNew c s1 x) := by
  by_cases hx : x ≤ s1.ppos ∨ x < headOffs c s1
  · rw [scanNew_known hx]
    exact KI_wu _ h
  · rw [scanNew_new (by omega) (by omega)]
    refine ⟨KG_addJob _ h.kg ?_, h.sl⟩
    intro hd _ b i hb
    have := hP.op hd b i hb
    show b < x
    omega

theorem KI_retrMove {c : Cfg} {s1 : State} (j : Job) (newc : Nat) (h : KI s1) :
    KI (retrMove c s1 j newc) :=
  retrMove_ind (P := KI) c s1 j newc h
    ⟨KG_congr (KG_frame h.kg (KF_advance c s1 newc)), h.sl⟩

theorem KI_doneMaster {s2 : State} (ej : EJob) (po : Nat) (h : KI s2) :
    KI { s2 with ptok := true, porig := po, busy := .retr2 ej :: s2.busy } := by
  refine ⟨KG_frame h.kg (KF_move ?_
    (JM_of (fun _ h => h) (fun _ _ h => retr_mem_of_cons h rfl))), SL_of h.sl fun p => FS_le_cons p⟩
  exact fun _ hi => ItemBase_busy_cons hi

theorem KI_doneSpec {s2 : State} (ej : EJob) (u : UB) (hb : u.base = ej.base)
    (h : KI s2) (hni : ¬ ItemBase s2 ej.base)
    (hox : s2.pdone = false → ∀ b i, (b, i) ∈ s2.orderQ → b < ej.base) :
    KI { s2 with busy := .retr2 ej :: s2.busy, orphans := u :: s2.orphans } := by
  obtain ⟨hg, hn⟩ := h
  have hob : orphanBases { s2 with busy := .retr2 ej :: s2.busy, orphans := u :: s2.orphans }
      = ej.base :: orphanBases s2 := by
    simp only [orphanBases, List.flatMap_cons, UB.baseL, List.cons_append, List.nil_append, hb]
  have hI : ∀ y, ItemBase s2 y →
      ItemBase { s2 with busy := .retr2 ej :: s2.busy, orphans := u :: s2.orphans } y :=
    fun _ hi => ItemBase_busy_cons hi
  refine ⟨⟨?_, ?_, ?_⟩, ?_⟩
  · intro u' hu'
    rcases List.mem_cons.1 hu' with rfl | hu'
    · rw [hb]
      exact Or.inl ⟨ej, Or.inr (Or.inl List.mem_cons_self), rfl⟩
    · exact hI _ (hg.g u' hu')
  · intro hd u' hu' b i hi
    rcases List.mem_cons.1 hu' with rfl | hu'
    · rw [hb]; exact hox hd b i hi
    · exact hg.ox hd u' hu' b i hi
  · intro hd x hx hq b i hi
    have hJ : JM { s2 with busy := .retr2 ej :: s2.busy, orphans := u :: s2.orphans } s2 :=
      JM_of (fun _ h => h) (fun _ _ h => retr_mem_of_cons h rfl)
    exact hg.oxj hd x (hJ x hx) hq b i hi
  · refine SL_of hn (fun p => FS_le_cons p) fun y hy hi => ?_
    rcases List.mem_cons.1 (hob ▸ hy) with rfl | hy
    · exact absurd hi hni
    · exact hy

/-- A speculative job leaves its block behind, which no item and no other job has (`hni`) and
    which lies behind `order_q` (`hox`). -/
theorem KI_retrDone {c : Cfg} {s2 : State} {j : Job} (newc : Nat) (h : KI s2)
    (hni : ¬ ItemBase s2 j.base)
    (hox : j.master = false → s2.pdone = false → ∀ b i, (b, i) ∈ s2.orderQ → b < j.base) :
    KI (retrDone c s2 j newc) := by
  cases hmas : j.master with
  | true =>
    rw [retrDone_master c s2 newc hmas]
    exact KI_doneMaster (doneEJob c j) newc h
  | false =>
    obtain ⟨f, hub, hc⟩ := Job.master_eq_false.1 hmas
    rw [retrDone_spec c s2 newc hub hc]
    exact KI_doneSpec (doneEJob c j)
      { base := j.base, f := { f with complete := true, endp := newc }, corrupt := j.corrupt }
      rfl h hni (hox hmas)

theorem not_master_inq {s : State} {j : Job} {k : Option Nat} (hL : Leak.LJ s)
    (hm : Phase.retr j k ∈ s.busy) (hmas : j.master = false) : Job.inq j = true := by
  obtain ⟨f, hu, hc⟩ := Job.master_eq_false.1 hmas
  simp only [Job.inq, hu]
  exact hL.lc.bz _ hm f hu hc

theorem KI_retrEnd_move {c : Cfg} {s s2 : State} {j : Job} {k : Option Nat} (h : KI s)
    (hA : Lo c s) (hL : Leak.LJ s) (hUU : UIB s ∧ UIT c s)
    (hmem : Phase.retr j k ∈ s.busy) (hpd : s.pdone = false) (hred : j.redundant = false)
    (hs2 : s2 = retrMove c (detach { s with busy := s.busy.erase (.retr j k) } k) j
      (retrNewc c j k)) :
    KI (retrExit s2 (retrMoreJob j (retrNewc c j k))) ∧
    KI (retrMore s2 j (retrNewc c j k)) ∧ KI (retrDone c s2 j (retrNewc c j k)) := by
  -- nothing else has the base of the job
  obtain ⟨-, fb2, -, -⟩ := UU_retrMoved hUU hA.pi hmem hred hs2
  subst hs2
  have h2 := KI_retrMove (c := c) j (retrNewc c j k) (KI_leave h hmem rfl k)
  -- the job stood behind `order_q`, which `retrMove` does not touch
  have hox : Job.inq j = true → ∀ b i, (b, i) ∈ (retrMove c
      (detach { s with busy := s.busy.erase (.retr j k) } k) j (retrNewc c j k)).orderQ →
      b < j.base := by
    intro hq b i hb
    rw [retrMove_orderQ c _ j _, detach_eq] at hb
    exact h.kg.oxj hpd j (Or.inr ⟨k, hmem⟩) hq b i hb
  refine ⟨KI_wu _ h2, ?_, ?_⟩
  · refine ⟨KG_addJob _ h2.kg ?_, h2.sl⟩
    intro _ hq b i hb
    rw [inq_retrMoreJob] at hq
    exact hox hq b i hb
  · exact KI_retrDone _ h2 fb2.ni (fun hmas _ => hox (not_master_inq hL hmem hmas))

open Uniq

theorem countP_map_same {α} (p : α → Bool) (g : α → α) (h : ∀ x, p (g x) = p x) (l : List α) :
    (l.map g).countP p = l.countP p := by
  rw [List.countP_map]
  exact List.countP_congr (fun x _ => by rw [Function.comp_apply, h x])

theorem erase_base_ne {os : List UB} (hn : (os.flatMap UB.baseL).Nodup) {u u' : UB} (hu : u ∈ os)
    (hu' : u' ∈ os.erase u) : u'.base ≠ u.base := by
  have hp := flatMap_erase_perm UB.baseL hu
  have hn2 := (hp.nodup_iff).1 hn
  simp only [UB.baseL, List.cons_append, List.nil_append] at hn2
  intro hh
  refine (List.nodup_cons.1 hn2).1 ?_
  rw [← hh]
  exact List.mem_flatMap.2 ⟨u', hu', by simp [UB.baseL]⟩

theorem SL_flag {s2 : State} (p : Nat → Bool) (oq : List (Nat × Nat)) (g : Nat)
    (rq : List Job) (sq : List Nat) (hn : SL s2)
    (hk : ∀ k, aheadKey oq g k = true → aheadKey s2.orderQ s2.gnext k = true) :
    SL { s2 with orderQ := oq, gnext := g, retrQ := rq, scanQ := sq,
                 busy := s2.busy.map (flagPhase p), orphans := popOrphans p s2.orphans } :=
  SL_of hn (fun q => by
      have c3 := countP_map_same (phK q) (flagPhase p) (fun ph => by cases ph <;> rfl) s2.busy
      simp only [FS]
      omega)
    (fun y hy _ => (popOrphans_sublist p _).subset hy) hk

theorem SL_parsePush {c : Cfg} {s1 : State} (b : Nat) (hn : SL s1) (hg : s1.gnext < b) :
    SL (parsePush c s1 b) :=
  SL_flag (fun x => decide (x < b)) _ _ _ _ hn (Reserve.ahead_parsePush hg)

theorem SL_parseFinish {s1 : State} (u : Nat) (hn : SL s1) : SL (parseFinish s1 u) :=
  SL_congr (SL_flag (fun _ => true) s1.orderQ s1.gnext [] [] hn fun _ h => h)

theorem SL_parseMatch {c : Cfg} {s3 : State} (b : Nat) (hn : SL s3)
    (huc : ∀ u ∈ s3.orphans, u.f.complete = true) : SL (parseMatch c s3 b) := by
  rcases parseMatch_cases c s3 b with ⟨j, a, -, -, -, rfl, e⟩ | ⟨j, k, a, -, hph, -, -, rfl, e⟩ |
    ⟨u, a, -, -, -, -, -, -, rfl, e⟩ | ⟨u, a, -, -, hfind, -, -, hinc, -, -⟩ | ⟨-, -, -, e⟩
  · rw [e]; exact hn
  · rw [e]
    have h1 : SL { s3 with busy := replaceFirst (Phase.inqAt b) Phase.good s3.busy } :=
      SL_of hn fun p => by
        have c3 := countP_replaceFirst (phK p) Phase.good hph
        simp only [Phase.good_retr, phK, Bool.toNat_false] at c3
        simp only [FS]
        omega
    exact SL_congr (SL_advance c j.endp h1)
  · -- a complete orphan: its entry is freed
    rw [e]
    exact SL_of hn (fun _ => Nat.le_refl _)
      fun y hy _ => (flatMap_sublist UB.baseL List.erase_sublist).subset hy
  · rw [huc u hfind] at hinc
    cases hinc
  · rw [e]; exact hn

theorem ItemBase_flag {s' s2 : State} {p : Nat → Bool} (e5 : s'.emitQ = s2.emitQ)
    (e6 : s'.busy = s2.busy.map (flagPhase p)) (e4 : s'.reordQ = s2.reordQ) :
    ∀ y, ItemBase s2 y → ItemBase s' y := by
  rintro y (⟨e, he, rfl⟩ | ⟨o, ho, rfl⟩)
  · exact Or.inl ⟨e, EIn_flag he s' e5 e6, rfl⟩
  · exact Or.inr ⟨o, e4 ▸ ho, rfl⟩

theorem KG_parseFinish {s1 : State} (u : Nat) (hg : KG s1) : KG (parseFinish s1 u) := by
  refine KG_frame hg ⟨?_, ?_, ?_, fun _ i h => ⟨i, h⟩, fun hd => Bool.noConfusion hd⟩
  · intro y hy; exact (popOrphans_sublist (fun _ => true) s1.orphans).subset hy
  · intro y _ hi
    exact ItemBase_flag (s' := parseFinish s1 u) (s2 := s1) (p := fun _ => true) rfl rfl rfl y hi
  · intro j' hj' hq
    rcases hj' with hj | ⟨k, hk⟩
    · cases hj
    · obtain ⟨j0, h0, rfl⟩ := mem_map_flagPhase_retr hk
      exact ⟨j0, Or.inr ⟨k, h0⟩, (flagJob_inq hq).1, rfl⟩

/-- what is known between `push(order_q)` and the take-over / creation of the master job -/
structure P3 (s3 : State) (b : Nat) : Prop where
  g  : ∀ u ∈ s3.orphans, ItemBase s3 u.base
  ob : ∀ u ∈ s3.orphans, b ≤ u.base
  jb : ∀ j, JIn s3 j → Job.inq j = true → b ≤ j.base
  oq : ∀ b' i, (b', i) ∈ s3.orderQ → b' ≤ b
  nd : (jobBases s3 ++ orphanBases s3).Nodup
  uc : ∀ u ∈ s3.orphans, u.f.inq = true ∧ u.f.complete = true

theorem P3_parsePush {c : Cfg} {s1 : State} {b : Nat} (hg : KG s1)
    (hL3 : Leak.LC (parsePush c s1 b)) (hop : ∀ b' i, (b', i) ∈ s1.orderQ → b' ≤ s1.ppos)
    (hlt : s1.ppos < b)
    (hnd : (jobBases (parsePush c s1 b) ++ orphanBases (parsePush c s1 b)).Nodup) :
    P3 (parsePush c s1 b) b := by
  have hmem : ∀ u ∈ (parsePush c s1 b).orphans, u ∈ s1.orphans ∧ ¬ u.base < b := by
    intro u hu
    have hu' : u ∈ popOrphans (fun x => decide (x < b)) s1.orphans := hu
    obtain ⟨h1, h2⟩ := mem_popOrphans_np hu' (hL3.ub u hu).1
    exact ⟨h1, by simpa using h2⟩
  refine ⟨?_, ?_, ?_, ?_, hnd, fun u hu => hL3.ub u hu⟩
  · intro u hu
    have hi := hg.g u (hmem u hu).1
    exact ItemBase_flag (s' := parsePush c s1 b) (s2 := advance c s1 b)
      (p := fun x => decide (x < b)) rfl rfl rfl _ hi
  · intro u hu
    have := (hmem u hu).2
    omega
  · intro j hj hq
    obtain ⟨j0, _, rfl⟩ := JIn_of_flag (s := advance c s1 b) (p := fun x => decide (x < b)) hj
      (fun _ h => List.mem_map.1 h) rfl
    have := (flagJob_inq hq).2
    have h2 : ¬ j0.base < b := by simpa using this
    show b ≤ j0.base
    omega
  · intro b' i hi
    have hi' : (b', i) ∈ s1.orderQ ++ [(b, 0)] := hi
    rcases List.mem_append.1 hi' with hi' | hi'
    · have := hop b' i hi'
      omega
    · simp only [List.mem_singleton, Prod.mk.injEq] at hi'
      omega

/-- `hA`, `hC`: after `parseMatch` the entry at exactly `b` is gone -/
theorem KG_of_P3 {s3 s' : State} {b : Nat} (h3 : P3 s3 b)
    (hA : ∀ u ∈ s'.orphans, u ∈ s3.orphans ∧ u.base ≠ b)
    (hB : ∀ y, ItemBase s3 y → ItemBase s' y)
    (hC : ∀ j, JIn s' j → Job.inq j = true → JIn s3 j ∧ j.base ≠ b)
    (hD : s'.orderQ = s3.orderQ) : KG s' := by
  refine ⟨fun u hu => hB _ (h3.g u (hA u hu).1), ?_, ?_⟩
  · intro _ u hu b' i hi
    obtain ⟨hu3, hne⟩ := hA u hu
    rw [hD] at hi
    have := h3.oq b' i hi
    have := h3.ob u hu3
    omega
  · intro _ j hj hq b' i hi
    obtain ⟨hj3, hne⟩ := hC j hj hq
    rw [hD] at hi
    have := h3.oq b' i hi
    have := h3.jb j hj3 hq
    omega

theorem inqAt_false_ne {b : Nat} {j : Job} (h : Job.inqAt b j = false) (hq : Job.inq j = true) :
    j.base ≠ b := by
  unfold Job.inqAt at h; unfold Job.inq at hq
  cases hu : j.ub with
  | none => simp [hu] at hq
  | some f =>
    simp only [hu] at h hq
    simp only [hq, Bool.true_and, beq_eq_false_iff_ne, ne_eq] at h
    exact h

theorem KG_parseMatch {c : Cfg} {s3 : State} {b : Nat} (h3 : P3 s3 b) :
    KG (parseMatch c s3 b) := by
  obtain ⟨hndJ, hndO, hdisj⟩ := List.nodup_append.1 h3.nd
  obtain ⟨hndQ, hndB, hQB⟩ := List.nodup_append.1 hndJ
  -- an orphan is not at `b` if a job sits there
  have orphA : ∀ j0, JIn s3 j0 → j0.base = b →
      ∀ u ∈ s3.orphans, u ∈ s3.orphans ∧ u.base ≠ b := by
    intro j0 hj0 hb0 u hu
    refine ⟨hu, fun hh => ?_⟩
    exact hdisj b (mem_jobBases.2 ⟨j0, hj0, hb0⟩) b (mem_orphanBases.2 ⟨u, hu, hh⟩) rfl
  -- no job in unord_q sits at `b` if neither queue has one
  have hJn : (∀ j' ∈ s3.retrQ, j'.inqAt b = false) → (∀ ph ∈ s3.busy, ph.inqAt b = false) →
      ∀ j', JIn s3 j' → Job.inq j' = true → JIn s3 j' ∧ j'.base ≠ b := by
    intro hQn hBn j' hj' hi
    refine ⟨hj', ?_⟩
    rcases hj' with hq' | ⟨k', hk'⟩
    · exact inqAt_false_ne (hQn j' hq') hi
    · exact inqAt_false_ne (hBn _ hk') hi
  rcases parseMatch_cases c s3 b with ⟨j, a, hj, hjm, hjq, rfl, e⟩ |
    ⟨j0, k0, a, hQn, hph, hpm, hpq, rfl, e⟩ | ⟨u, a, hQn, hBn, hum, -, hub, -, rfl, e⟩ |
    ⟨u, a, -, -, hfind, -, -, hinc, -, -⟩ | ⟨hQn, hBn, hon, e⟩
  · -- the job of the block is waiting in retr_q
    rw [e]
    have hjb := inqAt_base hjq
    refine KG_of_P3 h3 (orphA j (Or.inl hjm) hjb) (fun _ h => h) ?_ rfl
    rintro j' (hq' | ⟨k', hk'⟩) hi
    · rcases mem_replaceFirst_nodup Job.baseL Job.good b
          (by intro x hx; simp [Job.baseL, inqAt_base hx]) hj hndQ
          (mem_advance_retrQ.1 hq').1 with ⟨h1, h2⟩ | rfl
      · exact ⟨Or.inl h1, inqAt_false_ne h2 hi⟩
      · rw [good_not_inq] at hi; cases hi
    · refine ⟨Or.inr ⟨k', hk'⟩, fun hh => ?_⟩
      exact hQB b (List.mem_flatMap.2 ⟨j, hjm, by simp [Job.baseL, hjb]⟩) b
        (List.mem_flatMap.2 ⟨_, hk', by simp [Phase.jobBase, Job.baseL, hh]⟩) rfl
  · -- … is running
    rw [e]
    have hpb : ∀ x, Phase.inqAt b x = true → b ∈ Phase.jobBase x := by
      intro x hx
      cases x with
      | retr j k => simp [Phase.jobBase, Job.baseL, inqAt_base (j := j) hx]
      | _ => exact Bool.noConfusion hx
    refine KG_of_P3 h3 (orphA j0 (Or.inr ⟨k0, hpm⟩) (inqAt_base hpq)) ?_ ?_ rfl
    · exact fun _ hi => ItemBase_keep hi (fun _ h => h)
        (fun _ h he => replaceFirst_mem_keep _ _ h (inqAt_of_isEJ he))
        (fun _ h => h)
    · rintro j' (hq' | ⟨k', hk'⟩) hi
      · have hq2 := (mem_advance_retrQ.1 hq').1
        exact ⟨Or.inl hq2, inqAt_false_ne (hQn j' hq2) hi⟩
      · rcases mem_replaceFirst_nodup Phase.jobBase Phase.good b hpb hph hndB hk' with
          ⟨h1, h2⟩ | e'
        · exact ⟨Or.inr ⟨k', h1⟩, inqAt_false_ne (j := j') h2 hi⟩
        · have e' : Phase.retr j' k' = .retr j0.good k0 := e'
          injection e' with e1 e2
          rw [e1, good_not_inq] at hi
          cases hi
  · -- … has finished: the entry is a complete orphan
    rw [e]
    refine KG_of_P3 h3 ?_ (fun _ h => h) ?_ rfl
    · intro u' hu'
      exact ⟨List.mem_of_mem_erase hu', hub ▸ erase_base_ne hndO hum hu'⟩
    · intro j' hj' hi
      exact hJn hQn hBn j' (JIn_mono hj' (fun _ h => (mem_advance_retrQ.1 h).1) (fun _ _ h => h)) hi
  · rw [(h3.uc u hfind).2] at hinc
    cases hinc
  · -- nobody found it: the parser creates the master job
    rw [e]
    refine KG_of_P3 h3 ?_ (fun _ h => h) ?_ rfl
    · intro u hu
      refine ⟨hu, fun hh => ?_⟩
      have := hon u hu
      simp [(h3.uc u hu).1, hh] at this
    · intro j' hj' hi
      rcases JIn_addJob _ j' hj' with rfl | hj'
      · exact Bool.noConfusion hi
      · exact hJn hQn hBn j' hj' hi

theorem KI_leave_parser {s : State} (k : Option Nat) (h : KI s) :
    KI (detach { s with pphase := none } k) :=
  ⟨KG_detach k (KG_congr h.kg), SL_detach k (SL_congr h.sl)⟩

theorem KI_parseOk {c : Cfg} {s1 : State} {b : Nat} (k1 : KI s1)
    (h1 : UIB s1 ∧ UIT c s1) (hA : Lo c s1) (hLC : Leak.LC s1) (hPP : PPre c s1)
    (hu : pres c s1.gnext = .hdr b) : KI (parseOk c s1 b) := by
  have hlt : s1.ppos < b := hA.pb hPP.pd b hu
  obtain ⟨p1, _, _⟩ := UU_parsePush (c := c) (b := b) h1 hlt hPP.pd
  have l3 := OI_parsePush (Leak.lcP_OC c) b hLC
  have h3 : P3 (parsePush c s1 b) b := P3_parsePush k1.kg l3 (hA.op hPP.pd) hlt p1.1.u1
  have huc : ∀ u ∈ (parsePush c s1 b).orphans, u.f.complete = true :=
    fun u hu => (l3.ub u hu).2
  exact ⟨KG_parseMatch h3, SL_parseMatch b (SL_parsePush b k1.sl (pres_hdr hu).1) huc⟩

theorem ki_step {c : Cfg} {s s' : State} {l : Label} (h : KI s) (hS : SI c s) (hX : X0 c s)
    (hA : Lo c s)
    (hL : Leak.LJ s) (hUU : UU c s) (hs : step c s l = some s')
    (hf' : s'.failed = false) : KI s' := by
  obtain ⟨hf, st⟩ := step_inv hs
  cases st with
  | rTake | rQuit | rBlockDrop | rBlock | rEmpty | rEof =>
    exact KI_congr h
  | wDone hq =>
    exact KI_congr h
      (by show s.outSlots + s.outq ≤ s.outSlots + 1 + (s.outq - 1); omega)
  | reorderErr | parseErr | parseEof => exact Bool.noConfusion hf'
  | reorderBogus ob hsel hmem hmin hbog =>
    exact KI_reorder _ _ _ _ _ h (bogus_not_orphan h.kg hL hsel hmin hbog) hmem
      (fun _ i hi => ⟨i, hi⟩) (fun _ hk => hk) (by omega)
  | reorderMore ob r _ hmem _ hord =>
    refine KI_reorder _ _ _ _ _ h (head_not_orphan h.kg hL hord) hmem ?_
      (Reserve.ahead_reorderHead hX hord (Or.inr rfl)) (by omega)
    intro b i hi
    rw [hord]
    rcases List.mem_cons.1 hi with e | hm'
    · cases e; exact ⟨_, List.mem_cons_self⟩
    · exact ⟨i, List.mem_cons_of_mem _ hm'⟩
  | reorderOk ob r _ hmem _ hord =>
    exact KI_reorder _ _ _ _ _ h (head_not_orphan h.kg hL hord) hmem
      (fun _ i hi => ⟨i, hord ▸ List.mem_cons_of_mem _ hi⟩)
      (Reserve.ahead_reorderHead hX hord (Or.inl rfl)) (by omega)
  | parseStart => exact KI_parseStart _ _ h
  | parseMore k =>
    have h1 := KI_leave_parser k h
    rw [parseMore_eq]
    exact ⟨KG_congr (KG_frame h1.kg (KF_advance c _ _)), h1.sl⟩
  | parseFinish k u =>
    have h1 := KI_leave_parser k h
    exact ⟨KG_parseFinish u h1.kg, SL_parseFinish u h1.sl⟩
  | parseOk k b hpp _ hres =>
    obtain ⟨hPP, -, hg⟩ := PPre_parsing hS hf hpp
    exact KI_parseOk (KI_leave_parser k h) (UU_leave_parser hUU k)
      (Lo_leave_parser k hA) (OI_leave_parser k hL.lc) hPP
      (by rw [hg]; exact hres)
  | retrStart j _ hmem => exact KI_retrStart _ _ h hmem
  | retrQuit j k hmem => exact KI_wu _ (KI_leave h hmem rfl k)
  | retrOvertaken j k hmem hpd hred =>
    exact (KI_retrEnd_move h hA hL hUU hmem hpd hred rfl).1
  | retrMore j k hmem hpd hred => exact (KI_retrEnd_move h hA hL hUU hmem hpd hred rfl).2.1
  | retrDone j k hmem hpd hred => exact (KI_retrEnd_move h hA hL hUU hmem hpd hred rfl).2.2
  | retrPost e hmem => exact KI_retrPost h hmem
  | emitStart e hsel hmem hmin => exact KI_emitStart h hL hsel hmem hmin
  | emitMore e hmem => exact KI_emitEnd _ _ h hmem rfl rfl (fun _ => List.mem_cons_of_mem _)
  | emitLast e hmem => exact KI_emitEnd _ _ h hmem rfl rfl (fun _ he => he)
  | scanStart sp => exact KI_scanStart _ _ _ _ h
  | scanNone st k hmem => exact KI_wu _ (KI_leave h hmem rfl (some k))
  | scanFound st k x hmem =>
    rw [scanRequeue_eq]
    exact KI_congr (KI_scanNew x (KI_leave h hmem rfl (some k)) (Lo_leave _ _ hA).pi)

end UCap

end LbzVerif.Lemmas.SchedD
