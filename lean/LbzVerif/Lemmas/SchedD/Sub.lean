/-
  What `Model.SchedD.step` is built from: the minima of the priority queues, what a selected task
  tells about the state (`selectTask_*`), and for every sub-function a post-state is built from an
  equation `f … = { s with … }`, one per branch where it branches; after rewriting with it every
  field projection reduces by `simp only []`.  A frame argument that treats the branches alike goes
  through `retrMove_ind`, `scanNew_ind` or `retrDone_frame`.
-/
import LbzVerif.Lemmas.SchedD.Basic
import LbzVerif.Lemmas.ListAux
import LbzVerif.Lemmas.ListCount
import LbzVerif.Lemmas.ListSum

namespace LbzVerif.Lemmas.SchedD
open LbzVerif.Model.SchedD LbzVerif.Gen

theorem length_filter_split {α} (p : α → Bool) (l : List α) :
    (l.filter p).length + (l.filter (fun x => !p x)).length = l.length := by
  induction l with
  | nil => rfl
  | cons x xs ih =>
    cases h : p x <;> simp [h] <;> omega

theorem length_erase_succ {α} [BEq α] [LawfulBEq α] {l : List α} {a : α} (h : a ∈ l) :
    (l.erase a).length + 1 = l.length := by
  have := List.length_erase_of_mem h
  have := List.length_pos_of_mem h
  omega

theorem replaceFirst_split {α} {p : α → Bool} (g : α → α) {l : List α} {a : α}
    (h : l.find? p = some a) :
    ∃ l1 l2, l = l1 ++ a :: l2 ∧ (∀ x ∈ l1, p x = false) ∧
      replaceFirst p g l = l1 ++ g a :: l2 := by
  induction l with
  | nil => simp at h
  | cons x xs ih =>
    cases hp : p x with
    | true =>
      simp only [List.find?_cons, hp, Option.some.injEq] at h
      subst h
      refine ⟨[], xs, rfl, fun _ hx => absurd hx List.not_mem_nil, ?_⟩
      simp only [replaceFirst, hp, if_true, List.nil_append]
    | false =>
      simp only [List.find?_cons, hp] at h
      obtain ⟨l1, l2, e, hn, hr⟩ := ih h
      refine ⟨x :: l1, l2, by rw [e]; rfl, ?_, ?_⟩
      · intro y hy
        rcases List.mem_cons.1 hy with rfl | hy
        · exact hp
        · exact hn y hy
      · simp [replaceFirst, hp, hr]

theorem mem_replaceFirst_find {α} (p : α → Bool) (g : α → α) {l : List α} {a y : α}
    (hf : l.find? p = some a) (hy : y ∈ replaceFirst p g l) : y ∈ l ∨ y = g a := by
  obtain ⟨l1, l2, e, -, hr⟩ := replaceFirst_split g hf
  rw [hr] at hy
  rw [e]
  rcases List.mem_append.1 hy with h | h
  · exact Or.inl (List.mem_append_left _ h)
  · rcases List.mem_cons.1 h with h | h
    · exact Or.inr h
    · exact Or.inl (List.mem_append_right _ (List.mem_cons_of_mem _ h))

theorem find?_beq_of_mem {α} [BEq α] [LawfulBEq α] {l : List α} {a : α} (h : a ∈ l) :
    l.find? (fun x => x == a) = some a :=
  ListAux.find?_unique l _ a h (beq_self_eq_true a) fun _ _ hb => eq_of_beq hb

theorem length_replaceFirst {α} (p : α → Bool) (g : α → α) (l : List α) :
    (replaceFirst p g l).length = l.length := by
  induction l with
  | nil => rfl
  | cons x xs ih =>
    simp only [replaceFirst]
    split
    · rfl
    · simp only [List.length_cons, ih]

theorem map_replaceFirst_key {α β} {k : α → β} {g : α → α} (h : ∀ x, k (g x) = k x)
    (q : α → Bool) (l : List α) : (replaceFirst q g l).map k = l.map k := by
  induction l with
  | nil => rfl
  | cons x xs ih =>
    simp only [replaceFirst]
    split
    · rw [List.map_cons, List.map_cons, h]
    · rw [List.map_cons, List.map_cons, ih]

theorem mem_replaceFirst {α} (q : α → Bool) (g : α → α) {l : List α} {y : α}
    (h : y ∈ replaceFirst q g l) : y ∈ l ∨ ∃ x ∈ l, q x = true ∧ y = g x := by
  induction l with
  | nil => simp [replaceFirst] at h
  | cons x xs ih =>
    simp only [replaceFirst] at h
    split at h
    · next hq =>
      rcases List.mem_cons.1 h with h | h
      · exact Or.inr ⟨x, List.mem_cons_self, hq, h⟩
      · exact Or.inl (List.mem_cons_of_mem _ h)
    · rcases List.mem_cons.1 h with h | h
      · exact Or.inl (h ▸ List.mem_cons_self)
      · rcases ih h with h | ⟨z, hz, hq, e⟩
        · exact Or.inl (List.mem_cons_of_mem _ h)
        · exact Or.inr ⟨z, List.mem_cons_of_mem _ hz, hq, e⟩

theorem countP_cons' {α} (p : α → Bool) (a : α) (l : List α) :
    (a :: l).countP p = l.countP p + (p a).toNat := by
  rw [List.countP_cons]; cases p a <;> rfl

theorem countP_replaceFirst {α} (r : α → Bool) {p : α → Bool} (g : α → α) {l : List α} {a : α}
    (h : l.find? p = some a) :
    (replaceFirst p g l).countP r + (r a).toNat = l.countP r + (r (g a)).toNat := by
  obtain ⟨l1, l2, e, -, hr⟩ := replaceFirst_split g h
  rw [hr, e]
  simp only [List.countP_append, countP_cons']
  omega

theorem mem_replaceFirst_nodup {α} (key : α → List Nat) {p : α → Bool} (g : α → α) (b : Nat)
    (hp : ∀ x, p x = true → b ∈ key x) {l : List α} {a : α} (hf : l.find? p = some a)
    (hn : (l.flatMap key).Nodup) {y : α} (hy : y ∈ replaceFirst p g l) :
    (y ∈ l ∧ p y = false) ∨ y = g a := by
  obtain ⟨l1, l2, e, h1, hr⟩ := replaceFirst_split g hf
  rw [hr] at hy
  rw [e] at hn ⊢
  rcases List.mem_append.1 hy with h | h
  · exact Or.inl ⟨List.mem_append_left _ h, h1 y h⟩
  · rcases List.mem_cons.1 h with h | h
    · exact Or.inr h
    · refine Or.inl ⟨List.mem_append_right _ (List.mem_cons_of_mem _ h), ?_⟩
      cases hpy : p y with
      | false => rfl
      | true =>
        simp only [List.flatMap_append, List.flatMap_cons] at hn
        exact absurd rfl ((List.nodup_append.1 (List.nodup_append.1 hn).2.1).2.2 b
          (hp a (List.find?_some hf)) b (List.mem_flatMap.2 ⟨y, h, hp y hpy⟩))

theorem mem_erase_ne {α} [BEq α] [LawfulBEq α] {a b : α} {l : List α} (h : a ∈ l) (hne : a ≠ b) :
    a ∈ l.erase b := (List.mem_erase_of_ne hne).2 h

theorem replaceFirst_mem_find {α} (p : α → Bool) (g : α → α) {l : List α} {a : α}
    (hf : l.find? p = some a) : g a ∈ replaceFirst p g l := by
  obtain ⟨l1, l2, -, -, hr⟩ := replaceFirst_split g hf
  rw [hr]
  exact List.mem_append_right _ List.mem_cons_self

theorem replaceFirst_mem_keep {α} (p : α → Bool) (g : α → α) {l : List α} {x : α}
    (hx : x ∈ l) (hp : p x = false) : x ∈ replaceFirst p g l := by
  induction l with
  | nil => cases hx
  | cons y ys ih =>
    simp only [replaceFirst]
    rcases List.mem_cons.1 hx with e | hm
    · subst e
      simp only [hp, Bool.false_eq_true, if_false]
      exact List.mem_cons_self
    · split
      · exact List.mem_cons_of_mem _ hm
      · exact List.mem_cons_of_mem _ (ih hm)

theorem countP_erase_add {α} [BEq α] [LawfulBEq α] (p : α → Bool) {a : α} {l : List α}
    (h : a ∈ l) : List.countP p (l.erase a) + (if p a then 1 else 0) = List.countP p l := by
  rw [(List.perm_cons_erase h).countP_eq p, List.countP_cons]

/-- the same with `toNat`, which `omega` reads after `simp` has rewritten under `p` (the `if` keeps
    the `Decidable` instance of the old condition and becomes a second atom) -/
theorem countP_erase' {α} [BEq α] [LawfulBEq α] (p : α → Bool) {a : α} {l : List α}
    (h : a ∈ l) : List.countP p (l.erase a) + (p a).toNat = List.countP p l := by
  rw [(List.perm_cons_erase h).countP_eq p, countP_cons']

theorem countP_erase_le {α} [BEq α] [LawfulBEq α] (p : α → Bool) (a : α) (l : List α) :
    List.countP p (l.erase a) ≤ List.countP p l :=
  List.Sublist.countP_le List.erase_sublist

theorem countP_replaceFirst_le {α} (p q : α → Bool) (g : α → α) (l : List α) :
    List.countP p (replaceFirst q g l) ≤ List.countP p l + 1 := by
  induction l with
  | nil => simp [replaceFirst]
  | cons x xs ih =>
    simp only [replaceFirst]
    split
    · simp only [List.countP_cons]; split <;> split <;> omega
    · simp only [List.countP_cons]; omega

theorem minNat?_eq_none {l : List Nat} : minNat? l = none ↔ l = [] := by
  cases l with
  | nil => simp [minNat?]
  | cons x xs =>
    simp only [minNat?, reduceCtorEq, iff_false]
    split
    · simp
    · split <;> simp

theorem minNat?_eq_some {l : List Nat} {m : Nat} (h : minNat? l = some m) :
    m ∈ l ∧ ∀ x ∈ l, m ≤ x := by
  induction l generalizing m with
  | nil => simp [minNat?] at h
  | cons a as ih =>
    simp only [minNat?] at h
    cases hm : minNat? as with
    | none =>
      rw [hm] at h
      cases h
      rw [minNat?_eq_none.1 hm]
      simp
    | some m' =>
      rw [hm] at h
      obtain ⟨h1, h2⟩ := ih hm
      simp only at h
      split at h
      · next hlt =>
        cases h
        exact ⟨List.mem_cons_of_mem _ h1, List.forall_mem_cons.2 ⟨Nat.le_of_lt hlt, h2⟩⟩
      · next hlt =>
        cases h
        exact ⟨List.mem_cons_self, List.forall_mem_cons.2
          ⟨Nat.le_refl _, fun x hx => Nat.le_trans (Nat.le_of_not_lt hlt) (h2 x hx)⟩⟩

theorem minKey?_eq_none {l : List (Nat × Nat)} : minKey? l = none ↔ l = [] := by
  cases l with
  | nil => simp [minKey?]
  | cons x xs =>
    simp only [minKey?, reduceCtorEq, iff_false]
    split
    · simp
    · split <;> simp

theorem minKey?_eq_some {l : List (Nat × Nat)} {m : Nat × Nat} (h : minKey? l = some m) :
    m ∈ l ∧ ∀ x ∈ l, posLe m x = true := by
  induction l generalizing m with
  | nil => simp [minKey?] at h
  | cons a as ih =>
    simp only [minKey?] at h
    cases hm : minKey? as with
    | none =>
      rw [hm] at h
      cases h
      rw [minKey?_eq_none.1 hm]
      simp [posLe_refl]
    | some m' =>
      rw [hm] at h
      obtain ⟨h1, h2⟩ := ih hm
      simp only at h
      split at h
      · next hlt =>
        cases h
        exact ⟨List.mem_cons_of_mem _ h1, List.forall_mem_cons.2 ⟨posLe_of_posLt hlt, h2⟩⟩
      · next hlt =>
        cases h
        exact ⟨List.mem_cons_self, List.forall_mem_cons.2 ⟨posLe_refl _, fun x hx =>
          posLe_trans (posLe_of_not_posLt (by simpa using hlt)) (h2 x hx)⟩⟩

theorem minKey?_exists {l : List (Nat × Nat)} (h : l ≠ []) : ∃ x ∈ l, minKey? l = some x := by
  cases hm : minKey? l with
  | none => exact absurd (minKey?_eq_none.1 hm) h
  | some m => exact ⟨m, (minKey?_eq_some hm).1, rfl⟩

theorem minNat?_exists {l : List Nat} (h : l ≠ []) : ∃ x ∈ l, minNat? l = some x := by
  cases hm : minNat? l with
  | none => exact absurd (minNat?_eq_none.1 hm) h
  | some m => exact ⟨m, (minNat?_eq_some hm).1, rfl⟩

theorem minKey?_le {l : List (Nat × Nat)} {k : Nat × Nat} (hk : k ∈ l) :
    ∃ m, minKey? l = some m ∧ posLe m k = true := by
  obtain ⟨m, -, hm⟩ := minKey?_exists (List.ne_nil_of_mem hk)
  exact ⟨m, hm, (minKey?_eq_some hm).2 k hk⟩

theorem minNat?_le {l : List Nat} {k : Nat} (hk : k ∈ l) : ∃ m, minNat? l = some m ∧ m ≤ k := by
  obtain ⟨m, -, hm⟩ := minNat?_exists (List.ne_nil_of_mem hk)
  exact ⟨m, hm, (minNat?_eq_some hm).2 k hk⟩

theorem guardOf_reorder (v : DView) : guardOf "reorder" v = dCanReorder v := by simp [guardOf]
theorem guardOf_parse (v : DView) : guardOf "parse" v = dCanParse v := by simp [guardOf]
theorem guardOf_emit (v : DView) : guardOf "emit" v = dCanEmit v := by simp [guardOf]
theorem guardOf_retrieve (v : DView) : guardOf "retrieve" v = dCanRetrieve v := by simp [guardOf]
theorem guardOf_scan (v : DView) : guardOf "scan" v = dCanScan v := by simp [guardOf]

theorem selectTask_parse {c : Cfg} {s : State} (h : selectTask c s = some "parse") :
    s.pdone = false ∧ s.ptok = true ∧ 0 < s.wu ∧
      canAttach s.ppos (tailOffs c s) s.eof = true := by
  have := select_guard h
  rw [guardOf_parse] at this
  simpa [dCanParse, view, and_assoc] using this

theorem selectTask_retrieve {c : Cfg} {s : State} (h : selectTask c s = some "retrieve") :
    ∃ m, minNat? (s.retrQ.map Job.curr) = some m ∧ canAttach m (tailOffs c s) s.eof = true := by
  have := select_guard h
  rw [guardOf_retrieve] at this
  simp only [dCanRetrieve, view, Bool.and_eq_true] at this
  cases hm : minNat? (s.retrQ.map Job.curr) with
  | none => rw [hm] at this; simp at this
  | some m => rw [hm] at this; exact ⟨m, rfl, this.2⟩

theorem selectTask_scan {c : Cfg} {s : State} (h : selectTask c s = some "scan") :
    (1 < s.wu ∨ (0 < s.wu ∧ s.ptok = false)) ∧ c.ultra = false ∧
      ∃ m, minNat? s.scanQ = some m ∧ canAttach m (tailOffs c s) s.eof = true := by
  have := select_guard h
  rw [guardOf_scan] at this
  simp only [dCanScan, view, Bool.and_eq_true, Bool.or_eq_true, decide_eq_true_eq,
    Bool.not_eq_true', SCAN_THRESH, gt_iff_lt] at this
  obtain ⟨⟨⟨h1, h2⟩, _⟩, h4⟩ := this
  refine ⟨h1, h2, ?_⟩
  cases hm : minNat? s.scanQ with
  | none => rw [hm] at h4; simp at h4
  | some m => rw [hm] at h4; exact ⟨m, rfl, h4⟩

/-- `can_emit`: plenty of output slots, or one slot and the block is the next in order. -/
theorem selectTask_emit {c : Cfg} {s : State} (h : selectTask c s = some "emit") :
    0 < s.outSlots ∧ (EMIT_THRESH < s.outSlots ∨
      ∃ e o r, minKey? (s.emitQ.map EJob.key) = some e ∧ s.orderQ = o :: r ∧
        posLe e o = true) := by
  have := select_guard h
  rw [guardOf_emit] at this
  simp only [dCanEmit, view, Bool.and_eq_true, Bool.or_eq_true, decide_eq_true_eq,
    Bool.not_eq_true', EMIT_THRESH, gt_iff_lt, List.isEmpty_eq_false_iff] at this
  rcases this.2 with h1 | ⟨⟨h1, h2⟩, h3⟩
  · exact ⟨by omega, Or.inl h1⟩
  · refine ⟨h1, Or.inr ?_⟩
    cases he : minKey? (s.emitQ.map EJob.key) with
    | none => rw [he] at h3; simp at h3
    | some e =>
      cases ho : s.orderQ with
      | nil => rw [ho] at h2; simp at h2
      | cons o r =>
        rw [he, ho] at h3
        exact ⟨e, o, r, rfl, rfl, h3⟩

/-- `can_reorder`: the buffer is not ahead of the order queue, or parsing is over. -/
theorem selectTask_reorder {c : Cfg} {s : State} (h : selectTask c s = some "reorder") :
    (∃ b o r, minKey? (s.reordQ.map OB.key) = some b ∧ s.orderQ = o :: r ∧ posLe b o = true) ∨
      (s.orderQ = [] ∧ s.pdone = true) := by
  have := select_guard h
  rw [guardOf_reorder] at this
  simp only [dCanReorder, view, Bool.and_eq_true, Bool.or_eq_true,
    Bool.not_eq_true', List.isEmpty_eq_false_iff, List.isEmpty_iff] at this
  rcases this.2 with ⟨h1, h2⟩ | ⟨h1, h2⟩
  · left
    cases hb : minKey? (s.reordQ.map OB.key) with
    | none => rw [hb] at h2; simp at h2
    | some b =>
      cases ho : s.orderQ with
      | nil => exact absurd ho h1
      | cons o r =>
        rw [hb, ho] at h2
        exact ⟨b, o, r, rfl, rfl, h2⟩
  · exact Or.inr ⟨h1, h2⟩

theorem selectTask_none {c : Cfg} {s : State} (h : selectTask c s = none) :
    dCanReorder (view c s) = false ∧ dCanParse (view c s) = false ∧
    dCanEmit (view c s) = false ∧ dCanRetrieve (view c s) = false ∧
    dCanScan (view c s) = false := by
  unfold selectTask at h
  rw [List.find?_eq_none] at h
  have g : ∀ t ∈ dTaskOrder, guardOf t (view c s) = false := by
    intro t ht; simpa using h t ht
  refine ⟨?_, ?_, ?_, ?_, ?_⟩
  · simpa [guardOf] using g "reorder" (by simp [dTaskOrder])
  · simpa [guardOf] using g "parse" (by simp [dTaskOrder])
  · simpa [guardOf] using g "emit" (by simp [dTaskOrder])
  · simpa [guardOf] using g "retrieve" (by simp [dTaskOrder])
  · simpa [guardOf] using g "scan" (by simp [dTaskOrder])

/-- a buffer that `do_reorder` does not reject as "bogus" is the one `order_q` waits for -/
theorem reorder_head {c : Cfg} {s : State} {ob : OB} (hsel : selectTask c s = some "reorder")
    (hmin : minKey? (s.reordQ.map OB.key) = some ob.key)
    (hb : dReorderBogus (view c s) = false) : ∃ r, s.orderQ = (ob.base, ob.idx) :: r := by
  rcases selectTask_reorder hsel with ⟨b, o, r, h1, h2, h3⟩ | ⟨h1, _⟩
  · rw [hmin] at h1
    cases h1
    have hlt : posLt ob.key o = false := by
      simpa [dReorderBogus, view, hmin, h2] using hb
    exact ⟨r, by rw [h2, ← posLe_not_posLt_eq h3 hlt]; rfl⟩
  · simp [dReorderBogus, view, h1] at hb

theorem bogus_facts {c : Cfg} {s : State} {ob : OB}
    (hsel : selectTask c s = some "reorder")
    (hmin : minKey? (s.reordQ.map OB.key) = some ob.key)
    (hb : dReorderBogus (view c s) = true) :
    (s.orderQ = [] ∧ s.pdone = true) ∨
    (∃ x r, s.orderQ = x :: r ∧ (ob.base < x.1 ∨ (ob.base = x.1 ∧ ob.idx < x.2))) := by
  rcases selectTask_reorder hsel with ⟨b, x, r, _, hq, _⟩ | h
  · simp only [dReorderBogus, view, hq, hmin, List.isEmpty_cons, List.head?_cons,
      Bool.false_or] at hb
    refine Or.inr ⟨x, r, hq, ?_⟩
    simp only [posLt, OB.key, Bool.or_eq_true, Bool.and_eq_true, beq_iff_eq] at hb
    rcases hb with hb | ⟨hb1, hb2⟩
    · exact Or.inl (of_decide_eq_true hb)
    · exact Or.inr ⟨hb1, of_decide_eq_true hb2⟩
  · exact Or.inl h

theorem selectTask_reorder_ne {c : Cfg} {s : State} (h : selectTask c s = some "reorder") :
    s.reordQ ≠ [] := by
  have := select_guard h
  rw [guardOf_reorder] at this
  simp only [dCanReorder, view, Bool.and_eq_true, Bool.not_eq_true',
    List.isEmpty_eq_false_iff] at this
  exact this.1

theorem selectTask_emit_ne {c : Cfg} {s : State} (h : selectTask c s = some "emit") :
    s.emitQ ≠ [] := by
  have := select_guard h
  rw [guardOf_emit] at this
  simp only [dCanEmit, view, Bool.and_eq_true, Bool.not_eq_true',
    List.isEmpty_eq_false_iff] at this
  exact this.1

theorem mem_dTaskOrder {c : Cfg} {s : State} {t : String} (h : selectTask c s = some t) :
    t = "reorder" ∨ t = "parse" ∨ t = "emit" ∨ t = "retrieve" ∨ t = "scan" := by
  have ht : t ∈ dTaskOrder := List.mem_of_find?_eq_some h
  simpa only [dTaskOrder, List.mem_cons, List.mem_nil_iff, or_false] using ht

@[simp] theorem flagJob_curr (p : Nat → Bool) (j : Job) : (flagJob p j).curr = j.curr := rfl
@[simp] theorem flagJob_base (p : Nat → Bool) (j : Job) : (flagJob p j).base = j.base := rfl
@[simp] theorem flagJob_corrupt (p : Nat → Bool) (j : Job) :
    (flagJob p j).corrupt = j.corrupt := rfl
theorem flagJob_ub (p : Nat → Bool) (j : Job) :
    (flagJob p j).ub = j.ub.map (fun f => if f.inq && p j.base then f.flagBad else f) := rfl

@[simp] theorem flagPhase_retr (p : Nat → Bool) (j : Job) (k : Option Nat) :
    flagPhase p (.retr j k) = .retr (flagJob p j) k := rfl
@[simp] theorem flagPhase_retr2 (p : Nat → Bool) (e : EJob) :
    flagPhase p (.retr2 e) = .retr2 e := rfl
@[simp] theorem flagPhase_emit (p : Nat → Bool) (e : EJob) :
    flagPhase p (.emit e) = .emit e := rfl
@[simp] theorem flagPhase_scan (p : Nat → Bool) (a k : Nat) :
    flagPhase p (.scan a k) = .scan a k := rfl

@[simp] theorem Job.good_curr (j : Job) : j.good.curr = j.curr := rfl
@[simp] theorem Job.good_base (j : Job) : j.good.base = j.base := rfl
@[simp] theorem Job.good_corrupt (j : Job) : j.good.corrupt = j.corrupt := rfl
theorem Job.good_ub (j : Job) : j.good.ub = j.ub.map UF.flagGood := rfl

@[simp] theorem Phase.good_retr (j : Job) (k : Option Nat) :
    (Phase.retr j k).good = .retr j.good k := rfl
@[simp] theorem Phase.good_retr2 (e : EJob) : (Phase.retr2 e).good = .retr2 e := rfl
@[simp] theorem Phase.good_emit (e : EJob) : (Phase.emit e).good = .emit e := rfl
@[simp] theorem Phase.good_scan (a k : Nat) : (Phase.scan a k).good = .scan a k := rfl

@[simp] theorem retrMoreJob_curr (j : Job) (n : Nat) : (retrMoreJob j n).curr = n := rfl
@[simp] theorem retrMoreJob_base (j : Job) (n : Nat) : (retrMoreJob j n).base = j.base := rfl
@[simp] theorem retrMoreJob_corrupt (j : Job) (newc : Nat) : (retrMoreJob j newc).corrupt = j.corrupt := rfl
theorem retrMoreJob_ub (j : Job) (n : Nat) :
    (retrMoreJob j n).ub =
      if j.master then j.ub else j.ub.map (fun f => { f with endp := n }) := rfl

theorem Job.inqAt_iff {b : Nat} {j : Job} :
    j.inqAt b = true ↔ ∃ f, j.ub = some f ∧ f.inq = true ∧ j.base = b := by
  unfold Job.inqAt
  cases j.ub with
  | none => simp
  | some f => simp

theorem inqAt_base {b : Nat} {j : Job} (hq : Job.inqAt b j = true) : j.base = b := by
  obtain ⟨f, -, -, hb⟩ := Job.inqAt_iff.1 hq
  exact hb

theorem Job.master_eq_false {j : Job} :
    j.master = false ↔ ∃ f, j.ub = some f ∧ f.complete = false := by
  unfold Job.master
  cases j.ub with
  | none => simp
  | some f => simp

theorem mem_popOrphans {p : Nat → Bool} {os : List UB} {u : UB} :
    u ∈ popOrphans p os ↔
      (u ∈ os ∧ (u.f.inq && p u.base) = false) ∨
      ∃ v ∈ os, v.f.inq = true ∧ p v.base = true ∧ v.f.complete = false ∧
        u = { v with f := v.f.flagBad } := by
  simp only [popOrphans, List.mem_map, List.mem_filter]
  constructor
  · rintro ⟨v, ⟨hv, hn⟩, rfl⟩
    cases hq : (v.f.inq && p v.base) with
    | false => exact Or.inl ⟨by simpa [hq] using hv, by simp [hq]⟩
    | true =>
      simp only [hq, Bool.true_and, Bool.not_eq_true'] at hn
      simp only [Bool.and_eq_true] at hq
      exact Or.inr ⟨v, hv, hq.1, hq.2, hn, by simp⟩
  · rintro (⟨hu, hq⟩ | ⟨v, hv, h1, h2, h3, rfl⟩)
    · exact ⟨u, ⟨hu, by simp [hq]⟩, by simp [hq]⟩
    · exact ⟨v, ⟨hv, by simp [h3]⟩, by simp [h1, h2]⟩

theorem mem_popOrphans_np {p : Nat → Bool} {os : List UB} {u : UB} (hu : u ∈ popOrphans p os)
    (hq : u.f.inq = true) : u ∈ os ∧ p u.base = false := by
  rcases mem_popOrphans.1 hu with ⟨h1, h2⟩ | ⟨v, _, _, _, _, rfl⟩
  · rw [hq, Bool.true_and] at h2
    exact ⟨h1, h2⟩
  · exact Bool.noConfusion hq

theorem flagJob_ub_some {p : Nat → Bool} {j : Job} {f : UF} (hf : (flagJob p j).ub = some f) :
    ∃ f0, j.ub = some f0 ∧ (f = f0 ∨ f = f0.flagBad) := by
  rw [flagJob_ub] at hf
  cases hu : j.ub with
  | none => rw [hu] at hf; cases hf
  | some f0 =>
    rw [hu, Option.map_some, Option.some.injEq] at hf
    refine ⟨f0, rfl, ?_⟩
    split at hf
    · exact Or.inr hf.symm
    · exact Or.inl hf.symm

theorem retrMoreJob_ub_some {j : Job} {n : Nat} {f : UF} (hf : (retrMoreJob j n).ub = some f) :
    ∃ f0, j.ub = some f0 ∧
      ((j.master = true ∧ f = f0) ∨ (j.master = false ∧ f = { f0 with endp := n })) := by
  rw [retrMoreJob_ub] at hf
  cases hu : j.ub with
  | none => rw [hu] at hf; split at hf <;> cases hf
  | some f0 =>
    rw [hu] at hf
    cases hm : j.master with
    | true =>
      simp only [hm, if_true, Option.some.injEq] at hf
      exact ⟨f0, rfl, Or.inl ⟨rfl, hf.symm⟩⟩
    | false =>
      simp only [hm, Bool.false_eq_true, if_false, Option.map_some, Option.some.injEq] at hf
      exact ⟨f0, rfl, Or.inr ⟨rfl, hf.symm⟩⟩

theorem flagJob_isSome (p : Nat → Bool) (j : Job) : (flagJob p j).ub.isSome = j.ub.isSome := by
  unfold flagJob; cases j.ub <;> rfl

theorem good_isSome (j : Job) : j.good.ub.isSome = j.ub.isSome := by
  unfold Job.good; cases j.ub <;> rfl

theorem retrMoreJob_isSome (j : Job) (newc : Nat) :
    (retrMoreJob j newc).ub.isSome = j.ub.isSome := by
  rw [retrMoreJob_ub]
  split
  · rfl
  · cases j.ub <;> rfl

theorem retrMoreJob_ub_inq {j : Job} {newc : Nat} {f : UF} (h : (retrMoreJob j newc).ub = some f) :
    ∃ f0, j.ub = some f0 ∧ f0.inq = f.inq := by
  obtain ⟨f0, hu, ⟨-, rfl⟩ | ⟨-, rfl⟩⟩ := retrMoreJob_ub_some h
  · exact ⟨_, hu, rfl⟩
  · exact ⟨_, hu, rfl⟩

theorem flagJob_inq_false {p : Nat → Bool} {j0 : Job} {f : UF} (hf : (flagJob p j0).ub = some f)
    (hi : f.inq = false) : p j0.base = true ∨ ∃ f0, j0.ub = some f0 ∧ f0.inq = false := by
  unfold flagJob at hf
  cases hu : j0.ub with
  | none => simp [hu] at hf
  | some f0 =>
    simp only [hu, Option.map_some, Option.some.injEq] at hf
    split at hf
    · next hc =>
      simp only [Bool.and_eq_true] at hc
      exact Or.inl hc.2
    · subst hf; exact Or.inr ⟨f0, rfl, hi⟩

theorem flagJob_inq {p : Nat → Bool} {j : Job} (h : Job.inq (flagJob p j) = true) :
    Job.inq j = true ∧ p j.base = false := by
  unfold flagJob Job.inq at h
  unfold Job.inq
  cases hu : j.ub with
  | none => simp [hu] at h
  | some f =>
    simp only [hu, Option.map_some] at h ⊢
    by_cases hc : (f.inq && p j.base) = true
    · rw [if_pos hc] at h; simp [UF.flagBad] at h
    · rw [if_neg hc] at h
      refine ⟨h, ?_⟩
      cases hp : p j.base with
      | false => rfl
      | true => exact absurd (by simp [h, hp]) hc

theorem good_not_inq (j : Job) : Job.inq j.good = false := by
  unfold Job.inq Job.good
  cases hu : j.ub with
  | none => rfl
  | some f => simp [UF.flagGood]

theorem mem_map_flagPhase {p : Nat → Bool} {l : List Phase} {ph' : Phase}
    (h : ph' ∈ l.map (flagPhase p)) :
    (∃ j0 k, Phase.retr j0 k ∈ l ∧ ph' = .retr (flagJob p j0) k) ∨
    (ph' ∈ l ∧ ∀ j k, ph' ≠ .retr j k) := by
  obtain ⟨ph, hph, rfl⟩ := List.mem_map.1 h
  cases ph with
  | retr j k => exact Or.inl ⟨j, k, hph, rfl⟩
  | retr2 e => exact Or.inr ⟨hph, fun _ _ hh => by cases hh⟩
  | emit e => exact Or.inr ⟨hph, fun _ _ hh => by cases hh⟩
  | scan a b => exact Or.inr ⟨hph, fun _ _ hh => by cases hh⟩

theorem mem_map_flagPhase_retr {p : Nat → Bool} {l : List Phase} {j : Job} {k : Option Nat}
    (h : Phase.retr j k ∈ l.map (flagPhase p)) : ∃ j0, Phase.retr j0 k ∈ l ∧ j = flagJob p j0 := by
  rcases mem_map_flagPhase h with ⟨j0, k0, h0, e⟩ | ⟨-, hn⟩
  · cases e; exact ⟨j0, h0, rfl⟩
  · exact absurd rfl (hn j k)

theorem mem_of_mem_map_flagPhase {p : Nat → Bool} {l : List Phase} {ph : Phase}
    (hn : ∀ j k, ph ≠ .retr j k) (h : ph ∈ l.map (flagPhase p)) : ph ∈ l := by
  rcases mem_map_flagPhase h with ⟨j0, k, _, e⟩ | ⟨hm, _⟩
  · exact absurd e (hn _ k)
  · exact hm

theorem mem_replaceFirst_good {q : Phase → Bool} {l : List Phase} {ph' : Phase}
    (h : ph' ∈ replaceFirst q Phase.good l) :
    ph' ∈ l ∨ ∃ j0 k, Phase.retr j0 k ∈ l ∧ q (.retr j0 k) = true ∧ ph' = .retr j0.good k := by
  rcases mem_replaceFirst _ _ h with hm | ⟨x, hx, hq, rfl⟩
  · exact Or.inl hm
  · cases x with
    | retr j k => exact Or.inr ⟨j, k, hx, hq, rfl⟩
    | retr2 e => exact Or.inl hx
    | emit e => exact Or.inl hx
    | scan a b => exact Or.inl hx

theorem mem_popOrphans_or {p : Nat → Bool} {os : List UB} {u : UB} (h : u ∈ os) :
    (∃ u' ∈ popOrphans p os, u'.base = u.base) ∨ p u.base = true := by
  by_cases hc : (u.f.inq && p u.base && u.f.complete) = true
  · simp only [Bool.and_eq_true] at hc
    exact Or.inr hc.1.2
  · left
    refine ⟨_, List.mem_map.2 ⟨u, List.mem_filter.2 ⟨h, ?_⟩, rfl⟩, ?_⟩
    · show (!(u.f.inq && p u.base && u.f.complete)) = true
      rw [Bool.not_eq_true']; exact Bool.eq_false_iff.2 hc
    · show (if u.f.inq && p u.base then ({ u with f := u.f.flagBad } : UB) else u).base = u.base
      split <;> rfl

theorem inq_retrMoreJob (j : Job) (newc : Nat) : (retrMoreJob j newc).inq = j.inq := by
  unfold retrMoreJob Job.inq
  cases hu : j.ub with
  | none => simp
  | some f => dsimp only; cases j.master <;> simp

/-- the input slot `detach` gives back: `k` was the last reference to a block that has
    been shifted out of `input_q` -/
def detachGain (s : State) : Option Nat → Nat
  | some k => if k < s.head && !attachedTo s k then 1 else 0
  | none => 0

theorem detach_eq (s : State) (k : Option Nat) :
    detach s k = { s with inSlots := s.inSlots + detachGain s k } := by
  cases k with
  | none => rfl
  | some k =>
    simp only [detach, detachGain]
    split <;> rfl

theorem headOffs_detach (c : Cfg) (s : State) (k : Option Nat) :
    headOffs c (detach s k) = headOffs c s := by
  rw [detach_eq]; rfl

@[simp] theorem detach_pdone (s : State) (k : Option Nat) : (detach s k).pdone = s.pdone := by
  rw [detach_eq]

theorem detach_ppos (s : State) (k : Option Nat) : (detach s k).ppos = s.ppos := by
  rw [detach_eq]

theorem advance_eq (c : Cfg) (s : State) (p : Nat) :
    advance c s p =
      { s with ppos := p, head := newHead c s p,
               inSlots := s.inSlots + releaseCount s s.head (newHead c s p),
               wu := s.wu + (s.retrQ.filter (fun j => j.curr < offs c (newHead c s p))).length,
               retrQ := s.retrQ.filter (fun j => !(j.curr < offs c (newHead c s p))),
               scanQ := s.scanQ.filter (fun x => !(x < offs c (newHead c s p))) } := rfl

theorem mem_advance_retrQ {c : Cfg} {s : State} {p : Nat} {j : Job} :
    j ∈ (advance c s p).retrQ ↔ j ∈ s.retrQ ∧ headOffs c (advance c s p) ≤ j.curr := by
  simp [advance, headOffs]

theorem mem_advance_scanQ {c : Cfg} {s : State} {p x : Nat} :
    x ∈ (advance c s p).scanQ ↔ x ∈ s.scanQ ∧ headOffs c (advance c s p) ≤ x := by
  simp [advance, headOffs]

/-- a retrieve job that `advance` drops gives its work unit back -/
theorem advance_wu_retrQ (c : Cfg) (s : State) (p : Nat) :
    (advance c s p).wu + (advance c s p).retrQ.length = s.wu + s.retrQ.length := by
  have := length_filter_split (fun j : Job => decide (j.curr < offs c (newHead c s p))) s.retrQ
  simp only [advance]
  omega

theorem head_le_advance (c : Cfg) (s : State) (p : Nat) : s.head ≤ (advance c s p).head := by
  simp only [advance, newHead]; omega

theorem advance_head_le {c : Cfg} {s : State} (p : Nat) (h : s.head ≤ s.rd) :
    (advance c s p).head ≤ s.rd := by
  simp only [advance, newHead]
  generalize (if c.T ≤ p then s.rd else p / c.W) = z
  omega

theorem headOffs_le_advance (c : Cfg) (s : State) (p : Nat) :
    headOffs c s ≤ headOffs c (advance c s p) :=
  offs_mono c (head_le_advance c s p)

theorem headOffs_advance_le (c : Cfg) (s : State) (p : Nat) :
    headOffs c (advance c s p) ≤ max (headOffs c s) p := by
  show offs c (newHead c s p) ≤ max (offs c s.head) p
  unfold newHead
  by_cases h : s.head ≤ min s.rd (if c.T ≤ p then s.rd else p / c.W)
  · rw [Nat.max_eq_right h]
    by_cases hT : c.T ≤ p
    · have : offs c (min s.rd (if c.T ≤ p then s.rd else p / c.W)) ≤ c.T := by unfold offs; omega
      omega
    · simp only [hT, if_false]
      have h1 : offs c (min s.rd (p / c.W)) ≤ offs c (p / c.W) := offs_mono c (Nat.min_le_right _ _)
      have h2 := offs_div_le c p
      omega
  · rw [Nat.max_eq_left (by omega)]; omega

theorem parsePush_eq (c : Cfg) (s : State) (b : Nat) :
    parsePush c s b =
      { advance c s b with
        orderQ := s.orderQ ++ [(b, 0)], gnext := (rres c b).e,
        retrQ := (advance c s b).retrQ.map (flagJob (fun x => decide (x < b))),
        busy := s.busy.map (flagPhase (fun x => decide (x < b))),
        orphans := popOrphans (fun x => decide (x < b)) s.orphans } := rfl

/-- the master retrieve job `do_parse` creates for a block at `b` that no scanner has found -/
def masterJob (b : Nat) : Job := { curr := b, base := b, ub := none, corrupt := false }

/-- The entry of unord_q at `b` — owned by a queued job, by a running one, or an orphan,
    complete or not — is confirmed (`flagGood`) and the parser jumps to its end; if there
    is none the master job is created. -/
theorem parseMatch_cases (c : Cfg) (s : State) (b : Nat) :
    (∃ j a, s.retrQ.find? (Job.inqAt b) = some j ∧ j ∈ s.retrQ ∧ j.inqAt b = true ∧
      a = advance c { s with retrQ := replaceFirst (Job.inqAt b) Job.good s.retrQ } j.endp ∧
      parseMatch c s b = { a with wu := a.wu + 1 }) ∨
    (∃ j k a, (∀ j' ∈ s.retrQ, j'.inqAt b = false) ∧
      s.busy.find? (Phase.inqAt b) = some (.retr j k) ∧ .retr j k ∈ s.busy ∧
      j.inqAt b = true ∧
      a = advance c { s with busy := replaceFirst (Phase.inqAt b) Phase.good s.busy } j.endp ∧
      parseMatch c s b = { a with wu := a.wu + 1 }) ∨
    (∃ u a, (∀ j' ∈ s.retrQ, j'.inqAt b = false) ∧ (∀ ph ∈ s.busy, ph.inqAt b = false) ∧
      u ∈ s.orphans ∧ u.f.inq = true ∧ u.base = b ∧ u.f.complete = true ∧
      a = advance c s u.f.endp ∧
      parseMatch c s b =
        { a with orphans := s.orphans.erase u, ptok := true, porig := u.f.endp,
                 wu := a.wu + 1, taint := s.taint || u.corrupt }) ∨
    (∃ u a, (∀ j' ∈ s.retrQ, j'.inqAt b = false) ∧ (∀ ph ∈ s.busy, ph.inqAt b = false) ∧
      u ∈ s.orphans ∧ u.f.inq = true ∧ u.base = b ∧
      u.f.complete = false ∧ a = advance c s u.f.endp ∧
      parseMatch c s b =
        { a with orphans := replaceFirst (fun x => x == u)
                   (fun x => { x with f := x.f.flagGood }) s.orphans,
                 wu := a.wu + 1 }) ∨
    ((∀ j' ∈ s.retrQ, j'.inqAt b = false) ∧ (∀ ph ∈ s.busy, ph.inqAt b = false) ∧
      (∀ u ∈ s.orphans, (u.f.inq && u.base == b) = false) ∧
      parseMatch c s b =
        { s with retrQ := masterJob b :: s.retrQ }) := by
  unfold parseMatch
  split
  · next j hj =>
    exact Or.inl ⟨j, _, hj, List.mem_of_find?_eq_some hj, List.find?_some hj, rfl, rfl⟩
  · next hq =>
    have hq' : ∀ j' ∈ s.retrQ, j'.inqAt b = false := by
      simpa using List.find?_eq_none.1 hq
    right
    split
    · next ph hph =>
      have hm := List.mem_of_find?_eq_some hph
      have hi := List.find?_some hph
      left
      cases ph with
      | retr j k => exact ⟨j, k, _, hq', hph, hm, hi, rfl, rfl⟩
      | retr2 e => cases hi
      | emit e => cases hi
      | scan a k => cases hi
    · next hb =>
      have hb' : ∀ ph ∈ s.busy, ph.inqAt b = false := by
        simpa using List.find?_eq_none.1 hb
      right
      split
      · next u hu =>
        have hm := List.mem_of_find?_eq_some hu
        have hi := List.find?_some hu
        simp only [Bool.and_eq_true, beq_iff_eq] at hi
        dsimp only
        split
        · next hc => exact Or.inl ⟨u, _, hq', hb', hm, hi.1, hi.2, hc, rfl, rfl⟩
        · next hc =>
          exact Or.inr (Or.inl ⟨u, _, hq', hb', hm, hi.1, hi.2,
            by simpa using hc, rfl, rfl⟩)
      · next ho =>
        exact Or.inr (Or.inr ⟨hq', hb', by simpa using List.find?_eq_none.1 ho, rfl⟩)

theorem parseMatch_frame (c : Cfg) (s : State) (b : Nat) :
    ∃ hd isl sq rq orp pt pp po w bz t, parseMatch c s b =
      { s with head := hd, inSlots := isl, scanQ := sq, retrQ := rq, orphans := orp, ptok := pt,
               ppos := pp, porig := po, wu := w, busy := bz, taint := t } := by
  rcases parseMatch_cases c s b with ⟨_, _, -, -, -, rfl, e⟩ | ⟨_, _, _, -, -, -, -, rfl, e⟩ |
    ⟨_, _, -, -, -, -, -, -, rfl, e⟩ | ⟨_, _, -, -, -, -, -, -, rfl, e⟩ | ⟨-, -, -, e⟩ <;>
    exact ⟨_, _, _, _, _, _, _, _, _, _, _, e⟩

theorem parseOk_eq (c : Cfg) (s : State) (b : Nat) :
    parseOk c s b = parseMatch c (parsePush c s b) b := rfl

@[simp] theorem parseMatch_pdone (c : Cfg) (s : State) (b : Nat) :
    (parseMatch c s b).pdone = s.pdone := by
  obtain ⟨_, _, _, _, _, _, _, _, _, _, _, e⟩ := parseMatch_frame c s b
  rw [e]

theorem parseFinish_eq (s : State) (u : Nat) :
    parseFinish s u =
      { s with rclose := true, ptok := true, pdone := true, ppos := u, head := s.rd,
               inSlots := s.inSlots + releaseCount s s.head s.rd,
               wu := s.wu + s.retrQ.length + 1, retrQ := [], scanQ := [],
               busy := s.busy.map (flagPhase (fun _ => true)),
               orphans := popOrphans (fun _ => true) s.orphans } := rfl

theorem parseMore_eq (c : Cfg) (s : State) (k : Option Nat) :
    parseMore c s k =
      { advance c s (offs c (k.getD 0 + 1)) with
        ptok := true, wu := (advance c s (offs c (k.getD 0 + 1))).wu + 1 } := rfl

theorem parseMoreP_eq_true {c : Cfg} {k : Option Nat} {t : Nat} (h : parseMoreP c k t = true) :
    ∃ kk, k = some kk ∧ offs c (kk + 1) < t := by
  cases k with
  | none => cases h
  | some kk => exact ⟨kk, rfl, of_decide_eq_true h⟩

theorem parseVerdict_err (c : Cfg) (s : State) (u : Nat) :
    parseVerdict c s (.err u) = { s with failed := true } := rfl

theorem parseVerdict_eof (c : Cfg) (s : State) (u : Nat) :
    parseVerdict c s (.finish u false) =
      { s with rclose := true, ptok := true, pdone := true, failed := true } := rfl

@[simp] theorem parseVerdict_finish (c : Cfg) (s : State) (u : Nat) :
    parseVerdict c s (.finish u true) = parseFinish s u := rfl

@[simp] theorem parseVerdict_hdr (c : Cfg) (s : State) (b : Nat) :
    parseVerdict c s (.hdr b) = parseOk c s b := rfl

theorem retrExit_eq (s : State) (j : Job) : retrExit s j = { s with wu := s.wu + 1 } := rfl

theorem retrMove_master {j : Job} (c : Cfg) (s : State) (n : Nat) (h : j.master = true) :
    retrMove c s j n = { advance c s n with taint := s.taint || j.corrupt } := by
  simp only [retrMove, h, if_true]; rfl

theorem retrMove_ppos {j : Job} (c : Cfg) (s : State) (n : Nat) (h : j.master = true) :
    (retrMove c s j n).ppos = n := by
  rw [retrMove_master c s n h]; rfl

theorem retrMove_spec {j : Job} (c : Cfg) (s : State) (n : Nat) (h : j.master = false) :
    retrMove c s j n = s := by
  simp only [retrMove, h, Bool.false_eq_true, if_false]

theorem retrMove_ind {P : State → Prop} (c : Cfg) (s : State) (j : Job) (n : Nat) (h0 : P s)
    (h1 : P { advance c s n with taint := s.taint || j.corrupt }) : P (retrMove c s j n) := by
  cases hm : j.master with
  | true => rw [retrMove_master c s n hm]; exact h1
  | false => rw [retrMove_spec c s n hm]; exact h0

theorem newc_le {c : Cfg} {j : Job} {k : Option Nat} (hc : j.curr ≤ (rres c j.base).e) :
    retrNewc c j k ≤ (rres c j.base).e := by
  unfold retrNewc; split <;> omega

theorem newc_ge (c : Cfg) (j : Job) (k : Option Nat) : j.curr ≤ retrNewc c j k := by
  unfold retrNewc; split <;> omega

theorem retrMore_eq (s : State) (j : Job) (n : Nat) :
    retrMore s j n = { s with retrQ := retrMoreJob j n :: s.retrQ } := rfl

/-- the emit job a finished `retrieve()` hands to `decode()` -/
def doneEJob (c : Cfg) (j : Job) : EJob :=
  { base := j.base, idx := 0, left := nbufs c j.base,
    ok := (rres c j.base).ok && (rres c j.base).fin, corrupt := j.corrupt }

/-- the master hands the parse token back -/
theorem retrDone_master {j : Job} (c : Cfg) (s : State) (n : Nat) (h : j.master = true) :
    retrDone c s j n =
      { s with ptok := true, porig := n, busy := .retr2 (doneEJob c j) :: s.busy } := by
  simp only [retrDone, h, if_true]; rfl

/-- a speculative job leaves its entry of unord_q behind, complete -/
theorem retrDone_spec {j : Job} {f : UF} (c : Cfg) (s : State) (n : Nat) (hub : j.ub = some f)
    (hc : f.complete = false) :
    retrDone c s j n =
      { s with busy := .retr2 (doneEJob c j) :: s.busy,
               orphans := { base := j.base, f := { f with complete := true, endp := n },
                            corrupt := j.corrupt } :: s.orphans } := by
  have : j.master = false := Job.master_eq_false.2 ⟨f, hub, hc⟩
  simp only [retrDone, this, Bool.false_eq_true, if_false, hub]; rfl

theorem retrDone_frame (c : Cfg) (s : State) (j : Job) (n : Nat) :
    ∃ pt po orp, retrDone c s j n =
      { s with ptok := pt, porig := po, busy := .retr2 (doneEJob c j) :: s.busy,
               orphans := orp } := by
  cases hm : j.master with
  | true => exact ⟨_, _, _, retrDone_master c s n hm⟩
  | false =>
    obtain ⟨f, hub, hc⟩ := Job.master_eq_false.1 hm
    exact ⟨_, _, _, retrDone_spec c s n hub hc⟩

theorem retrMove_orderQ (c : Cfg) (s : State) (j : Job) (n : Nat) :
    (retrMove c s j n).orderQ = s.orderQ :=
  retrMove_ind (P := fun t => t.orderQ = s.orderQ) c s j n rfl rfl

@[simp] theorem retrMove_pdone (c : Cfg) (s : State) (j : Job) (n : Nat) :
    (retrMove c s j n).pdone = s.pdone :=
  retrMove_ind (P := fun t => t.pdone = s.pdone) c s j n rfl rfl

theorem headOffs_retrMove_le (c : Cfg) (s1 : State) (j : Job) (n : Nat) :
    headOffs c (retrMove c s1 j n) ≤ max (headOffs c s1) n :=
  retrMove_ind (P := fun t => headOffs c t ≤ max (headOffs c s1) n) c s1 j n
    (Nat.le_max_left _ _) (headOffs_advance_le c s1 n)

@[simp] theorem retrDone_pdone (c : Cfg) (s : State) (j : Job) (n : Nat) :
    (retrDone c s j n).pdone = s.pdone := by
  obtain ⟨pt, po, orp, e⟩ := retrDone_frame c s j n
  rw [e]

/-- What `do_retrieve` attaches to: nothing at or after `tail_offs`; the head of `input_q`, if there
    is one, for a job behind `head_offs`; else the input block the job's position lies in. -/
def retrAttach (c : Cfg) (s : State) (j : Job) : Option Nat :=
  if tailOffs c s ≤ j.curr then none
  else if j.curr < headOffs c s then (if s.head < s.rd then some s.head else none)
  else some (j.curr / c.W)

/-- the speculative retrieve job the scanner creates at a candidate position -/
def scanJob (x : Nat) : Job :=
  { curr := x, base := x, ub := some { endp := x, complete := false, legit := false, inq := true },
    corrupt := false }

/-- "Scanner found a known pattern": the parser is already past it, or it lies in a block
    already released -/
theorem scanNew_known {c : Cfg} {s : State} {x : Nat} (h : x ≤ s.ppos ∨ x < headOffs c s) :
    scanNew c s x = { s with wu := s.wu + 1 } := by
  simp only [scanNew, h, if_true]

theorem scanNew_new {c : Cfg} {s : State} {x : Nat} (h1 : s.ppos < x) (h2 : headOffs c s ≤ x) :
    scanNew c s x = { s with retrQ := scanJob x :: s.retrQ } := by
  have : ¬(x ≤ s.ppos ∨ x < headOffs c s) := by omega
  simp only [scanNew, this, if_false]; rfl

theorem scanNew_ind {P : State → Prop} (c : Cfg) (s : State) (x : Nat)
    (h0 : P { s with wu := s.wu + 1 })
    (h1 : s.ppos < x → headOffs c s ≤ x → P { s with retrQ := scanJob x :: s.retrQ }) :
    P (scanNew c s x) := by
  by_cases h : x ≤ s.ppos ∨ x < headOffs c s
  · rw [scanNew_known h]; exact h0
  · rw [scanNew_new (by omega) (by omega)]; exact h1 (by omega) (by omega)

/-- `scanRequeue` as one record update.  The `scanFound` cases rewrite with it first: `rfl` on
    a frame equation does not see through the `if` around the whole state. -/
theorem scanRequeue_eq (c : Cfg) (s : State) (x hi : Nat) :
    scanRequeue c s x hi =
      { s with scanQ := if x ≠ hi ∧ headOffs c s ≤ x then x :: s.scanQ else s.scanQ } := by
  unfold scanRequeue
  by_cases h : x ≠ hi ∧ headOffs c s ≤ x
  · simp [h]
  · have : (x != hi && decide (headOffs c s ≤ x)) = false := by simpa using h
    simp [h, this]

@[simp] theorem scanNew_pdone (c : Cfg) (s : State) (x : Nat) :
    (scanNew c s x).pdone = s.pdone :=
  scanNew_ind (P := fun t => t.pdone = s.pdone) c s x rfl fun _ _ => rfl

@[simp] theorem scanRequeue_pdone (c : Cfg) (s : State) (x hi : Nat) :
    (scanRequeue c s x hi).pdone = s.pdone := by
  rw [scanRequeue_eq]

theorem scanFind_range {c : Cfg} {start hi x : Nat} (h : scanFind c start hi = some x) :
    start < x ∧ x ≤ hi := by
  unfold scanFind at h
  have := (List.mem_filter.1 (minNat?_eq_some h).1).2
  simpa using this

theorem canAttach_iff {x tl : Nat} {e : Bool} :
    canAttach x tl e = true ↔ x < tl ∨ (e = true ∧ x = tl) := by
  simp only [canAttach, Bool.or_eq_true, decide_eq_true_eq, Bool.and_eq_true]

theorem canAttach_false {x tl : Nat} {e : Bool} (h : canAttach x tl e = false) (hx : x ≤ tl) :
    x = tl ∧ e = false := by
  have hn : ¬(x < tl ∨ (e = true ∧ x = tl)) := fun h' => by
    rw [canAttach_iff.2 h'] at h
    cases h
  have h1 : x = tl := Nat.le_antisymm hx (Nat.le_of_not_lt fun hl => hn (.inl hl))
  exact ⟨h1, Bool.eq_false_iff.2 fun he => hn (.inr ⟨he, h1⟩)⟩

theorem posLe_same_base {b i j : Nat} (h : i ≤ j) : posLe (b, i) (b, j) = true := by
  simp only [posLe, posLt, Bool.not_eq_true', Bool.or_eq_false_iff, decide_eq_false_iff_not,
    Bool.and_eq_false_iff, beq_eq_false_iff_ne, ne_eq]
  exact ⟨by omega, Or.inr (by omega)⟩

end LbzVerif.Lemmas.SchedD
