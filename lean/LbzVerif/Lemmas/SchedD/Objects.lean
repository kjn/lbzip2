/-
  Invariants of the form "every object the scheduler holds satisfies a predicate of its kind": the
  jobs of `retr_q`, the busy workers' phases, the emit jobs, the output buffers of `reord_q`, the
  job-less entries of `unord_q`, and the ghost flag `taint`.  `OC` says what the predicates have to
  survive (the parser's flag writes, `retrieve()` going on, an object handed from one queue to the
  next); `oi_step` is then the one induction step for all of them.  Where a phase with an `attach()`
  is created (`stepRetrStart`, `stepScanStart`) the predicate is a premise (`startPhase`).
  Instances: `TI` (Taint), `LC` (Leak), `RK` (RetrK).  `SI`, `Lo` and `Hi` also speak of every
  object, but compare it with `gnext`, `head_offs`, `parser_bs`, `tail_offs`: their content is how
  those bounds move (`advance()`'s filter, the push of a header, a new input block), which is not
  a property of the object, and they keep their own walks.
-/
import LbzVerif.Lemmas.SchedD.Cons

namespace LbzVerif.Lemmas.SchedD
open LbzVerif.Model.SchedD LbzVerif.Gen

structure OP where
  J : Job → Prop
  P : Phase → Prop
  E : EJob → Prop
  O : OB → Prop
  U : UB → Prop
  T : Bool → Prop

structure OI (p : OP) (s : State) : Prop where
  jq : ∀ j ∈ s.retrQ, p.J j
  bz : ∀ ph ∈ s.busy, p.P ph
  eq : ∀ e ∈ s.emitQ, p.E e
  ob : ∀ o ∈ s.reordQ, p.O o
  ub : ∀ u ∈ s.orphans, p.U u
  tt : p.T s.taint

structure OC (c : Cfg) (p : OP) : Prop where
  flagJ : ∀ r j, p.J j → p.J (flagJob r j)
  flagP : ∀ r ph, p.P ph → p.P (flagPhase r ph)
  goodJ : ∀ j, p.J j → p.J j.good
  goodP : ∀ ph, p.P ph → p.P ph.good
  /-- the parser flags only incomplete entries -/
  flagU : ∀ u, p.U u → u.f.complete = false → p.U { u with f := u.f.flagBad }
  goodU : ∀ u, p.U u → u.f.complete = false → p.U { u with f := u.f.flagGood }
  newJ : ∀ b, p.J (masterJob b)
  scanJ : ∀ x, p.J (scanJob x)
  moreJ : ∀ j k n, p.P (.retr j k) → p.J (retrMoreJob j n)
  doneP : ∀ j k, p.P (.retr j k) → p.P (.retr2 (doneEJob c j))
  doneU : ∀ j k f n, p.P (.retr j k) → j.ub = some f → f.complete = false →
    p.U { base := j.base, f := { f with complete := true, endp := n }, corrupt := j.corrupt }
  postE : ∀ e, p.P (.retr2 e) → p.E e
  emitP : ∀ e, p.E e → p.P (.emit e)
  nextE : ∀ e, p.P (.emit e) → p.E { e with idx := e.idx + 1, left := e.left - 1 }
  outO : ∀ e st, p.P (.emit e) →
    p.O { base := e.base, idx := e.idx, st := st, corrupt := e.corrupt }
  taintJ : ∀ t j k, p.T t → p.P (.retr j k) → p.T (t || j.corrupt)
  taintU : ∀ t u, p.T t → p.U u → p.T (t || u.corrupt)
  taintO : ∀ t o, p.T t → p.O o → p.T (t || o.corrupt)

/-- the phase a `*Start` transition with an `attach()` creates -/
def startPhase (c : Cfg) (s : State) : Label → Option Phase
  | .retrStart j =>
    some (.retr { j with corrupt := j.corrupt || decide (j.curr < headOffs c s) }
      (retrAttach c s j))
  | .scanStart sp =>
    some (.scan (if sp / c.W = s.ppos / c.W ∧ sp < s.ppos then s.ppos else sp) (sp / c.W))
  | _ => none

variable {p : OP}

/-- The frame lemma, of the shape every invariant here has (`SI_congr`, `Lo_congr`, …): one tuple
    equation over the fields the invariant reads, defaulted to `by rfl`.  Closing a case with
    `OI_congr h` therefore also absorbs whatever else the post-state writes (`retrExit`'s `wu + 1`,
    `ptok`, `inSlots`) without naming it. -/
theorem OI_congr {s s' : State} (h : OI p s)
    (e : (s'.retrQ, s'.busy, s'.emitQ, s'.reordQ, s'.orphans, s'.taint) =
         (s.retrQ, s.busy, s.emitQ, s.reordQ, s.orphans, s.taint) := by rfl) : OI p s' := by
  simp only [Prod.mk.injEq] at e
  obtain ⟨e1, e2, e3, e4, e5, e6⟩ := e
  exact ⟨e1 ▸ h.jq, e2 ▸ h.bz, e3 ▸ h.eq, e4 ▸ h.ob, e5 ▸ h.ub, e6 ▸ h.tt⟩

theorem OI_advance {c : Cfg} {s : State} (n : Nat) (h : OI p s) : OI p (advance c s n) :=
  { h with jq := fun j hj => h.jq j (List.mem_filter.1 hj).1 }

theorem OI_detach {s : State} (k : Option Nat) (h : OI p s) : OI p (detach s k) := by
  rw [detach_eq]
  exact OI_congr h

theorem OI_busy_erase {s : State} (ph : Phase) (h : OI p s) :
    OI p { s with busy := s.busy.erase ph } :=
  { h with bz := fun x hx => h.bz x (List.mem_of_mem_erase hx) }

theorem OI_busy_cons {s : State} {ph : Phase} (h : OI p s) (hp : p.P ph) :
    OI p { s with busy := ph :: s.busy } :=
  { h with bz := List.forall_mem_cons.2 ⟨hp, h.bz⟩ }

theorem OI_leave {s : State} (ph : Phase) (k : Option Nat) (h : OI p s) :
    OI p (detach { s with busy := s.busy.erase ph } k) :=
  OI_detach k (OI_busy_erase ph h)

theorem OI_leave_parser {s : State} (k : Option Nat) (h : OI p s) :
    OI p (detach { s with pphase := none } k) :=
  OI_detach k (OI_congr h)

theorem OI_popOrphans {c : Cfg} (C : OC c p) {r : Nat → Bool} {os : List UB}
    (h : ∀ u ∈ os, p.U u) : ∀ u ∈ popOrphans r os, p.U u := by
  intro u hu
  rcases mem_popOrphans.1 hu with ⟨hu, _⟩ | ⟨v, hv, _, _, hc, rfl⟩
  · exact h u hu
  · exact C.flagU v (h v hv) hc

variable {c : Cfg} (C : OC c p)
include C

/-- the master's `corrupt` flag is what taints the parse position -/
theorem OI_retrMove {s : State} {j : Job} {k : Option Nat} (n : Nat) (h : OI p s)
    (hj : p.P (.retr j k)) : OI p (retrMove c s j n) :=
  retrMove_ind c s j n h { OI_advance (c := c) n h with tt := C.taintJ _ j k h.tt hj }

theorem OI_retrDone {s : State} {j : Job} {k : Option Nat} (n : Nat) (h : OI p s)
    (hj : p.P (.retr j k)) : OI p (retrDone c s j n) := by
  have hB := OI_busy_cons h (C.doneP j k hj)
  cases hm : j.master with
  | true =>
    rw [retrDone_master c s n hm]
    exact OI_congr hB
  | false =>
    obtain ⟨f, hub, hc⟩ := Job.master_eq_false.1 hm
    rw [retrDone_spec c s n hub hc]
    exact { hB with ub := List.forall_mem_cons.2 ⟨C.doneU j k f n hj hub hc, h.ub⟩ }

theorem OI_scanNew {s : State} (x : Nat) (h : OI p s) : OI p (scanNew c s x) :=
  scanNew_ind c s x (OI_congr h) fun _ _ =>
    { h with jq := List.forall_mem_cons.2 ⟨C.scanJ x, h.jq⟩ }

theorem OI_parsePush {s : State} (b : Nat) (h : OI p s) : OI p (parsePush c s b) := by
  have h2 := OI_advance (c := c) b h
  rw [parsePush_eq]
  exact { h2 with
    jq := fun j hj => by
      obtain ⟨x, hx, rfl⟩ := List.mem_map.1 hj
      exact C.flagJ _ x (h2.jq x hx)
    bz := fun ph hp => by
      obtain ⟨x, hx, rfl⟩ := List.mem_map.1 hp
      exact C.flagP _ x (h.bz x hx)
    ub := OI_popOrphans C (r := fun x => decide (x < b)) h.ub }

/-- taking over an orphan's block taints the parser with the orphan's `corrupt` flag -/
theorem OI_parseMatch {s : State} (b : Nat) (h : OI p s) : OI p (parseMatch c s b) := by
  rcases parseMatch_cases c s b with ⟨j, a, _, _, _, rfl, e⟩ | ⟨j, k, a, _, _, _, _, rfl, e⟩ |
    ⟨u, a, _, _, hmem, _, _, _, rfl, e⟩ | ⟨u, a, _, _, _, _, _, hinc, rfl, e⟩ | ⟨_, _, _, e⟩
  · rw [e]
    have hS : OI p { s with retrQ := replaceFirst (Job.inqAt b) Job.good s.retrQ } :=
      { h with jq := forall_mem_replaceFirst h.jq fun x hx _ => C.goodJ x (h.jq x hx) }
    exact OI_congr (OI_advance (c := c) j.endp hS)
  · rw [e]
    have hS : OI p { s with busy := replaceFirst (Phase.inqAt b) Phase.good s.busy } :=
      { h with bz := forall_mem_replaceFirst h.bz fun x hx _ => C.goodP x (h.bz x hx) }
    exact OI_congr (OI_advance (c := c) j.endp hS)
  · rw [e]
    exact { OI_advance (c := c) u.f.endp h with
      ub := fun x hx => h.ub x (List.mem_of_mem_erase hx)
      tt := C.taintU _ u h.tt (h.ub u hmem) }
  · rw [e]
    exact { OI_advance (c := c) u.f.endp h with
      ub := forall_mem_replaceFirst h.ub fun x hx hq =>
        C.goodU x (h.ub x hx) (eq_of_beq hq ▸ hinc) }
  · rw [e]
    exact { h with jq := List.forall_mem_cons.2 ⟨C.newJ b, h.jq⟩ }

theorem OI_parseFinish {s : State} (u : Nat) (h : OI p s) : OI p (parseFinish s u) := by
  rw [parseFinish_eq]
  exact { h with
    jq := fun j hj => nomatch hj
    bz := fun ph hp => by
      obtain ⟨x, hx, rfl⟩ := List.mem_map.1 hp
      exact C.flagP _ x (h.bz x hx)
    ub := OI_popOrphans C (r := fun _ => true) h.ub }

theorem oi_step {s s' : State} {l : Label} (st : Step c s l s') (h : OI p s)
    (hnew : ∀ ph, startPhase c s l = some ph → p.P ph) : OI p s' := by
  cases st with
  | rTake | rQuit | rBlockDrop | rBlock | rEmpty | rEof | wDone | parseStart =>
    exact OI_congr h
  | reorderBogus ob | reorderErr ob =>
    exact { h with ob := fun o ho => h.ob o (List.mem_of_mem_erase ho) }
  | reorderMore ob r _ hmem | reorderOk ob r _ hmem =>
    -- the sink is tainted by what it is handed
    exact { h with
      ob := fun o ho => h.ob o (List.mem_of_mem_erase ho)
      tt := C.taintO _ ob h.tt (h.ob ob hmem) }
  | parseMore k => exact OI_congr (OI_advance (c := c) _ (OI_leave_parser k h))
  | parseErr k u | parseEof k u => exact OI_congr (OI_leave_parser k h)
  | parseFinish k u => exact OI_parseFinish C u (OI_leave_parser k h)
  | parseOk k b => exact OI_parseMatch C b (OI_parsePush C b (OI_leave_parser k h))
  | retrStart j _ hmem =>
    exact { OI_busy_cons h (hnew _ rfl) with
      jq := fun x hx => h.jq x (List.mem_of_mem_erase hx) }
  | retrQuit j k => exact OI_congr (OI_leave _ k h)
  | retrOvertaken j k hmem =>
    exact OI_congr (OI_retrMove C _ (OI_leave (.retr j k) k h) (h.bz _ hmem))
  | retrMore j k hmem =>
    have h2 := OI_retrMove C (retrNewc c j k) (OI_leave (.retr j k) k h) (h.bz _ hmem)
    exact { h2 with jq := List.forall_mem_cons.2 ⟨C.moreJ j k _ (h.bz _ hmem), h2.jq⟩ }
  | retrDone j k hmem =>
    exact OI_retrDone C _ (OI_retrMove C _ (OI_leave (.retr j k) k h) (h.bz _ hmem))
      (h.bz _ hmem)
  | retrPost e hmem =>
    exact { OI_busy_erase (.retr2 e) h with
      eq := List.forall_mem_cons.2 ⟨C.postE e (h.bz _ hmem), h.eq⟩ }
  | emitStart e _ hmem =>
    exact { OI_busy_cons h (C.emitP e (h.eq e hmem)) with
      eq := fun x hx => h.eq x (List.mem_of_mem_erase hx) }
  | emitMore e hmem =>
    exact { OI_busy_erase (.emit e) h with
      eq := List.forall_mem_cons.2 ⟨C.nextE e (h.bz _ hmem), h.eq⟩
      ob := List.forall_mem_cons.2 ⟨C.outO e _ (h.bz _ hmem), h.ob⟩ }
  | emitLast e hmem =>
    exact { OI_busy_erase (.emit e) h with
      ob := List.forall_mem_cons.2 ⟨C.outO e _ (h.bz _ hmem), h.ob⟩ }
  | scanStart sp =>
    exact { OI_busy_cons h (hnew _ rfl) with }
  | scanNone st k => exact OI_congr (OI_leave _ (some k) h)
  | scanFound st k x =>
    rw [scanRequeue_eq]
    exact OI_congr (OI_scanNew C _ (OI_leave (.scan st k) (some k) h))

end LbzVerif.Lemmas.SchedD

namespace LbzVerif.Model.Race.D
open LbzVerif.Model.SchedD

variable {P : Phase → Prop}

def BI (P : Phase → Prop) (s : State) : Prop := ∀ ph ∈ s.busy, P ph

theorem BI_advance {c : Cfg} {s : State} (p : Nat) (h : BI P s) : BI P (advance c s p) :=
  fun ph hph => h ph hph

end LbzVerif.Model.Race.D
