/-
  Facts about the SchedD model that do not involve `step`: the guard of a selected task, the
  position order, the input abstraction (`pres`, `rres`) and the sequential reference
  (`seqFrom` with enough fuel does not depend on the fuel; `orderOut`: what the blocks of
  `order_q` still owe the sink).
-/
import LbzVerif.Model.SchedD

namespace LbzVerif.Lemmas.SchedD
open LbzVerif.Model.SchedD LbzVerif.Gen

theorem select_guard {c : Cfg} {s : State} {t : String} (h : selectTask c s = some t) :
    guardOf t (view c s) = true := by
  unfold selectTask at h
  exact List.find?_some (p := fun t => guardOf t (view c s)) h

theorem posLe_not_posLt_eq {a b : Nat × Nat} (h1 : posLe a b = true) (h2 : posLt a b = false) :
    a = b := by
  obtain ⟨a1, a2⟩ := a; obtain ⟨b1, b2⟩ := b
  simp only [posLe, posLt, Bool.not_eq_true', Bool.or_eq_false_iff, Bool.and_eq_false_iff,
    decide_eq_false_iff_not, beq_eq_false_iff_ne, ne_eq] at h1 h2
  have : a1 = b1 ∧ a2 = b2 := by omega
  rw [this.1, this.2]

theorem posLe_refl (a : Nat × Nat) : posLe a a = true := by
  simp [posLe, posLt]

theorem posLe_trans {a b d : Nat × Nat} (h1 : posLe a b = true) (h2 : posLe b d = true) :
    posLe a d = true := by
  obtain ⟨a1, a2⟩ := a
  obtain ⟨b1, b2⟩ := b
  obtain ⟨d1, d2⟩ := d
  simp only [posLe, posLt, Bool.not_eq_true', Bool.or_eq_false_iff, Bool.and_eq_false_iff,
    decide_eq_false_iff_not, beq_eq_false_iff_ne, ne_eq] at *
  omega

theorem posLe_of_not_posLt {a b : Nat × Nat} (h : posLt a b = false) : posLe b a = true := by
  simp [posLe, h]

theorem posLe_of_posLt {a b : Nat × Nat} (h : posLt a b = true) : posLe a b = true := by
  obtain ⟨a1, a2⟩ := a; obtain ⟨b1, b2⟩ := b
  simp only [posLe, posLt, Bool.not_eq_true', Bool.or_eq_false_iff, Bool.and_eq_false_iff,
    decide_eq_false_iff_not, beq_eq_false_iff_ne, ne_eq, Bool.or_eq_true, Bool.and_eq_true,
    decide_eq_true_eq, beq_iff_eq] at *
  omega

theorem offs_mono (c : Cfg) {a b : Nat} (h : a ≤ b) : offs c a ≤ offs c b := by
  have := Nat.mul_le_mul_right c.W h
  simp only [offs]; omega

theorem W_pos_of_lt_offs {c : Cfg} {p r : Nat} (h : p < offs c r) : 0 < c.W := by
  rcases Nat.eq_zero_or_pos c.W with e | e
  · rw [offs, e] at h; simp at h
  · exact e

theorem offs_div_le (c : Cfg) (p : Nat) : offs c (p / c.W) ≤ p := by
  unfold offs
  have := Nat.div_mul_le_self p c.W
  omega

theorem lt_offs_succ_div {c : Cfg} {p r : Nat} (h : p < offs c r) : p < offs c (p / c.W + 1) := by
  have := Nat.lt_mul_div_succ p (W_pos_of_lt_offs h)
  unfold offs at h ⊢
  rw [Nat.mul_comm] at this
  omega

theorem div_lt_of_lt_offs {c : Cfg} {p r : Nat} (h : p < offs c r) : p / c.W < r := by
  have hW := W_pos_of_lt_offs h
  unfold offs at h
  rw [Nat.div_lt_iff_lt_mul hW]
  omega

/-- a freshly read block is not empty -/
theorem offs_lt_succ {c : Cfg} (hW : 0 < c.W) {n : Nat} (hn : n * c.W < c.T) :
    offs c n < offs c (n + 1) := by
  unfold offs
  have h2 : (n + 1) * c.W = n * c.W + c.W := Nat.succ_mul _ _
  omega

theorem tailOffs_le (c : Cfg) (s : State) : tailOffs c s ≤ c.T := by
  unfold tailOffs offs; omega

theorem fresh_of_pos {c : Cfg} {h r p : Nat} (h1 : offs c h ≤ p) (h2 : p < offs c r) :
    h ≤ p / c.W := by
  rw [Nat.le_div_iff_mul_le (W_pos_of_lt_offs h2)]
  unfold offs at h1 h2
  omega

/-- after `advance(p)` no block of `input_q` lies entirely before `p` -/
theorem advance_head_near {c : Cfg} (hW : 0 < c.W) (s : State) (p k : Nat)
    (h1 : newHead c s p ≤ k) (h2 : k < s.rd) : p < offs c (k + 1) := by
  unfold newHead at h1
  unfold offs
  by_cases hT : c.T ≤ p
  · rw [if_pos hT] at h1; omega
  · rw [if_neg hT] at h1
    have hk : p / c.W ≤ k := by omega
    have h3 := Nat.lt_mul_div_succ p hW
    have h4 : (p / c.W + 1) * c.W ≤ (k + 1) * c.W := Nat.mul_le_mul_right _ (by omega)
    rw [Nat.mul_comm] at h3
    omega

theorem pres_hdr {c : Cfg} {p b : Nat} (h : pres c p = .hdr b) : p < b ∧ b ≤ c.T := by
  unfold pres at h
  split at h
  · split at h
    · next hh => cases h; exact hh
    · cases h
  · next r hr => exact absurd h (hr b)

theorem rres_ge (c : Cfg) (b : Nat) : b ≤ (rres c b).e := by
  unfold rres
  dsimp only
  split
  · next h => simp only; omega
  · simp only; omega

theorem rres_le {c : Cfg} {b : Nat} (hb : b ≤ c.T) : (rres c b).e ≤ c.T := by
  unfold rres
  dsimp only
  split
  · next h => simp only; omega
  · simp only; omega

theorem rres_ok_gt {c : Cfg} {b : Nat} (h : (rres c b).ok = true) : b < (rres c b).e := by
  unfold rres at h ⊢
  dsimp only at h ⊢
  split
  · next hh => simp only; omega
  · next hh => rw [if_neg hh] at h; simp at h

theorem rres_nb_pos (c : Cfg) (b : Nat) : 1 ≤ (rres c b).nb := by
  unfold rres
  dsimp only
  split <;> simp only <;> omega

/-- the number of output buffers of the block at `b`: `emit()` returns MORE `nb - 1` times; a
    block whose `retrieve()` failed yields one buffer, with an error status -/
abbrev nbufs (c : Cfg) (b : Nat) : Nat := if (rres c b).ok then (rres c b).nb else 1

theorem nbufs_pos (c : Cfg) (b : Nat) : 1 ≤ nbufs c b := by
  have := rres_nb_pos c b
  unfold nbufs
  split <;> omega

theorem bufs_succ (b i n : Nat) : bufs b i (n + 1) = (b, i) :: bufs b (i + 1) n := by
  simp [bufs, List.range'_succ]

theorem bufs_zero (b i : Nat) : bufs b i 0 = [] := by simp [bufs]

theorem blockOut_more {c : Cfg} {b i : Nat} (h1 : (rres c b).ok = true)
    (h2 : i + 1 < (rres c b).nb) :
    blockOut c b i = ((b, i) :: (blockOut c b (i + 1)).1, (blockOut c b (i + 1)).2) := by
  unfold blockOut; simp only [h1, if_true]
  split
  · have : (rres c b).nb - i = ((rres c b).nb - (i + 1)) + 1 := by omega
    rw [this, bufs_succ]
  · have : (rres c b).nb - 1 - i = ((rres c b).nb - 1 - (i + 1)) + 1 := by omega
    rw [this, bufs_succ]

theorem blockOut_ok {c : Cfg} {b i : Nat} (h1 : (rres c b).ok = true) (h2 : (rres c b).fin = true)
    (h3 : i + 1 = (rres c b).nb) : blockOut c b i = ([(b, i)], true) := by
  unfold blockOut; simp only [h1, h2, if_true]
  have : (rres c b).nb - i = 0 + 1 := by omega
  rw [this, bufs_succ, bufs_zero]

theorem blockOut_err {c : Cfg} {b i : Nat}
    (h : (rres c b).ok = false ∨ ((rres c b).fin = false ∧ i + 1 = (rres c b).nb)) :
    blockOut c b i = ([], false) := by
  unfold blockOut
  rcases h with h | ⟨h1, h2⟩
  · simp [h]
  · cases hok : (rres c b).ok with
    | false => simp [hok]
    | true =>
      have : (rres c b).nb - 1 - i = 0 := by omega
      simp [hok, h1, this, bufs_zero]

/-- remaining sink records of the blocks in `order_q`, then `k` -/
def orderOut (c : Cfg) : List (Nat × Nat) → List (Nat × Nat) × Bool → List (Nat × Nat) × Bool
  | [], k => k
  | (b, i) :: r, k =>
    let o := blockOut c b i
    if o.2 then (o.1 ++ (orderOut c r k).1, (orderOut c r k).2) else o

theorem orderOut_append (c : Cfg) (q : List (Nat × Nat)) (b : Nat) (k : List (Nat × Nat) × Bool) :
    orderOut c (q ++ [(b, 0)]) k = orderOut c q (orderOut c [(b, 0)] k) := by
  induction q with
  | nil => rfl
  | cons x xs ih =>
    obtain ⟨b', i'⟩ := x
    simp only [List.cons_append, orderOut, ih]

theorem orderOut_fail (c : Cfg) (q : List (Nat × Nat)) (k : List (Nat × Nat) × Bool)
    (hk : k.2 = false) : (orderOut c q k).2 = false := by
  induction q with
  | nil => exact hk
  | cons x xs ih =>
    obtain ⟨b, i⟩ := x
    simp only [orderOut]
    split
    · exact ih
    · next h => simpa using h

theorem seqFrom_hdr {c : Cfg} {f p b : Nat} (hp : pres c p = .hdr b) :
    seqFrom c (f + 1) p =
      if (blockOut c b 0).2 then
        ((blockOut c b 0).1 ++ (seqFrom c f (rres c b).e).1, (seqFrom c f (rres c b).e).2)
      else blockOut c b 0 := by
  simp only [seqFrom, hp]

theorem seqFrom_err {c : Cfg} {f p u : Nat} (hp : pres c p = .err u) :
    seqFrom c (f + 1) p = ([], false) := by
  simp only [seqFrom, hp]

theorem seqFrom_finish {c : Cfg} {f p u : Nat} {ok : Bool} (hp : pres c p = .finish u ok) :
    seqFrom c (f + 1) p = ([], ok) := by
  simp only [seqFrom, hp]

theorem seqFrom_step (c : Cfg) : ∀ (f p : Nat), p ≤ c.T → c.T + 1 - p ≤ f →
    seqFrom c (f + 1) p = seqFrom c f p := by
  intro f
  induction f with
  | zero => intro p hp h; omega
  | succ f ih =>
    intro p hpT h
    cases hp : pres c p with
    | err u => rw [seqFrom_err hp, seqFrom_err hp]
    | finish u ok => rw [seqFrom_finish hp, seqFrom_finish hp]
    | hdr b =>
      have hb := pres_hdr hp
      have he := rres_ge c b
      have hl := rres_le hb.2
      rw [seqFrom_hdr hp, seqFrom_hdr hp, ih (rres c b).e hl (by omega)]

theorem seqFrom_fuel (c : Cfg) (p f : Nat) (hp : p ≤ c.T) (hf : c.T + 1 - p ≤ f) :
    seqFrom c f p = seqFrom c (c.T + 1 - p) p := by
  induction hf with
  | refl => rfl
  | step h ih => rw [seqFrom_step c _ p hp h, ih]

end LbzVerif.Lemmas.SchedD
