/-
  The exact ownership invariant `XI`.  `XI.x1`: of an entry `(b, i)` of `order_q`, buffer `(b, i)`
  ITSELF is in `reord_q`, or an emit job of block `b` has not produced it yet (`Has`), or a
  master-capable retrieve job of block `b` exists: what deadlock-freedom needs at the head of
  `order_q`.  `XI.tk` (where the parse token is) rides on the same argument: the steps that keep or
  hand on the producer of an entry are the steps that keep or hand on the token (`XI_frame`'s `mJ`).
  `HI` (Holder.lean), which only asks for SOME buffer with index ≥ `i`, follows from `XI` and `SI`
  (`HI_of_XI`): an emit job that has not yet produced buffer `i` will, `i` lies inside the block.
-/
import LbzVerif.Lemmas.SchedD.Lo

namespace LbzVerif.Lemmas.SchedD
open LbzVerif.Model.SchedD LbzVerif.Gen

/-- buffer `m` of block `b` is in `reord_q`, or an emit job of block `b` has
    not produced it yet -/
def Has (s : State) (b m : Nat) : Prop :=
  (∃ o ∈ s.reordQ, o.base = b ∧ o.idx = m) ∨ (∃ e, EIn s e ∧ e.base = b ∧ e.idx ≤ m)

structure X0 (c : Cfg) (s : State) : Prop where
  /-- a buffer with status MORE of a block `order_q` still waits for has its successor -/
  xch : ∀ o ∈ s.reordQ, o.st = .more → ∀ i, (o.base, i) ∈ s.orderQ → i ≤ o.idx →
          Has s o.base (o.idx + 1)
  /-- … and so has one of a speculatively decoded block the parser has not reached (`gnext < base`:
      its entry of `order_q` is still to come) -/
  xcf : s.pdone = false → ∀ o ∈ s.reordQ, o.st = .more → s.gnext < o.base →
          Has s o.base (o.idx + 1)
  /-- a finished-but-unconfirmed block ahead of the parser has its first buffer -/
  xgs : s.pdone = false → ∀ u ∈ s.orphans, u.f.inq = true → s.gnext < u.base → Has s u.base 0
  srt : s.orderQ.Pairwise (fun x y => x.1 < y.1)
  /-- `order_q` holds only blocks the parser has confirmed -/
  og  : ∀ b i, (b, i) ∈ s.orderQ → b ≤ s.gnext
  ei  : ∀ b i, (b, i) ∈ s.orderQ → i < nbufs c b
  /-- `do_parse` leaves the token set when it sets `parsing_done` -/
  pt  : s.pdone = true → s.ptok = true

def HasMc (s : State) : Prop := ∃ j, JIn s j ∧ Job.mc j = true

/-- the part of `XI` that also holds between the sections of `do_parse`, when nobody holds the
    parse token -/
structure XC (c : Cfg) (s : State) : Prop where
  x0 : X0 c s
  x1 : ∀ b i, (b, i) ∈ s.orderQ → McJob s b ∨ Has s b i

structure XI (c : Cfg) (s : State) : Prop extends XC c s where
  /-- the parse token is somewhere: available, with the running parser, or with the master job -/
  tk : s.ptok = false → s.pphase.isSome = true ∨ HasMc s

theorem XI_init (c : Cfg) : XI c (init c) := by
  refine ⟨⟨⟨?_, ?_, ?_, ?_, ?_, ?_, ?_⟩, ?_⟩, ?_⟩ <;> simp [init]

theorem Has_mono {s s' : State} {b m : Nat} (mE : ∀ e, EIn s e → EIn s' e)
    (mR : ∀ o ∈ s.reordQ, o ∈ s'.reordQ) (h : Has s b m) : Has s' b m := by
  rcases h with ⟨o, ho, h1, h2⟩ | ⟨e, he, h1, h2⟩
  · exact Or.inl ⟨o, mR o ho, h1, h2⟩
  · exact Or.inr ⟨e, mE e he, h1, h2⟩

theorem Has_flag {s s' : State} {b m : Nat} (p : Nat → Bool) (h : Has s b m)
    (e5 : s'.emitQ = s.emitQ := by rfl) (e6 : s'.busy = s.busy.map (flagPhase p) := by rfl)
    (e7 : s'.reordQ = s.reordQ := by rfl) : Has s' b m :=
  Has_mono (fun _ he => EIn_flag he s' e5 e6) (fun _ ho => e7 ▸ ho) h

/-- a step that leaves `order_q`, `reord_q`, `gnext` and `parsing_done` alone: emit jobs only move,
    a new orphan is the complete entry of a finished speculative retrieve whose emit job (index 0)
    exists, the parse token is not taken away once parsing is done -/
structure Fx (s s' : State) : Prop where
  eO : s'.orderQ = s.orderQ
  eR : s'.reordQ = s.reordQ
  eG : s'.gnext = s.gnext
  eP : s'.pdone = s.pdone
  mE : ∀ e, EIn s e → EIn s' e
  mO : s'.pdone = false → ∀ u ∈ s'.orphans, u ∈ s.orphans ∨ Has s' u.base 0
  eT : s'.pdone = true → s.ptok = true → s'.ptok = true

theorem Fx.refl (s : State) : Fx s s :=
  ⟨rfl, rfl, rfl, rfl, fun _ h => h, fun _ _ hu => Or.inl hu, fun _ h => h⟩

theorem Fx.has {s s' : State} (f : Fx s s') {b m : Nat} (h : Has s b m) : Has s' b m :=
  Has_mono f.mE (fun o ho => by rw [f.eR]; exact ho) h

theorem Fx.trans {s s' s'' : State} (f : Fx s s') (g : Fx s' s'') : Fx s s'' := by
  refine ⟨g.eO.trans f.eO, g.eR.trans f.eR, g.eG.trans f.eG, g.eP.trans f.eP,
    fun e he => g.mE e (f.mE e he), ?_, fun hd h => g.eT hd (f.eT (g.eP.symm.trans hd) h)⟩
  intro hd u hu
  rcases g.mO hd u hu with h | h
  · rcases f.mO (by rw [← g.eP]; exact hd) u h with h | h
    · exact Or.inl h
    · exact Or.inr (g.has h)
  · exact Or.inr h

/-- the defaults close by `rfl` when `s'` is `s` with other fields updated -/
theorem Fx_same {s s' : State} (mE : ∀ e, EIn s e → EIn s' e)
    (e1 : s'.orderQ = s.orderQ := by rfl) (e2 : s'.reordQ = s.reordQ := by rfl)
    (e3 : s'.gnext = s.gnext := by rfl) (e4 : s'.pdone = s.pdone := by rfl)
    (e8 : ∀ u ∈ s'.orphans, u ∈ s.orphans := by exact fun _ h => h)
    (e9 : s'.pdone = true → s.ptok = true → s'.ptok = true := by exact fun _ h => h) : Fx s s' :=
  ⟨e1, e2, e3, e4, mE, fun _ u hu => Or.inl (e8 u hu), e9⟩

theorem X0_frame {c : Cfg} {s s' : State} (h : X0 c s) (f : Fx s s') : X0 c s' := by
  obtain ⟨a2, a3, a4, b1, b2, b3, b4⟩ := h
  obtain ⟨eO, eR, eG, eP, mE, mO, eT⟩ := id f
  refine ⟨?_, ?_, ?_, ?_, ?_, ?_, ?_⟩
  · intro o ho hst i hi hle
    rw [eR] at ho; rw [eO] at hi
    exact f.has (a2 o ho hst i hi hle)
  · intro hd o ho hst hg
    rw [eR] at ho; rw [eG] at hg; rw [eP] at hd
    exact f.has (a3 hd o ho hst hg)
  · intro hd u hu hq hg
    rcases mO hd u hu with h | h2
    · rw [eG] at hg; rw [eP] at hd
      exact f.has (a4 hd u h hq hg)
    · exact h2
  · rw [eO]; exact b1
  · intro b i hi; rw [eO] at hi; rw [eG]; exact b2 b i hi
  · intro b i hi; rw [eO] at hi; exact b3 b i hi
  · intro hd; exact eT hd (b4 (eP.symm.trans hd))

theorem XC_frame {c : Cfg} {s s' : State} (h : XC c s) (f : Fx s s')
    (mJ : ∀ b i, (b, i) ∈ s.orderQ → McJob s b → McJob s' b ∨ Has s' b i) : XC c s' := by
  refine ⟨X0_frame h.x0 f, ?_⟩
  intro b i hi
  rw [f.eO] at hi
  rcases h.x1 b i hi with hm | hc
  · exact mJ b i hi hm
  · exact Or.inr (f.has hc)

/-- the parse token is not lost: if it is away afterwards it was away before (or the parser has just
    taken it), and a running parser goes on (or has just given it back) -/
structure TkF (s s' : State) : Prop where
  eK : s'.ptok = false → s.ptok = false ∨ s'.pphase.isSome = true
  eH : s.pphase.isSome = true → s'.pphase.isSome = true ∨ s'.ptok = true

theorem tkF_same {s s' : State} (e1 : s'.ptok = s.ptok := by rfl)
    (e2 : s'.pphase = s.pphase := by rfl) : TkF s s' :=
  ⟨fun h => Or.inl (e1 ▸ h), fun h => Or.inl (e2 ▸ h)⟩

theorem tkF_tok {s s' : State} (h : s'.ptok = true) : TkF s s' :=
  ⟨fun h' => Bool.noConfusion (h.symm.trans h'), fun _ => Or.inr h⟩

theorem TkF.trans {s s' s'' : State} (f : TkF s s') (g : TkF s' s'') : TkF s s'' := by
  refine ⟨fun ht => ?_, fun hp => ?_⟩
  · rcases g.eK ht with h1 | h1
    · rcases f.eK h1 with h2 | h2
      · exact Or.inl h2
      · exact Or.inr ((g.eH h2).resolve_right fun h3 => Bool.noConfusion (h3.symm.trans ht))
    · exact Or.inr h1
  · rcases f.eH hp with h1 | h1
    · exact g.eH h1
    · cases ht : s''.ptok with
      | true => exact Or.inr rfl
      | false =>
        exact Or.inl ((g.eK ht).resolve_left fun h2 => Bool.noConfusion (h1.symm.trans h2))

theorem tkF_leave (s : State) (bz : List Phase) (k : Option Nat) :
    TkF s (detach { s with busy := bz } k) := by
  rw [detach_eq]; exact tkF_same

theorem tkF_retrMove (c : Cfg) (s : State) (j : Job) (n : Nat) : TkF s (retrMove c s j n) :=
  retrMove_ind (P := TkF s) c s j n tkF_same tkF_same

theorem tkF_retrDone (c : Cfg) (s : State) (j : Job) (n : Nat) : TkF s (retrDone c s j n) := by
  cases hm : j.master with
  | true => rw [retrDone_master c s n hm]; exact tkF_tok rfl
  | false =>
    obtain ⟨f, hub, hc⟩ := Job.master_eq_false.1 hm
    rw [retrDone_spec c s n hub hc]
    exact tkF_same

theorem tkF_scanNew (c : Cfg) (s : State) (x : Nat) : TkF s (scanNew c s x) :=
  scanNew_ind (P := TkF s) c s x tkF_same fun _ _ => tkF_same

theorem tkF_scanRequeue (c : Cfg) (s : State) (x hi : Nat) : TkF s (scanRequeue c s x hi) := by
  rw [scanRequeue_eq]; exact tkF_same

theorem XI_of_XC {c : Cfg} {s s' : State} (h : XI c s) (x : XC c s') (t : TkF s s')
    (mK : ∀ j, JIn s j → Job.mc j = true → HasMc s' ∨ s'.ptok = true) : XI c s' := by
  refine ⟨x, fun ht => ?_⟩
  rcases t.eK ht with h1 | h1
  · rcases h.tk h1 with hp | ⟨j, hj, hm⟩
    · exact Or.inl ((t.eH hp).resolve_right fun h3 => Bool.noConfusion (h3.symm.trans ht))
    · exact Or.inr ((mK j hj hm).resolve_right fun h3 => Bool.noConfusion (h3.symm.trans ht))
  · exact Or.inl h1

/-- `mJ`: a master-capable job stays (as a job of the same block), or it has finished: the token is
    back and its block has its next buffer.  One hypothesis serves `x1` (the producer of an entry)
    and `tk` (the holder of the token). -/
theorem XI_frame {c : Cfg} {s s' : State} (h : XI c s) (f : Fx s s') (t : TkF s s')
    (mJ : ∀ j, JIn s j → Job.mc j = true →
      (∃ j', JIn s' j' ∧ j'.base = j.base ∧ Job.mc j' = true) ∨
      (s'.ptok = true ∧ ∀ i, (j.base, i) ∈ s.orderQ → Has s' j.base i)) : XI c s' := by
  refine XI_of_XC h (XC_frame h.toXC f ?_) t fun j hj hm =>
    (mJ j hj hm).imp (fun ⟨j', hj', _, hm'⟩ => ⟨j', hj', hm'⟩) And.left
  rintro b i hi ⟨j, hj, rfl, hm⟩
  exact (mJ j hj hm).imp (fun ⟨j', hj', hb', hm'⟩ => ⟨j', hj', hb', hm'⟩) (fun hh => hh.2 i hi)

theorem XI_frame' {c : Cfg} {s s' : State} (h : XI c s) (f : Fx s s') (t : TkF s s')
    (m : JM s s') : XI c s' :=
  XI_frame h f t (fun j hj hm => Or.inl ⟨j, m j hj, rfl, hm⟩)

theorem XI_congr {c : Cfg} {s s' : State} (h : XI c s)
    (e1 : s'.orderQ = s.orderQ := by rfl) (e2 : s'.reordQ = s.reordQ := by rfl)
    (e3 : s'.gnext = s.gnext := by rfl) (e4 : s'.pdone = s.pdone := by rfl)
    (e5 : s'.emitQ = s.emitQ := by rfl) (e6 : s'.busy = s.busy := by rfl)
    (e7 : s'.retrQ = s.retrQ := by rfl) (e8 : s'.orphans = s.orphans := by rfl)
    (e9 : s'.ptok = s.ptok := by rfl) (e10 : s'.pphase = s.pphase := by rfl) : XI c s' := by
  refine XI_frame' h (Fx_same ?_ e1 e2 e3 e4 (fun _ hu => e8 ▸ hu) (fun _ ht => e9 ▸ ht))
    (tkF_same e9 e10) (JM_of_eq e6 e7)
  intro e he; simpa [EIn, e5, e6] using he

theorem Fx_detach (s : State) (k : Option Nat) : Fx s (detach s k) := by
  rw [detach_eq]; exact Fx_same (fun _ h => h)

theorem Fx_advance (c : Cfg) (s : State) (p : Nat) : Fx s (advance c s p) :=
  Fx_same (fun _ h => h)

theorem Fx_leave (s : State) {ph : Phase} (hn : ∀ e, ph ≠ Phase.retr2 e ∧ ph ≠ Phase.emit e)
    (k : Option Nat) : Fx s (detach { s with busy := s.busy.erase ph } k) :=
  (Fx_same (s := s) (s' := { s with busy := s.busy.erase ph })
    (fun _ he => EIn_erase hn he)).trans (Fx_detach _ _)

theorem Fx_leave_parser (s : State) (k : Option Nat) :
    Fx s (detach { s with pphase := none } k) :=
  (Fx_same (s := s) (s' := { s with pphase := none }) (fun _ he => he)).trans (Fx_detach _ k)

theorem XC_leave_parser {c : Cfg} {s : State} (k : Option Nat) (h : XC c s) :
    XC c (detach { s with pphase := none } k) :=
  XC_frame h (Fx_leave_parser s k) (fun _ _ _ hm => Or.inl (JM.mc (fun _ hj => JM_detach _ k _ hj) hm))

theorem Fx_scanNew (c : Cfg) (s : State) (x : Nat) :
    Fx s (scanNew c s x) ∧ JM s (scanNew c s x) :=
  scanNew_ind (P := fun t => Fx s t ∧ JM s t) c s x ⟨Fx_same (fun _ h => h), fun _ h => h⟩
    (fun _ _ => ⟨Fx_same (fun _ h => h), fun _ h => h.imp (List.mem_cons_of_mem _) id⟩)

theorem Fx_scanRequeue (c : Cfg) (s : State) (x hi : Nat) :
    Fx s (scanRequeue c s x hi) ∧ JM s (scanRequeue c s x hi) := by
  rw [scanRequeue_eq]
  exact ⟨Fx_same (fun _ h => h), fun _ h => h⟩

theorem Fx_retrMove (c : Cfg) (s : State) (j : Job) (n : Nat) : Fx s (retrMove c s j n) :=
  retrMove_ind (P := Fx s) c s j n (Fx.refl s) (Fx_same (fun _ h => h))

/-- the orphan a finished speculative retrieve leaves has its emit job, at index 0 -/
theorem Fx_retrDone (c : Cfg) (s : State) (j : Job) (n : Nat) : Fx s (retrDone c s j n) := by
  cases hm : j.master with
  | true =>
    rw [retrDone_master c s n hm]
    exact Fx_same (fun _ he => EIn_cons _ he) (e9 := fun _ _ => rfl)
  | false =>
    obtain ⟨f, hub, hc⟩ := Job.master_eq_false.1 hm
    rw [retrDone_spec c s n hub hc]
    refine ⟨rfl, rfl, rfl, rfl, fun _ he => EIn_cons _ he, ?_, fun _ h => h⟩
    intro _ u hu
    rcases List.mem_cons.1 hu with rfl | hu
    · exact Or.inr (Or.inr ⟨doneEJob c j, Or.inr (Or.inl List.mem_cons_self), rfl, Nat.le_refl _⟩)
    · exact Or.inl hu

/-- `do_emit` of `e` produces `onew = (e.base, e.idx)` and, unless that was the last buffer, the emit
    job for `e.idx + 1` (in `q`): a `Has` fact survives unless it asks for a buffer BEHIND the last -/
theorem Has_emitEnd {s : State} {e : EJob} {onew : OB} {q : List EJob} {b m : Nat}
    (o1 : onew.base = e.base) (o2 : onew.idx = e.idx) (e5 : ∀ e0 ∈ s.emitQ, e0 ∈ q)
    (hN : 1 < e.left → ∃ e', e' ∈ q ∧ e'.base = e.base ∧ e'.idx = e.idx + 1) (w : Nat)
    (h : Has s b m) (hfin : e.base = b → e.idx < m → 1 < e.left) :
    Has { s with busy := s.busy.erase (.emit e), wu := w, emitQ := q,
                 reordQ := onew :: s.reordQ } b m := by
  rcases h with ⟨o, ho, h1, h2⟩ | ⟨e0, he, h1, h2⟩
  · exact Or.inl ⟨o, List.mem_cons_of_mem _ ho, h1, h2⟩
  · by_cases hee : e0 = e
    · subst hee
      by_cases hm : m = e0.idx
      · exact Or.inl ⟨onew, List.mem_cons_self, o1.trans h1, by omega⟩
      · obtain ⟨e', he', q1, q2⟩ := hN (hfin h1 (by omega))
        exact Or.inr ⟨e', Or.inl he', q1.trans h1, by omega⟩
    · exact Or.inr ⟨e0, EIn_emitEnd e5 he hee, h1, h2⟩

theorem fin_entry {c : Cfg} {e : EJob} (hej : ejOK c e) {i : Nat}
    (hei : i < nbufs c e.base) (hlt : e.idx < i) :
    1 < e.left := by
  have := hej.inside hei
  omega

theorem XC_emitEnd_core {c : Cfg} {s : State} {e : EJob} {onew : OB} {q : List EJob} (h : XC c s)
    (hej : ejOK c e) (hobs : ∀ o ∈ s.reordQ, obOK c o)
    (o1 : onew.base = e.base) (o2 : onew.idx = e.idx) (e5 : ∀ e0 ∈ s.emitQ, e0 ∈ q)
    (hN : 1 < e.left → ∃ e', e' ∈ q ∧ e'.base = e.base ∧ e'.idx = e.idx + 1)
    (hL : onew.st = .more → 1 < e.left) (w : Nat) :
    XC c { s with busy := s.busy.erase (.emit e), wu := w, emitQ := q,
                  reordQ := onew :: s.reordQ } := by
  obtain ⟨⟨a1, a2, a6, b1, b2, b3, b4⟩, x1⟩ := h
  -- a `more` buffer of `reord_q` is an old one, or `onew`, whose successor `q` has
  have more : ∀ o ∈ onew :: s.reordQ, o.st = .more → (o ∈ s.reordQ → Has s o.base (o.idx + 1)) →
      Has { s with busy := s.busy.erase (.emit e), wu := w, emitQ := q,
                   reordQ := onew :: s.reordQ } o.base (o.idx + 1) := by
    intro o ho hst hold
    rcases List.mem_cons.1 ho with rfl | ho
    · obtain ⟨e', h1, h2, h3⟩ := hN (hL hst)
      exact Or.inr ⟨e', Or.inl h1, h2.trans o1.symm, by omega⟩
    · -- the successor of a `more` buffer lies inside its block
      exact Has_emitEnd o1 o2 e5 hN w (hold ho)
        (fun hb hlt => fin_entry hej (hb ▸ (hobs o ho).succ_inside hst) hlt)
  refine ⟨⟨?_, ?_, ?_, b1, b2, b3, b4⟩, ?_⟩
  · exact fun o ho hst i hi hle => more o ho hst (fun ho => a1 o ho hst i hi hle)
  · exact fun hd o ho hst hg => more o ho hst (fun ho => a2 hd o ho hst hg)
  · intro hd u hu hq hg
    exact Has_emitEnd o1 o2 e5 hN w (a6 hd u hu hq hg) (fun _ hlt => absurd hlt (Nat.not_lt_zero _))
  · intro b i hi
    rcases x1 b i hi with ⟨j0, hj0, hb, hmc⟩ | hc
    · exact Or.inl ⟨j0, JIn_erase (fun _ _ hh => Phase.noConfusion hh) hj0, hb, hmc⟩
    · refine Or.inr (Has_emitEnd o1 o2 e5 hN w hc ?_)
      intro hb hlt
      have hei := b3 b i hi
      rw [← hb] at hei
      exact fin_entry hej hei hlt

/-- `do_reorder` takes `ob` out of `reord_q` and turns `order_q` into `q'`:
    fine as long as `ob` is not the next buffer of anything -/
theorem XC_reorder_core {c : Cfg} {s : State} {ob : OB} {q' : List (Nat × Nat)} (h : XC c s)
    (Q1 : ∀ b i, (b, i) ∈ q' → ∃ i0, i0 ≤ i ∧ (b, i0) ∈ s.orderQ)
    (Q2 : ∀ b i, (b, i) ∈ q' → McJob s b ∨ Has s b i)
    (N1 : ∀ b i, (b, i) ∈ q' → ob.base = b → ob.idx < i)
    (N2 : s.pdone = false → ob.base ≤ s.gnext)
    (hsrt : q'.Pairwise (fun x y => x.1 < y.1))
    (hei : ∀ b i, (b, i) ∈ q' → i < nbufs c b)
    (wr : List (Nat × Nat)) (os oq : Nat) (t : Bool) :
    XC c { s with reordQ := s.reordQ.erase ob, orderQ := q', written := wr, outSlots := os,
                  outq := oq, taint := t } := by
  have has : ∀ {b m}, Has s b m → (ob.base = b → ob.idx ≠ m) →
      Has { s with reordQ := s.reordQ.erase ob, orderQ := q', written := wr, outSlots := os,
                   outq := oq, taint := t } b m := by
    rintro b m (⟨o, ho, h1, h2⟩ | he) hn
    · refine Or.inl ⟨o, mem_erase_ne ho ?_, h1, h2⟩
      rintro rfl
      exact hn h1 h2
    · exact Or.inr he
  obtain ⟨⟨a1, a2, a6, _, b2, _, b4⟩, _⟩ := h
  refine ⟨⟨?_, ?_, ?_, hsrt, ?_, hei, b4⟩, ?_⟩
  · intro o ho hst i hi hle
    obtain ⟨i0, hi0, hm0⟩ := Q1 _ _ hi
    refine has (a1 o (List.mem_of_mem_erase ho) hst i0 hm0 (by omega)) ?_
    intro hb; have := N1 _ _ hi hb; omega
  · intro hd o ho hst (hg : s.gnext < o.base)
    refine has (a2 hd o (List.mem_of_mem_erase ho) hst hg) ?_
    intro hb; have := N2 hd; omega
  · intro hd u hu hq (hg : s.gnext < u.base)
    refine has (a6 hd u hu hq hg) ?_
    intro hb; have := N2 hd; omega
  · intro b i hi
    obtain ⟨i0, _, hm0⟩ := Q1 _ _ hi
    exact b2 b i0 hm0
  · intro b i hi
    rcases Q2 b i hi with hm | hc
    · exact Or.inl hm
    · refine Or.inr (has hc ?_)
      intro hb; have := N1 b i hi hb; omega

/-- a bogus buffer is behind everything `order_q` still waits for -/
theorem XC_reorderBogus {c : Cfg} {s : State} {ob : OB} (h : XC c s)
    (hsel : selectTask c s = some "reorder")
    (hmin : minKey? (s.reordQ.map OB.key) = some ob.key)
    (hb : dReorderBogus (view c s) = true) :
    XC c { s with reordQ := s.reordQ.erase ob, outSlots := s.outSlots + 1 } := by
  rcases bogus_facts hsel hmin hb with ⟨hq, hpd⟩ | ⟨x, r, hq, hlt⟩
  · have hno : ∀ {P : Nat → Nat → Prop} b i, (b, i) ∈ s.orderQ → P b i := by
      intro P b i hi; rw [hq] at hi; cases hi
    refine XC_reorder_core (ob := ob) (q' := s.orderQ) h hno hno hno ?_ h.x0.srt h.x0.ei
      s.written _ s.outq s.taint
    intro hd; rw [hpd] at hd; cases hd
  · have hleast : ∀ b i, (b, i) ∈ s.orderQ → (b, i) = x ∨ x.1 < b := by
      intro b i hi
      have hp := h.x0.srt
      rw [hq] at hi hp
      rcases List.mem_cons.1 hi with hi | hi
      · exact Or.inl hi
      · exact Or.inr ((List.pairwise_cons.1 hp).1 _ hi)
    have hxg : x.1 ≤ s.gnext := h.x0.og x.1 x.2 (by rw [hq]; exact List.mem_cons_self)
    refine XC_reorder_core (ob := ob) (q' := s.orderQ) h ?_ h.x1 ?_ ?_ h.x0.srt h.x0.ei
      s.written _ s.outq s.taint
    · intro b i hi; exact ⟨i, Nat.le_refl _, hi⟩
    · intro b i hi hb'
      rcases hleast b i hi with he | hl
      · subst he
        simp only at hlt; omega
      · omega
    · intro _; omega

/-- the buffer `order_q` waits for is written: the entry moves on to the next
    index (`q' = (ob.base, ob.idx + 1) :: r`) or goes (`q' = r`) -/
theorem XC_reorderHead {c : Cfg} {s : State} {ob : OB} {r q' : List (Nat × Nat)} (h : XC c s)
    (hord : s.orderQ = (ob.base, ob.idx) :: r)
    (hq : q' = r ∨ (q' = (ob.base, ob.idx + 1) :: r ∧ Has s ob.base (ob.idx + 1) ∧
      ob.idx + 1 < nbufs c ob.base))
    (wr : List (Nat × Nat)) (os oq : Nat) (t : Bool) :
    XC c { s with reordQ := s.reordQ.erase ob, orderQ := q', written := wr, outSlots := os,
                  outq := oq, taint := t } := by
  have hpc := List.pairwise_cons.1 (hord ▸ h.x0.srt)
  have hhead : (ob.base, ob.idx) ∈ s.orderQ := by rw [hord]; exact List.mem_cons_self
  have hrsub : ∀ x ∈ r, x ∈ s.orderQ := by
    intro x hx; rw [hord]; exact List.mem_cons_of_mem _ hx
  have hN2 : s.pdone = false → ob.base ≤ s.gnext := fun _ => h.x0.og _ _ hhead
  -- what `XC_reorder_core` asks of the entries of `q'`, for those in `r`
  have R1 : ∀ b i, (b, i) ∈ r → ∃ i0, i0 ≤ i ∧ (b, i0) ∈ s.orderQ :=
    fun b i hi => ⟨i, Nat.le_refl _, hrsub _ hi⟩
  have R2 : ∀ b i, (b, i) ∈ r → McJob s b ∨ Has s b i := fun b i hi => h.x1 b i (hrsub _ hi)
  have R3 : ∀ b i, (b, i) ∈ r → ob.base = b → ob.idx < i := by
    intro b i hi hb0
    have := hpc.1 _ hi
    simp only at this; omega
  have R4 : ∀ b i, (b, i) ∈ r → i < nbufs c b :=
    fun b i hi => h.x0.ei b i (hrsub _ hi)
  have cons : ∀ {P : Nat → Nat → Prop}, P ob.base (ob.idx + 1) → (∀ b i, (b, i) ∈ r → P b i) →
      ∀ b i, (b, i) ∈ (ob.base, ob.idx + 1) :: r → P b i := by
    intro P h0 hr b i hi
    rcases List.mem_cons.1 hi with hi | hi
    · cases hi; exact h0
    · exact hr b i hi
  rcases hq with rfl | ⟨rfl, hnext, hin⟩
  · exact XC_reorder_core (ob := ob) h R1 R2 R3 hN2 hpc.2 R4 wr os oq t
  · exact XC_reorder_core (ob := ob) h (cons ⟨ob.idx, Nat.le_succ _, hhead⟩ R1)
      (cons (Or.inr hnext) R2) (cons (fun _ => Nat.lt_succ_self _) R3) hN2
      (List.pairwise_cons.2 hpc) (cons hin R4) wr os oq t

theorem XI_retrExit {c : Cfg} {s : State} {j j' : Job} {k : Option Nat} (h : XI c s)
    (hnm : ∀ j0, JIn s j0 → Job.mc j0 = true → j0 ≠ j) :
    XI c (retrExit (detach { s with busy := s.busy.erase (.retr j k) } k) j') := by
  refine XI_frame h ((Fx_leave s (Phase.retr_not_ej j k) k).trans (Fx_same (fun _ he => he)))
    ((tkF_leave s _ k).trans tkF_same) ?_
  intro j0 hj0 hmc
  rcases JIn_erase_retr (j := j) (k := k) hj0 with rfl | hin
  · exact absurd rfl (hnm _ hj0 hmc)
  · exact Or.inl ⟨j0, JM_detach _ k _ hin, rfl, hmc⟩

/-- `s'`: what follows the master's `retrMove` (back into `retr_q`, dropped as overtaken, or handed
    to `decode()`); it keeps the other jobs and accounts for `j` itself -/
theorem XI_retrMoved {c : Cfg} {s s' : State} {j : Job} {k : Option Nat} (n : Nat) (h : XI c s)
    (hS : SI c s) (hmem : Phase.retr j k ∈ s.busy) (hred : j.redundant = false)
    (f : Fx (retrMove c (detach { s with busy := s.busy.erase (.retr j k) } k) j n) s')
    (t : TkF (retrMove c (detach { s with busy := s.busy.erase (.retr j k) } k) j n) s')
    (m : JM (retrMove c (detach { s with busy := s.busy.erase (.retr j k) } k) j n) s')
    (hj : Job.mc j = true → (∃ j', JIn s' j' ∧ j'.base = j.base ∧ Job.mc j' = true) ∨
      (s'.ptok = true ∧ ∀ i, (j.base, i) ∈ s.orderQ → Has s' j.base i)) :
    XI c s' := by
  refine XI_frame h (((Fx_leave s (Phase.retr_not_ej j k) k).trans (Fx_retrMove c _ j n)).trans f)
    (((tkF_leave s _ k).trans (tkF_retrMove c _ j n)).trans t) ?_
  intro j0 hj0 hmc
  rcases JIn_erase_retr (j := j) (k := k) hj0 with rfl | hin
  · exact hj hmc
  · exact Or.inl ⟨j0, m _ (JIn_retrMove n hred (RPre.leave hS hmem).m1 (JM_detach _ k _ hin) hmc),
      rfl, hmc⟩

/-- the state between `push(order_q)` and the take-over / creation of the
    master job: every OLD entry has its next buffer (in `reord_q` or still to be
    emitted), and a complete entry of unord_q at exactly `b` has its emit job
    at index 0 -/
structure PMX (c : Cfg) (s3 : State) (b : Nat) : Prop where
  h0 : X0 c s3
  has : ∀ b' i', (b', i') ∈ s3.orderQ → (b', i') = (b, 0) ∨ Has s3 b' i'
  orb : ∀ u ∈ s3.orphans, u.f.inq = true → u.base = b → Has s3 b 0

theorem PMX_parsePush {c : Cfg} {s1 : State} {b : Nat} (h : XC c s1) (hP : PPre c s1)
    (hu : pres c s1.gnext = .hdr b) : PMX c (parsePush c s1 b) b := by
  have hb := pres_hdr hu
  have he := rres_ge c b
  have hpd : s1.pdone = false := hP.pd
  have has1 : ∀ {b' m}, Has s1 b' m → Has (parsePush c s1 b) b' m :=
    fun hc => Has_flag (fun x => decide (x < b)) hc
  have hold : ∀ {u}, u ∈ (parsePush c s1 b).orphans → u.f.inq = true → u ∈ s1.orphans :=
    fun hu' hq => (mem_popOrphans_np (p := fun x => decide (x < b)) (os := s1.orphans) hu' hq).1
  have hg : (parsePush c s1 b).gnext = (rres c b).e := rfl
  obtain ⟨⟨a1, a2, a6, b1, b2, b3, _⟩, x1⟩ := h
  refine ⟨⟨?_, ?_, ?_, ?_, ?_, ?_, ?_⟩, ?_, ?_⟩
  · intro o ho hst i hi hle
    rcases mem_parsePush_orderQ.1 hi with hi | hi
    · exact has1 (a1 o ho hst i hi hle)
    · exact has1 (a2 hpd o ho hst (by omega))
  · intro _ o ho hst hg'
    rw [hg] at hg'
    exact has1 (a2 hpd o ho hst (by omega))
  · intro _ u hu' hq' hg'
    rw [hg] at hg'
    exact has1 (a6 hpd u (hold hu' hq') hq' (by omega))
  · show (s1.orderQ ++ [(b, 0)]).Pairwise _
    refine List.pairwise_append.2 ⟨b1, List.pairwise_singleton _ _, ?_⟩
    intro x hx y hy
    simp only [List.mem_singleton] at hy; subst hy
    have := b2 x.1 x.2 hx
    show x.1 < b
    omega
  · intro b' i' hi
    rw [hg]
    rcases mem_parsePush_orderQ.1 hi with hi | hi
    · have := b2 b' i' hi; omega
    · omega
  · intro b' i' hi
    rcases mem_parsePush_orderQ.1 hi with hi | ⟨rfl, rfl⟩
    · exact b3 b' i' hi
    · exact nbufs_pos c b'
  · intro hd
    exact absurd (hpd.symm.trans hd) Bool.false_ne_true
  · intro b' i' hi
    rcases mem_parsePush_orderQ.1 hi with hi | ⟨rfl, rfl⟩
    · rcases x1 b' i' hi with ⟨j0, hj0, _, hmc⟩ | hc
      · exact (no_mc_JIn hP.m0 hj0 hmc).elim
      · exact Or.inr (has1 hc)
    · exact Or.inl rfl
  · intro u hu' hq' hub
    have := a6 hpd u (hold hu' hq') hq' (by omega)
    rw [hub] at this
    exact has1 this

/-- the producer of block `b` also has the parse token (or the token is free again) -/
theorem XI_of_PMX {c : Cfg} {s3 s' : State} {b : Nat} (hm : PMX c s3 b)
    (f : Fx s3 s') (hb : McJob s' b ∨ (Has s' b 0 ∧ s'.ptok = true)) : XI c s' := by
  refine ⟨⟨X0_frame hm.h0 f, ?_⟩, fun ht => ?_⟩
  · intro b' i' hi
    rw [f.eO] at hi
    rcases hm.has b' i' hi with he | hc
    · cases he; exact hb.imp id And.left
    · exact Or.inr (f.has hc)
  · rcases hb with ⟨j, hj, _, hmc⟩ | ⟨_, h3⟩
    · exact Or.inr ⟨j, hj, hmc⟩
    · exact Bool.noConfusion (h3.symm.trans ht)

theorem XI_parseMatch {c : Cfg} {s3 : State} {b : Nat} (hm : PMX c s3 b) (hP : PPre c s3)
    (hL : Lo c s3) (hhb : headOffs c s3 ≤ b) : XI c (parseMatch c s3 b) := by
  rcases parseMatch_cases c s3 b with ⟨j, a, hfind, hmem, hinq, rfl, e⟩ |
    ⟨j, k, a, -, hfind, -, hinq, rfl, e⟩ | ⟨u, a, -, -, hmem, hinq, hbase, -, rfl, e⟩ |
    ⟨u, a, -, -, hfind, -, -, hinc, -, -⟩ | ⟨-, -, -, e⟩
  · -- the scanner-found block's job is waiting in retr_q
    rw [e]
    have hend := inqAt_endp hinq (hL.jq j hmem).ec
    obtain ⟨g1, g2, g3⟩ := good_of_inqAt hinq
    have hle := headOffs_advance_le c
      { s3 with retrQ := replaceFirst (Job.inqAt b) Job.good s3.retrQ } j.endp
    refine XI_of_PMX hm ((Fx_same (s := s3) (s' := { s3 with retrQ := _ })
      (fun _ he => he)).trans ((Fx_advance c _ j.endp).trans
        (Fx_same (fun _ he => he))))
      (Or.inl ⟨j.good, Or.inl (mem_advance_retrQ.2 ⟨replaceFirst_mem_find _ _ hfind, ?_⟩), g2, g1⟩)
    have hho : headOffs c { s3 with retrQ := replaceFirst (Job.inqAt b) Job.good s3.retrQ }
        = headOffs c s3 := rfl
    omega
  · -- … is running
    rw [e]
    obtain ⟨g1, g2, _⟩ := good_of_inqAt hinq
    refine XI_of_PMX hm ((Fx_same (s := s3)
      (s' := { s3 with busy := replaceFirst (Phase.inqAt b) Phase.good s3.busy })
      (fun _ he => he.imp id (Or.imp (fun h => replaceFirst_mem_keep _ _ h rfl)
        (fun h => replaceFirst_mem_keep _ _ h rfl)))).trans ((Fx_advance c _ j.endp).trans
        (Fx_same (fun _ he => he))))
      (Or.inl ⟨j.good, Or.inr ⟨k, ?_⟩, g2, g1⟩)
    exact replaceFirst_mem_find (Phase.inqAt b) Phase.good hfind
  · -- … has finished: the entry is a complete orphan, its emit job exists
    rw [e]
    have f : Fx s3 { advance c s3 u.f.endp with
        orphans := s3.orphans.erase u, ptok := true, porig := u.f.endp,
        wu := (advance c s3 u.f.endp).wu + 1, taint := s3.taint || u.corrupt } :=
      (Fx_advance c s3 u.f.endp).trans (Fx_same (fun _ he => he)
        (e8 := fun _ hu => List.mem_of_mem_erase hu) (e9 := fun _ _ => rfl))
    exact XI_of_PMX hm f (Or.inr ⟨f.has (hm.orb u hmem hinq hbase), rfl⟩)
  · have := (hP.si.orph hP.pd u hfind).1
    rw [hinc] at this; cases this
  · -- nobody found it: the parser creates the master job
    rw [e]
    exact XI_of_PMX hm (Fx_same (fun _ he => he))
      (Or.inl ⟨masterJob b, Or.inl List.mem_cons_self, rfl, rfl⟩)

theorem XI_parseFinish {c : Cfg} {s1 : State} (u : Nat) (h : XC c s1) (hm0 : mcount s1 = 0) :
    XI c (parseFinish s1 u) := by
  have has : ∀ {b m}, Has s1 b m → Has (parseFinish s1 u) b m :=
    fun hc => Has_flag (fun _ => true) hc
  obtain ⟨⟨a1, _, _, b1, b2, b3, _⟩, x1⟩ := h
  refine ⟨⟨⟨?_, ?_, ?_, b1, b2, b3, fun _ => rfl⟩, ?_⟩, fun ht => Bool.noConfusion ht⟩
  · intro o ho hst i hi hle; exact has (a1 o ho hst i hi hle)
  · intro hd; cases hd
  · intro hd; cases hd
  · intro b i hi
    rcases x1 b i hi with ⟨j0, hj0, _, hmc⟩ | hc
    · exact (no_mc_JIn hm0 hj0 hmc).elim
    · exact Or.inr (has hc)

theorem xi_step {c : Cfg} {s s' : State} {l : Label} (h : XI c s) (hS : SI c s)
    (hL : Lo c s) (hs : step c s l = some s') (hf' : s'.failed = false) : XI c s' := by
  obtain ⟨hf, st⟩ := step_inv hs
  -- `do_reorder`, `do_emit`: the retrieve jobs and the token are not touched
  have keep : ∀ {t : State}, XC c t → t.ptok = s.ptok → t.pphase = s.pphase → JM s t → XI c t :=
    fun x e1 e2 m => XI_of_XC h x (tkF_same e1 e2) (fun j hj hm => Or.inl ⟨j, m j hj, hm⟩)
  cases st with
  | rTake | rQuit | rBlockDrop | rBlock | rEmpty | rEof | wDone =>
    exact XI_congr h
  | reorderBogus ob hsel _ hmin hbog =>
    exact keep (XC_reorderBogus h.toXC hsel hmin hbog) rfl rfl (fun _ hj => hj)
  | reorderErr => exact Bool.noConfusion hf'
  | reorderMore ob r _ hmem _ hord hst =>
    refine keep (XC_reorderHead h.toXC hord (Or.inr ⟨rfl, ?_, (hS.obs ob hmem).succ_inside hst⟩)
      _ _ _ _) rfl rfl (fun _ hj => hj)
    exact h.x0.xch ob hmem hst ob.idx (by rw [hord]; exact List.mem_cons_self) (Nat.le_refl _)
  | reorderOk ob r _ _ _ hord =>
    exact keep (XC_reorderHead h.toXC hord (Or.inl rfl) _ _ _ _) rfl rfl (fun _ hj => hj)
  | parseStart hsel =>
    -- `do_parse` takes the token
    have hpd := (selectTask_parse hsel).1
    exact XI_frame' h (Fx_same (fun _ he => he)
      (e9 := fun hd _ => absurd (hpd.symm.trans hd) Bool.false_ne_true))
      ⟨fun _ => Or.inr rfl, fun _ => Or.inl rfl⟩ (fun _ hj => hj)
  | parseMore k hpp _ =>
    -- the parser held the token: there is no master-capable job; it hands the token back
    have hm0 : mcount s = 0 := hS.mc0 (Or.inr (by rw [hpp]; rfl))
    rw [parseMore_eq]
    exact XI_frame h ((Fx_leave_parser s k).trans ((Fx_advance c _ (offs c (k.getD 0 + 1))).trans
      (Fx_same (fun _ he => he) (e9 := fun _ _ => rfl)))) (tkF_tok rfl)
      (fun j hj hm => (no_mc_JIn hm0 hj hm).elim)
  | parseErr | parseEof => exact Bool.noConfusion hf'
  | parseFinish k u hpp =>
    have hm0 : mcount s = 0 := hS.mc0 (Or.inr (by rw [hpp]; rfl))
    exact XI_parseFinish u (XC_leave_parser k h.toXC) (by rw [mcount_detach]; exact hm0)
  | parseOk k b hpp _ hres =>
    obtain ⟨hP, -, hg⟩ := PPre_parsing hS hf hpp
    have hu : pres c (detach { s with pphase := none } k).gnext = .hdr b := by
      rw [hg]; exact hres
    obtain ⟨p1, p2⟩ := Lo_parsePush (Lo_leave_parser k hL) hP hu
    exact XI_parseMatch (PMX_parsePush (XC_leave_parser k h.toXC) hP hu) (PPre_push hP hu) p1 p2
  | retrStart j _ hmem =>
    -- the running job differs from the queued one in its `corrupt` flag only
    refine XI_frame h (Fx_same (fun _ he => EIn_cons _ he)) tkF_same ?_
    rintro j0 (hq | ⟨k0, hk0⟩) hmc
    · by_cases hjj : j0 = j
      · subst hjj; exact Or.inl ⟨_, Or.inr ⟨_, List.mem_cons_self⟩, rfl, hmc⟩
      · exact Or.inl ⟨j0, Or.inl (mem_erase_ne hq hjj), rfl, hmc⟩
    · exact Or.inl ⟨j0, Or.inr ⟨k0, List.mem_cons_of_mem _ hk0⟩, rfl, hmc⟩
  | retrQuit j k hmem hx =>
    refine XI_retrExit h (fun j0 hj0 hmc he => ?_)
    rcases hx with hpd | hred
    · exact no_mc_JIn (hS.mc0 (Or.inl (h.x0.pt hpd))) hj0 hmc
    · rw [he, redundant_not_mc hred] at hmc; cases hmc
  | retrOvertaken j k hmem hpd hred hov =>
    -- overtaken: the job cannot be master-capable
    refine XI_retrMoved _ h hS hmem hred (Fx_same (fun _ he => he)) tkF_same
      (fun _ hj => hj) (fun hmc => ?_)
    have h1 := hL.mh hpd hmem hmc
    have h2 := newc_ge c j k
    have h3 := headOffs_retrMove_le c (detach { s with busy := s.busy.erase (.retr j k) } k) j
      (retrNewc c j k)
    have h4 : headOffs c (detach { s with busy := s.busy.erase (.retr j k) } k) = headOffs c s := by
      rw [detach_eq]; rfl
    omega
  | retrMore j k hmem _ hred _ _ =>
    exact XI_retrMoved _ h hS hmem hred (Fx_same (fun _ he => he)) tkF_same
      (fun _ hj => hj.imp (List.mem_cons_of_mem _) id)
      (fun hmc => Or.inl ⟨retrMoreJob j (retrNewc c j k), Or.inl List.mem_cons_self, rfl,
        by rw [mc_retrMoreJob]; exact hmc⟩)
  | retrDone j k hmem _ hred _ =>
    -- the master hands the token back; its emit job starts at index 0: it has every buffer
    refine XI_retrMoved _ h hS hmem hred (Fx_retrDone c _ j _) (tkF_retrDone c _ j _)
      (retrDone_facts c _ j _).1 (fun hmc => Or.inr ⟨?_, fun _ _ =>
        Or.inr ⟨_, (retrDone_facts c _ j _).2, rfl, Nat.zero_le _⟩⟩)
    rw [retrDone_master c _ _ (mc_master hmc)]
  | retrPost e hmem =>
    exact XI_frame' h (Fx_same (fun _ he => EIn_of_perm (emitJobs_perm_erase hmem rfl) he))
      tkF_same (fun _ hj => JIn_erase (fun _ _ hh => Phase.noConfusion hh) hj)
  | emitStart e _ hmem =>
    exact XI_frame' h (Fx_same (fun _ he => EIn_of_perm (emitJobs_perm_start hmem).symm he))
      tkF_same (fun _ hj => JIn_cons _ hj)
  | emitMore e hmem hleft =>
    exact keep (XC_emitEnd_core (e := e) h.toXC (hS.busy _ hmem) hS.obs rfl rfl
      (fun _ he => List.mem_cons_of_mem _ he)
      (fun _ => ⟨{ e with idx := e.idx + 1, left := e.left - 1 }, List.mem_cons_self, rfl, rfl⟩)
      (fun _ => hleft) _) rfl rfl (fun _ hj => JIn_erase (fun _ _ hh => Phase.noConfusion hh) hj)
  | emitLast e hmem hleft =>
    refine keep (XC_emitEnd_core (e := e) h.toXC (hS.busy _ hmem) hS.obs rfl rfl
      (fun _ he => he) (fun hl => absurd hl hleft) (fun hst => ?_) _) rfl rfl
      (fun _ hj => JIn_erase (fun _ _ hh => Phase.noConfusion hh) hj)
    have hst' : (if e.ok = true then OSt.ok else OSt.err) = OSt.more := hst
    split at hst' <;> cases hst'
  | scanStart sp =>
    exact XI_frame' h (Fx_same (fun _ he => EIn_cons _ he)) tkF_same
      (fun _ hj => JIn_cons _ hj)
  | scanNone st k hmem =>
    exact XI_frame' h ((Fx_leave s (Phase.scan_not_ej st k) (some k)).trans (Fx_same (fun _ he => he)))
      ((tkF_leave s _ (some k)).trans tkF_same)
      (fun _ hj => JM_detach _ _ _ (JIn_erase (fun _ _ hh => Phase.noConfusion hh) hj))
  | scanFound st k x hmem _ _ =>
    exact XI_frame' h (((Fx_leave s (Phase.scan_not_ej st k) (some k)).trans (Fx_scanNew c _ x).1).trans
        (Fx_scanRequeue c _ x _).1)
      (((tkF_leave s _ (some k)).trans (tkF_scanNew c _ x)).trans (tkF_scanRequeue c _ x _))
      (fun _ hj => (Fx_scanRequeue c _ x _).2 _ ((Fx_scanNew c _ x).2 _
        (JM_detach _ _ _ (JIn_erase (fun _ _ hh => Phase.noConfusion hh) hj))))

theorem SI.ejOK_of_EIn {c : Cfg} {s : State} (hS : SI c s) {e : EJob} (he : EIn s e) :
    ejOK c e := by
  rcases he with he | he | he
  · exact hS.emits e he
  · exact hS.busy _ he
  · exact hS.busy _ he

theorem Cov_of_Has {c : Cfg} {s : State} {b m : Nat} (hS : SI c s) (h : Has s b m)
    (hm : m < nbufs c b) : Cov s b m := by
  rcases h with ⟨o, ho, h1, h2⟩ | ⟨e, he, rfl, h2⟩
  · exact Or.inr ⟨o, ho, h1, by omega⟩
  · exact Or.inl ⟨e, he, rfl, (hS.ejOK_of_EIn he).inside hm⟩

theorem HI_of_XI {c : Cfg} {s : State} (h : XI c s) (hS : SI c s) : HI c s := by
  have hmore : ∀ o ∈ s.reordQ, o.st = .more →
      o.idx + 1 < nbufs c o.base :=
    fun o ho hst => (hS.obs o ho).succ_inside hst
  obtain ⟨⟨⟨a1, a2, a3, b1, b2, b3, b4⟩, x1⟩, -⟩ := h
  refine ⟨⟨?_, ?_, b1, b2, b3, ?_, b4⟩, ?_⟩
  · intro o ho hst i hi hle
    exact Cov_of_Has hS (a1 o ho hst i hi hle) (hmore o ho hst)
  · intro hd o ho hst hg
    exact Cov_of_Has hS (a2 hd o ho hst hg) (hmore o ho hst)
  · intro hd u hu hq hg
    exact Cov_of_Has hS (a3 hd u hu hq hg) (nbufs_pos c u.base)
  · intro b i hi
    exact (x1 b i hi).imp id (fun hh => Cov_of_Has hS hh (b3 b i hi))

end LbzVerif.Lemmas.SchedD
