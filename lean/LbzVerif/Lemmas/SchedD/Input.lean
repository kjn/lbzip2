/-
  The reader thread: `RI` ties `eof`, `request_close`, the blocks read (`nread`) and the blocks
  pushed to `input_q` (`rd`) together.  A scheduler-side transition leaves these fields alone,
  except that the parser may end parsing and set `request_close` with it (`RF`).
-/
import LbzVerif.Lemmas.SchedD.Step

namespace LbzVerif.Lemmas.SchedD
open LbzVerif.Model.SchedD LbzVerif.Gen

structure RI (c : Cfg) (s : State) : Prop where
  dn : s.rph = .done ↔ s.eof = true
  pc : s.pdone = true ↔ s.rclose = true
  /-- until parsing is done every block read is pushed to `input_q` -/
  rn : s.pdone = false → s.rd = s.nread
  /-- the source thread leaves its loop on `request_close` or when `xread` hits the end of the file -/
  ae : s.rph = .ateof → s.pdone = true ∨ c.T ≤ s.nread * c.W
  /-- … and only then sets `eof` -/
  ef : s.eof = true → s.pdone = true ∨ c.T ≤ s.nread * c.W

theorem RI_init (c : Cfg) : RI c (init c) := by
  refine ⟨?_, ?_, ?_, ?_, ?_⟩ <;> simp [init]

/-- at `eof` with parsing not done everything has been read and pushed: `tail_offs` is the end
    of the input -/
theorem RI.tail_eq {c : Cfg} {s : State} (h : RI c s) (he : s.eof = true) (hpd : s.pdone = false) :
    tailOffs c s = c.T := by
  have hT : c.T ≤ s.nread * c.W := by
    rcases h.ef he with h' | h'
    · rw [hpd] at h'; cases h'
    · exact h'
  unfold tailOffs offs
  rw [h.rn hpd]
  omega

/-- the step leaves the reader's fields alone; parsing may become done (with
    `request_close`) -/
def RF (s s' : State) : Prop :=
  s'.rph = s.rph ∧ s'.eof = s.eof ∧ s'.rd = s.rd ∧ s'.nread = s.nread ∧
  ((s'.pdone = s.pdone ∧ s'.rclose = s.rclose) ∨ (s'.pdone = true ∧ s'.rclose = true))

theorem RF.of_eq {s s' : State}
    (e : (s'.rph, s'.eof, s'.rd, s'.nread, s'.pdone, s'.rclose) =
         (s.rph, s.eof, s.rd, s.nread, s.pdone, s.rclose) := by rfl) : RF s s' := by
  simp only [Prod.mk.injEq] at e
  exact ⟨e.1, e.2.1, e.2.2.1, e.2.2.2.1, Or.inl e.2.2.2.2⟩

theorem RF.trans {s s' s'' : State} (h1 : RF s s') (h2 : RF s' s'') : RF s s'' := by
  obtain ⟨a1, a2, a3, a4, a5⟩ := h1
  obtain ⟨b1, b2, b3, b4, b5⟩ := h2
  refine ⟨by rw [b1, a1], by rw [b2, a2], by rw [b3, a3], by rw [b4, a4], ?_⟩
  rcases b5 with ⟨b5, b6⟩ | b5
  · rcases a5 with ⟨a5, a6⟩ | ⟨a5, a6⟩
    · exact Or.inl ⟨by rw [b5, a5], by rw [b6, a6]⟩
    · exact Or.inr ⟨by rw [b5, a5], by rw [b6, a6]⟩
  · exact Or.inr b5

theorem RI_of_RF {c : Cfg} {s s' : State} (h : RI c s) (f : RF s s') : RI c s' := by
  obtain ⟨f1, f2, f3, f4, f5⟩ := f
  rcases f5 with ⟨f5, f6⟩ | ⟨f5, f6⟩
  · refine ⟨?_, ?_, ?_, ?_, ?_⟩
    · rw [f1, f2]; exact h.dn
    · rw [f5, f6]; exact h.pc
    · rw [f5, f3, f4]; exact h.rn
    · rw [f1, f5, f4]; exact h.ae
    · rw [f2, f5, f4]; exact h.ef
  · refine ⟨?_, ?_, ?_, fun _ => Or.inl f5, fun _ => Or.inl f5⟩
    · rw [f1, f2]; exact h.dn
    · rw [f5, f6]
    · rw [f5]; exact nofun

theorem RF_detach (s : State) (k : Option Nat) : RF s (detach s k) := by
  rw [detach_eq]
  exact RF.of_eq

theorem RF_advance (c : Cfg) (s : State) (p : Nat) : RF s (advance c s p) :=
  ⟨rfl, rfl, rfl, rfl, Or.inl ⟨rfl, rfl⟩⟩

theorem RF_parseMatch (c : Cfg) (s : State) (b : Nat) : RF s (parseMatch c s b) := by
  obtain ⟨_, _, _, _, _, _, _, _, _, _, _, e⟩ := parseMatch_frame c s b
  rw [e]
  exact RF.of_eq

theorem RF_retrMove (c : Cfg) (s : State) (j : Job) (n : Nat) : RF s (retrMove c s j n) :=
  retrMove_ind c s j n RF.of_eq RF.of_eq

theorem RF_retrDone (c : Cfg) (s : State) (j : Job) (n : Nat) : RF s (retrDone c s j n) := by
  obtain ⟨pt, po, orp, e⟩ := retrDone_frame c s j n
  rw [e]
  exact RF.of_eq

theorem RF_scanNew (c : Cfg) (s : State) (x : Nat) : RF s (scanNew c s x) :=
  scanNew_ind c s x RF.of_eq fun _ _ => RF.of_eq

theorem RF_leave (s : State) (ph : Phase) (k : Option Nat) :
    RF s (detach { s with busy := s.busy.erase ph } k) :=
  RF.trans (s' := { s with busy := s.busy.erase ph }) RF.of_eq (RF_detach _ k)

theorem RF_leave_parser (s : State) (k : Option Nat) :
    RF s (detach { s with pphase := none } k) :=
  RF.trans (s' := { s with pphase := none }) RF.of_eq (RF_detach _ k)

theorem ri_step {c : Cfg} {s s' : State} {l : Label} (h : RI c s)
    (hs : step c s l = some s') : RI c s' := by
  obtain ⟨-, st⟩ := step_inv hs
  -- while the reader is at work `eof` is not set
  have hne : ∀ {r : RPhase}, s.rph = r → r ≠ .done → s.eof = true → False :=
    fun hr hd he => hd (hr ▸ h.dn.2 he)
  have hdn : ∀ {r r' : RPhase}, s.rph = r → r ≠ .done → r' ≠ .done →
      (r' = .done ↔ s.eof = true) :=
    fun hr hd hd' => ⟨fun e => absurd e hd', fun he => (hne hr hd he).elim⟩
  have hnd : (if (s.nread + 1) * c.W ≤ c.T then RPhase.idle else RPhase.ateof) ≠ .done := by
    split <;> simp
  cases st with
  | rTake hrph => exact { h with dn := hdn hrph nofun nofun, ae := nofun }
  | rQuit hrph hcl =>
    exact { h with dn := hdn hrph nofun nofun, ae := fun _ => Or.inl (h.pc.2 hcl) }
  | rBlockDrop hrph _ hpd =>
    exact { h with
      dn := hdn hrph nofun hnd
      rn := fun hd => absurd (hpd.symm.trans hd) nofun
      ae := fun _ => Or.inl hpd
      ef := fun he => (hne hrph nofun he).elim }
  | rBlock hrph hlt hpd =>
    exact { h with
      dn := hdn hrph nofun hnd
      rn := fun _ => congrArg (· + 1) (h.rn hpd)
      ae := fun hh => by
        split at hh
        · cases hh
        · exact Or.inr (by show c.T ≤ (s.nread + 1) * c.W; omega)
      ef := fun he => (hne hrph nofun he).elim }
  | rEmpty hrph hge =>
    exact { h with
      dn := hdn hrph nofun nofun
      ae := fun _ => Or.inr (by show c.T ≤ s.nread * c.W; omega) }
  | rEof hrph =>
    exact { h with dn := ⟨fun _ => rfl, fun _ => rfl⟩, ae := nofun, ef := fun _ => h.ae hrph }
  | wDone | reorderBogus | reorderErr | reorderMore | reorderOk | parseStart | retrStart | retrPost
  | emitStart | emitMore | emitLast | scanStart =>
    exact RI_of_RF h RF.of_eq
  | parseMore k | parseErr k => exact RI_of_RF h ((RF_leave_parser s k).trans RF.of_eq)
  | parseEof k | parseFinish k =>
    exact RI_of_RF h ((RF_leave_parser s k).trans ⟨rfl, rfl, rfl, rfl, Or.inr ⟨rfl, rfl⟩⟩)
  | parseOk k b =>
    exact RI_of_RF h ((RF_leave_parser s k).trans
      (RF.trans (s' := parsePush c _ b) RF.of_eq (RF_parseMatch c _ b)))
  | retrQuit j k =>
    exact RI_of_RF h ((RF_leave s (.retr j k) k).trans RF.of_eq)
  | retrOvertaken j k | retrMore j k =>
    exact RI_of_RF h ((RF_leave s (.retr j k) k).trans ((RF_retrMove c _ j _).trans RF.of_eq))
  | retrDone j k =>
    exact RI_of_RF h ((RF_leave s (.retr j k) k).trans
      ((RF_retrMove c _ j _).trans (RF_retrDone c _ j _)))
  | scanNone st k =>
    exact RI_of_RF h ((RF_leave s (.scan st k) (some k)).trans RF.of_eq)
  | scanFound st k x =>
    rw [scanRequeue_eq]
    exact RI_of_RF h ((RF_leave s (.scan st k) (some k)).trans ((RF_scanNew c _ x).trans RF.of_eq))

end LbzVerif.Lemmas.SchedD
