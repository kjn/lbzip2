/-
  Soundness of the counter / queue-size projection rules (`Proj.lean`) for the SchedD model:
  every transition of the model satisfies the delta rule of its label (`projStepOk` = `headOk` /
  `reorderOk` / `tailOk`), and the task the model selects is selectable on the projection.  The
  other tests of the trace acceptor `acceptEv` (`snapOk`, `monoOk`, the final-state line) are not
  related to the model here.
-/
import LbzVerif.Lemmas.SchedD.ProgressFinal
import LbzVerif.Lemmas.SchedD.Proj
import LbzVerif.Lemmas.ListCount

namespace LbzVerif.Lemmas.SchedD
open LbzVerif.Model.SchedD LbzVerif.Gen

namespace ProjSound
open LbzVerif.Lemmas.ListCount

theorem countP_replaceFirst_drop {α} (p : α → Bool) {q : α → Bool} (g : α → α) {l : List α} {a : α}
    (hf : l.find? q = some a) (h1 : p a = true) (h2 : p (g a) = false) :
    (replaceFirst q g l).countP p + 1 = l.countP p := by
  have := countP_replaceFirst p g hf
  rw [h1, h2] at this
  exact this

theorem inq_flagJob (p : Nat → Bool) (j : Job) : (flagJob p j).inq = true → j.inq = true :=
  fun h => (flagJob_inq h).1

theorem inq_flagPhase (p : Nat → Bool) (ph : Phase) :
    (flagPhase p ph).inq = true → ph.inq = true := by
  cases ph with
  | retr j k => exact inq_flagJob p j
  | _ => exact id

theorem inq_flagJob_all (j : Job) : (flagJob (fun _ => true) j).inq = false := by
  unfold flagJob Job.inq
  cases hu : j.ub with
  | none => simp
  | some f =>
    simp only [Option.map_some, Bool.and_true]
    cases hi : f.inq <;> simp [UF.flagBad, hi]

theorem inq_flagPhase_all (ph : Phase) : (flagPhase (fun _ => true) ph).inq = false := by
  cases ph with
  | retr j k => exact inq_flagJob_all j
  | _ => rfl

theorem countP_popOrphans_le (p : Nat → Bool) (os : List UB) :
    (popOrphans p os).countP (·.f.inq) ≤ os.countP (·.f.inq) := by
  unfold popOrphans
  refine Nat.le_trans (countP_map_le _ _ ?_ _) (countP_filter_le _ _ _)
  intro u
  by_cases hc : (u.f.inq && p u.base) = true
  · simp [hc, UF.flagBad]
  · simp [hc]

theorem countP_popOrphans_all (os : List UB) :
    (popOrphans (fun _ => true) os).countP (·.f.inq) = 0 := by
  unfold popOrphans
  refine countP_map_zero _ _ ?_ _
  intro u
  cases hi : u.f.inq <;> simp [UF.flagBad, hi]

theorem inqAt_inq {b : Nat} {j : Job} (h : Job.inqAt b j = true) : j.inq = true := by
  unfold Job.inqAt at h; unfold Job.inq
  cases hu : j.ub with
  | none => simp [hu] at h
  | some f => simp only [hu, Bool.and_eq_true] at h ⊢; exact h.1

theorem pinqAt_inq {b : Nat} {ph : Phase} (h : Phase.inqAt b ph = true) : ph.inq = true := by
  cases ph with
  | retr j k => exact inqAt_inq h
  | _ => cases h

theorem pinq_good (ph : Phase) (h : ph.inq = true) : ph.good.inq = false := by
  cases ph with
  | retr j k => exact good_not_inq j
  | _ => cases h

/-- `advance()` (possibly several) between two projections: what `advOk` and `unordDrop` ask for -/
structure Adv (p q : Proj) : Prop where
  head : p.head ≤ q.head
  inq : q.inq ≤ p.inq
  scan : q.scan ≤ p.scan
  retr : q.retr ≤ p.retr
  wu : q.wu = p.wu + (p.retr - q.retr)
  tail : q.tail = p.tail
  eof : q.eof = p.eof
  os : q.os = p.os
  emit : q.emit = p.emit
  reord : q.reord = p.reord
  pt : q.pt = p.pt
  pd : q.pd = p.pd
  order : q.order = p.order
  ule : q.unord ≤ p.unord
  drop : p.unord ≤ q.unord + (p.retr - q.retr)

theorem Adv.refl (p : Proj) : Adv p p :=
  ⟨Nat.le_refl _, Nat.le_refl _, Nat.le_refl _, Nat.le_refl _, by omega, rfl, rfl, rfl, rfl, rfl,
   rfl, rfl, rfl, Nat.le_refl _, by omega⟩

theorem adv_advance (c : Cfg) (s : State) (x : Nat) : Adv (proj c s) (proj c (advance c s x)) := by
  have e1 := length_filter_split (fun j : Job => decide (j.curr < offs c (newHead c s x))) s.retrQ
  have e2 := length_filter_split (fun y : Nat => decide (y < offs c (newHead c s x))) s.scanQ
  have e3 := countP_filter_drop Job.inq (fun j : Job => decide (j.curr < offs c (newHead c s x)))
    s.retrQ
  have e4 := countP_filter_le Job.inq (fun j : Job => !decide (j.curr < offs c (newHead c s x)))
    s.retrQ
  have hh : s.head ≤ newHead c s x := by unfold newHead; omega
  refine ⟨headOffs_le_advance c s x, ?_, ?_, ?_, ?_, rfl, rfl, rfl, rfl, rfl, rfl, rfl, rfl, ?_, ?_⟩
  · show s.rd - newHead c s x ≤ s.rd - s.head; omega
  · show (s.scanQ.filter _).length ≤ s.scanQ.length; omega
  · show (s.retrQ.filter _).length ≤ s.retrQ.length; omega
  · show s.wu + (s.retrQ.filter _).length = s.wu + (s.retrQ.length - (s.retrQ.filter _).length)
    omega
  · show s.orphans.countP _ + (s.retrQ.filter _).countP Job.inq + s.busy.countP Phase.inq
      ≤ s.orphans.countP _ + s.retrQ.countP Job.inq + s.busy.countP Phase.inq
    omega
  · show s.orphans.countP _ + s.retrQ.countP Job.inq + s.busy.countP Phase.inq
      ≤ s.orphans.countP _ + (s.retrQ.filter _).countP Job.inq + s.busy.countP Phase.inq
        + (s.retrQ.length - (s.retrQ.filter _).length)
    omega

/-- several `advance()`s and parser writes through unord_q (`o` pushes to order_q);
    `parse_token` is not tracked -/
structure AdvW (p q : Proj) (o : Nat) : Prop where
  head : p.head ≤ q.head
  inq : q.inq ≤ p.inq
  scan : q.scan ≤ p.scan
  retr : q.retr ≤ p.retr
  wu : q.wu = p.wu + (p.retr - q.retr)
  tail : q.tail = p.tail
  eof : q.eof = p.eof
  os : q.os = p.os
  emit : q.emit = p.emit
  reord : q.reord = p.reord
  pd : q.pd = p.pd
  order : q.order = p.order + o
  ule : q.unord ≤ p.unord

theorem Adv.toW {p q : Proj} (h : Adv p q) : AdvW p q 0 :=
  ⟨h.head, h.inq, h.scan, h.retr, h.wu, h.tail, h.eof, h.os, h.emit, h.reord, h.pd, h.order, h.ule⟩

theorem AdvW.trans {p m q : Proj} {o1 o2 : Nat} (h1 : AdvW p m o1) (h2 : AdvW m q o2) :
    AdvW p q (o1 + o2) where
  head := Nat.le_trans h1.head h2.head
  inq := Nat.le_trans h2.inq h1.inq
  scan := Nat.le_trans h2.scan h1.scan
  retr := Nat.le_trans h2.retr h1.retr
  wu := by
    have := h1.retr
    have := h2.retr
    rw [h2.wu, h1.wu]
    omega
  tail := h2.tail.trans h1.tail
  eof := h2.eof.trans h1.eof
  os := h2.os.trans h1.os
  emit := h2.emit.trans h1.emit
  reord := h2.reord.trans h1.reord
  pd := h2.pd.trans h1.pd
  order := by rw [h2.order, h1.order, Nat.add_assoc]
  ule := Nat.le_trans h2.ule h1.ule

theorem Adv.trans {p m q : Proj} (h1 : Adv p m) (h2 : Adv m q) : Adv p q :=
  have w := h1.toW.trans h2.toW
  ⟨w.head, w.inq, w.scan, w.retr, w.wu, w.tail, w.eof, w.os, w.emit, w.reord, h2.pt.trans h1.pt,
    w.pd, w.order, w.ule, by
      have := h1.drop
      have := h2.drop
      have := h1.retr
      have := h2.retr
      omega⟩

/-- The rule table: what a locked section does to the projection, one constructor per
    alternative of `headOk` / `reorderOk` / `tailOk` (the rules a hook trace is checked
    against), in the form the sub-functions deliver it. -/
inductive Rule (p : Proj) : (Proj → Proj → Bool) → Proj → Prop
  | headParse (hpt : p.pt = true) (hpd : p.pd = false) (hw : 0 < p.wu) :
      Rule p (headOk "parse") { p with pt := false, wu := p.wu - 1 }
  | headRetr (h : 0 < p.retr) : Rule p (headOk "retrieve") { p with retr := p.retr - 1 }
  | headEmit (h : 0 < p.emit) (ho : 0 < p.os) :
      Rule p (headOk "emit") { p with emit := p.emit - 1, os := p.os - 1 }
  | headScan (h : 0 < p.scan) (hw : 0 < p.wu) :
      Rule p (headOk "scan") { p with scan := p.scan - 1, wu := p.wu - 1 }
  | reorderBogus (h : 0 < p.reord) : Rule p reorderOk { p with reord := p.reord - 1, os := p.os + 1 }
  | reorderMore (h : 0 < p.reord) : Rule p reorderOk { p with reord := p.reord - 1 }
  | reorderLast (h : 0 < p.reord) (ho : 0 < p.order) :
      Rule p reorderOk { p with reord := p.reord - 1, order := p.order - 1 }
  | parseMore {m : Proj} (h : Adv p m) : Rule p (tailOk "parse") { m with pt := true, wu := m.wu + 1 }
  | parseFinish :
      Rule p (tailOk "parse")
        { p with pd := true, pt := true, inq := 0, scan := 0, retr := 0, unord := 0,
                 wu := p.wu + p.retr + 1, head := p.tail }
  | parseNew {m : Proj} (h : AdvW p m 1) (hpt : m.pt = false) :
      Rule p (tailOk "parse") { m with retr := m.retr + 1 }
  | parseMatch {m : Proj} {t : Bool} {u : Nat} (h : AdvW p m 1) (hu : u < p.unord) :
      Rule p (tailOk "parse") { m with wu := m.wu + 1, pt := t, unord := u }
  /-- `discard()`: the job's entry of unord_q, if it has one, goes with it -/
  | retrExit {u : Nat} (hu : u = p.unord ∨ u + 1 = p.unord) :
      Rule p (tailOk "retrieve") { p with unord := u, wu := p.wu + 1 }
  | retrMoreSpec : Rule p (tailOk "retrieve") { p with retr := p.retr + 1 }
  | retrMoreMaster {m : Proj} (h : Adv p m) :
      Rule p (tailOk "retrieve") { m with retr := m.retr + 1 }
  | retrDoneSpec : Rule p (tailOk "retrieve") p
  | retrDoneMaster {m : Proj} (h : Adv p m) : Rule p (tailOk "retrieve") { m with pt := true }
  | retrPost : Rule p (tailOk "retr2") { p with emit := p.emit + 1 }
  | emitMore : Rule p (tailOk "emit") { p with emit := p.emit + 1, reord := p.reord + 1 }
  | emitLast : Rule p (tailOk "emit") { p with wu := p.wu + 1, reord := p.reord + 1 }
  | scanDone : Rule p (tailOk "scan") { p with wu := p.wu + 1 }
  | scanKnown : Rule p (tailOk "scan") { p with wu := p.wu + 1, scan := p.scan + 1 }
  | scanNew : Rule p (tailOk "scan") { p with unord := p.unord + 1, retr := p.retr + 1 }
  | scanNewRequeue :
      Rule p (tailOk "scan")
        { p with unord := p.unord + 1, retr := p.retr + 1, scan := p.scan + 1 }
  | readerSame : Rule p (tailOk "reader") p
  | readerEof : Rule p (tailOk "reader") { p with eof := true }
  | readerBlock {t : Nat} (ht : p.tail < t) :
      Rule p (tailOk "reader") { p with inq := p.inq + 1, scan := p.scan + 1, tail := t }
  | writer : Rule p (tailOk "writer") { p with os := p.os + 1 }

/-- a rule is a Boolean combination of comparisons of the fields; the hypotheses of the row
    decide them -/
theorem Rule.ok {p q : Proj} {r : Proj → Proj → Bool} (h : Rule p r q) : r p q = true := by
  cases h with
  | parseMore h | retrMoreMaster h | retrDoneMaster h =>
    obtain ⟨_, _, _, _, _, _, _, _, _, _, _, _, _, _, _⟩ := h
    simp [tailOk, advOk, unordDrop, *]
    omega
  | parseNew h hpt | parseMatch h hu =>
    obtain ⟨_, _, _, _, _, _, _, _, _, _, _, _, _⟩ := h
    simp [tailOk, advOk, unordDrop, *]
  | retrExit hu => rcases hu with rfl | hu <;> simp [tailOk] <;> omega
  | _ => simp [tailOk, headOk, reorderOk, *]

theorem Rule.of_eq {p q q' : Proj} {r : Proj → Proj → Bool} (h : Rule p r q') (e : q = q') :
    Rule p r q :=
  e ▸ h

theorem Rule.ok_of {p q q' : Proj} {r : Proj → Proj → Bool} (h : Rule p r q') (e : q = q') :
    r p q = true :=
  (h.of_eq e).ok

theorem proj_detach (c : Cfg) (s : State) (k : Option Nat) : proj c (detach s k) = proj c s := by
  rw [detach_eq]; rfl

theorem unordSize_parseFinish (s1 : State) (u : Nat) : unordSize (parseFinish s1 u) = 0 := by
  unfold unordSize parseFinish; dsimp only
  rw [countP_popOrphans_all, countP_map_zero Phase.inq _ inq_flagPhase_all]
  rfl

theorem proj_parseFinish (c : Cfg) (s1 : State) (u : Nat) :
    proj c (parseFinish s1 u) =
      { proj c s1 with pd := true, pt := true, inq := 0, scan := 0, retr := 0, unord := 0,
                       wu := (proj c s1).wu + (proj c s1).retr + 1, head := (proj c s1).tail } := by
  have h1 := unordSize_parseFinish s1 u
  have h2 : (parseFinish s1 u).rd - (parseFinish s1 u).head = 0 := by
    show s1.rd - s1.rd = 0; omega
  unfold proj
  rw [h1, h2]
  rfl

theorem unordSize_parsePush_le (c : Cfg) (s : State) (b : Nat) :
    unordSize (parsePush c s b) ≤ unordSize (advance c s b) := by
  have h1 := countP_popOrphans_le (fun x => decide (x < b)) (advance c s b).orphans
  have h2 := countP_map_le Job.inq (flagJob fun x => decide (x < b)) (inq_flagJob _)
    (advance c s b).retrQ
  have h3 := countP_map_le Phase.inq (flagPhase fun x => decide (x < b)) (inq_flagPhase _)
    (advance c s b).busy
  unfold unordSize parsePush; dsimp only
  omega

theorem advw_parsePush (c : Cfg) (s : State) (b : Nat) :
    AdvW (proj c s) (proj c (parsePush c s b)) 1 := by
  have h := adv_advance c s b
  refine ⟨h.head, h.inq, h.scan, ?_, ?_, h.tail, h.eof, h.os, h.emit, h.reord, h.pd, ?_,
    Nat.le_trans (unordSize_parsePush_le c s b) h.ule⟩
  · show (List.map _ (advance c s b).retrQ).length ≤ _
    rw [List.length_map]; exact h.retr
  · show (advance c s b).wu = _ + (_ - (List.map _ (advance c s b).retrQ).length)
    rw [List.length_map]; exact h.wu
  · show ((advance c s b).orderQ ++ [(b, 0)]).length = _
    rw [List.length_append]; exact congrArg (· + 1) h.order

inductive MatchRes (p q : Proj) : Prop where
  | matched (m : Proj) (t : Bool) (u : Nat) (h : AdvW p m 0) (hu : u < p.unord)
      (e : q = { m with wu := m.wu + 1, pt := t, unord := u })
  | fresh (e : q = { p with retr := p.retr + 1 })

theorem advw_unord {p : Proj} {u : Nat} (h : u ≤ p.unord) : AdvW p { p with unord := u } 0 :=
  ⟨Nat.le_refl _, Nat.le_refl _, Nat.le_refl _, Nat.le_refl _, by simp, rfl, rfl, rfl, rfl, rfl,
   rfl, rfl, h⟩

theorem matched_entry {c : Cfg} {s s0 : State} (x : Nat)
    (hp : proj c s0 = { proj c s with unord := unordSize s0 })
    (hu : unordSize s0 + 1 = unordSize s) :
    MatchRes (proj c s)
      (proj c { advance c s0 x with wu := (advance c s0 x).wu + 1 }) := by
  have h1 := adv_advance c s0 x
  have h0 : AdvW (proj c s) (proj c s0) 0 := by
    rw [hp]; exact advw_unord (by show unordSize s0 ≤ unordSize s; omega)
  refine .matched (proj c (advance c s0 x)) _ (unordSize (advance c s0 x))
    (h0.trans h1.toW) ?_ rfl
  show unordSize (advance c s0 x) < unordSize s
  have : unordSize (advance c s0 x) ≤ unordSize s0 := h1.ule
  omega

theorem matched_orphan {c : Cfg} {s : State} (x : Nat) (os : List UB) (t : Bool) (po : Nat)
    (tn : Bool)
    (h : os.countP (fun u : UB => u.f.inq) + 1 = s.orphans.countP (fun u : UB => u.f.inq)) :
    MatchRes (proj c s)
      (proj c { advance c s x with orphans := os, ptok := t, porig := po,
                                   wu := (advance c s x).wu + 1, taint := tn }) := by
  have h1 := adv_advance c s x
  have hle : s.orphans.countP (fun u : UB => u.f.inq) + (advance c s x).retrQ.countP Job.inq
      + (advance c s x).busy.countP Phase.inq ≤ unordSize s := h1.ule
  refine .matched (proj c (advance c s x)) _ _ h1.toW ?_ rfl
  show os.countP (fun u : UB => u.f.inq) + (advance c s x).retrQ.countP Job.inq
    + (advance c s x).busy.countP Phase.inq < unordSize s
  omega

theorem res_parseMatch (c : Cfg) (s : State) (b : Nat) :
    MatchRes (proj c s) (proj c (parseMatch c s b)) := by
  rcases parseMatch_cases c s b with ⟨j, a, hfind, -, hq, rfl, e⟩ | ⟨j, k, a, -, hfind, -, -, rfl, e⟩ |
    ⟨u, a, -, -, hmem, hinq, -, -, rfl, e⟩ | ⟨u, a, -, -, hfind, hinq, -, -, rfl, e⟩ | ⟨-, -, -, e⟩
  · have hc := countP_replaceFirst_drop Job.inq Job.good hfind (inqAt_inq hq) (good_not_inq j)
    rw [e]
    refine matched_entry j.endp ?_ ?_
    · unfold proj; dsimp only
      rw [length_replaceFirst]; rfl
    · unfold unordSize; dsimp only; omega
  · have hq := pinqAt_inq (List.find?_some hfind)
    have hc := countP_replaceFirst_drop Phase.inq Phase.good hfind hq (pinq_good _ hq)
    rw [e]
    refine matched_entry j.endp rfl ?_
    unfold unordSize; dsimp only; omega
  · have := countP_erase_add (fun x : UB => x.f.inq) hmem
    rw [hinq] at this
    rw [e]
    exact matched_orphan u.f.endp _ _ _ _ this
  · have := countP_replaceFirst_drop (fun x : UB => x.f.inq)
      (fun x => ({ x with f := x.f.flagGood } : UB)) (find?_beq_of_mem hfind) hinq rfl
    rw [e]
    exact matched_orphan u.f.endp _ _ _ _ this
  · rw [e]
    exact .fresh rfl

theorem rule_parseOk (c : Cfg) (s : State) (b : Nat) (hpt : (proj c s).pt = false) :
    Rule (proj c s) (tailOk "parse") (proj c (parseOk c s b)) := by
  unfold parseOk
  have h1 := advw_parsePush c s b
  have hp : (proj c (parsePush c s b)).pt = false := hpt
  generalize parsePush c s b = s3 at *
  rcases res_parseMatch c s3 b with ⟨m, t, u, h, hu, e⟩ | e
  · exact (Rule.parseMatch (h1.trans h) (by have := h1.ule; omega)).of_eq e
  · exact (Rule.parseNew h1 hp).of_eq e

theorem master_not_inq {c : Cfg} {g : Nat} {j : Job} (h : jobOK c g j) (hm : j.master = true) :
    j.inq = false := by
  unfold Job.master at hm; unfold Job.inq
  cases hu : j.ub with
  | none => rfl
  | some f =>
    simp only [hu] at hm
    show f.inq = false
    cases hi : f.inq with
    | false => rfl
    | true => have := h.inq_incomplete f hu hi; rw [hm] at this; cases this

theorem unordSize_erase_busy {s : State} {ph : Phase} (hm : ph ∈ s.busy) :
    unordSize { s with busy := s.busy.erase ph } + (if ph.inq then 1 else 0) = unordSize s := by
  have := countP_erase_add Phase.inq hm
  unfold unordSize; dsimp only; omega

/-- after the job left `busy` and detached, the projection differs from `p` at most by the
    job's entry in unord_q -/
structure Left (c : Cfg) (p : Proj) (s1 : State) (j : Job) : Prop where
  pr : proj c s1 = { p with unord := unordSize s1 }
  un : unordSize s1 + (if j.inq then 1 else 0) = p.unord

theorem left_retr {c : Cfg} {s : State} {j : Job} {k : Option Nat} (hm : Phase.retr j k ∈ s.busy) :
    Left c (proj c s) (detach { s with busy := s.busy.erase (.retr j k) } k) j := by
  have h := unordSize_erase_busy hm
  have e := proj_detach c { s with busy := s.busy.erase (.retr j k) } k
  have eu : unordSize (detach { s with busy := s.busy.erase (.retr j k) } k)
      = unordSize { s with busy := s.busy.erase (.retr j k) } := congrArg Proj.unord e
  refine ⟨?_, ?_⟩
  · rw [e, eu]; rfl
  · rw [eu]; exact h

theorem Left.proj_eq {c : Cfg} {p : Proj} {s1 : State} {j : Job} (h : Left c p s1 j)
    (hi : j.inq = false) : proj c s1 = p := by
  have hu := h.un
  rw [hi] at hu
  rw [h.pr, show unordSize s1 = p.unord from hu]

theorem adv_retrMove (c : Cfg) (s : State) (j : Job) (n : Nat) :
    Adv (proj c s) (proj c (retrMove c s j n)) :=
  retrMove_ind (P := fun t => Adv (proj c s) (proj c t)) c s j n (Adv.refl _) (adv_advance c s n)

theorem proj_retrMore (c : Cfg) (s : State) (j : Job) (n : Nat) :
    proj c (retrMore s j n) =
      { proj c s with retr := (proj c s).retr + 1,
                      unord := (proj c s).unord + (if j.inq then 1 else 0) } := by
  unfold retrMore proj unordSize headOffs tailOffs; dsimp only
  rw [List.countP_cons, inq_retrMoreJob]
  simp only [List.length_cons, Proj.mk.injEq, true_and, and_true]
  omega

theorem proj_retrDone (c : Cfg) (s : State) (j : Job) (n : Nat) :
    proj c (retrDone c s j n) =
      if j.master then { proj c s with pt := true }
      else { proj c s with unord := (proj c s).unord + (if j.inq then 1 else 0) } := by
  cases hm : j.master with
  | true => rw [retrDone_master c s n hm, if_pos rfl]; rfl
  | false =>
    obtain ⟨f, hub, hc⟩ := Job.master_eq_false.1 hm
    have hji : j.inq = f.inq := by unfold Job.inq; rw [hub]
    rw [retrDone_spec c s n hub hc, hji, if_neg Bool.false_ne_true]
    unfold proj unordSize headOffs tailOffs; dsimp only
    simp only [List.countP_cons, Phase.inq, Proj.mk.injEq, true_and, and_true]
    simp
    omega

theorem rule_retrExit {c : Cfg} {p : Proj} {s1 : State} {j : Job} (h : Left c p s1 j) (j' : Job) :
    Rule p (tailOk "retrieve") (proj c (retrExit s1 j')) := by
  refine (Rule.retrExit ?_).of_eq (congrArg (fun m : Proj => { m with wu := m.wu + 1 }) h.pr)
  have := h.un
  split at this
  · exact Or.inr this
  · exact Or.inl this

/-- "Retriever was overtaken" happens to speculative jobs only: the master's own `advance()`
    stops at `newc` -/
theorem rule_retrOvertaken {c : Cfg} {p : Proj} {s1 : State} {j : Job} {newc : Nat}
    (h : Left c p s1 j) (hov : j.master = true → headOffs c s1 ≤ newc)
    (hlt : newc < headOffs c (retrMove c s1 j newc)) (j' : Job) :
    Rule p (tailOk "retrieve") (proj c (retrExit (retrMove c s1 j newc) j')) := by
  cases hm : j.master with
  | true =>
    exfalso
    rw [retrMove_master c s1 newc hm] at hlt
    have h1 := headOffs_advance_le c s1 newc
    have h2 := hov hm
    have h4 : newc < headOffs c (advance c s1 newc) := hlt
    omega
  | false =>
    rw [retrMove_spec c s1 newc hm]
    exact rule_retrExit h j'

theorem rule_retrMore {c : Cfg} {p : Proj} {s1 : State} {j : Job} {newc : Nat}
    (h : Left c p s1 j) (hmi : j.master = true → j.inq = false) :
    Rule p (tailOk "retrieve") (proj c (retrMore (retrMove c s1 j newc) j newc)) := by
  rw [proj_retrMore]
  cases hm : j.master with
  | true =>
    have ha := adv_retrMove c s1 j newc
    rw [h.proj_eq (hmi hm)] at ha
    rw [hmi hm]
    exact .retrMoreMaster ha
  | false =>
    rw [retrMove_spec c s1 newc hm, h.pr]
    show Rule p _ { p with retr := p.retr + 1, unord := unordSize s1 + (if j.inq then 1 else 0) }
    rw [h.un]
    exact .retrMoreSpec

theorem rule_retrDone {c : Cfg} {p : Proj} {s1 : State} {j : Job} {newc : Nat}
    (h : Left c p s1 j) (hmi : j.master = true → j.inq = false) :
    Rule p (tailOk "retrieve") (proj c (retrDone c (retrMove c s1 j newc) j newc)) := by
  rw [proj_retrDone]
  cases hm : j.master with
  | true =>
    have ha := adv_retrMove c s1 j newc
    rw [h.proj_eq (hmi hm)] at ha
    exact .retrDoneMaster ha
  | false =>
    rw [retrMove_spec c s1 newc hm, h.pr]
    show Rule p _ { p with unord := unordSize s1 + (if j.inq then 1 else 0) }
    rw [h.un]
    exact .retrDoneSpec


theorem proj_leave {c : Cfg} {s : State} {ph : Phase} (hm : ph ∈ s.busy) (hi : ph.inq = false)
    (k : Option Nat) : proj c (detach { s with busy := s.busy.erase ph } k) = proj c s := by
  have hu := unordSize_erase_busy hm
  rw [hi] at hu
  rw [proj_detach]
  unfold proj; dsimp only
  rw [← hu]; rfl

theorem proj_leave_parser (c : Cfg) (s : State) (k : Option Nat) :
    proj c (detach { s with pphase := none } k) = proj c s := by
  rw [proj_detach]; rfl

theorem proj_scanNew (c : Cfg) (s1 : State) (x : Nat) :
    proj c (scanNew c s1 x) = { proj c s1 with wu := (proj c s1).wu + 1 } ∨
    proj c (scanNew c s1 x)
      = { proj c s1 with unord := (proj c s1).unord + 1, retr := (proj c s1).retr + 1 } := by
  by_cases h : x ≤ s1.ppos ∨ x < headOffs c s1
  · rw [scanNew_known h]; exact .inl rfl
  · rw [scanNew_new (by omega) (by omega)]
    refine .inr ?_
    unfold proj unordSize headOffs tailOffs; dsimp only
    rw [List.countP_cons]
    simp only [scanJob, Job.inq, List.length_cons, if_true, Proj.mk.injEq, true_and, and_true]
    omega

theorem bits_exist (b0 b1 b2 b3 b4 b5 b6 : Bool) :
    ∃ x, x < 128 ∧ bit x 0 = b0 ∧ bit x 1 = b1 ∧ bit x 2 = b2 ∧ bit x 3 = b3 ∧ bit x 4 = b4 ∧
      bit x 5 = b5 ∧ bit x 6 = b6 := by
  refine ⟨b0.toNat + 2 * b1.toNat + 4 * b2.toNat + 8 * b3.toNat + 16 * b4.toNat + 32 * b5.toNat
    + 64 * b6.toNat, ?_⟩
  cases b0 <;> cases b1 <;> cases b2 <;> cases b3 <;> cases b4 <;> cases b5 <;> cases b6 <;> decide

theorem len_isEmpty {α} (l : List α) : (l.length == 0) = l.isEmpty := by cases l <;> rfl

end ProjSound

open ProjSound

theorem proj_sound_aux {c : Cfg} {s s' : State} {l : Label} (hW : l = .rBlock → 0 < c.W)
    (h : Reach c s) (hs : step c s l = some s') : projStepOk c s l s' = true := by
  obtain ⟨hf0, st⟩ := step_inv hs
  unfold projStepOk
  cases hf : s'.failed with
  | true => simp
  | false =>
    simp only [Bool.false_eq_true, if_false]
    have I := inv_reach h
    have hsi : SI c s := I.si hf0
    have hai := I.lo
    cases st with
    | rTake | rQuit | rEmpty => exact beq_iff_eq.2 rfl
    | rBlockDrop => exact Rule.readerSame.ok
    | rBlock hrph hlt hpd =>
      have e1 : s.rd = s.nread := I.ri.rn hpd
      have hr := hai.hr
      have ht : offs c s.rd < offs c (s.rd + 1) := by
        have := hW rfl
        unfold offs
        rw [e1, Nat.add_mul, Nat.one_mul]
        omega
      refine (Rule.readerBlock ht).ok_of ?_
      unfold proj unordSize headOffs tailOffs; dsimp only
      simp only [List.length_cons, Proj.mk.injEq, true_and, and_true]
      omega
    | rEof => exact Rule.readerEof.ok
    | wDone => exact Rule.writer.ok
    | reorderErr | parseErr | parseEof => exact Bool.noConfusion hf
    | reorderBogus ob _ hmem =>
      refine (Rule.reorderBogus (List.length_pos_of_mem hmem)).ok_of ?_
      unfold proj unordSize headOffs tailOffs; dsimp only
      rw [List.length_erase_of_mem hmem]
    | reorderMore ob r _ hmem _ hord =>
      refine (Rule.reorderMore (List.length_pos_of_mem hmem)).ok_of ?_
      unfold proj unordSize headOffs tailOffs; dsimp only
      rw [List.length_erase_of_mem hmem, hord]; rfl
    | reorderOk ob r _ hmem _ hord =>
      refine (Rule.reorderLast (List.length_pos_of_mem hmem)
        (by show 0 < s.orderQ.length; rw [hord]; simp)).ok_of ?_
      unfold proj unordSize headOffs tailOffs; dsimp only
      rw [List.length_erase_of_mem hmem, hord]; rfl
    | parseStart hsel =>
      obtain ⟨hpd, hpt, hw, -⟩ := selectTask_parse hsel
      exact (Rule.headParse hpt hpd hw).ok
    | parseMore k hpp =>
      exact proj_leave_parser c s k ▸ (Rule.parseMore (adv_advance c _ (offs c (k.getD 0 + 1)))).ok
    | parseFinish k u hpp =>
      exact proj_leave_parser c s k ▸ Rule.parseFinish.ok_of (proj_parseFinish c _ u)
    | parseOk k b hpp =>
      have hpt : (proj c s).pt = false := by
        show s.ptok = false
        cases hp : s.ptok with
        | false => rfl
        | true => have := hsi.excl hp; rw [hpp] at this; cases this
      rw [← proj_leave_parser c s k] at hpt ⊢
      exact (rule_parseOk c _ b hpt).ok
    | retrStart j _ hmem =>
      have hl := List.length_erase_of_mem hmem
      have hc := countP_erase_add Job.inq hmem
      refine (Rule.headRetr (List.length_pos_of_mem hmem)).ok_of ?_
      unfold proj unordSize headOffs tailOffs; dsimp only
      rw [hl, List.countP_cons]
      have e : ∀ (x : Bool) (k : Option Nat),
          Phase.inq (.retr { j with corrupt := x } k) = j.inq := fun _ _ => rfl
      rw [e]
      simp only [Proj.mk.injEq, true_and, and_true]
      omega
    | retrQuit j k hmem => exact (rule_retrExit (left_retr hmem) j).ok
    | retrOvertaken j k hmem hpd hred hov =>
      refine (rule_retrOvertaken (left_retr hmem) ?_ hov _).ok
      intro hmas
      have := hai.mh hpd hmem (master_mc hmas hred)
      have hcur := newc_ge c j k
      rw [headOffs_detach]
      show headOffs c s ≤ _
      omega
    | retrMore j k hmem =>
      exact (rule_retrMore (left_retr hmem) (master_not_inq (hsi.busy _ hmem))).ok
    | retrDone j k hmem =>
      exact (rule_retrDone (left_retr hmem) (master_not_inq (hsi.busy _ hmem))).ok
    | retrPost e hmem =>
      have e0 := proj_leave (c := c) hmem rfl none
      exact Rule.retrPost.ok_of (by rw [← e0]; rfl)
    | emitStart e hsel hmem =>
      have hl := List.length_erase_of_mem hmem
      refine (Rule.headEmit (List.length_pos_of_mem hmem) (selectTask_emit hsel).1).ok_of ?_
      unfold proj unordSize headOffs tailOffs; dsimp only
      rw [hl]; rfl
    | emitMore e hmem =>
      have e0 := proj_leave (c := c) hmem rfl none
      exact Rule.emitMore.ok_of (by rw [← e0]; rfl)
    | emitLast e hmem =>
      have e0 := proj_leave (c := c) hmem rfl none
      exact Rule.emitLast.ok_of (by rw [← e0]; rfl)
    | scanStart sp hsel hmem =>
      have hl := List.length_erase_of_mem hmem
      have hw : 0 < s.wu := by have := (selectTask_scan hsel).1; omega
      refine (Rule.headScan (List.length_pos_of_mem hmem) hw).ok_of ?_
      unfold proj unordSize headOffs tailOffs; dsimp only
      rw [hl]; rfl
    | scanNone st k hmem =>
      have e0 := proj_leave (c := c) hmem rfl (some k)
      show tailOk "scan" _ _ = true
      rw [← e0]
      exact Rule.scanDone.ok
    | scanFound st k x hmem =>
      have e0 := proj_leave (c := c) hmem rfl (some k)
      generalize detach { s with busy := s.busy.erase (.scan st k) } (some k) = s1 at *
      have e1 := proj_scanNew c s1 x
      show tailOk "scan" _ _ = true
      rw [← e0, scanRequeue_eq]
      generalize scanNew c s1 x = s2 at *
      have e2 : proj c { s2 with scanQ := x :: s2.scanQ }
          = { proj c s2 with scan := (proj c s2).scan + 1 } := rfl
      split
      · rw [e2]
        rcases e1 with e1 | e1
        · rw [e1]; exact Rule.scanKnown.ok
        · rw [e1]; exact Rule.scanNewRequeue.ok
      · rcases e1 with e1 | e1
        · exact Rule.scanDone.ok_of e1
        · exact Rule.scanNew.ok_of e1

/-- **the delta rules are sound for the model**: every transition of a
    reachable state satisfies the rule for its label (`headOk`, `reorderOk`,
    `tailOk`) that `schedd-accept` applies to a hook trace of the real program.  `0 < c.W`
    (non-empty input blocks) is needed for `rBlock` only: the rule asks `tail_offs` to grow
    strictly. -/
theorem proj_sound {c : Cfg} {s s' : State} {l : Label} (hW : 0 < c.W) (h : Reach c s)
    (hs : step c s l = some s') : projStepOk c s l s' = true :=
  proj_sound_aux (fun _ => hW) h hs

/-- without the hypothesis on `c.W`: every transition but `rBlock` -/
theorem proj_sound_noW {c : Cfg} {s s' : State} {l : Label} (hl : l ≠ .rBlock) (h : Reach c s)
    (hs : step c s l = some s') : projStepOk c s l s' = true :=
  proj_sound_aux (fun e => absurd e hl) h hs

/-- **the task the model selects is selectable on the projection**: for some
    value of the seven position comparisons the projection cannot see,
    `select_task()` evaluated on the counters picks what the model picks. -/
theorem select_selectable (c : Cfg) (s : State) :
    selectable c.n c.totalOut c.ultra (proj c s) (selectTask c s) = true := by
  obtain ⟨x, hx, h0, h1, h2, h3, h4, h5, h6⟩ := bits_exist
    (view c s).parserCanAttach (view c s).retrHeadCanAttach (view c s).scanHeadCanAttach
    (view c s).emitHeadEqOrderHead (view c s).emitHeadLeOrderHead
    (view c s).reordHeadLeOrderHead (view c s).reordHeadLtOrderHead
  have hv : viewP c.n c.totalOut c.ultra (proj c s) x = view c s := by
    unfold viewP
    rw [h0, h1, h2, h3, h4, h5, h6]
    unfold view proj; dsimp only
    simp only [len_isEmpty]
  unfold selectable
  rw [List.any_eq_true]
  refine ⟨x, List.mem_range.2 hx, ?_⟩
  unfold selectP selectTask
  rw [hv]
  exact beq_self_eq_true _

def cfgW0 : Cfg :=
  { n := 1, W := 0, T := 1, totalIn := 1, totalOut := 3, ultra := false,
    parseAt := fun _ => .err 0, retrieveFrom := fun _ => ⟨false, 0, 1, false⟩, cand := [] }

/-- `0 < c.W` cannot be dropped from `proj_sound`: with empty input blocks `rBlock` pushes a
    block without moving `tail_offs` -/
example : ∃ s s', Reach cfgW0 s ∧ step cfgW0 s .rBlock = some s' ∧
    projStepOk cfgW0 s .rBlock s' = false := by
  let s1 : State := { init cfgW0 with inSlots := 0, rph := .hold }
  have h1 : step cfgW0 (init cfgW0) .rTake = some s1 := by decide
  exact ⟨s1, _, Reach.step .rTake Reach.init h1, rfl, by decide⟩

end LbzVerif.Lemmas.SchedD
