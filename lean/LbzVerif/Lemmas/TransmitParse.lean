/-
  Lemmas.TransmitParse — the reference parser's readers applied to what
  `transmit()` wrote: selectors (unary MTF values) and code-length tables
  (5-bit start value, delta coding, the `tree_pad` detour on the first table).
-/
import LbzVerif.Lemmas.TransmitBits
import LbzVerif.Lemmas.TransmitSelMtf

namespace LbzVerif.Lemmas.TransmitParse
open LbzVerif LbzVerif.Basic LbzVerif.Model.Canon LbzVerif.Model.Transmit
open LbzVerif.Lemmas.TransmitLen LbzVerif.Lemmas.TransmitBits LbzVerif.Lemmas.TransmitSelMtf
open LbzVerif.Lemmas.ListAux LbzVerif.Spec.Bzip2

theorem bitsToNat_unary (j : Nat) :
    bitsToNat (List.replicate j true ++ [false]) = 2 ^ (j + 1) - 2 := by
  induction j with
  | zero => decide
  | succ j ih =>
    rw [List.replicate_succ, List.cons_append, bitsToNat_cons, ih]
    have h2 : 2 ≤ 2 ^ (j + 1) := by
      have := Nat.pow_le_pow_right (n := 2) (by omega : 0 < 2) (by omega : 1 ≤ j + 1)
      simpa using this
    have hl : (List.replicate j true ++ [false]).length = j + 1 := by simp
    have hb : bit true = 1 := rfl
    rw [hl, hb, Nat.pow_succ 2 (j + 1)]
    generalize 2 ^ (j + 1) = p at h2 ⊢
    omega

/-- `SEND(v, (1 << v) - 2)` with `v = 1 + j`: `j` one bits and a zero bit. -/
theorem send_unary (j : Nat) :
    send (1 + j) ((1 <<< (1 + j)) - 2) = List.replicate j true ++ [false] := by
  have h := natToBits_bitsToNat (List.replicate j true ++ [false])
  rw [bitsToNat_unary] at h
  simp only [List.length_append, List.length_replicate, List.length_cons, List.length_nil] at h
  unfold send
  rw [Nat.one_shiftLeft, Nat.add_comm 1 j]
  exact h

theorem readUnary_ones (n k m : Nat) (rest : Bits) (h : k + m < n) :
    readUnary n k (List.replicate m true ++ false :: rest) = .ok (k + m, rest) := by
  induction m generalizing k with
  | zero => simp [readUnary]
  | succ m ih =>
    rw [List.replicate_succ, List.cons_append, readUnary, if_pos (by omega), ih (k + 1) (by omega)]
    congr 2; omega

def unaryBits (js : List Nat) : Bits :=
  js.flatMap (fun j => send (1 + j) ((1 <<< (1 + j)) - 2))

theorem readSelectorMtf_unary (n : Nat) (js : List Nat) (hj : ∀ j ∈ js, j < n) (pos : Nat)
    (rest : Bits) (acc : Array Nat) :
    readSelectorMtf n js.length pos (unaryBits js ++ rest) acc =
      .ok (acc ++ js.toArray, pos + (js.map (· + 1)).sum, rest) := by
  induction js generalizing pos acc with
  | nil => simp [readSelectorMtf, unaryBits]
  | cons j js ih =>
    have h0 := hj j (List.mem_cons_self ..)
    have e : unaryBits (j :: js) ++ rest =
        List.replicate j true ++ false :: (unaryBits js ++ rest) := by
      simp only [unaryBits, List.flatMap_cons, send_unary j, List.append_assoc,
        List.cons_append, List.nil_append]
    rw [List.length_cons, readSelectorMtf, e, readUnary_ones n 0 j _ (by omega)]
    simp only [Nat.zero_add]
    rw [ih (fun x hx => hj x (List.mem_cons_of_mem _ hx)) (pos + j + 1) (acc.push j),
      List.push_append_toArray, List.map_cons, List.sum_cons, Nat.add_assoc pos j 1,
      Nat.add_assoc pos (j + 1)]

theorem selectorBits_eq (b : EncBlock) (h : b.selectorMtf.length = b.numSelectors) :
    selectorBits b = unaryBits b.selectorMtf := by
  unfold selectorBits unaryBits
  rw [← h]
  exact flatMap_range_getD b.selectorMtf 0 (fun j => send (1 + j) ((1 <<< (1 + j)) - 2))

theorem mtfEnc_lt (l : List Nat) (cs : List Nat) (h : ∀ c ∈ cs, c ∈ l) :
    ∀ j ∈ mtfEnc l cs, j < l.length := by
  induction cs generalizing l with
  | nil => intro j hj; simp [mtfEnc] at hj
  | cons c cs ih =>
    have hc := h c (List.mem_cons_self ..)
    have hlt : l.idxOf c < l.length := List.idxOf_lt_length_iff.mpr hc
    intro j hj
    simp only [mtfEnc, List.mem_cons] at hj
    rcases hj with rfl | hj
    · exact hlt
    · have := ih (mtfNext l c) (fun x hx => mem_mtfNext hc (h x (List.mem_cons_of_mem _ hx))) j hj
      have hl : (mtfNext l c).length = l.length := by
        simp only [mtfNext, List.length_cons, List.length_eraseIdx, if_pos hlt]
        omega
      omega

theorem unMtf_zeros (y : Nat) (t : List Nat) (d : Nat) (acc : Array Nat) :
    unMtfSelectors (y :: t) (List.replicate d 0) acc = some (acc ++ (List.replicate d y).toArray) := by
  induction d generalizing acc with
  | zero => exact congrArg some (Array.append_empty ..).symm
  | succ d ihd =>
    rw [List.replicate_succ, List.replicate_succ, ← List.push_append_toArray, ← ihd]
    rfl

theorem unMtf_mtfEnc_zeros (l : List Nat) (cs : List Nat) (h : ∀ c ∈ cs, c ∈ l) (d : Nat)
    (x : Nat) (hx : cs.getLast? = some x) (acc : Array Nat) :
    unMtfSelectors l (mtfEnc l cs ++ List.replicate d 0) acc =
      some (acc ++ (cs ++ List.replicate d x).toArray) := by
  obtain ⟨ys, rfl⟩ := List.getLast?_eq_some_iff.mp hx
  rw [unMtf_mtfEnc_append l _ h, List.foldl_append, List.foldl_cons, List.foldl_nil, mtfNext,
    unMtf_zeros, Array.append_assoc, List.append_toArray (ys ++ [x])]

/-- `SEND(2, 2)` = `10`, `SEND(2, 3)` = `11`, `SEND(1, 0)` = `0`. -/
theorem deltaCode_bits (a c : Nat) : deltaCode a c =
    (List.replicate (c - a) [true, false]).flatten ++ (List.replicate (a - c) [true, true]).flatten ++
      [false] := rfl

theorem readLen_up (a m pos : Nat) (X : Bits) (h : a + m ≤ 20) :
    readLen a pos ((List.replicate m [true, false]).flatten ++ X) =
      readLen (a + m) (pos + 2 * m) X := by
  induction m generalizing a pos with
  | zero => simp
  | succ m ih =>
    simp only [List.replicate_succ, List.flatten_cons, List.cons_append, List.nil_append]
    rw [readLen, if_pos (by simp only [maxLen]; omega), ih (a + 1) (pos + 2) (by omega)]
    congr 1 <;> omega

theorem readLen_down (a m pos : Nat) (X : Bits) (h : m + 1 ≤ a) :
    readLen a pos ((List.replicate m [true, true]).flatten ++ X) =
      readLen (a - m) (pos + 2 * m) X := by
  induction m generalizing a pos with
  | zero => simp
  | succ m ih =>
    simp only [List.replicate_succ, List.flatten_cons, List.cons_append, List.nil_append]
    rw [readLen, if_pos (by omega), ih (a - 1) (pos + 2) (by omega)]
    congr 1 <;> omega

theorem readLen_deltaCode (a c pos : Nat) (rest : Bits) (ha : 1 ≤ a ∧ a ≤ 20)
    (hc : 1 ≤ c ∧ c ≤ 20) :
    readLen a pos (deltaCode a c ++ rest) = .ok (c, pos + (deltaCode a c).length, rest) := by
  rw [deltaCode_length, deltaCode_bits, List.append_assoc, List.append_assoc,
    readLen_up a (c - a) pos _ (by omega), readLen_down (a + (c - a)) (a - c) _ _ (by omega)]
  simp only [List.singleton_append, readLen, absDiff]
  have e1 : a + (c - a) - (a - c) = c := by omega
  have e2 : pos + 2 * (c - a) + 2 * (a - c) + 1 = pos + (2 * (a - c + (c - a)) + 1) := by omega
  rw [e1, e2]

theorem readLens_deltaLoop (cs : List Nat) (a pos : Nat) (rest : Bits) (acc : Array Nat)
    (ha : 1 ≤ a ∧ a ≤ 20) (hc : ∀ c ∈ cs, 1 ≤ c ∧ c ≤ 20) :
    readLens cs.length a pos (deltaLoop a cs ++ rest) acc =
      .ok (acc ++ cs.toArray, pos + (deltaLoop a cs).length, rest) := by
  induction cs generalizing a pos acc with
  | nil => simp [readLens, deltaLoop]
  | cons c cs ih =>
    have h0 := hc c (List.mem_cons_self ..)
    simp only [List.length_cons, readLens, deltaLoop, List.append_assoc]
    rw [readLen_deltaCode a c pos _ ha h0]
    simp only
    rw [ih c _ _ h0 (fun x hx => hc x (List.mem_cons_of_mem _ hx)), List.push_append_toArray,
      List.length_append, Nat.add_assoc]

theorem readTable_ok (lens : List Nat) (a pos : Nat) (rest : Bits) (ha : 1 ≤ a ∧ a ≤ 20)
    (hc : ∀ c ∈ lens, 1 ≤ c ∧ c ≤ 20) :
    readTable lens.length pos (send 5 a ++ deltaLoop a lens ++ rest) =
      .ok (lens, pos + (5 + (deltaLoop a lens).length), rest) := by
  unfold readTable
  rw [List.append_assoc, takeNat_send 5 a _ (by omega)]
  dsimp only
  rw [if_pos (show 1 ≤ a ∧ a ≤ maxLen from ha), readLens_deltaLoop lens a (pos + 5) rest _ ha hc]
  simp only [Array.mkEmpty_eq, Array.empty_append, List.toList_toArray]
  congr 3; omega

/-- Table `t` of a well-formed block, read back: the lengths are restored
    even though the first table starts `tree_pad` away from `len[0]`. -/
theorem readTable_tableBits {b : EncBlock} (h : WF b) (t : Nat) (ht : t < b.numTrees) (pos : Nat)
    (rest : Bits) :
    readTable b.alphaSize pos (tableBits b t ++ rest) =
      .ok (b.lens.getD t [], pos + (tableBits b t).length, rest) := by
  obtain ⟨a0, rest', hq, hlen, hr⟩ := h.table ht
  have hstart := startValue_range (pad := b.treePad) t (hr a0 (List.mem_cons_self ..)) (treePad_le h)
  unfold tableBits
  simp only [hq, List.getD_cons_zero]
  rw [← hlen, tableRow_self, readTable_ok (a0 :: rest') _ pos rest hstart hr]
  simp only [List.length_append, send_length]

theorem readTables_tables {b : EncBlock} (h : WF b) (ts : List Nat) (hts : ∀ t ∈ ts, t < b.numTrees)
    (pos : Nat) (rest : Bits) (acc : Array (List Nat)) :
    readTables b.alphaSize ts.length pos (ts.flatMap (tableBits b) ++ rest) acc =
      .ok (acc.toList ++ ts.map (fun t => b.lens.getD t []),
           pos + (ts.flatMap (tableBits b)).length, rest) := by
  induction ts generalizing pos acc with
  | nil => simp [readTables]
  | cons t ts ih =>
    simp only [List.length_cons, readTables, List.flatMap_cons, List.append_assoc]
    rw [readTable_tableBits h t (hts t (List.mem_cons_self ..))]
    simp only
    rw [ih (fun x hx => hts x (List.mem_cons_of_mem _ hx))]
    simp only [List.length_append, Array.toList_push, List.map_cons, List.append_assoc,
      List.singleton_append]
    congr 3; omega

end LbzVerif.Lemmas.TransmitParse
