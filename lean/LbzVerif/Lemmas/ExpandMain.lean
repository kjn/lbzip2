/-
  Lemmas.ExpandMain — the simulation between `Model.Expand.go` (lbzip2's sequential decompression
  on the zero-padded word stream) and the reference `Spec.Bzip2.decodeStreams` (on the bits of the
  file), anchored at the parser states 2 (inside a stream: `midStream`) and 0 (between streams:
  `tailStream`), as an EQUATION between the two answers (`eq_main`, by induction on the fuel of
  `go`; `expand_eq` for whole files).  Both sides are total functions with fuel, so with enough fuel
  on both sides (`FuelMid`, `FuelTail` for the reference; `go` has fuel for the unread bits with
  the padding, 5 a block and 2 a stream header) one equation carries soundness and
  completeness; each step rewrites `go` by its anchor equation (`ExpandChain.go2`, `go0`) and the
  reference by `midStream_succ`, and both branch on the same 48- and 32-bit fields.
  Throughout: `m` = number of padding bytes (`< 4`), `pad m` = the `8·m` padding zero bits; the
  unread bits of the model are `Rt ++ pad m` with `Rt` the unread bits of the file.  A run cannot
  end well from fewer unread bits than the padding (`ExpandChain.small2`, `small0`), so the
  padding is never read as data.
-/
import LbzVerif.Lemmas.ExpandSpec
import LbzVerif.Lemmas.ExpandBlock
import LbzVerif.Lemmas.ExpandLocal
import LbzVerif.Lemmas.ExpandChain
import LbzVerif.Lemmas.ExpandTop

namespace LbzVerif.Lemmas.ExpandMain
open LbzVerif.Basic LbzVerif.Spec.Bzip2 LbzVerif.Model.Expand
open LbzVerif.Lemmas.RetrieveBits LbzVerif.Lemmas.ExpandBits LbzVerif.Lemmas.ExpandStep
open LbzVerif.Lemmas.ExpandParse
open LbzVerif.Lemmas.ExpandSpec LbzVerif.Lemmas.ExpandLocal LbzVerif.Lemmas.ExpandChain

abbrev pad (m : Nat) : Bits := List.replicate (8 * m) false

theorem pad_length (m : Nat) : (pad m).length = 8 * m := List.length_replicate

theorem size_of_bits {c : Cur} {R : Bits} {m : Nat} (h : bitsC c = R ++ pad m) :
    c.size = R.length + 8 * m := by
  rw [← bitsC_length, h, List.length_append, pad_length]

theorem words_of_append (Rt P : Bits) (h : 32 ≤ Rt.length) :
    (Rt ++ P).take 16 = Rt.take 16 ∧ ((Rt ++ P).drop 16).take 16 = (Rt.drop 16).take 16 := by
  constructor
  · rw [List.take_append_of_le_length (by omega)]
  · rw [List.drop_append_of_le_length (by omega),
      List.take_append_of_le_length (by rw [List.length_drop]; omega)]

/-- A file that ends (byte aligned) within the first 3 bytes of a would-be header: the second
header word reaches into the padding, its low byte is 0 — never "h1" … "h9". -/
theorem no_header_in_pad (Rt : Bits) (m : Nat) (h8 : Rt.length % 8 = 0) (hlt : Rt.length < 32)
    (h32 : 32 ≤ (Rt ++ pad m).length) :
    bitsToNat (((Rt ++ pad m).drop 16).take 16) % 256 = 0 := by
  have hle : Rt.length ≤ 24 := by omega
  rw [List.length_append, pad_length] at h32
  have e1 : ((Rt ++ pad m).drop 16).take 16 =
      ((Rt ++ pad m).drop 16).take 8 ++ ((Rt ++ pad m).drop 24).take 8 := by
    rw [show (16 : Nat) = 8 + 8 from rfl, List.take_add, List.drop_drop]
  have e2 : (Rt ++ pad m).drop 24 = List.replicate (8 * m - (24 - Rt.length)) false := by
    rw [List.drop_append, List.drop_of_length_le hle, List.nil_append]
    unfold pad
    rw [List.drop_replicate]
  have e3 : ((Rt ++ pad m).drop 24).take 8 = List.replicate 8 false := by
    rw [e2, List.take_replicate]
    congr 1
    omega
  rw [e1, e3, bitsToNat_append]
  have : bitsToNat (List.replicate 8 false) = 0 := by decide
  rw [this, List.length_replicate]
  omega

theorem header_level {c : Cur} {Rt rest : Bits} {m w l : Nat} (inv : BufInv c.v c.w)
    (hbits : bitsC c = Rt ++ pad m) (h32 : takeNat 32 Rt = some (w, rest))
    (hl : headerLevel w = some l) :
    rest = Rt.drop 32 ∧ wordC (adv c) - 0x6830 = l ∧ bitsC (adv2 c) = Rt.drop 32 ++ pad m ∧
      BufInv (adv2 c).v (adv2 c).w := by
  have hR : 32 ≤ Rt.length := by have := takeNat_length h32; omega
  have hB : 32 ≤ (bitsC c).length := by rw [hbits, List.length_append]; omega
  obtain ⟨e1, i1, _, _⟩ := adv_spec c inv (by omega)
  obtain ⟨e2, i2, _, _⟩ := adv_spec (adv c) i1 (by rw [e1, List.length_drop]; omega)
  rw [e1, List.drop_drop, hbits, List.drop_append_of_le_length hR] at e2
  rw [split32 Rt hR, Option.some.injEq, Prod.mk.injEq] at h32
  obtain ⟨rfl, rfl⟩ := h32
  have := bitsToNat_take_lt (Rt.drop 16) 16
  rw [headerLevel_some_iff] at hl
  refine ⟨rfl, ?_, e2, i2⟩
  show bitsToNat ((bitsC (adv c)).take 16) - _ = _
  rw [e1, hbits, (words_of_append Rt (pad m) hR).2]
  omega

theorem header_test {c : Cur} {Rt : Bits} {m : Nat} (inv : BufInv c.v c.w)
    (hbits : bitsC c = Rt ++ pad m) (h8 : Rt.length % 8 = 0) :
    isHdr c ↔ ∃ w rest l, takeNat 32 Rt = some (w, rest) ∧ headerLevel w = some l := by
  by_cases h16 : 16 ≤ (bitsC c).length
  · show (_ ∧ bitsToNat ((bitsC c).take 16) = _ ∧ _ ≤ bitsToNat ((bitsC (adv c)).take 16) ∧
      bitsToNat ((bitsC (adv c)).take 16) ≤ _) ↔ _
    rw [(adv_spec c inv h16).1, hbits]
    by_cases hR : 32 ≤ Rt.length
    · obtain ⟨e1, e2⟩ := words_of_append Rt (pad m) hR
      have b1 := bitsToNat_take_lt Rt 16
      have b2 := bitsToNat_take_lt (Rt.drop 16) 16
      rw [e1, e2, split32 Rt hR]
      generalize bitsToNat (Rt.take 16) = hi at b1
      generalize bitsToNat ((Rt.drop 16).take 16) = lo at b2
      constructor
      · rintro ⟨_, h1, h2, h3⟩
        exact ⟨_, _, _, rfl, (headerLevel_some_iff _ (hi * 2 ^ 16 + lo - 0x425A6830)).mpr (by omega)⟩
      · rintro ⟨w, rest, l, hw, hl⟩
        rw [Option.some.injEq, Prod.mk.injEq] at hw
        rw [← hw.1, headerLevel_some_iff] at hl
        exact ⟨by rw [List.length_append]; omega, by omega, by omega, by omega⟩
    · constructor
      · rintro ⟨h32, _, h2, _⟩
        have := no_header_in_pad Rt m h8 (by omega) h32
        omega
      · rintro ⟨w, rest, l, hw, _⟩
        have := takeNat_length hw
        omega
  · constructor
    · exact fun a => absurd a.1 (by omega)
    · rintro ⟨w, rest, l, hw, _⟩
      have := takeNat_length hw
      rw [hbits, List.length_append] at h16
      omega

/-- The padding is whole bytes, so it does not move the byte boundary behind an end-of-stream marker. -/
theorem drop_align_pad (R : Bits) (m : Nat) :
    (R ++ pad m).drop ((R ++ pad m).length % 8) = R.drop (R.length % 8) ++ pad m := by
  rw [List.length_append, pad_length, Nat.add_mul_mod_self_left,
    List.drop_append_of_le_length (Nat.mod_le _ _)]

/-- The reference has fuel for `L` unread bits at offset `pos` inside a stream (`fb` for the
blocks of this stream, `fB` for those of each later stream, `fS` for the later streams), and the
file ends on a byte boundary.  48 = the bits of a block magic, the least a turn of `decodeBlocks`
consumes; 80 = magic and CRC of an end-of-stream marker, the least a stream consumes. -/
structure FuelMid (fS fB fb pos L : Nat) : Prop where
  blocks : L < 48 * fb
  later : L < 48 * fB
  streams : L < 80 * (fS + 1)
  aligned : (pos + L) % 8 = 0

/-- The same between streams, where the unread bits are whole bytes. -/
structure FuelTail (fS fB pos L : Nat) : Prop where
  later : L < 48 * fB
  streams : L < 80 * fS
  aligned : (pos + L) % 8 = 0
  bytes : L % 8 = 0

theorem FuelMid.succ {fS fB fb pos L L1 : Nat} (h : FuelMid fS fB fb pos L) (h48 : L = 48 + L1) :
    ∃ fb', fb = fb' + 1 :=
  ⟨fb - 1, by have := h.blocks; omega⟩

theorem FuelMid.block {fS fB fb pos L L1 L' pos' : Nat} (h : FuelMid fS fB (fb + 1) pos L)
    (h48 : L = 48 + L1) (hle : L' ≤ L1) (hp : pos' + L' = pos + 48 + L1) :
    FuelMid fS fB fb pos' L' := by
  obtain ⟨h1, h2, h3, h4⟩ := h
  exact ⟨by omega, by omega, by omega, by omega⟩

/-- The file ends on a byte boundary, so what the reference skips behind an end-of-stream marker are
the unread bits beyond whole bytes. -/
theorem FuelMid.eos {fS fB fb pos L L1 L2 : Nat} (h : FuelMid fS fB fb pos L)
    (h48 : L = 48 + L1) (h32 : L1 = 32 + L2) :
    (8 - (pos + 80) % 8) % 8 = L2 % 8 ∧ FuelTail fS fB (pos + 80 + L2 % 8) (L2 - L2 % 8) := by
  obtain ⟨h1, h2, h3, h4⟩ := h
  exact ⟨by omega, by omega, by omega, by omega, by omega⟩

theorem FuelTail.succ {fS fB pos L : Nat} (h : FuelTail fS fB pos L) (h32 : 32 ≤ L) :
    ∃ fS', fS = fS' + 1 :=
  ⟨fS - 1, by have := h.streams; omega⟩

theorem FuelTail.header {fS fB pos L : Nat} (h : FuelTail (fS + 1) fB pos L) (h32 : 32 ≤ L) :
    FuelMid fS fB fB (pos + 32) (L - 32) := by
  obtain ⟨h1, h2, h3, h4⟩ := h
  exact ⟨by omega, by omega, by omega, by omega⟩

/-- the reference's plaintext, if it accepts -/
def outOf (r : Except Reject Acc) : Option (List UInt8) := (okOf r).map (·.out.toList)

theorem midStream_ok_len80 (fS fB fb level pos : Nat) (bits : Bits) (cc : UInt32) (A a : Acc)
    (h : midStream fS fB fb level pos bits cc A = .ok a) : 80 ≤ bits.length := by
  obtain ⟨fb', _, hc⟩ := midStream_ok_cases fS fB fb level pos bits cc A a h
  rcases hc with ⟨b1, b, b2, _, h48, hp, _⟩ | ⟨b1, _, h48, h32, _⟩
  · have := takeNat_length h48
    obtain ⟨_, _, _⟩ := parseBlock_crc level pos b1 b b2 hp
    omega
  · have := takeNat_length h48
    have := takeNat_length h32
    omega

/-- Inside a stream with fewer than 80 unread bits of the file: whatever `go` reads beyond them is
padding, and it cannot end well behind it. -/
theorem go2_short (m f : Nat) (p : Gen.ParseSt) (c : Cur) (acc : List UInt8) (inv : BufInv c.v c.w)
    (hs : p.state = 2) (hmode : p.streamMode = false) (hm3 : m < 4)
    (h : (bitsC c).length < 80 + 8 * m) : okOf (go m f p c acc) = none := by
  rw [go2 m f p c acc inv hs hmode]
  by_cases hG : 5 ≤ f ∧ 80 ≤ (bitsC c).length
  · obtain ⟨_, h32c, i5, _⟩ := adv5_spec c inv hG.2
    have l5 : (bitsC (adv5 c)).length < 8 * m := by
      have := takeNat_length h32c
      rw [List.length_drop] at this
      omega
    rw [if_pos hG]
    split
    · split
      · rfl
      · rename_i out c6 hblk
        obtain ⟨inv6, hsz6⟩ := Lemmas.ExpandBlock.blockAt_size _ _ _ _ _ i5 hblk
        rw [← bitsC_length, ← bitsC_length] at hsz6
        exact small2 m _ (pBlock p (wordC (adv3 c) % 4294967296) (fieldCrc c)) c6 _ inv6 rfl hmode
          (by omega)
    · split
      · split
        · obtain ⟨b1, b2, _⟩ := align_bits (adv5 c) i5
          refine small0 m _ (pEos p (fieldCrc c)) _ acc b2 rfl hm3 ?_
          rw [b1, List.length_drop]
          omega
        · rfl
      · rfl
  · rw [if_neg hG]

/-- The claim of `eq_main` at fuel `f`, at its two anchors: inside a stream (`midStream`) and
between streams (`tailStream`).  `f` counts iterations of `go`, each of which reads 16 bits, so
more fuel than unread bits is enough.  Between streams `go0` wants `2 ≤ f` (a stream header is
two iterations, trailing garbage at most two: `fuelOk`), which that bound gives only when bits
are left: hence `+ 2`, affordable since an end-of-stream marker takes 5 off `f` and 80 bits. -/
def EqAt (m f : Nat) : Prop :=
  ∀ (p : Gen.ParseSt) (c : Cur) (acc : List UInt8) (Rt : Bits) (pos : Nat) (A : Acc),
    BufInv c.v c.w → p.streamMode = false → bitsC c = Rt ++ pad m → acc = A.out.toList →
    (p.state = 2 → ∀ (fS fB fb : Nat) (cc : UInt32), p.computedCrc = cc.toNat →
      p.bs100k ≤ 9 → FuelMid fS fB fb pos Rt.length → Rt.length + 8 * m < f →
      okOf (go m f p c acc) = outOf (midStream fS fB fb p.bs100k pos Rt cc A)) ∧
    (p.state = 0 → ∀ (fS fB : Nat), p.computedCrc = 0 →
      FuelTail fS fB pos Rt.length → Rt.length + 8 * m + 2 ≤ f →
      okOf (go m f p c acc) = outOf (tailStream fS fB pos Rt A))

theorem eq_mid (m : Nat) (hm3 : m < 4) (f : Nat) (ih : ∀ f', f' < f → EqAt m f')
    (p : Gen.ParseSt) (c : Cur) (acc : List UInt8) (Rt : Bits) (pos : Nat) (A : Acc)
    (inv : BufInv c.v c.w) (hmode : p.streamMode = false) (hbits : bitsC c = Rt ++ pad m)
    (hacc : acc = A.out.toList) (hs : p.state = 2) (fS fB fb : Nat) (cc : UInt32)
    (hcc : p.computedCrc = cc.toNat) (hl9 : p.bs100k ≤ 9)
    (hfuel : FuelMid fS fB fb pos Rt.length) (hroom : Rt.length + 8 * m < f) :
    okOf (go m f p c acc) = outOf (midStream fS fB fb p.bs100k pos Rt cc A) := by
  have hlenB : (bitsC c).length = Rt.length + 8 * m := by
    rw [hbits, List.length_append, pad_length]
  by_cases h80 : 80 ≤ Rt.length
  · rw [go2 m f p c acc inv hs hmode]
    obtain ⟨f', rfl⟩ : ∃ f', f = f' + 5 := ⟨f - 5, by omega⟩
    obtain ⟨fb', rfl⟩ := hfuel.succ (L1 := Rt.length - 48) (by omega)
    obtain ⟨h48c, h32c, i5, w5⟩ := adv5_spec c inv (by omega)
    obtain ⟨mg, R1, h48⟩ : ∃ mg R1, takeNat 48 Rt = some (mg, R1) := ⟨_, _, split48 Rt (by omega)⟩
    have l48 := takeNat_length h48
    obtain ⟨crc, R2, h32⟩ : ∃ crc R2, takeNat 32 R1 = some (crc, R2) :=
      ⟨_, _, split32 R1 (by omega)⟩
    have l32 := takeNat_length h32
    have h32p := takeNat_append' 32 R1 (pad m) _ _ h32
    have e48 := takeNat_append' 48 Rt (pad m) _ _ h48
    rw [← hbits, h48c, Option.some.injEq, Prod.mk.injEq] at e48
    obtain ⟨hmg, e48⟩ := e48
    have e32 := h32p
    rw [← e48, h32c, Option.some.injEq, Prod.mk.injEq] at e32
    obtain ⟨hcrc, hb5⟩ := e32
    rw [if_pos ⟨by omega, by omega⟩, hmg, hcrc, midStream_succ]
    simp only [h48, Nat.add_sub_cancel]
    by_cases hB : mg = blockMagic
    · rw [if_pos hB, if_pos hB]
      rw [← hb5] at h32p
      cases hblk : blockAt p.bs100k crc (adv5 c) with
      | ok r =>
        obtain ⟨out, c6⟩ := r
        obtain ⟨b, n, hp, hd, inv6, hsz6⟩ := Lemmas.ExpandBlock.blockAt_sound p.bs100k crc (adv5 c) c6 out
          i5 (Nat.le_trans w5 (by decide)) hblk pos (R1 ++ pad m) h32p
        simp only
        by_cases hP6 : (pad m).length ≤ (bitsC c6).length
        · obtain ⟨Rt6, hR6, hpt⟩ := parseBlock_restrict p.bs100k pos R1 (pad m) b (bitsC c6) hp hP6
          obtain ⟨r, hcrc32, _⟩ := parseBlock_crc p.bs100k pos R1 b Rt6 hpt
          have hce : b.storedCrc = crc := by
            rw [h32, Option.some.injEq, Prod.mk.injEq] at hcrc32
            exact hcrc32.1.symm
          simp only [hpt, hd]
          exact ((ih f' (by omega))
            (pBlock p (wordC (adv3 c) % 4294967296) crc)
            c6 (acc ++ out) Rt6 b.endBit
            { out := A.out ++ out.toArray, streams := A.streams } inv6 hmode hR6 (by simp [hacc])).1
            rfl fS fB fb' (combine cc (UInt32.ofNat b.storedCrc))
            (by show crcUpd p.computedCrc crc = _
                rw [hcc, hce]; exact crcUpd_combine cc crc (takeNat_lt h32))
            hl9
            (hfuel.block l48 (parseBlock_local _ _ _ _ _ hpt).length_le (parseBlock_pos p.bs100k pos R1 b Rt6 hpt))
            (by have := (parseBlock_local _ _ _ _ _ hpt).length_le; omega)
        · -- the block's last bits are padding: the run cannot end well, the reference is truncated
          rw [small2 m f'
            (pBlock p (wordC (adv3 c) % 4294967296) crc)
            c6 _ inv6 rfl hmode (by rw [pad_length] at hP6; omega)]
          cases hpt : parseBlock p.bs100k pos R1 with
          | error e => rfl
          | ok r =>
            obtain ⟨b', r'⟩ := r
            exfalso
            have := parseBlock_append p.bs100k pos R1 (pad m) b' r' hpt
            rw [hp, Except.ok.injEq, Prod.mk.injEq] at this
            rw [this.2, List.length_append] at hP6
            omega
      | error e =>
        -- the model's block fails; were the reference to accept, at least 80 bits would follow
        -- the block, and `blockAt_complete` (which needs 32) would make the model's block succeed
        show none = _
        cases hpt : parseBlock p.bs100k pos R1 with
        | error e => rfl
        | ok r =>
          obtain ⟨b, b2⟩ := r
          dsimp only
          cases hd : decodeBlock b with
          | error e => rfl
          | ok d =>
            simp only
            cases hmid' : midStream fS fB fb' p.bs100k b.endBit b2
                (combine cc (UInt32.ofNat b.storedCrc))
                { out := A.out ++ d.bytes, streams := A.streams } with
            | error e => rfl
            | ok a =>
              exfalso
              have hb2len := midStream_ok_len80 _ _ _ _ _ _ _ _ _ hmid'
              obtain ⟨r, hcrc32, _⟩ := parseBlock_crc p.bs100k pos R1 b b2 hpt
              have hce : b.storedCrc = crc := by
                rw [h32, Option.some.injEq, Prod.mk.injEq] at hcrc32
                exact hcrc32.1.symm
              obtain ⟨c6, hblk', _, _⟩ := Lemmas.ExpandBlock.blockAt_complete p.bs100k crc (adv5 c) i5
                (Nat.le_trans w5 (by decide)) hl9 pos (R1 ++ pad m) h32p b (b2 ++ pad m)
                (parseBlock_append p.bs100k pos R1 (pad m) b b2 hpt) d hd
                (by rw [List.length_append]; omega)
              rw [hblk] at hblk'
              cases hblk'
    · rw [if_neg hB, if_neg hB]
      by_cases hE : mg = eosMagic
      · rw [if_pos hE, if_pos hE, hcc]
        simp only [h32]
        by_cases hc : crc = cc.toNat
        · rw [if_pos hc, if_pos hc]
          obtain ⟨b1, b2, _⟩ := align_bits (adv5 c) i5
          rw [hb5, drop_align_pad R2 m] at b1
          obtain ⟨hpadv, hfuel5⟩ := hfuel.eos l48 l32
          rw [hpadv]
          exact ((ih f' (by omega))
            (pEos p crc)
            (alignC (adv5 c)) acc (R2.drop (R2.length % 8))
            (pos + 80 + R2.length % 8) A b2 hmode b1 hacc).2 rfl fS fB rfl
            (by rw [List.length_drop]; exact hfuel5) (by rw [List.length_drop]; omega)
        · rw [if_neg hc, if_neg hc]
          rfl
      · rw [if_neg hE, if_neg hE]
        rfl
  · -- fewer than 80 bits of the file left: truncated for the reference
    rw [go2_short m f p c acc inv hs hmode hm3 (by omega)]
    cases hmid : midStream fS fB fb p.bs100k pos Rt cc A with
    | error e => rfl
    | ok a => exact absurd (midStream_ok_len80 _ _ _ _ _ _ _ _ _ hmid) h80

theorem eq_tail (m : Nat) (hm3 : m < 4) (f : Nat) (ih : ∀ f', f' < f → EqAt m f')
    (p : Gen.ParseSt) (c : Cur) (acc : List UInt8) (Rt : Bits) (pos : Nat) (A : Acc)
    (inv : BufInv c.v c.w) (hmode : p.streamMode = false) (hbits : bitsC c = Rt ++ pad m)
    (hacc : acc = A.out.toList) (hs : p.state = 0) (fS fB : Nat) (hcc : p.computedCrc = 0)
    (hfuel : FuelTail fS fB pos Rt.length) (hroom : Rt.length + 8 * m + 2 ≤ f) :
    okOf (go m f p c acc) = outOf (tailStream fS fB pos Rt A) := by
  obtain ⟨f', rfl⟩ : ∃ f', f = f' + 2 := ⟨f - 2, by omega⟩
  have hH := header_test inv hbits hfuel.bytes
  rw [go0 m _ p c acc inv hs hm3]
  by_cases hh : ∃ w rest l, takeNat 32 Rt = some (w, rest) ∧ headerLevel w = some l
  · obtain ⟨w, rest, l, h32, hl⟩ := hh
    have hR : 32 ≤ Rt.length := by have := takeNat_length h32; omega
    obtain ⟨rfl, hbs, e2, i2⟩ := header_level inv hbits h32 hl
    have hrange := headerLevel_range hl
    obtain ⟨fS', rfl⟩ := hfuel.succ hR
    rw [if_pos (hH.mpr ⟨w, _, l, h32, hl⟩), if_pos (by omega : 2 ≤ f' + 2),
      tailStream_header fS' fB pos Rt _ A w l h32 hl, hbs]
    exact ((ih f' (by omega)) { p with align := false, state := 2, bs100k := l } (adv2 c) acc
      (Rt.drop 32) (pos + 32) A i2 hmode e2 hacc).1
      rfl fS' fB fB 0 (by rw [← UInt32.toNat_zero] at hcc; exact hcc) hrange.2
      (by rw [List.length_drop]; exact hfuel.header hR)
      (by rw [List.length_drop]; omega)
  · rw [if_neg (fun h => hh (hH.mp h)),
      if_pos ⟨by rw [hbits, List.length_append, pad_length]; omega, .inl (by omega)⟩,
      tailStream_none fS fB pos Rt A fun w rest hw => by
        cases hl : headerLevel w with
        | none => rfl
        | some l => exact absurd ⟨w, rest, l, hw, hl⟩ hh,
      hacc]
    rfl

theorem eq_main (m : Nat) (hm3 : m < 4) : ∀ f, EqAt m f := by
  intro f
  induction f using Nat.strongRecOn with
  | ind f ih =>
  intro p c acc Rt pos A inv hmode hbits hacc
  exact ⟨fun hs fS fB fb cc hcc h9 hf hr =>
      eq_mid m hm3 f ih p c acc Rt pos A inv hmode hbits hacc hs fS fB fb cc hcc h9 hf hr,
    fun hs fS fB hcc hf hr => eq_tail m hm3 f ih p c acc Rt pos A inv hmode hbits hacc hs fS fB hcc hf hr⟩

open LbzVerif.Lemmas.ExpandTop in
theorem expand_eq (x : List UInt8) : okOf (expandFile x) = okOf (decodeFile x) := by
  by_cases hh : Lemmas.Copy.hasHeader x = true
  · have hlen : (x.drop 4).length = x.length - 4 := List.length_drop
    have hbits := bitsC_start (x.drop 4)
    obtain ⟨_, _, hlevel⟩ := header_take x hh
    have hlv := headerLevel_range hlevel
    have hsz : 0 + 32 * (toWords (padded (x.drop 4))).length = _ := size_of_bits hbits
    rw [bytesToBits_length] at hsz
    have := (eq_main _ (missingOf_lt (x.drop 4).length)
      (32 * (toWords (padded (x.drop 4))).length + 1)
      (Gen.parserInit (Lemmas.Copy.headerLevel x) false) ⟨0, 0, toWords (padded (x.drop 4))⟩ []
      (bytesToBits (x.drop 4)) (0 + 32) {} Lemmas.RetrieveBits.bufInv_start rfl hbits rfl).1 rfl
      x.length (x.length + 1) (x.length + 1) 0 rfl hlv.2
      (by rw [bytesToBits_length]; exact ⟨by omega, by omega, by omega, by omega⟩)
      (by rw [bytesToBits_length]; omega)
    rw [expandFile_eq, if_pos hh]
    unfold expandRest decodeFile
    rw [walkFile_eq, if_pos hh, decodeStreams_succ]
    refine this.trans ?_
    show outOf (midStream x.length (x.length + 1) (x.length + 1) (Lemmas.Copy.headerLevel x)
      (0 + 32) (bytesToBits (x.drop 4)) 0 {}) = _
    cases midStream x.length (x.length + 1) (x.length + 1) (Lemmas.Copy.headerLevel x)
      (0 + 32) (bytesToBits (x.drop 4)) 0 {} <;> rfl
  · rw [expandFile_eq, if_neg hh]
    unfold decodeFile
    rw [walkFile_eq, if_neg hh]
    rfl


end LbzVerif.Lemmas.ExpandMain
