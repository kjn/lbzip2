/-
  LbzVerif.Lemmas.SpecBasic — the reference decoder's outer structure; what its readers
  consume; its fuel is sufficient.
-/
import LbzVerif.Lemmas.BitsBasic
import LbzVerif.Spec.Bzip2
namespace LbzVerif.Spec.Bzip2

open LbzVerif.Basic

/-! ### outer structure of the reference decoder

`decodeFile` and `inspect` are total by construction: they are ordinary Lean definitions accepted
by the termination checker (structural recursion only; nothing opaque to the kernel, no escape
hatches), so every byte string gets exactly one verdict. -/

theorem decodeFile_empty : decodeFile [] = .error .empty := rfl

theorem walkFile_unfold (strict : Bool) (data : List UInt8) : walkFile strict data =
  if data.isEmpty then .error .empty
  else
    match takeNat 32 (bytesToBits data) with
    | none => .error .badMagic
    | some (w, bits) =>
      match headerLevel w with
      | none => .error .badMagic
      | some level => decodeStreams strict (data.length + 1) (data.length + 1) level 0 bits {} := by
  unfold walkFile
  rfl

theorem headerLevel_some_iff (w l : Nat) :
    headerLevel w = some l ↔ (0x425A6831 ≤ w ∧ w ≤ 0x425A6839 ∧ l = w - 0x425A6830) := by
  unfold headerLevel
  split <;> rename_i h
  · rw [Option.some.injEq]
    constructor
    · intro e; exact ⟨h.1, h.2, e.symm⟩
    · intro e; exact e.2.2.symm
  · constructor
    · intro e; exact absurd e (by simp)
    · intro e; exact absurd ⟨e.1, e.2.1⟩ h

theorem headerLevel_range {w l : Nat} (h : headerLevel w = some l) : 1 ≤ l ∧ l ≤ 9 := by
  rw [headerLevel_some_iff] at h
  omega

theorem readLen_range {cur pos : Nat} {bits : Bits} {len pos' : Nat} {rest : Bits}
    (hc : 1 ≤ cur ∧ cur ≤ maxLen) (h : readLen cur pos bits = .ok (len, pos', rest)) :
    1 ≤ len ∧ len ≤ maxLen := by
  fun_induction readLen cur pos bits with
  | case1 => cases h
  | case2 cur pos bits => cases h; exact hc
  | case3 => cases h
  | case4 cur pos bits hlt ih =>
    exact ih ⟨by omega, hlt⟩ h
  | case5 cur pos bits hnot => cases h
  | case6 cur pos bits hge ih =>
    exact ih ⟨by omega, by omega⟩ h
  | case7 cur pos bits hnot => cases h

theorem readUnary_lt {nGroups k : Nat} {bits : Bits} {j : Nat} {rest : Bits}
    (hk : k < nGroups) (h : readUnary nGroups k bits = .ok (j, rest)) : j < nGroups := by
  fun_induction readUnary nGroups k bits with
  | case1 => cases h
  | case2 k bits => cases h; exact hk
  | case3 k bits hlt ih => exact ih hlt h
  | case4 k bits hnot => cases h

theorem decodeBlock_ok_stages {b : Block} {d : Decoded} (h : decodeBlock b = .ok d) :
    ∃ tt t, unMtfRle2 b.used (blockCap b.level) b.syms.toList = .ok tt ∧ tt.size ≠ 0 ∧
      ibwt tt b.origPtr = some t ∧ unRle1 (if b.rand then derand t else t) = .ok d.bytes ∧
      (crc32Arr d.bytes).toNat = b.storedCrc := by
  unfold decodeBlock at h
  split at h
  · cases h
  rename_i tt e1
  split at h
  · cases h
  rename_i hsz
  split at h
  · cases h
  rename_i t e2
  split at h
  · cases h
  rename_i out e3
  split at h
  · rename_i hcrc
    cases h
    exact ⟨tt, t, e1, hsz, e2, e3, hcrc⟩
  · cases h

theorem decodeBlock_crc_changed (b : Block) (d : Decoded) (c' : Nat)
    (h : decodeBlock b = .ok d) (hc : c' ≠ b.storedCrc) :
    decodeBlock { b with storedCrc := c' } = .error .blockCrc := by
  obtain ⟨tt, t, e1, hsz, e2, e3, hcrc⟩ := decodeBlock_ok_stages h
  have hne : ¬ (crc32Arr d.bytes).toNat = c' := fun h' => hc (h'.symm.trans hcrc)
  unfold decodeBlock
  simp only [e1, if_neg hsz, e2, e3, if_neg hne]

/-! ### what the readers consume

Every sub-parser of `parseBlock`, on any input: it never fails with the artificial reason
`Reject.fuel`, and when it succeeds it has read a prefix `C` of its input in the sense of
`Reads`, the position it returns having advanced by `|C|`. -/

theorem readBitmapRows_reads {big : Nat} {rows : List Nat} {pos : Nat} {X : Bits}
    {u : List UInt8} {p : Nat} {rest : Bits}
    (h : readBitmapRows big rows pos X = some (u, p, rest)) :
    p + rest.length = pos + X.length ∧
    Reads (readBitmapRows big rows pos) X (fun Y => some (u, p, Y)) rest := by
  induction rows generalizing pos X u p with
  | nil =>
    simp only [readBitmapRows, Option.some.injEq, Prod.mk.injEq] at h
    obtain ⟨rfl, rfl, rfl⟩ := h
    exact ⟨rfl, .refl _ fun _ => rfl⟩
  | cons i rows ih =>
    simp only [readBitmapRows] at h
    split at h
    · rename_i hb
      split at h
      · cases h
      · rename_i small bits1 h1
        split at h
        · cases h
        · rename_i u' p' r' h2
          simp only [Option.some.injEq, Prod.mk.injEq] at h
          obtain ⟨rfl, rfl, rfl⟩ := h
          have l1 := takeNat_length h1
          obtain ⟨l2, r2⟩ := ih h2
          refine ⟨by omega, (takeNat_reads h1).seq r2 fun Z Y W e1 e2 => ?_⟩
          simp only [readBitmapRows, if_pos hb, e1, e2]
    · rename_i hb
      obtain ⟨l, r⟩ := ih h
      refine ⟨l, r.mono fun Z Y e => ?_⟩
      simp only [readBitmapRows, if_neg hb, e]

theorem readUnary_reads {g k : Nat} {X : Bits} :
    (∀ e, readUnary g k X = .error e → e ≠ .fuel) ∧
    ∀ j rest, readUnary g k X = .ok (j, rest) →
      rest.length + (j - k) + 1 = X.length ∧ k ≤ j ∧
      Reads (readUnary g k) X (fun Y => .ok (j, Y)) rest := by
  fun_induction readUnary g k X with
  | case1 | case4 => simp
  | case2 k bits =>
    refine ⟨by simp, fun j rest h => ?_⟩
    simp only [Except.ok.injEq, Prod.mk.injEq] at h
    obtain ⟨rfl, rfl⟩ := h
    exact ⟨by simp, Nat.le_refl _, [false], rfl, fun Y => by simp [readUnary]⟩
  | case3 k bits hlt ih =>
    refine ⟨ih.1, fun j rest h => ?_⟩
    obtain ⟨l, hk, r⟩ := ih.2 j rest h
    refine ⟨by simp only [List.length_cons]; omega, by omega, r.prepend [true] fun Y => ?_⟩
    simp only [List.cons_append, List.nil_append, readUnary, if_pos hlt]

theorem readSelectorMtf_reads {g n pos : Nat} {X : Bits} {acc : Array Nat} :
    (∀ e, readSelectorMtf g n pos X acc = .error e → e ≠ .fuel) ∧
    ∀ a p rest, readSelectorMtf g n pos X acc = .ok (a, p, rest) →
      p + rest.length = pos + X.length ∧
      Reads (fun Z => readSelectorMtf g n pos Z acc) X (fun Y => .ok (a, p, Y)) rest := by
  fun_induction readSelectorMtf g n pos X acc with
  | case1 pos bits acc =>
    refine ⟨by simp, fun a p rest h => ?_⟩
    simp only [Except.ok.injEq, Prod.mk.injEq] at h
    obtain ⟨rfl, rfl, rfl⟩ := h
    exact ⟨rfl, .refl _ fun _ => rfl⟩
  | case2 n pos bits acc e h => simp [readUnary_reads.1 e h]
  | case3 n pos bits acc j bits1 h1 ih =>
    obtain ⟨l1, _, r1⟩ := readUnary_reads.2 _ _ h1
    refine ⟨ih.1, fun a p rest h => ?_⟩
    obtain ⟨l2, r2⟩ := ih.2 _ _ _ h
    refine ⟨by omega, r1.seq r2 fun Z Y W e1 e2 => ?_⟩
    simp only [readSelectorMtf, e1, e2]

theorem readLen_reads {cur pos : Nat} {X : Bits} :
    (∀ e, readLen cur pos X = .error e → e ≠ .fuel) ∧
    ∀ l p rest, readLen cur pos X = .ok (l, p, rest) →
      p + rest.length = pos + X.length ∧ pos < p ∧
      Reads (readLen cur pos) X (fun Y => .ok (l, p, Y)) rest := by
  fun_induction readLen cur pos X with
  | case1 | case3 | case5 | case7 => simp
  | case2 cur pos bits =>
    refine ⟨by simp, fun l p rest h => ?_⟩
    simp only [Except.ok.injEq, Prod.mk.injEq] at h
    obtain ⟨rfl, rfl, rfl⟩ := h
    exact ⟨by simp only [List.length_cons]; omega, by omega, [false], rfl,
      fun Y => by simp [readLen]⟩
  | case4 cur pos bits hle ih =>
    refine ⟨ih.1, fun l p rest h => ?_⟩
    obtain ⟨l2, hp, r⟩ := ih.2 _ _ _ h
    refine ⟨by simp only [List.length_cons]; omega, by omega,
      r.prepend [true, false] fun Y => ?_⟩
    simp only [List.cons_append, List.nil_append, readLen, if_pos hle]
  | case6 cur pos bits hle ih =>
    refine ⟨ih.1, fun l p rest h => ?_⟩
    obtain ⟨l2, hp, r⟩ := ih.2 _ _ _ h
    refine ⟨by simp only [List.length_cons]; omega, by omega,
      r.prepend [true, true] fun Y => ?_⟩
    simp only [List.cons_append, List.nil_append, readLen, if_pos hle]

theorem readLens_reads {n cur pos : Nat} {X : Bits} {acc : Array Nat} :
    (∀ e, readLens n cur pos X acc = .error e → e ≠ .fuel) ∧
    ∀ a p rest, readLens n cur pos X acc = .ok (a, p, rest) →
      p + rest.length = pos + X.length ∧
      Reads (fun Z => readLens n cur pos Z acc) X (fun Y => .ok (a, p, Y)) rest := by
  fun_induction readLens n cur pos X acc with
  | case1 cur pos bits acc =>
    refine ⟨by simp, fun a p rest h => ?_⟩
    simp only [Except.ok.injEq, Prod.mk.injEq] at h
    obtain ⟨rfl, rfl, rfl⟩ := h
    exact ⟨rfl, .refl _ fun _ => rfl⟩
  | case2 n cur pos bits acc e h => simp [readLen_reads.1 e h]
  | case3 n cur pos bits acc len pos1 bits1 h1 ih =>
    obtain ⟨l1, _, r1⟩ := readLen_reads.2 _ _ _ h1
    refine ⟨ih.1, fun a p rest h => ?_⟩
    obtain ⟨l2, r2⟩ := ih.2 _ _ _ h
    refine ⟨by omega, r1.seq r2 fun Z Y W e1 e2 => ?_⟩
    simp only [readLens, e1, e2]

theorem readTable_reads {alpha pos : Nat} {X : Bits} :
    (∀ e, readTable alpha pos X = .error e → e ≠ .fuel) ∧
    ∀ t p rest, readTable alpha pos X = .ok (t, p, rest) →
      p + rest.length = pos + X.length ∧
      Reads (readTable alpha pos) X (fun Y => .ok (t, p, Y)) rest := by
  fun_cases readTable alpha pos X with
  | case1 | case4 => simp
  | case2 st bits1 h1 hst e h2 => simp [readLens_reads.1 e h2]
  | case3 st bits1 h1 hst lens pos2 bits2 h2 =>
    have l1 := takeNat_length h1
    obtain ⟨l2, r2⟩ := readLens_reads.2 _ _ _ h2
    refine ⟨by simp, fun t p rest h => ?_⟩
    simp only [Except.ok.injEq, Prod.mk.injEq] at h
    obtain ⟨rfl, rfl, rfl⟩ := h
    refine ⟨by omega, (takeNat_reads h1).seq r2 fun Z Y W e1 e2 => ?_⟩
    simp only [readTable, e1, if_pos hst, e2]

theorem readTables_reads {alpha n pos : Nat} {X : Bits} {acc : Array (List Nat)} :
    (∀ e, readTables alpha n pos X acc = .error e → e ≠ .fuel) ∧
    ∀ t p rest, readTables alpha n pos X acc = .ok (t, p, rest) →
      p + rest.length = pos + X.length ∧
      Reads (fun Z => readTables alpha n pos Z acc) X (fun Y => .ok (t, p, Y)) rest := by
  fun_induction readTables alpha n pos X acc with
  | case1 pos bits acc =>
    refine ⟨by simp, fun t p rest h => ?_⟩
    simp only [Except.ok.injEq, Prod.mk.injEq] at h
    obtain ⟨rfl, rfl, rfl⟩ := h
    exact ⟨rfl, .refl _ fun _ => rfl⟩
  | case2 n pos bits acc e h => simp [readTable_reads.1 e h]
  | case3 n pos bits acc t1 pos1 bits1 h1 ih =>
    obtain ⟨l1, r1⟩ := readTable_reads.2 _ _ _ h1
    refine ⟨ih.1, fun t p rest h => ?_⟩
    obtain ⟨l2, r2⟩ := ih.2 _ _ _ h
    refine ⟨by omega, r1.seq r2 fun Z Y W e1 e2 => ?_⟩
    simp only [readTables, e1, e2]

theorem decodeRank_reads {counts : List Nat} {code first index pos : Nat} {X : Bits} :
    (∀ e, decodeRank counts code first index pos X = .error e → e ≠ .fuel) ∧
    ∀ r p rest, decodeRank counts code first index pos X = .ok (r, p, rest) →
      p + rest.length = pos + X.length ∧
      Reads (decodeRank counts code first index pos) X (fun Y => .ok (r, p, Y)) rest := by
  fun_induction decodeRank counts code first index pos X with
  | case1 | case2 => simp
  | case3 c counts code first index pos b bits code' hin =>
    refine ⟨by simp, fun r p rest h => ?_⟩
    simp only [Except.ok.injEq, Prod.mk.injEq] at h
    obtain ⟨rfl, rfl, rfl⟩ := h
    refine ⟨by simp only [List.length_cons]; omega, [b], rfl, fun Y => ?_⟩
    simp only [List.cons_append, List.nil_append, decodeRank]
    rw [if_pos hin]
  | case4 c counts code first index pos b bits code' hnin ih =>
    refine ⟨ih.1, fun r p rest h => ?_⟩
    obtain ⟨l, rd⟩ := ih.2 _ _ _ h
    refine ⟨by simp only [List.length_cons]; omega, rd.prepend [b] fun Y => ?_⟩
    simp only [List.cons_append, List.nil_append, decodeRank]
    rw [if_neg hnin]

theorem decodeSym_reads {c : Code} {pos : Nat} {X : Bits} :
    (∀ e, decodeSym c pos X = .error e → e ≠ .fuel) ∧
    ∀ s p rest, decodeSym c pos X = .ok (s, p, rest) →
      p + rest.length = pos + X.length ∧
      Reads (decodeSym c pos) X (fun Y => .ok (s, p, Y)) rest := by
  fun_cases decodeSym c pos X with
  | case1 e h1 => simp [decodeRank_reads.1 e h1]
  | case2 r pos1 bits1 h1 hs => simp
  | case3 r pos1 bits1 h1 s' hs =>
    obtain ⟨l, rd⟩ := decodeRank_reads.2 _ _ _ h1
    refine ⟨by simp, fun s p rest h => ?_⟩
    simp only [Except.ok.injEq, Prod.mk.injEq] at h
    obtain ⟨rfl, rfl, rfl⟩ := h
    refine ⟨l, rd.mono fun Z Y e => ?_⟩
    simp only [decodeSym, e, hs]

theorem decodeGroup_reads {c : Code} {eob k pos : Nat} {X : Bits} {acc : Array Nat} :
    (∀ e, decodeGroup c eob k pos X acc = .error e → e ≠ .fuel) ∧
    ∀ d p rest a, decodeGroup c eob k pos X acc = .ok (d, p, rest, a) →
      p + rest.length = pos + X.length ∧
      Reads (fun Z => decodeGroup c eob k pos Z acc) X (fun Y => .ok (d, p, Y, a)) rest := by
  fun_induction decodeGroup c eob k pos X acc with
  | case1 pos bits acc =>
    refine ⟨by simp, fun d p rest a h => ?_⟩
    simp only [Except.ok.injEq, Prod.mk.injEq] at h
    obtain ⟨rfl, rfl, rfl, rfl⟩ := h
    exact ⟨rfl, .refl _ fun _ => rfl⟩
  | case2 k pos bits acc e h => simp [decodeSym_reads.1 e h]
  | case3 k pos bits acc s pos1 bits1 h1 heq =>
    obtain ⟨l1, r1⟩ := decodeSym_reads.2 _ _ _ h1
    refine ⟨by simp, fun d p rest a h => ?_⟩
    simp only [Except.ok.injEq, Prod.mk.injEq] at h
    obtain ⟨rfl, rfl, rfl, rfl⟩ := h
    refine ⟨l1, r1.mono fun Z Y e => ?_⟩
    simp only [decodeGroup, e, if_pos heq]
  | case4 k pos bits acc s pos1 bits1 h1 hne ih =>
    obtain ⟨l1, r1⟩ := decodeSym_reads.2 _ _ _ h1
    refine ⟨ih.1, fun d p rest a h => ?_⟩
    obtain ⟨l2, r2⟩ := ih.2 _ _ _ _ h
    refine ⟨by omega, r1.seq r2 fun Z Y W e1 e2 => ?_⟩
    simp only [decodeGroup, e1, if_neg hne, e2]

theorem decodeGroups_reads {codes : Array Code} {eob : Nat} {sels : List Nat}
    {nUsed pos : Nat} {X : Bits} {acc : Array Nat} :
    (∀ e, decodeGroups codes eob sels nUsed pos X acc = .error e → e ≠ .fuel) ∧
    ∀ n p rest a, decodeGroups codes eob sels nUsed pos X acc = .ok (n, p, rest, a) →
      p + rest.length = pos + X.length ∧
      Reads (fun Z => decodeGroups codes eob sels nUsed pos Z acc) X
        (fun Y => .ok (n, p, Y, a)) rest := by
  fun_induction decodeGroups codes eob sels nUsed pos X acc with
  | case1 | case2 | case3 => simp
  | case4 s sels nUsed pos bits acc c hc hcomp e h => simp [decodeGroup_reads.1 e h]
  | case5 s sels nUsed pos bits acc c hc hcomp pos1 bits1 acc1 h1 =>
    obtain ⟨l1, r1⟩ := decodeGroup_reads.2 _ _ _ _ h1
    refine ⟨by simp, fun n p rest a h => ?_⟩
    simp only [Except.ok.injEq, Prod.mk.injEq] at h
    obtain ⟨rfl, rfl, rfl, rfl⟩ := h
    refine ⟨l1, r1.mono fun Z Y e => ?_⟩
    simp only [decodeGroups, hc, hcomp, e]
    simp
  | case6 s sels nUsed pos bits acc c hc hcomp pos1 bits1 acc1 h1 ih =>
    obtain ⟨l1, r1⟩ := decodeGroup_reads.2 _ _ _ _ h1
    refine ⟨ih.1, fun n p rest a h => ?_⟩
    obtain ⟨l2, r2⟩ := ih.2 _ _ _ _ h
    refine ⟨by omega, r1.seq r2 fun Z Y W e1 e2 => ?_⟩
    simp only [decodeGroups, hc, hcomp, e1, e2]
    simp

/-- 73 bits: the CRC, the randomisation flag, origPtr and the 16-bit bitmap head.  The last conjunct
(another CRC field changes `storedCrc` and nothing else) is for the CRC-flip theorems. -/
theorem parseBlock_reads {level start : Nat} {X : Bits} :
    (∀ e, parseBlock level start X = .error e → e ≠ .fuel) ∧
    ∀ b rest, parseBlock level start X = .ok (b, rest) →
      ∃ C, X = C ++ rest ∧ 73 ≤ C.length ∧
        b.endBit = start + 48 + C.length ∧ b.level = level ∧ b.startBit = start ∧
        (∀ Y, parseBlock level start (C ++ Y) = .ok (b, Y)) ∧
        ∃ bits1, takeNat 32 X = some (b.storedCrc, bits1) ∧
          ∀ X' c, takeNat 32 X' = some (c, bits1) →
            parseBlock level start X' = .ok ({ b with storedCrc := c }, rest) := by
  fun_cases parseBlock level start X with
  | case1 | case2 | case3 | case4 | case5 | case6 | case7 | case8 | case9 | case10 | case12 =>
    simp
  | case11 =>
    rename_i e h
    simp [readSelectorMtf_reads.1 e h]
  | case13 =>
    rename_i e h
    simp [readTables_reads.1 e h]
  | case14 =>
    rename_i e h
    simp [decodeGroups_reads.1 e h]
  | case15 crc bits1 h1 rnd bits2 h2 op bits3 h3 big bits4 h4 used pos5 bits5 h5 hused alphaSize
      ng bits6 h6 hng ns bits7 h7 hns selMtf pos8 bits8 h8 selectors h9 tables pos10 bits10 h10
      codes nUsed pos11 bits11 syms h11 =>
    simp only [alphaSize] at h10
    simp only [alphaSize, codes] at h11
    refine ⟨by simp, fun b rest h => ?_⟩
    simp only [Except.ok.injEq, Prod.mk.injEq] at h
    obtain ⟨hb, hr⟩ := h
    have hcrc : ∀ X' c, takeNat 32 X' = some (c, bits1) →
        parseBlock level start X' = .ok ({ b with storedCrc := c }, rest) := by
      intro X' c hX'
      unfold parseBlock
      simp only [hX', h2, h3, h4, h5, hused, h6, hng, h7, hns, h8, h9, h10, h11]
      rw [← hb, ← hr]
      simp
    subst hb hr
    have l1 := takeNat_length h1
    have l2 := takeNat_length h2
    have l3 := takeNat_length h3
    have l4 := takeNat_length h4
    obtain ⟨l5, r5⟩ := readBitmapRows_reads h5
    have l6 := takeNat_length h6
    have l7 := takeNat_length h7
    obtain ⟨l8, r8⟩ := readSelectorMtf_reads.2 _ _ _ h8
    obtain ⟨l10, r10⟩ := readTables_reads.2 _ _ _ h10
    obtain ⟨l11, r11⟩ := decodeGroups_reads.2 _ _ _ _ h11
    have n5 := r5.length_le
    have n8 := r8.length_le
    have n10 := r10.length_le
    have n11 := r11.length_le
    obtain ⟨C5, e5, hY5⟩ := r5
    obtain ⟨C8, e8, hY8⟩ := r8
    obtain ⟨C10, e10, hY10⟩ := r10
    obtain ⟨C11, e11, hY11⟩ := r11
    obtain ⟨C1, e1, hY1⟩ := takeNat_reads h1
    obtain ⟨C2, e2, hY2⟩ := takeNat_reads h2
    obtain ⟨C3, e3, hY3⟩ := takeNat_reads h3
    obtain ⟨C4, e4, hY4⟩ := takeNat_reads h4
    obtain ⟨C6, e6, hY6⟩ := takeNat_reads h6
    obtain ⟨C7, e7, hY7⟩ := takeNat_reads h7
    have hX : X = C1 ++ (C2 ++ (C3 ++ (C4 ++ (C5 ++ (C6 ++ (C7 ++ (C8 ++ (C10 ++ C11)))))))) ++
        bits11 := by
      rw [e1, e2, e3, e4, e5, e6, e7, e8, e10, e11]
      simp only [List.append_assoc]
    have hlen := congrArg List.length hX
    rw [List.length_append] at hlen
    refine ⟨_, hX, by omega, by dsimp only; omega, rfl, rfl, fun Y => ?_, bits1, h1, hcrc⟩
    unfold parseBlock
    simp only [List.append_assoc, hY1, hY2, hY3, hY4, hY5, hused, hY6, hng, hY7, hns, hY8, h9,
      hY10, hY11]
    simp

/-! ### the fuel of the two outer loops is sufficient

None of the stages produces the artificial reason `Reject.fuel`; a block consumes at least
48 bits and a stream at least 80, so `bytes + 1` units of fuel can never run out. -/

theorem unMtfRle2Go_ne_fuel {cap : Nat} {syms : List Nat} {mtf : List UInt8} {run weight : Nat}
    {out : Array UInt8} : unMtfRle2Go cap syms mtf run weight out ≠ .error .fuel := by
  fun_induction unMtfRle2Go cap syms mtf run weight out <;> simp_all

theorem unRle1Go_ne_fuel {bs : List UInt8} {last : UInt8} {cnt : Nat} {acc : Array UInt8} :
    unRle1Go bs last cnt acc ≠ .error .fuel := by
  fun_induction unRle1Go bs last cnt acc <;> simp_all

theorem decodeBlock_ne_fuel {b : Block} : decodeBlock b ≠ .error .fuel := by
  unfold decodeBlock unMtfRle2 unRle1
  split
  · rename_i e he
    exact fun h => unMtfRle2Go_ne_fuel (by cases h; exact he)
  · split
    · simp
    · split
      · simp
      · split
        · rename_i e he
          exact fun h => unRle1Go_ne_fuel (by cases h; exact he)
        · split <;> simp

theorem strictBlockCheck_ne_fuel {b : Block} : strictBlockCheck b ≠ .error .fuel := by
  unfold strictBlockCheck
  split
  · simp
  · split
    · simp
    · split <;> simp

theorem decodeBlocks_ok {strict : Bool} {level fuel pos : Nat} {bits : Bits} {cc : UInt32}
    {out : Array UInt8} {reps : Array BlockReport} :
    (bits.length < 48 * fuel → decodeBlocks strict level fuel pos bits cc out reps ≠ .error .fuel) ∧
    (∀ p rest s o r, decodeBlocks strict level fuel pos bits cc out reps = .ok (p, rest, s, o, r) →
      rest.length + 80 ≤ bits.length ∧ p + rest.length = pos + bits.length) := by
  fun_induction decodeBlocks strict level fuel pos bits cc out reps with
  | case1 => exact ⟨fun hf => by omega, by simp⟩
  | case2 | case7 | case9 | case10 => simp
  | case3 =>
    rename_i e he _
    simp [parseBlock_reads.1 e he]
  | case4 =>
    rename_i e he _
    refine ⟨fun _ h => ?_, by simp⟩
    simp only [Except.error.injEq] at h
    subst h
    cases strict
    · simp at he
    · exact strictBlockCheck_ne_fuel he
  | case5 =>
    rename_i e he _
    exact ⟨fun _ h => decodeBlock_ne_fuel (by cases h; exact he), by simp⟩
  | case6 =>
    rename_i hb _ _ _ _ h1 ih
    have l1 := takeNat_length h1
    obtain ⟨C, hC, _, he, _⟩ := parseBlock_reads.2 _ _ hb
    have l2 := congrArg List.length hC
    rw [List.length_append] at l2
    refine ⟨fun hf => ih.1 (by omega), fun p rest s o r hh => ?_⟩
    have := ih.2 p rest s o r hh
    omega
  | case8 =>
    rename_i h1 _ h2
    have l1 := takeNat_length h1
    have l2 := takeNat_length h2
    refine ⟨by simp, fun p rest s o r hh => ?_⟩
    simp only [Except.ok.injEq, Prod.mk.injEq] at hh
    obtain ⟨rfl, rfl, _⟩ := hh
    omega

theorem decodeStreams_ne_fuel {strict : Bool} {fuel innerFuel level start : Nat} {bits : Bits}
    {acc : Acc} (hf : bits.length < 80 * fuel) (hi : bits.length < 48 * innerFuel) :
    decodeStreams strict fuel innerFuel level start bits acc ≠ .error .fuel := by
  fun_induction decodeStreams strict fuel innerFuel level start bits acc with
  | case1 => omega
  | case2 =>
    rename_i e he
    exact fun h => decodeBlocks_ok.1 hi (by cases h; exact he)
  | case3 => simp
  | case4 => simp
  | case5 => simp
  | case6 => simp
  | case7 =>
    rename_i bits0 _ _ _ hb pad bits1 _ _ _ w rest ht _ _ ih
    have l1 := (decodeBlocks_ok.2 _ _ _ _ _ hb).1
    have l2 := takeNat_length ht
    have l3 : bits1.length ≤ bits0.length := by
      simp only [bits1, List.length_drop]
      exact Nat.sub_le _ _
    exact ih (by omega) (by omega)

theorem walkFile_ne_fuel (strict : Bool) (data : List UInt8) :
    walkFile strict data ≠ .error .fuel := by
  unfold walkFile
  split
  · simp
  · dsimp only
    split
    · simp
    · rename_i w bits ht
      have l := takeNat_length ht
      rw [bytesToBits_length] at l
      split
      · simp
      · exact decodeStreams_ne_fuel (by omega) (by omega)

theorem decodeFile_ne_fuel (data : List UInt8) : decodeFile data ≠ .error .fuel := by
  unfold decodeFile
  have := walkFile_ne_fuel false data
  split
  · rename_i e he
    exact fun h => this (by cases h; exact he)
  · simp

theorem inspect_ne_fuel (data : List UInt8) : inspect data ≠ .error .fuel := by
  unfold inspect
  have := walkFile_ne_fuel true data
  split
  · rename_i e he
    exact fun h => this (by cases h; exact he)
  · simp
end LbzVerif.Spec.Bzip2
