/-
  Lemmas.RetrieveEqns — the primitives of `Model.Retrieve` as equations and inversions, needing
  nothing but the model; the later files walk through the step functions by these cases.
-/
import LbzVerif.Model.Retrieve

namespace LbzVerif.Lemmas.RetrieveEqns
open LbzVerif LbzVerif.Model.Retrieve

theorem normPc_of_ne_init (st : St) (h : st.pc ≠ .init) : normPc st = st := if_neg h

theorem normPc_vw (st : St) : (normPc st).v = st.v ∧ (normPc st).w = st.w := by
  unfold normPc
  split <;> exact ⟨rfl, rfl⟩

theorem normPc_idem (st : St) : normPc (normPc st) = normPc st := by
  unfold normPc
  by_cases h : st.pc = .init
  · simp [h]
  · simp [h]

theorem normPc_ne_init (st : St) (h : normPc st = st) : st.pc ≠ .init := by
  intro hi
  unfold normPc at h
  rw [if_pos hi] at h
  have : ({ st with pc := Pc.bwtIdx } : St).pc = st.pc := by rw [h]
  rw [hi] at this
  cases this

theorem step_init (st : St) (h : st.pc = .init) : step st = stepBwtIdx st := by
  unfold step; rw [h]

theorem step_bwtIdx (st : St) (h : st.pc = .bwtIdx) : step st = stepBwtIdx st := by
  unfold step; rw [h]

theorem step_bitmapBig (st : St) (h : st.pc = .bitmapBig) : step st = stepBitmapBig st := by
  unfold step; rw [h]

theorem step_bitmapSmall (st : St) (h : st.pc = .bitmapSmall) : step st = stepBitmapSmall st := by
  unfold step; rw [h]

theorem step_selectorMtf (st : St) (h : st.pc = .selectorMtf) : step st = stepSelectorMtf st := by
  unfold step; rw [h]

theorem step_deltaTag (st : St) (h : st.pc = .deltaTag) : step st = stepDeltaTag st := by
  unfold step; rw [h]

theorem step_prefix (st : St) (h : st.pc = .prefix) : step st = stepPrefix st := by
  unfold step; rw [h]

/-- The state after `DUMP(k)`. -/
@[reducible] def dumped (st : St) (k : Nat) : St := { st with v := dumpV st.v k, w := st.w - k }

theorem dump_eq_some (st st' : St) (k : Nat) (h : dump st k = some st') :
    1 ≤ k ∧ k ≤ st.w ∧ st' = dumped st k := by
  unfold dump at h
  split at h
  · cases h
  · injection h with h
    exact ⟨by omega, by omega, h.symm⟩

theorem dump_ok (st : St) (k : Nat) (hk : 1 ≤ k) (hw : k ≤ st.w) :
    dump st k = some (dumped st k) := by
  unfold dump
  rw [if_neg (by omega)]

theorem take_eq_some (st st' : St) (k x : Nat) (h : take st k = some (x, st')) :
    x = peek st k ∧ dump st k = some st' := by
  unfold take at h
  cases hd : dump st k with
  | none => rw [hd] at h; cases h
  | some s =>
    rw [hd] at h
    cases h
    exact ⟨rfl, rfl⟩

theorem take_ok (st : St) (k : Nat) (hk : 1 ≤ k) (hw : k ≤ st.w) :
    take st k = some (peek st k, dumped st k) := by
  unfold take
  rw [dump_ok st k hk hw]

/-- `groupsInit` by the cases of `initRun`.  Proofs go through this lemma and do not unfold
`groupsInit`: to compare the definition with its unfolding the kernel evaluates
`initRun (slideOf st.cmap)` as far as it goes, through the 3840 cells in front of `CMAP_BASE`. -/
theorem groupsInit_cases (st : St) :
    (Model.MtfDec.initRun (Model.MtfDec.slideOf st.cmap) = none ∧ groupsInit st = ubS) ∨
    ∃ rs, Model.MtfDec.initRun (Model.MtfDec.slideOf st.cmap) = some rs ∧
      groupsInit st = .top { st with run := { rs with n := st.run.n, out := st.run.out },
                                     numSel := min st.numSel Gen.selectorBound, g := 0, j := 0, pc := .prefix } := by
  unfold groupsInit
  cases Model.MtfDec.initRun (Model.MtfDec.slideOf st.cmap) with
  | none => exact .inl ⟨rfl, rfl⟩
  | some rs => exact .inr ⟨rs, rfl, rfl⟩

theorem eobFinish_cases {P : Step → Prop} (st : St) (herr : ∀ c, P (errS c))
    (hok : (Model.MtfDec.flush st.run).n ≠ 0 → st.bwtIdx < (Model.MtfDec.flush st.run).n →
      P (.done .ok ({ st with run := Model.MtfDec.flush st.run } : St).final)) :
    P (eobFinish st) := by
  unfold eobFinish
  split
  · exact herr _
  · dsimp only
    split
    · exact herr _
    · split
      · exact herr _
      · exact hok (by assumption) (by omega)

theorem eobFinish_done (st : St) : ∃ r s', eobFinish st = .done r s' :=
  eobFinish_cases (P := fun x => ∃ r s', x = .done r s') st (fun _ => ⟨_, _, rfl⟩) (fun _ _ => ⟨_, _, rfl⟩)

theorem eobFinish_ok_iff (σ s' : St) :
    eobFinish σ = .done .ok s' ↔
      ¬ (σ.run.run > Gen.MAX_BLOCK_SIZE - σ.run.n) ∧ (Model.MtfDec.flush σ.run).n ≠ 0 ∧
        σ.bwtIdx < (Model.MtfDec.flush σ.run).n ∧ s' = ({ σ with run := Model.MtfDec.flush σ.run } : St).final := by
  unfold eobFinish
  by_cases h1 : σ.run.run > Gen.MAX_BLOCK_SIZE - σ.run.n
  · simp [h1, errS]
  · rw [if_neg h1]
    simp only
    by_cases h2 : (Model.MtfDec.flush σ.run).n = 0
    · simp [h2, errS]
    · rw [if_neg h2]
      by_cases h3 : σ.bwtIdx ≥ (Model.MtfDec.flush σ.run).n
      · rw [if_pos h3]
        simp only [errS, Step.done.injEq, reduceCtorEq, false_and, false_iff]
        omega
      · rw [if_neg h3]
        simp only [Step.done.injEq, true_and]
        exact ⟨fun h => ⟨h1, h2, by omega, h.symm⟩, fun h => h.2.2.2.symm⟩

theorem symStep_stop_cases (rs : Model.MtfDec.RunSt) (s : Nat) (r : Halt) (h : symStep rs s = .stop r) :
    r = .ub ∨ r = .err Gen.ERR_OVERFLOW := by
  unfold symStep at h
  split at h
  · cases h
  · split at h
    · split at h
      · cases h
        exact .inl rfl
      · cases h
    · split at h
      · cases h
        exact .inr rfl
      · simp only at h
        split at h
        · cases h
          exact .inl rfl
        · cases h

theorem symStep_stop_ne (rs : Model.MtfDec.RunSt) (s : Nat) (r : Halt) (h : symStep rs s = .stop r) :
    r ≠ .ok ∧ r ≠ .overread := by
  obtain e | e := symStep_stop_cases rs s r h
  · rw [e]
    exact ⟨nofun, nofun⟩
  · rw [e]
    exact ⟨nofun, nofun⟩

theorem stepPrefix_cases {P : Step → Prop} (st : St) (hub : P ubS)
    (heob : ∀ st1 k, dump st k = some st1 → P (eobFinish st1))
    (hstop : ∀ r, r ≠ .ok → P (.done r St.blank))
    (hnext : ∀ st1 k rs, dump st k = some st1 → P (nextSym { st1 with run := rs })) :
    P (stepPrefix st) := by
  unfold stepPrefix
  split
  · exact hub
  · split
    · exact hub
    · split
      · exact hub
      · rename_i st1 hd
        split
        · exact heob st1 _ hd
        · rename_i r hr
          exact hstop r (symStep_stop_ne _ _ _ hr).1
        · exact hnext st1 _ _ hd

/-- `st` after `selectTree` took table `t` from position `i` of the MTF list. -/
def selected (st : St) (i t : Nat) : St := { st with t := t, mtf := t :: st.mtf.eraseIdx i }

theorem selectTree_eq (st : St) (i t : Nat) (hi : st.selector.getD st.g 0 = i)
    (ht : st.mtf.getD i 0 = t) :
    selectTree st = if t ≥ Gen.MAX_TREES then .error (.err t) else .ok (selected st i t) := by
  subst hi
  subst ht
  rfl

theorem selectTree_ok (st st1 : St) (h : selectTree st = .ok st1) :
    st1 = selected st (st.selector.getD st.g 0) (st.mtf.getD (st.selector.getD st.g 0) 0) := by
  rw [selectTree_eq st _ _ rfl rfl] at h
  split at h
  · cases h
  · injection h with h
    exact h.symm

theorem selectTree_error (st : St) (e : Halt) (h : selectTree st = .error e) : e ≠ .ok := by
  rw [selectTree_eq st _ _ rfl rfl] at h
  split at h
  · injection h with h
    subst h
    nofun
  · cases h

theorem selectTree_fields (st st1 : St) (h : selectTree st = .ok st1) :
    st1.numSel = st.numSel ∧ st1.g = st.g := by
  rw [selectTree_ok st st1 h]
  exact ⟨rfl, rfl⟩

end LbzVerif.Lemmas.RetrieveEqns
