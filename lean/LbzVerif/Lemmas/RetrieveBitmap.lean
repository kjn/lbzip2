/-
  Lemmas.RetrieveBitmap — the block header from the bitmap rows on, against
  the reference in the vocabulary of `Hdr` / `HdrOk`.  One row of the inner loop
  (`rowBody` = `MtfDec.bitmapLoop` over the 16 flags of `small`) appends exactly
  the reference's `Spec.Bzip2.usedOfRow` to the bytes stored at
  `imtf_slide[CMAP_BASE ..]`; the counts and the first selector are read inside
  the step that ends the bitmap.
-/
import LbzVerif.Lemmas.RetrieveSelectors
import LbzVerif.Lemmas.MtfInit

namespace LbzVerif.Lemmas.RetrieveBitmap
open LbzVerif.Model.Retrieve
open LbzVerif.Model.MtfDec (bitmapLoop)
open LbzVerif.Lemmas.RetrieveBits LbzVerif.Lemmas.RetrieveValues
open LbzVerif.Lemmas.RetrieveDelta LbzVerif.Lemmas.RetrieveTables
open LbzVerif.Lemmas.RetrieveSelectors
open LbzVerif.Lemmas.RetrieveEqns
open LbzVerif.Lemmas.Delta (LensOk)
open LbzVerif.Lemmas.MtfInit (usedList bitmapLoop_used usedList_map)
open LbzVerif.Lemmas.RetrieveSim

theorem usedList_row (i small : Nat) :
    usedList (Basic.natToBits 16 small) (16 * i) = Spec.Bzip2.usedOfRow i small := by
  rw [Basic.natToBits_eq_range]
  unfold Spec.Bzip2.usedOfRow
  have hr : List.range 16 = List.range' 0 16 := by rw [List.range_eq_range']
  rw [hr]
  have := usedList_map (fun k => small.testBit (16 - 1 - k)) (16 * i) 16 0
  rw [Nat.add_zero] at this
  rw [this]

/-- Relation between the machine in the outer bitmap loop, about to treat row
`i`, and the reference: `big0` is the 16-bit row mask as read, `used` the byte
values found in rows `< i` (at most 16 per row: `le`, which keeps the writes of the
next row inside the 256 cells of `cmap`). -/
structure BmInv (big0 : Nat) (used : List UInt8) (i : Nat) (st : St) : Prop where
  j : st.j = 16 * i
  big : st.big = (big0 <<< i) % 65536
  alpha : st.alphaSize = used.length
  cmapLen : st.cmap.length = 256
  cmapTake : st.cmap.take used.length = used
  le : used.length ≤ 16 * i

theorem usedList_length_le : ∀ (bits : List Bool) (j : Nat), (usedList bits j).length ≤ bits.length := by
  intro bits
  induction bits with
  | nil => intro j; simp [usedList]
  | cons b r ih =>
    intro j
    simp only [usedList, List.length_append, List.length_cons]
    have := ih (j + 1)
    cases b <;> simp <;> omega

theorem usedOfRow_len (i small : Nat) : (Spec.Bzip2.usedOfRow i small).length ≤ 16 := by
  rw [← usedList_row]
  have := usedList_length_le (Basic.natToBits 16 small) (16 * i)
  rw [Basic.natToBits_length] at this
  exact this

theorem rowBody_inv (big0 : Nat) (used : List UInt8) (i : Nat) (st : St)
    (h : BmInv big0 used i st) (hi : i < 16) :
    BmInv big0 (used ++ Spec.Bzip2.usedOfRow i st.small) (i + 1) (rowBody st) ∧
      (rowBody st).small = 0 := by
  have hbl := bitmapLoop_used (Basic.natToBits 16 st.small) st.j st.cmap st.alphaSize
    (by rw [Basic.natToBits_length, h.cmapLen, h.alpha]; have := h.le; omega)
  have hrow : usedList (Basic.natToBits 16 st.small) st.j = Spec.Bzip2.usedOfRow i st.small := by
    rw [h.j]; exact usedList_row i st.small
  rw [hrow] at hbl
  have hrl := usedOfRow_len i st.small
  unfold rowBody
  -- the result of the inner loop as an atom: unfolding it would run all 16 iterations
  generalize bitmapLoop (Basic.natToBits 16 st.small) st.j st.cmap st.alphaSize = r at hbl ⊢
  obtain ⟨b1, b2, b3⟩ := hbl
  refine ⟨⟨?_, ?_, ?_, ?_, ?_, ?_⟩, ?_⟩
  · show st.j + 16 = 16 * (i + 1)
    rw [h.j]; omega
  · show (st.big <<< 1) % 65536 = (big0 <<< (i + 1)) % 65536
    have e1 : big0 <<< (i + 1) = (big0 <<< i) * 2 := by
      rw [Nat.shiftLeft_eq, Nat.shiftLeft_eq, Nat.pow_succ, Nat.mul_assoc]
    have e2 : ∀ y : Nat, y <<< 1 = y * 2 := fun y => by rw [Nat.shiftLeft_eq, Nat.pow_one]
    rw [h.big, e1, e2]
    generalize big0 <<< i = x
    omega
  · show r.2 = _
    rw [b1, h.alpha, List.length_append]
  · show r.1.length = 256
    rw [b2, h.cmapLen]
  · show r.1.take _ = _
    rw [List.length_append, ← h.alpha, b3, h.alpha, h.cmapTake]
  · rw [List.length_append]; have := h.le; omega
  · show (st.small <<< 16) % 65536 = 0
    rw [Nat.shiftLeft_eq]
    exact Nat.mul_mod_left _ _

theorem usedOfRow_zero (i : Nat) : Spec.Bzip2.usedOfRow i 0 = [] := by
  unfold Spec.Bzip2.usedOfRow
  simp

theorem and_pow15 (x : Nat) : x &&& 2 ^ 15 = if x.testBit 15 then 2 ^ 15 else 0 := by
  apply Nat.eq_of_testBit_eq
  intro m
  rw [Nat.testBit_and, Nat.testBit_two_pow]
  cases h : x.testBit 15 with
  | false =>
    by_cases hm : 15 = m
    · subst hm; simp [h]
    · simp [hm]
  | true =>
    rw [if_pos rfl, Nat.testBit_two_pow]
    by_cases hm : 15 = m
    · subst hm; simp [h]
    · simp [hm]

/-- The test `rs->big & 0x8000` on the shifted mask is the reference's test of
bit `15 - i` of the mask as read. -/
theorem big_test (big0 i : Nat) (hi : i < 16) :
    ((big0 <<< i) % 65536 &&& 0x8000 ≠ 0) ↔ big0.testBit (15 - i) = true := by
  have h1 : (0x8000 : Nat) = 2 ^ 15 := by decide
  have h2 : (65536 : Nat) = 2 ^ 16 := by decide
  rw [h1, and_pow15, h2]
  have : ((big0 <<< i) % 2 ^ 16).testBit 15 = big0.testBit (15 - i) := by
    rw [Nat.testBit_mod_two_pow, Nat.testBit_shiftLeft]
    have : i ≤ 15 := by omega
    simp [this]
  rw [this]
  cases big0.testBit (15 - i) <;> simp

/-- The block header from the bitmap rows on, as the reference reads it: the bytes in use,
`nGroups`, `nSelectors`, the selector codes as read (MTF indices of tables, not yet un-MTF'd:
`St.selector` in the model, `is` / `js` in the selector and group files, `selMtf` in
`Spec.Bzip2.parseBlock`), the code-length tables, the bits behind the header. -/
structure Hdr where
  used : List UInt8
  ng : Nat
  ns : Nat
  sels : List Nat
  tabs : List (List Nat)
  rest : List Bool

structure HdrWf (h : Hdr) : Prop where
  used1 : 1 ≤ h.used.length
  used256 : h.used.length ≤ 256
  ng6 : h.ng ≤ 6
  selsLen : h.sels.length = h.ns
  selsLt : ∀ j ∈ h.sels, j < h.ng
  tabsLen : h.tabs.length = h.ng
  tabsOk : ∀ l ∈ h.tabs, LensOk (h.used.length + 2) l

/-- Rows `rows` of the bitmap (`Spec.Bzip2.readBitmapRows` without its position
bookkeeping). -/
def specRows (big0 : Nat) : List Nat → List Bool → Option (List UInt8 × List Bool)
  | [], B => some ([], B)
  | i :: rows, B =>
    if big0.testBit (15 - i) then
      match Basic.takeNat 16 B with
      | none => none
      | some (small, B1) =>
        match specRows big0 rows B1 with
        | none => none
        | some (u, B') => some (Spec.Bzip2.usedOfRow i small ++ u, B')
    else specRows big0 rows B

/-- After the bitmap: non-empty, `nGroups` in 2…6, `nSelectors` ≠ 0, the
selectors, the tables (text of `Spec.Bzip2.parseBlock`). -/
def specCounts (used : List UInt8) (B : List Bool) : Option Hdr :=
  if used = [] then none
  else
    match Basic.takeNat 3 B with
    | none => none
    | some (ng, B1) =>
      if ng < 2 ∨ 6 < ng then none
      else
        match Basic.takeNat 15 B1 with
        | none => none
        | some (ns, B2) =>
          if ns = 0 then none
          else
            match specSelTables ng (used.length + 2) ns B2 with
            | none => none
            | some (is, tabs, B') => some ⟨used, ng, ns, is, tabs, B'⟩

def specFromRows (big0 : Nat) (used : List UInt8) (rows : List Nat) (B : List Bool) : Option Hdr :=
  match specRows big0 rows B with
  | none => none
  | some (u, B') => specCounts (used ++ u) B'

/-- The state at the top of the group loop in terms of a state `st` of the header phase (read
for `mtf`, `trees`, `run.n`, `run.out`, `rand`, `bwtIdx` only) and the header the reference reads. -/
structure HdrOk (st s : St) (h : Hdr) : Prop where
  pc : s.pc = .prefix
  j : s.j = 0
  g : s.g = 0
  numSel : s.numSel = min h.ns Gen.selectorBound
  numTrees : s.numTrees = h.ng
  alphaSize : s.alphaSize = h.used.length + 2
  cmapLen : s.cmap.length = 256
  cmapTake : s.cmap.take h.used.length = h.used
  sel : s.selector = h.sels.foldl Array.push #[]
  tt : (s.t, s.mtf, s.trees) = applyTables 0 st.mtf st.trees h.tabs
  run : ∃ rs, Model.MtfDec.initRun (Model.MtfDec.slideOf s.cmap) = some rs ∧
    s.run = { rs with n := st.run.n, out := st.run.out }
  rand : s.rand = st.rand
  bwtIdx : s.bwtIdx = st.bwtIdx

theorem specRows_cons (big0 i : Nat) (rows : List Nat) (B : List Bool) :
    specRows big0 (i :: rows) B =
      if big0.testBit (15 - i) then
        (Basic.takeNat 16 B).bind fun p =>
          (specRows big0 rows p.2).map fun q => (Spec.Bzip2.usedOfRow i p.1 ++ q.1, q.2)
      else specRows big0 rows B := by
  rw [specRows]
  split
  · cases Basic.takeNat 16 B with
    | none => rfl
    | some p =>
      obtain ⟨small, B1⟩ := p
      dsimp only [Option.bind_some]
      cases specRows big0 rows B1 <;> rfl
  · rfl

theorem specRows_some (big0 : Nat) : ∀ {rows : List Nat} {B : List Bool} {p : List UInt8 × List Bool},
    specRows big0 rows B = some p → p.1.length ≤ 16 * rows.length ∧ p.2.length ≤ B.length := by
  intro rows
  induction rows with
  | nil =>
    intro B p h
    cases h
    exact ⟨Nat.zero_le _, Nat.le_refl _⟩
  | cons i rows ih =>
    intro B p h
    rw [specRows_cons] at h
    rw [List.length_cons]
    split at h
    · obtain ⟨p1, ht, h⟩ := Option.bind_eq_some_iff.1 h
      obtain ⟨q, hr, rfl⟩ := Option.map_eq_some_iff.1 h
      obtain ⟨l1, l2⟩ := ih hr
      have l3 := usedOfRow_len i p1.1
      have l4 := Basic.takeNat_length ht
      refine ⟨?_, ?_⟩
      · show (Spec.Bzip2.usedOfRow i p1.1 ++ q.1).length ≤ _
        rw [List.length_append]
        omega
      · show q.2.length ≤ B.length
        omega
    · obtain ⟨l1, l2⟩ := ih h
      exact ⟨by omega, l2⟩

theorem specCounts_eq (used : List UInt8) (B : List Bool) (hu : used ≠ []) :
    specCounts used B =
      (Basic.takeNat 3 B).bind fun p =>
        if p.1 < 2 ∨ 6 < p.1 then none
        else (Basic.takeNat 15 p.2).bind fun q =>
          if q.1 = 0 then none
          else (specSelTables p.1 (used.length + 2) q.1 q.2).map fun r => ⟨used, p.1, q.1, r.1, r.2.1, r.2.2⟩ := by
  unfold specCounts
  rw [if_neg hu]
  cases Basic.takeNat 3 B with
  | none => rfl
  | some p =>
    obtain ⟨ng, B1⟩ := p
    dsimp only [Option.bind_some]
    split
    · rfl
    · cases Basic.takeNat 15 B1 with
      | none => rfl
      | some q =>
        obtain ⟨ns, B2⟩ := q
        dsimp only [Option.bind_some]
        split
        · rfl
        · cases specSelTables ng (used.length + 2) ns B2 <;> rfl

theorem specCounts_some {used : List UInt8} {B : List Bool} {h : Hdr} (hs : specCounts used B = some h) :
    (used.length ≤ 256 → HdrWf h) ∧ h.rest.length ≤ B.length := by
  have hne : used ≠ [] := by
    intro hne
    rw [specCounts, if_pos hne] at hs
    cases hs
  rw [specCounts_eq used B hne] at hs
  obtain ⟨p, h3, hs⟩ := Option.bind_eq_some_iff.1 hs
  split at hs
  · cases hs
  · rename_i hng
    obtain ⟨q, h15, hs⟩ := Option.bind_eq_some_iff.1 hs
    split at hs
    · cases hs
    · rename_i hns
      obtain ⟨r, hst, rfl⟩ := Option.map_eq_some_iff.1 hs
      obtain ⟨a, b, c, d, e⟩ := specSelTables_some p.1 (used.length + 2) hst
      have l1 := Basic.takeNat_length h3
      have l2 := Basic.takeNat_length h15
      refine ⟨fun hu => ⟨List.length_pos_iff.mpr hne, hu, by show p.1 ≤ 6; omega, a, b (by omega), c, d⟩, ?_⟩
      show r.2.2.length ≤ B.length
      omega

theorem specFromRows_eq (big0 : Nat) (used : List UInt8) (rows : List Nat) (B : List Bool) :
    specFromRows big0 used rows B = (specRows big0 rows B).bind fun p => specCounts (used ++ p.1) p.2 := by
  unfold specFromRows
  cases specRows big0 rows B <;> rfl

theorem specFromRows_some {big0 : Nat} {used : List UInt8} {rows : List Nat} {B : List Bool} {h : Hdr}
    (hs : specFromRows big0 used rows B = some h) :
    (used.length + 16 * rows.length ≤ 256 → HdrWf h) ∧ h.rest.length ≤ B.length := by
  rw [specFromRows_eq] at hs
  obtain ⟨p, hr, hs⟩ := Option.bind_eq_some_iff.1 hs
  obtain ⟨r1, r2⟩ := specRows_some big0 hr
  obtain ⟨c1, c2⟩ := specCounts_some hs
  exact ⟨fun hu => c1 (by rw [List.length_append]; omega), Nat.le_trans c2 r2⟩

theorem specFromRows_cons_row (big0 : Nat) (used : List UInt8) (i : Nat) (rows : List Nat) (B : List Bool)
    (hbit : big0.testBit (15 - i) = true) :
    specFromRows big0 used (i :: rows) B =
      (Basic.takeNat 16 B).bind fun p => specFromRows big0 (used ++ Spec.Bzip2.usedOfRow i p.1) rows p.2 := by
  unfold specFromRows
  rw [specRows, if_pos hbit]
  cases Basic.takeNat 16 B with
  | none => rfl
  | some p =>
    obtain ⟨small, B1⟩ := p
    dsimp only [Option.bind_some]
    cases specRows big0 rows B1 with
    | none => rfl
    | some q =>
      dsimp only
      rw [List.append_assoc]

theorem specFromRows_cons_skip (big0 : Nat) (used : List UInt8) (i : Nat) (rows : List Nat) (B : List Bool)
    (hbit : ¬ big0.testBit (15 - i) = true) :
    specFromRows big0 used (i :: rows) B = specFromRows big0 used rows B := by
  unfold specFromRows
  rw [specRows, if_neg hbit]

theorem HdrOk.of_sel {st c s : St} {used : List UInt8} {is : List Nat} {tabs : List (List Nat)} {B : List Bool}
    (h : SelTopOk c s is tabs)
    (hr : SameRest { st with alphaSize := used.length + 2, numTrees := c.numTrees, numSel := c.numSel, selector := #[] } c)
    (hcl : st.cmap.length = 256) (hct : st.cmap.take used.length = used) :
    HdrOk st s ⟨used, c.numTrees, c.numSel, is, tabs, B⟩ := by
  have h' := h.from hr
  have hcm : s.cmap = st.cmap := h'.cmap
  refine ⟨h'.pc, h'.j, h'.g, h'.numSel, h'.numTrees, h'.alphaSize, by rw [hcm]; exact hcl,
    by rw [hcm]; exact hct, h'.selector, h'.tt, ?_, h'.rand, h'.bwtIdx⟩
  rw [hcm]
  exact h'.run

/-- `afterBitmap` inside a step: the counts, the first selector, then
`selectors_spec`. -/
theorem counts_spec (st : St) (ws : List Nat) (used : List UInt8)
    (ha : st.alphaSize = used.length) (hcl : st.cmap.length = 256)
    (hct : st.cmap.take used.length = used)
    (inv : BufInv st.v st.w) (hw : used ≠ [] → 32 ≤ st.w) :
    Sim (fun _ => Out.top) (afterStep ws (afterBitmap st)) (specCounts used (bitsOf st ws)) Hdr.rest
      (fun h s => HdrOk st s h) := by
  by_cases hu : used = []
  · rw [specCounts, if_pos hu]
    unfold afterBitmap
    rw [if_pos (by rw [ha, hu]; rfl)]
    exact Sim.reject _ _ _ rfl
  · have hw32 := hw hu
    have hne : st.alphaSize ≠ 0 := by
      rw [ha]; intro h0; exact hu (List.eq_nil_of_length_eq_zero h0)
    -- `afterBitmap` takes its counts from the state with `alpha_size + 2`
    obtain ⟨t3, s3, i3⟩ := take_both { st with alphaSize := st.alphaSize + 2 } ws 3 (by omega)
      (by show 3 ≤ st.w; omega) inv
    obtain ⟨t15, s15, i15⟩ := take_both (dumped { st with alphaSize := st.alphaSize + 2 } 3) ws 15 (by omega)
      (by show 15 ≤ st.w - 3; omega) i3
    rw [specCounts_eq _ _ hu, show bitsOf st ws = bitsOf { st with alphaSize := st.alphaSize + 2 } ws from rfl, s3]
    unfold afterBitmap
    rw [if_neg hne]
    dsimp only
    rw [t3]
    dsimp only [Option.bind_some]
    rw [t15, s15]
    dsimp only [Option.bind_some]
    generalize peek (dumped { st with alphaSize := st.alphaSize + 2 } 3) 15 = ns
    generalize peek { st with alphaSize := st.alphaSize + 2 } 3 = nt
    by_cases hrange : nt < 2 ∨ 6 < nt
    · rw [if_pos hrange, if_pos (show nt < Gen.MIN_TREES ∨ nt > Gen.MAX_TREES from hrange)]
      exact Sim.reject _ _ _ rfl
    · rw [if_neg hrange, if_neg (show ¬ (nt < Gen.MIN_TREES ∨ nt > Gen.MAX_TREES) from hrange)]
      by_cases hns0 : ns = 0
      · rw [if_pos hns0, if_pos hns0]
        exact Sim.reject _ _ _ rfl
      · rw [if_neg hns0, if_neg hns0]
        obtain ⟨k, hk⟩ : ∃ k, ns = k + 1 := ⟨ns - 1, by omega⟩
        have hsl := selLoop_spec k { dumped (dumped { st with alphaSize := st.alphaSize + 2 } 3) 15 with
            numTrees := nt, numSel := ns, j := 0, selector := #[] } ws
          (by show 0 + 1 + k = ns; omega) (by show 6 ≤ st.w - 3 - 15; omega)
          i15 (by show 1 ≤ nt; omega) (by show nt ≤ 6; omega) fun s hpc' hj' hr inv' =>
            selectors_spec k s ws hpc' (by rw [hj', hr.numSel]; show 0 + 1 + k = ns; omega) inv'
              (by rw [hr.numTrees]; show 1 ≤ nt; omega) (by rw [hr.numTrees]; show nt ≤ 6; omega)
              (by rw [hr.alphaSize]; show 1 ≤ st.alphaSize + 2; omega)
        unfold SelSim at hsl
        rw [← hk] at hsl
        refine Sim.map (r := specSelTables nt (used.length + 2) ns _) ?_
        rw [← ha]
        exact hsl.mono fun q s h => HdrOk.of_sel h (by rw [← ha]; exact sameRest_update _ _ _ _ _ _ _) hcl hct

theorem hdrOk_congr (a b s : St) (h : Hdr) (hk : HdrOk a s h) (h1 : b.mtf = a.mtf)
    (h2 : b.trees = a.trees) (h3 : b.run = a.run) (h4 : b.rand = a.rand) (h5 : b.bwtIdx = a.bwtIdx) :
    HdrOk b s h :=
  ⟨hk.pc, hk.j, hk.g, hk.numSel, hk.numTrees, hk.alphaSize, hk.cmapLen, hk.cmapTake, hk.sel,
   by rw [h1, h2]; exact hk.tt, by rw [h3]; exact hk.run, by rw [h4]; exact hk.rand,
   by rw [h5]; exact hk.bwtIdx⟩

/-- `bitmapOuter n` inside a step (rows `i = 16 - n … 15` to go, `used` found so far), with the
suspensions at `NEED(S_BITMAP_SMALL)`: the machine reaches the top of the group loop iff the
reference reads the remaining rows and the rest of the header from the unread bits. -/
theorem bitmap_rows_spec : ∀ (n : Nat) (st : St) (ws : List Nat) (big0 i : Nat) (used : List UInt8),
    i + n = 16 → BmInv big0 used i st → st.small = 0 → BufInv st.v st.w → 16 ≤ st.w →
    (used ≠ [] → 32 ≤ st.w) →
    Sim (fun _ => Out.top) (afterStep ws (bitmapOuter n st)) (specFromRows big0 used (List.range' i n) (bitsOf st ws))
      Hdr.rest (fun h s => HdrOk st s h) := by
  intro n
  induction n with
  | zero =>
    intro st ws big0 i used hin hbm hsm inv hw16 hw32
    have hcs := counts_spec st ws used hbm.alpha hbm.cmapLen hbm.cmapTake inv hw32
    unfold specFromRows
    simp only [List.range'_zero, specRows, List.append_nil]
    unfold bitmapOuter
    exact hcs
  | succ n ih =>
    intro st ws big0 i used hin hbm hsm inv hw16 hw32
    have hi : i < 16 := by omega
    rw [List.range'_succ]
    unfold bitmapOuter
    have htest := big_test big0 i hi
    rw [← hbm.big] at htest
    by_cases hbit : big0.testBit (15 - i) = true
    · obtain ⟨t16, s16', i16⟩ := take_both st ws 16 (by omega) hw16 inv
      rw [if_pos (htest.mpr hbit), specFromRows_cons_row _ _ _ _ _ hbit, t16, s16']
      dsimp only [Option.bind_some]
      generalize peek st 16 = s16
      refine Sim.need (c := { dumped st 16 with small := s16, pc := .bitmapSmall })
        nofun i16 (fun h hh => (specFromRows_some hh).2)
        fun v1 w1 ws1 hw1 inv1 hb1 _ => ?_
      have hbm1 : BmInv big0 used i ({ st with v := v1, w := w1, small := s16, pc := .bitmapSmall } : St) :=
        ⟨hbm.j, hbm.big, hbm.alpha, hbm.cmapLen, hbm.cmapTake, hbm.le⟩
      obtain ⟨hbm2, hsm2⟩ := rowBody_inv big0 used i _ hbm1 hi
      rw [step_bitmapSmall { st with v := v1, w := w1, small := s16, pc := .bitmapSmall } rfl]
      unfold stepBitmapSmall
      dsimp only
      rw [show (256 - (rowBody ({ st with v := v1, w := w1, small := s16, pc := .bitmapSmall } : St)).j) / 16 = n by
        rw [hbm2.j]; omega, show bitsOf (dumped st 16) ws = _ from hb1.symm]
      exact (ih (rowBody { st with v := v1, w := w1, small := s16, pc := .bitmapSmall }) ws1 big0 (i + 1)
        (used ++ Spec.Bzip2.usedOfRow i s16) (by omega) hbm2 hsm2 inv1 (by show 16 ≤ w1; omega)
        (fun _ => hw1)).mono fun h s hk => hdrOk_congr _ st s h hk rfl rfl rfl rfl rfl
    · rw [if_neg (fun hc => hbit (htest.mp hc)), specFromRows_cons_skip _ _ _ _ _ hbit]
      obtain ⟨hbm2, hsm2⟩ := rowBody_inv big0 used i st hbm hi
      rw [hsm, usedOfRow_zero, List.append_nil] at hbm2
      exact (ih (rowBody st) ws big0 (i + 1) used (by omega) hbm2 hsm2 inv hw16 hw32).mono
        fun h s hk => hdrOk_congr _ st s h hk rfl rfl rfl rfl rfl

end LbzVerif.Lemmas.RetrieveBitmap
