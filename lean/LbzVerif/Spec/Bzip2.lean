/-
  LbzVerif.Spec.Bzip2 — strict reference decoder and inspector for the bzip2
  1.0.x file format.  This is the ORACLE of properties C01, C02, C05, C06, C07,
  C15, C20: it says what a valid `.bz2` file is and what it decodes to.

  It is written from the format, not from lbzip2's code.  The only data taken
  from `LbzVerif.Gen` are the CRC table (Basic.Crc) and the randomisation table
  (`Gen.randTable`); both are compared with libbz2's own tables by
  `tools/spec_xcheck.py` on every run.  All numeric constants of the format
  (magics, 50, 20, 100000, 18002 …) are written out here on purpose.

  Shape:  bytes ──bytesToBits──▶ `List Bool` ──parse──▶ `Block` values
          ──unMtfRle2──▶ ──ibwt──▶ ──derand──▶ ──unRle1──▶ bytes, CRC checks.

  Everything is total.  Loops are structural recursions on the bit list, on a
  counter that the format bounds (50 symbols per group, `alphaSize` lengths per
  table, …), on the selector list, or — for the two outermost loops (blocks of a
  stream, streams of a file) — on a fuel value `bytes + 1` that can never run
  out because every block and every stream consumes at least one byte.
  Long loops are tail recursive with array accumulators so that the compiled
  driver handles 900 kB blocks (≈ 1 s per 100 kB of plaintext, < 10 s and
  ≈ 330 MB for a 900 kB block of random data).  Nothing uses well-founded
  recursion, so the kernel can also evaluate the oracle on small concrete
  files: `example : decodeFile [...] = .ok [...] := by decide +kernel`
  (see Lemmas/ExpandHello.lean, `decodeFile_helloBz2`; `DecidableEq (Except ..)`
  is derived below for that purpose).  `Lemmas/SpecBasic.lean` proves that the
  fuel of the outer loops never runs out (`decodeFile_ne_fuel`).

  The accepted language (strict bzip2 1.0.x):

    file    = stream+ garbage?
    stream  = "BZh" ('1'…'9')  block*  eos  crc32(combined)  pad-to-byte
    block   = 0x314159265359 crc32 rand(1) origPtr(24) bitmap(16 + 16·k)
              nGroups(3) nSelectors(15) selector-MTF(unary)… tables… symbols… EOB
    eos     = 0x177245385090

  Strictness (documented lbzip2 behaviour, built into this oracle; libbz2 is
  laxer in both places — see the cross-check):
    * a group coded by a table whose code lengths are not Kraft-complete
      (incomplete OR oversubscribed) is rejected; such a table is harmless as
      long as no group that is actually decoded selects it;
    * a block whose run-length layer ends in four equal bytes with no count
      byte is rejected.

  Trailing data (property C05): after at least one complete stream, and after
  the padding to the next byte boundary, the remaining bytes are ignored
  UNLESS they begin with a full four-byte header "BZh1"…"BZh9"; in that case
  they must parse as a further complete stream (recursively).
  Corners of the byte-level rule:
    * 0–3 remaining bytes can never hold a full header: always ignored
      (including "B", "BZ", "BZh");
    * "BZh0…", "BZhA…", "BZ" followed by anything else: ignored;
    * "BZh9" followed by anything that is not a valid rest-of-stream
      (including nothing at all): the whole file is rejected;
    * the padding bits before the byte boundary are not inspected.
  lbzip2's header parser consumes 16-bit words ("BZ", then "h1"…"h9"); on byte
  strings this is the same rule (it gives up on the first word that does not
  fit, or at end of input inside the header) — disagreements, if any, are for
  the check scripts to find.
-/
import LbzVerif.Basic.Bits
import LbzVerif.Basic.Crc
import LbzVerif.Gen.DecodeTab

namespace LbzVerif.Spec.Bzip2

open LbzVerif.Basic

/-! ## Reasons for rejection -/

inductive Reject
  /-- the file is empty -/
  | empty
  /-- the file does not start with "BZh1"…"BZh9" -/
  | badMagic
  /-- the data ends inside a stream -/
  | truncated
  /-- neither block magic nor end-of-stream magic where one is required -/
  | badBlockMagic
  /-- no symbol is marked as used -/
  | emptyBitmap
  /-- number of tables not in 2…6 -/
  | badNGroups
  /-- declared number of selectors is 0 -/
  | noSelectors
  /-- a selector's MTF index is ≥ the number of tables -/
  | badSelector
  /-- a code length (start value or any intermediate value) leaves 1…20 -/
  | badCodeLen
  /-- a decoded group selects a table that is not Kraft-complete -/
  | tableNotComplete
  /-- no symbol matched within 20 bits (cannot happen with a complete table) -/
  | badCode
  /-- selectors exhausted before the end-of-block symbol -/
  | missingEob
  /-- MTF symbol out of range for the used-symbol list (cannot come out of `parseBlock`) -/
  | badSymbol
  /-- the block decodes to more than level × 100000 bytes (before inverse BWT) -/
  | blockOverflow
  /-- the block decodes to zero bytes -/
  | emptyBlock
  /-- origPtr ≥ block size -/
  | badOrigPtr
  /-- the run-length layer ends in four equal bytes with no count byte -/
  | missingCount
  /-- stored block CRC ≠ CRC of the decoded block -/
  | blockCrc
  /-- stored stream CRC ≠ combination of the block CRCs -/
  | streamCrc
  /-- (unreachable) the fuel of an outer loop ran out -/
  | fuel
  /-- inspector only: a block is randomised -/
  | randomised
  /-- inspector only: some table (used or not) is not Kraft-complete -/
  | incompleteTable
  /-- inspector only: more than 18002 selectors -/
  | tooManySelectors
  /-- inspector only: something follows the single stream -/
  | trailingData
  deriving Repr, DecidableEq, Inhabited

deriving instance DecidableEq for Except

def Reject.name : Reject → String
  | .empty => "empty"
  | .badMagic => "bad-magic"
  | .truncated => "truncated"
  | .badBlockMagic => "bad-block-magic"
  | .emptyBitmap => "empty-bitmap"
  | .badNGroups => "bad-ngroups"
  | .noSelectors => "no-selectors"
  | .badSelector => "bad-selector"
  | .badCodeLen => "bad-code-length"
  | .tableNotComplete => "used-table-not-complete"
  | .badCode => "bad-code"
  | .missingEob => "missing-eob"
  | .badSymbol => "bad-symbol"
  | .blockOverflow => "block-overflow"
  | .emptyBlock => "empty-block"
  | .badOrigPtr => "bad-origptr"
  | .missingCount => "missing-count"
  | .blockCrc => "block-crc"
  | .streamCrc => "stream-crc"
  | .fuel => "fuel"
  | .randomised => "randomised"
  | .incompleteTable => "incomplete-table"
  | .tooManySelectors => "too-many-selectors"
  | .trailingData => "trailing-data"

/-! ## Format constants -/

/-- 48-bit block header magic (BCD of π). -/
def blockMagic : Nat := 0x314159265359
/-- 48-bit end-of-stream magic (BCD of √π). -/
def eosMagic : Nat := 0x177245385090
/-- symbols per selector group -/
def groupSize : Nat := 50
/-- longest code length -/
def maxLen : Nat := 20
/-- block capacity (bytes after the first run-length layer) at a level -/
def blockCap (level : Nat) : Nat := level * 100000
/-- the producer-side limit on selectors checked by `inspect` (C02) -/
def maxSelectorsStrict : Nat := 18002

/-- `some level` iff the 32-bit word is "BZh1"…"BZh9". -/
def headerLevel (w : Nat) : Option Nat :=
  if 0x425A6831 ≤ w ∧ w ≤ 0x425A6839 then some (w - 0x425A6830) else none

/-! ## Block syntax -/

/-- A parsed block: every field of the bit syntax, plus the prefix-decoded
    symbol stream.  Offsets are bit offsets from the start of the file. -/
structure Block where
  /-- level of the enclosing stream (1…9) -/
  level : Nat
  /-- bit offset of the first bit of the 48-bit block magic -/
  startBit : Nat
  /-- bit offset just after the last bit of the end-of-block code -/
  endBit : Nat
  /-- stored block CRC -/
  storedCrc : Nat
  /-- randomisation flag -/
  rand : Bool
  /-- stored BWT primary index -/
  origPtr : Nat
  /-- byte values marked in the bitmap, increasing; 1…256 of them -/
  used : List UInt8
  /-- number of prefix tables, 2…6 -/
  nGroups : Nat
  /-- all selectors read (declared count = `selectors.length`, 1…32767),
      after undoing their MTF coding: indices into `tables` -/
  selectors : List Nat
  /-- code lengths per table: `nGroups` lists of `alphaSize` values in 1…20 -/
  tables : List (List Nat)
  /-- number of selectors actually used (= number of groups decoded) -/
  nSelectorsUsed : Nat
  /-- the MTF/RLE2 symbols in order, WITHOUT the final end-of-block symbol
      (RUNA = 0, RUNB = 1, MTF index i ≥ 1 coded as i + 1, EOB = alphaSize − 1) -/
  syms : Array Nat
  deriving Repr, Inhabited

/-- alphabet size of the prefix codes: used byte values + RUNA/RUNB/EOB − 1 -/
def Block.alphaSize (b : Block) : Nat := b.used.length + 2
/-- the end-of-block symbol -/
def Block.eob (b : Block) : Nat := b.used.length + 1
/-- number of prefix-coded symbols including the end-of-block symbol -/
def Block.nSyms (b : Block) : Nat := b.syms.size + 1

/-! ### bitmap -/

/-- byte values `16·i + j` for the set bits (MSB = j 0) of a 16-bit row word -/
def usedOfRow (i : Nat) (small : Nat) : List UInt8 :=
  (List.range 16).filterMap fun j =>
    if small.testBit (15 - j) then some (UInt8.ofNat (16 * i + j)) else none

/-- Read the 16-bit row words for the rows whose bit is set in `big`
    (MSB = row 0); returns the used byte values in increasing order. -/
def readBitmapRows (big : Nat) : (rows : List Nat) → (pos : Nat) → Bits →
    Option (List UInt8 × Nat × Bits)
  | [], pos, bits => some ([], pos, bits)
  | i :: rows, pos, bits =>
    if big.testBit (15 - i) then
      match takeNat 16 bits with
      | none => none
      | some (small, bits) =>
        match readBitmapRows big rows (pos + 16) bits with
        | none => none
        | some (u, pos, bits) => some (usedOfRow i small ++ u, pos, bits)
    else readBitmapRows big rows pos bits

/-! ### selectors -/

/-- One unary-coded MTF index: `k` one-bits then a zero bit; must stay below
    `nGroups`.  Returns the index and the rest (it consumed `index + 1` bits). -/
def readUnary (nGroups : Nat) : (k : Nat) → Bits → Except Reject (Nat × Bits)
  | _, [] => .error .truncated
  | k, false :: bits => .ok (k, bits)
  | k, true :: bits =>
    if k + 1 < nGroups then readUnary nGroups (k + 1) bits else .error .badSelector

/-- `n` unary-coded selector MTF indices. -/
def readSelectorMtf (nGroups : Nat) : (n : Nat) → (pos : Nat) → Bits → (acc : Array Nat) →
    Except Reject (Array Nat × Nat × Bits)
  | 0, pos, bits, acc => .ok (acc, pos, bits)
  | n + 1, pos, bits, acc =>
    match readUnary nGroups 0 bits with
    | .error e => .error e
    | .ok (j, bits) => readSelectorMtf nGroups n (pos + j + 1) bits (acc.push j)

/-- Move the element at index `j` to the front (`none` if out of range). -/
def moveToFront {α : Type} (l : List α) (j : Nat) : Option (α × List α) :=
  match l[j]? with
  | none => none
  | some x => some (x, x :: l.eraseIdx j)

/-- Undo the MTF coding of the selectors (initial list 0,1,…,nGroups−1). -/
def unMtfSelectors : (mtf : List Nat) → (js : List Nat) → (acc : Array Nat) → Option (Array Nat)
  | _, [], acc => some acc
  | mtf, j :: js, acc =>
    match moveToFront mtf j with
    | none => none
    | some (t, mtf) => unMtfSelectors mtf js (acc.push t)

/-! ### code lengths -/

/-- Delta coding of one code length, starting from the current value `cur`
    (which the caller has checked to be in 1…20):
    `0` = this symbol's length is `cur`; `10` = increment; `11` = decrement.
    EVERY intermediate value must stay in 1…20. -/
def readLen : (cur : Nat) → (pos : Nat) → Bits → Except Reject (Nat × Nat × Bits)
  | _, _, [] => .error .truncated
  | cur, pos, false :: bits => .ok (cur, pos + 1, bits)
  | _, _, [true] => .error .truncated
  | cur, pos, true :: false :: bits =>
    if cur + 1 ≤ maxLen then readLen (cur + 1) (pos + 2) bits else .error .badCodeLen
  | cur, pos, true :: true :: bits =>
    if 2 ≤ cur then readLen (cur - 1) (pos + 2) bits else .error .badCodeLen

/-- The `n` code lengths of one table; each symbol continues from the previous
    symbol's length. -/
def readLens : (n : Nat) → (cur : Nat) → (pos : Nat) → Bits → (acc : Array Nat) →
    Except Reject (Array Nat × Nat × Bits)
  | 0, _, pos, bits, acc => .ok (acc, pos, bits)
  | n + 1, cur, pos, bits, acc =>
    match readLen cur pos bits with
    | .error e => .error e
    | .ok (len, pos, bits) => readLens n len pos bits (acc.push len)

/-- One table: 5-bit start value (must itself be in 1…20), then `alphaSize`
    delta-coded lengths. -/
def readTable (alphaSize : Nat) (pos : Nat) (bits : Bits) :
    Except Reject (List Nat × Nat × Bits) :=
  match takeNat 5 bits with
  | none => .error .truncated
  | some (start, bits) =>
    if 1 ≤ start ∧ start ≤ maxLen then
      match readLens alphaSize start (pos + 5) bits (Array.mkEmpty alphaSize) with
      | .error e => .error e
      | .ok (lens, pos, bits) => .ok (lens.toList, pos, bits)
    else .error .badCodeLen

def readTables (alphaSize : Nat) : (n : Nat) → (pos : Nat) → Bits → (acc : Array (List Nat)) →
    Except Reject (List (List Nat) × Nat × Bits)
  | 0, pos, bits, acc => .ok (acc.toList, pos, bits)
  | n + 1, pos, bits, acc =>
    match readTable alphaSize pos bits with
    | .error e => .error e
    | .ok (t, pos, bits) => readTables alphaSize n pos bits (acc.push t)

/-! ### canonical prefix codes

  Codes are assigned in order of increasing length and, within a length, of
  increasing symbol index; the first code is all zeros and each next code is
  the previous one plus one, left-shifted when the length grows.  For length
  `l` let `count l` be the number of symbols of that length and `first l` the
  first code of that length (`first 1 = 0`, `first (l+1) = (first l + count l)·2`).
  A bit string `c` of length `l` is a code word iff `first l ≤ c < first l + count l`,
  and it then denotes the `(c − first l)`-th symbol of length `l`. -/

/-- Kraft sum scaled by 2^20: Σ 2^(20 − len). -/
def kraftSum (lens : List Nat) : Nat :=
  lens.foldl (fun s l => s + 2 ^ (maxLen - l)) 0

/-- Kraft-complete: the code words exactly tile the code space. -/
def kraftComplete (lens : List Nat) : Bool := kraftSum lens == 2 ^ maxLen

/-- A table prepared for decoding. -/
structure Code where
  /-- number of symbols of length 1, 2, …, 20 -/
  counts : List Nat
  /-- symbols ordered by (length, index) -/
  perm : Array Nat
  /-- Kraft-complete? -/
  complete : Bool
  deriving Repr, Inhabited

def mkCode (lens : List Nat) : Code :=
  let n := lens.length
  let ls := lens.toArray
  let lengths := (List.range maxLen).map (· + 1)
  { counts := lengths.map fun l => lens.count l
    perm := (lengths.flatMap fun l => (List.range n).filter fun s => ls.getD s 0 == l).toArray
    complete := kraftComplete lens }

/-- Canonical decoding of one symbol: walk the lengths 1…20, extending the
    code by one bit each time.  `first` is the first code of the current
    length, `index` the number of symbols with shorter codes.  Returns the
    rank of the symbol in `perm`. -/
def decodeRank : (counts : List Nat) → (code first index : Nat) → (pos : Nat) → Bits →
    Except Reject (Nat × Nat × Bits)
  | [], _, _, _, _, _ => .error .badCode
  | _ :: _, _, _, _, _, [] => .error .truncated
  | c :: counts, code, first, index, pos, b :: bits =>
    let code := 2 * code + bit b
    if first ≤ code ∧ code < first + c then .ok (index + (code - first), pos + 1, bits)
    else decodeRank counts code (2 * (first + c)) (index + c) (pos + 1) bits

/-- Decode one prefix-coded symbol. -/
def decodeSym (c : Code) (pos : Nat) (bits : Bits) : Except Reject (Nat × Nat × Bits) :=
  match decodeRank c.counts 0 0 0 pos bits with
  | .error e => .error e
  | .ok (r, pos, bits) =>
    match c.perm[r]? with
    | none => .error .badCode
    | some s => .ok (s, pos, bits)

/-- Up to `k` symbols of one group; stops at the end-of-block symbol
    (result flag `true`).  The EOB symbol itself is not appended. -/
def decodeGroup (c : Code) (eob : Nat) : (k : Nat) → (pos : Nat) → Bits → (acc : Array Nat) →
    Except Reject (Bool × Nat × Bits × Array Nat)
  | 0, pos, bits, acc => .ok (false, pos, bits, acc)
  | k + 1, pos, bits, acc =>
    match decodeSym c pos bits with
    | .error e => .error e
    | .ok (s, pos, bits) =>
      if s == eob then .ok (true, pos, bits, acc)
      else decodeGroup c eob k pos bits (acc.push s)

/-- Groups of 50 symbols, one selector per group, until the end-of-block
    symbol.  A group whose table is not Kraft-complete is rejected; selectors
    left over after EOB are ignored; running out of selectors is an error.
    Returns the number of selectors used. -/
def decodeGroups (codes : Array Code) (eob : Nat) : (sels : List Nat) → (nUsed : Nat) →
    (pos : Nat) → Bits → (acc : Array Nat) → Except Reject (Nat × Nat × Bits × Array Nat)
  | [], _, _, _, _ => .error .missingEob
  | s :: sels, nUsed, pos, bits, acc =>
    match codes[s]? with
    | none => .error .badSelector
    | some c =>
      if !c.complete then .error .tableNotComplete
      else
        match decodeGroup c eob groupSize pos bits acc with
        | .error e => .error e
        | .ok (true, pos, bits, acc) => .ok (nUsed + 1, pos, bits, acc)
        | .ok (false, pos, bits, acc) => decodeGroups codes eob sels (nUsed + 1) pos bits acc

/-! ### the whole block -/

/-- Parse one block.  `bits` starts right AFTER the 48-bit block magic, whose
    first bit is at offset `start`.  Returns the block and the remaining bits
    (the block's `endBit` is the offset of the first remaining bit). -/
def parseBlock (level : Nat) (start : Nat) (bits : Bits) : Except Reject (Block × Bits) :=
  match takeNat 32 bits with
  | none => .error .truncated
  | some (storedCrc, bits) =>
  match takeNat 1 bits with
  | none => .error .truncated
  | some (rand, bits) =>
  match takeNat 24 bits with
  | none => .error .truncated
  | some (origPtr, bits) =>
  match takeNat 16 bits with
  | none => .error .truncated
  | some (big, bits) =>
  -- 48 magic + 32 crc + 1 rand + 24 origPtr + 16 bitmap
  match readBitmapRows big (List.range 16) (start + 121) bits with
  | none => .error .truncated
  | some (used, pos, bits) =>
  if used.isEmpty then .error .emptyBitmap else
  let alphaSize := used.length + 2
  match takeNat 3 bits with
  | none => .error .truncated
  | some (nGroups, bits) =>
  if nGroups < 2 ∨ 6 < nGroups then .error .badNGroups else
  match takeNat 15 bits with
  | none => .error .truncated
  | some (nSelectors, bits) =>
  if nSelectors = 0 then .error .noSelectors else
  match readSelectorMtf nGroups nSelectors (pos + 18) bits (Array.mkEmpty nSelectors) with
  | .error e => .error e
  | .ok (selMtf, pos, bits) =>
  match unMtfSelectors (List.range nGroups) selMtf.toList (Array.mkEmpty nSelectors) with
  | none => .error .badSelector
  | some selectors =>
  match readTables alphaSize nGroups pos bits (Array.mkEmpty nGroups) with
  | .error e => .error e
  | .ok (tables, pos, bits) =>
  let codes := (tables.map mkCode).toArray
  match decodeGroups codes (alphaSize - 1) selectors.toList 0 pos bits (Array.mkEmpty 1024) with
  | .error e => .error e
  | .ok (nUsed, pos, bits, syms) =>
  .ok ({ level := level, startBit := start, endBit := pos, storedCrc := storedCrc,
         rand := rand == 1, origPtr := origPtr, used := used, nGroups := nGroups,
         selectors := selectors.toList, tables := tables, nSelectorsUsed := nUsed,
         syms := syms }, bits)

/-! ## Pure stages -/

/-- append `n` copies of `b` -/
def pushN {α : Type} (acc : Array α) (b : α) : Nat → Array α
  | 0 => acc
  | n + 1 => pushN (acc.push b) b n

/-- State of the MTF / zero-run decoder: the MTF list, the pending run of the
    byte at the front of the list (`run` copies, next RUNA/RUNB digit worth
    `weight`), and the output so far.

    RUNA/RUNB are the digits 1 and 2 of a bijective base-2 numeral, least
    significant first: a maximal sequence d₀ d₁ … d_k stands for
    Σ dᵢ·2^i copies of the byte currently at the front of the MTF list. -/
def unMtfRle2Go (cap : Nat) : (syms : List Nat) → (mtf : List UInt8) → (run weight : Nat) →
    (out : Array UInt8) → Except Reject (Array UInt8)
  | [], mtf, run, _, out =>
    if out.size + run ≤ cap then .ok (pushN out (mtf.headD 0) run) else .error .blockOverflow
  | s :: syms, mtf, run, weight, out =>
    if s ≤ 1 then
      -- RUNA (s = 0) adds 1·weight, RUNB (s = 1) adds 2·weight
      let run := run + (s + 1) * weight
      if run ≤ cap then unMtfRle2Go cap syms mtf run (2 * weight) out
      else .error .blockOverflow
    else if out.size + run + 1 ≤ cap then
      let out := pushN out (mtf.headD 0) run
      match moveToFront mtf (s - 1) with
      | none => .error .badSymbol
      | some (b, mtf) => unMtfRle2Go cap syms mtf 0 1 (out.push b)
    else .error .blockOverflow

/-- Undo the zero-run coding and the move-to-front transform.  `used` is the
    initial MTF list (used byte values, increasing), `syms` the symbol stream
    without the end-of-block symbol, `cap` the block capacity: the result is
    rejected as soon as it would exceed `cap` bytes. -/
def unMtfRle2 (used : List UInt8) (cap : Nat) (syms : List Nat) : Except Reject (Array UInt8) :=
  unMtfRle2Go cap syms used 0 1 (Array.mkEmpty 1024)

/-- Follow the permutation `t` for `n` steps from `p`, collecting `l[p]`. -/
def ibwtWalk (l : Array UInt8) (t : Array Nat) : (n : Nat) → (p : Nat) → (acc : Array UInt8) →
    Array UInt8
  | 0, _, acc => acc
  | n + 1, p, acc => ibwtWalk l t n (t.getD p 0) (acc.push (l.getD p 0))

/-- `bucketStarts l`[c] = number of positions of `l` holding a byte smaller
    than `c` (256 entries): where the bucket of value `c` starts when the
    positions are listed in order of their byte value. -/
def bucketStarts (l : Array UInt8) : Array Nat :=
  let counts := l.foldl (fun (c : Array Nat) b => c.setIfInBounds b.toNat (c.getD b.toNat 0 + 1))
    (Array.replicate 256 0)
  (counts.foldl (fun (acc : Array Nat × Nat) c => (acc.1.push acc.2, acc.2 + c))
    (Array.mkEmpty 256, 0)).1

/-- The positions `0 … n−1` of `l` in STABLE order of their byte value
    (a counting sort: position `i` goes to the next free slot of the bucket of
    `l[i]`).  Same list as `(List.range n).mergeSort (l[·] ≤ l[·])`; written as
    two folds so that the kernel can evaluate it (`decide +kernel` examples). -/
def ibwtPerm (l : Array UInt8) : Array Nat :=
  (l.foldl (fun (s : Array Nat × Array Nat × Nat) b =>
      let p := s.1.getD b.toNat 0
      (s.1.setIfInBounds b.toNat (p + 1), s.2.1.setIfInBounds p s.2.2, s.2.2 + 1))
    (bucketStarts l, Array.replicate l.size 0, 0)).2.1

/-- Inverse Burrows–Wheeler transform.  `l` is the last column of the sorted
    rotation matrix and `origPtr` the row holding the original text.
    `t = ibwtPerm l` lists the positions of `l` in stable order of their byte
    value: `t[j]` is the row whose LAST byte is the FIRST byte of row `j`, i.e.
    the row of the rotation one step to the left.  The text is read off by
    starting at `t[origPtr]` and following `t`. -/
def ibwt (l : Array UInt8) (origPtr : Nat) : Option (Array UInt8) :=
  if origPtr < l.size then
    let t := ibwtPerm l
    some (ibwtWalk l t l.size (t.getD origPtr 0) (Array.mkEmpty l.size))
  else none

/-- The randomisation table as an array. -/
def randTab : Array Nat := Gen.randTable.toArray

/-- bzip2's `BZ_RAND_UPD_MASK` / `BZ_RAND_MASK` applied to each byte in turn:
    a countdown `toGo` reloaded from the table (cyclically, 512 entries) when
    it is 0, decremented for every byte; the byte is XORed with 1 when the
    countdown is 1 after the decrement. -/
def derandGo : List UInt8 → (toGo tpos : Nat) → (acc : Array UInt8) → Array UInt8
  | [], _, _, acc => acc
  | b :: bs, toGo, tpos, acc =>
    let reload := toGo == 0
    let toGo := (if reload then randTab.getD tpos 0 else toGo) - 1
    let tpos := if reload then (tpos + 1) % 512 else tpos
    derandGo bs toGo tpos (acc.push (if toGo == 1 then b ^^^ 1 else b))

/-- Undo the block randomisation of bzip2 0.9.0 and earlier. -/
def derand (bs : Array UInt8) : Array UInt8 :=
  derandGo bs.toList 0 0 (Array.mkEmpty bs.size)

/-- Final run-length decoding.  `cnt` (0…4) consecutive bytes equal to `last`
    have just been copied; after four, the next byte is a repeat count 0…255
    and the run detection starts afresh after it.  A block that ends right
    after four equal bytes (count byte missing) is rejected. -/
def unRle1Go : List UInt8 → (last : UInt8) → (cnt : Nat) → (acc : Array UInt8) →
    Except Reject (Array UInt8)
  | [], _, cnt, acc => if cnt == 4 then .error .missingCount else .ok acc
  | b :: bs, last, cnt, acc =>
    if cnt == 4 then unRle1Go bs last 0 (pushN acc last b.toNat)
    else if cnt != 0 && b == last then unRle1Go bs last (cnt + 1) (acc.push b)
    else unRle1Go bs b 1 (acc.push b)

def unRle1 (bs : Array UInt8) : Except Reject (Array UInt8) :=
  unRle1Go bs.toList 0 0 (Array.mkEmpty (bs.size + bs.size / 2))

/-- What the later stages make of a parsed block. -/
structure Decoded where
  /-- block size before the final run-length decoding (≥ 1, ≤ level × 100000) -/
  nblock : Nat
  /-- the plaintext of the block -/
  bytes : Array UInt8
  deriving Inhabited

/-- All stages after parsing, with every check of the format. -/
def decodeBlock (b : Block) : Except Reject Decoded :=
  match unMtfRle2 b.used (blockCap b.level) b.syms.toList with
  | .error e => .error e
  | .ok tt =>
    if tt.size = 0 then .error .emptyBlock
    else match ibwt tt b.origPtr with
    | none => .error .badOrigPtr
    | some t =>
      match unRle1 (if b.rand then derand t else t) with
      | .error e => .error e
      | .ok out =>
        if (crc32Arr out).toNat = b.storedCrc then .ok { nblock := tt.size, bytes := out }
        else .error .blockCrc

/-! ## Inspector records -/

/-- How often each symbol (index < alphaSize, EOB included) is coded with each
    table: `nGroups` rows of `alphaSize` counts.  Symbol number `i` of the
    block (0-based, EOB last) belongs to group `i / 50`. -/
def tableFreqs (b : Block) : List (List Nat) :=
  let sels := b.selectors.toArray
  let zero : Array (Array Nat) := Array.replicate b.nGroups (Array.replicate b.alphaSize 0)
  let bump (f : Array (Array Nat)) (i s : Nat) : Array (Array Nat) :=
    f.modify (sels.getD (i / groupSize) 0) fun row => row.modify s (· + 1)
  let f := (b.syms.foldl (fun (fi : Array (Array Nat) × Nat) s => (bump fi.1 fi.2 s, fi.2 + 1))
             (zero, 0)).1
  (bump f b.syms.size b.eob).toList.map Array.toList

structure BlockReport where
  block : Block
  /-- size before the final run-length decoding -/
  nblock : Nat
  /-- plaintext size -/
  size : Nat
  /-- per-table symbol frequencies -/
  freqs : List (List Nat)
  deriving Repr, Inhabited

structure StreamReport where
  level : Nat
  /-- bit offset of the 'B' of the header -/
  startBit : Nat
  /-- bit offset after the padding that follows the stream CRC -/
  endBit : Nat
  /-- stored combined CRC -/
  storedCrc : Nat
  blocks : List BlockReport
  deriving Repr, Inhabited

structure Report where
  streams : List StreamReport
  /-- total plaintext size -/
  size : Nat
  /-- CRC-32/bzip2 of the whole plaintext (handy for comparisons) -/
  crc : Nat
  deriving Repr, Inhabited

/-- The producer-side rules of C02 that concern one block. -/
def strictBlockCheck (b : Block) : Except Reject Unit :=
  if b.rand then .error .randomised
  else if !(b.tables.all kraftComplete) then .error .incompleteTable
  else if b.selectors.length > maxSelectorsStrict then .error .tooManySelectors
  else .ok ()

/-! ## Streams and files -/

/-- Accumulated result of walking a file. -/
structure Acc where
  out : Array UInt8 := #[]
  streams : Array StreamReport := #[]
  deriving Inhabited

/-- The blocks of one stream, up to and including the end-of-stream trailer
    (magic and combined CRC, not the padding).  `pos` is the offset of the
    first bit of `bits`.  `strict` adds the C02 producer rules and keeps the
    per-block reports.  Returns the offset and bits after the stored CRC. -/
def decodeBlocks (strict : Bool) (level : Nat) : (fuel : Nat) → (pos : Nat) → Bits →
    (cc : UInt32) → (out : Array UInt8) → (reps : Array BlockReport) →
    Except Reject (Nat × Bits × Nat × Array UInt8 × Array BlockReport)
  | 0, _, _, _, _, _ => .error .fuel
  | fuel + 1, pos, bits, cc, out, reps =>
    match takeNat 48 bits with
    | none => .error .truncated
    | some (magic, bits) =>
      if magic = blockMagic then
        match parseBlock level pos bits with
        | .error e => .error e
        | .ok (b, bits) =>
          match (if strict then strictBlockCheck b else .ok ()) with
          | .error e => .error e
          | .ok () =>
            match decodeBlock b with
            | .error e => .error e
            | .ok d =>
              let reps := if strict then
                  reps.push { block := b, nblock := d.nblock, size := d.bytes.size,
                              freqs := tableFreqs b }
                else reps
              decodeBlocks strict level fuel b.endBit bits
                (combine cc (UInt32.ofNat b.storedCrc)) (out ++ d.bytes) reps
      else if magic = eosMagic then
        match takeNat 32 bits with
        | none => .error .truncated
        | some (stored, bits) =>
          if stored = cc.toNat then .ok (pos + 80, bits, stored, out, reps)
          else .error .streamCrc
      else .error .badBlockMagic

/-- Streams, starting right after a four-byte header "BZh<level>" whose first
    bit is at offset `start`.  After each stream: pad to a byte boundary, then
    apply the trailing-data rule. -/
def decodeStreams (strict : Bool) : (fuel : Nat) → (innerFuel : Nat) → (level : Nat) →
    (start : Nat) → Bits → Acc → Except Reject Acc
  | 0, _, _, _, _, _ => .error .fuel
  | fuel + 1, innerFuel, level, start, bits, acc =>
    match decodeBlocks strict level innerFuel (start + 32) bits 0 acc.out #[] with
    | .error e => .error e
    | .ok (pos, bits, stored, out, reps) =>
      -- padding: the stream began on a byte boundary, so `pos % 8` bits of the
      -- current byte are used
      let pad := (8 - pos % 8) % 8
      let bits := bits.drop pad
      let pos := pos + pad
      let acc : Acc :=
        { out := out
          streams := if strict then
              acc.streams.push { level := level, startBit := start, endBit := pos,
                                 storedCrc := stored, blocks := reps.toList }
            else acc.streams }
      if strict then
        if bits.isEmpty then .ok acc else .error .trailingData
      else
        match takeNat 32 bits with
        | none => .ok acc                      -- 0…3 bytes left: ignored
        | some (w, rest) =>
          match headerLevel w with
          | none => .ok acc                    -- not a full header: ignored
          | some level' => decodeStreams strict fuel innerFuel level' pos rest acc

/-- Walk a whole file. -/
def walkFile (strict : Bool) (data : List UInt8) : Except Reject Acc :=
  if data.isEmpty then .error .empty
  else
    let fuel := data.length + 1
    match takeNat 32 (bytesToBits data) with
    | none => .error .badMagic
    | some (w, bits) =>
      match headerLevel w with
      | none => .error .badMagic
      | some level => decodeStreams strict fuel fuel level 0 bits {}

/-- THE reference decoder: the plaintext of a valid bzip2 file, or why the
    file is not valid. -/
def decodeFile (data : List UInt8) : Except Reject (List UInt8) :=
  match walkFile false data with
  | .error e => .error e
  | .ok acc => .ok acc.out.toList

/-- `decodeFile` without the final conversion to a list (for large outputs). -/
def decodeFileArr (data : List UInt8) : Except Reject (Array UInt8) :=
  match walkFile false data with
  | .error e => .error e
  | .ok acc => .ok acc.out

theorem decodeFile_eq (data : List UInt8) :
    decodeFile data = (decodeFileArr data).map Array.toList := by
  unfold decodeFile decodeFileArr
  cases walkFile false data <;> rfl

/-- THE strict inspector (C02): `decodeFile`'s rules plus — exactly one stream
    with nothing after it, no randomised block, every table (used or not)
    Kraft-complete, at most 18002 selectors per block — and a report of what
    was found. -/
def inspect (data : List UInt8) : Except Reject Report :=
  match walkFile true data with
  | .error e => .error e
  | .ok acc =>
    .ok { streams := acc.streams.toList, size := acc.out.size, crc := (crc32Arr acc.out).toNat }

end LbzVerif.Spec.Bzip2

namespace LbzVerif.Spec
/-- Names used in DESIGN.md. -/
abbrev decodeFile := Bzip2.decodeFile
abbrev inspect := Bzip2.inspect
end LbzVerif.Spec
