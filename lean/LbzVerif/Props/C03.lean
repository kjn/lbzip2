/-
  Props.C03 — compressed output depends only on the input and the options.

  Scheduler side (`Model.SchedC`): what reaches the sink is determined by the
  input, `--sequential` and the chunk size alone — not by the worker count,
  the slot totals or the interleaving.  I/O side: `xread` / `xwrite` hide
  short reads and short writes.
-/
import LbzVerif.Lemmas.SchedC.CanonSplit
import LbzVerif.Lemmas.SchedC.XIO
import LbzVerif.Lemmas.SchedC.WitnessS
import LbzVerif.Lemmas.SchedC.Wake

namespace LbzVerif.Props.C03
open LbzVerif.Gen LbzVerif.Model.SchedC

variable {α σ : Type}

/-- **xread_chunks**: whatever sizes the successive `read()` calls return
    (`frags`, each clamped to 1 … bytes wanted), `xread` stores exactly the first
    `vacant` bytes of what is left of the input (all of it if shorter) and
    leaves the rest: a chunk is short only at end of input. -/
theorem xread_chunks (src : List α) (vacant : Nat) (frags : List Nat) :
    xread src vacant frags = (src.take vacant, src.drop vacant) :=
  xread_eq src vacant frags

/-- hence the chunk list the reader thread produces is the canonical
    `in_granul`-sized cut of the input, numbered from 0, for every
    fragmentation pattern. -/
theorem reader_chunks (g : Nat) (hg : 0 < g) (frags : Nat → List Nat) (input : List α) :
    readChunks g frags (input.length + 1) 0 input = cutChunks g 0 input :=
  readChunks_eq g hg frags _ 0 input (Nat.lt_succ_self _)

example : (readChunks 2 (fun i => [1, i, 7]) 6 0 [10, 11, 12, 13, 14]).map (·.data) =
    [[10, 11], [12, 13], [14]] := by decide

/-- **xwrite_all**: whatever sizes the successive `write()` calls accept
    (each clamped to 1 … bytes left), exactly the buffer reaches the file. -/
theorem xwrite_all (buf : List α) (frags : List Nat) : xwrite buf frags = buf := by
  induction frags generalizing buf with
  | nil => rfl
  | cons f fs ih =>
    simp only [xwrite]
    split
    · next h => exact h.symm
    · rw [ih]
      exact List.take_append_drop _ _

example : xwrite [1, 2, 3, 4, 5] [2, 0, 9] = [1, 2, 3, 4, 5] := by decide

/-- **sink order**: the writer thread writes the buffers in the order they
    were handed to `sink_write_buffer`, and those follow the `next` chain from
    (0,0) (C11 order). -/
theorem sink_prefix {c : Cfg} {cd : Codec α σ} {input : List α} {s : State α σ}
    (h : Reach c cd input s) :
    s.handed = s.written ++ s.wr.toList ++ s.outputQ ∧ Chain ⟨0, 0⟩ s.handed s.order :=
  ⟨(order_reach h).fifo, (order_reach h).chain⟩

/-- **output_canon** (both modes, full strength).  In every reachable state
    in which `can_terminate()` holds — whatever the worker count, the slot
    totals, the interleaving, the spurious wake-ups — the blocks handed to the
    sink, and the blocks written, are exactly the canonical block list
    `canon c cd input`, which is a function of the input, `--sequential` and
    the chunk size only (`canon_depends`):
    non-sequential: cut the input into chunks, `collect` repeatedly inside each
    chunk; sequential: run `collect` over the chunks in order, a block may span
    chunks.  Hypotheses: the facts `Codec.OK` about `collect()` (theorems about
    the real collector in `Props.C04.Blocks.realCodec_ok`) and a positive chunk
    size. -/
theorem output_canon {c : Cfg} {cd : Codec α σ} {input : List α} {s : State α σ}
    (ok : cd.OK) (hg : 0 < c.inGranul) (h : Reach c cd input s) (hf : finished c s = true) :
    s.written = canon c cd input ∧ s.handed = canon c cd input := by
  have r := restored_reach h hf
  have hfifo := (order_reach h).fifo
  rw [r.outputQ, r.wr] at hfifo
  have hw : s.written = s.handed := by simpa using hfifo.symm
  have hc := handed_eq_canon ok hg h hf
  exact ⟨hw.trans hc, hc⟩

/-- the same at the end of a run: when every thread has gone (`isFinal`: what
    `primary_thread` sees after the joins; at least one worker), a worker has
    exited, which it does only when `can_terminate()` holds. -/
theorem output_final {c : Cfg} {cd : Codec α σ} {input : List α} {s : State α σ}
    (ok : cd.OK) (hg : 0 < c.inGranul) (hn : 1 ≤ c.n) (h : Reach c cd input s)
    (hfin : isFinal s = true) : s.written = canon c cd input := by
  exact (output_canon ok hg h (finished_of_isFinal hn h hfin)).1

/-- `canon` reads nothing of the configuration but `--sequential` and the
    chunk size: not the worker count, not the slot totals. -/
theorem canon_depends {c₁ c₂ : Cfg} (cd : Codec α σ) (input : List α)
    (hu : c₁.ultra = c₂.ultra) (hgg : c₁.inGranul = c₂.inGranul) :
    canon c₁ cd input = canon c₂ cd input := by
  simp only [canon, hu, hgg]

/-- **output_eq** (both modes, full strength).  Two terminated runs on the
    same input with the same mode and chunk size — ANY two worker counts, ANY
    slot totals, ANY two interleavings — write the same block sequence. -/
theorem output_eq {c₁ c₂ : Cfg} {cd : Codec α σ} {input : List α}
    {s₁ s₂ : State α σ} (ok : cd.OK) (hu : c₁.ultra = c₂.ultra)
    (hg : 0 < c₁.inGranul) (hgg : c₁.inGranul = c₂.inGranul)
    (h₁ : Reach c₁ cd input s₁) (f₁ : finished c₁ s₁ = true)
    (h₂ : Reach c₂ cd input s₂) (f₂ : finished c₂ s₂ = true) :
    s₁.written = s₂.written := by
  rw [(output_canon ok hg h₁ f₁).1, (output_canon ok (hgg ▸ hg) h₂ f₂).1]
  exact canon_depends cd input hu hgg

/-- the same for the concrete configurations `set_memory_constraints()`
    computes: worker counts `n₁`, `n₂` arbitrary, same level and mode. -/
theorem output_eq_gen {n₁ n₂ bs : Nat} {u : Bool} {cd : Codec α σ} {input : List α}
    {s₁ s₂ : State α σ} (ok : cd.OK) (hbs : 0 < bs)
    (h₁ : Reach (Cfg.ofGen n₁ bs u) cd input s₁) (f₁ : finished (Cfg.ofGen n₁ bs u) s₁ = true)
    (h₂ : Reach (Cfg.ofGen n₂ bs u) cd input s₂) (f₂ : finished (Cfg.ofGen n₂ bs u) s₂ = true) :
    s₁.written = s₂.written := by
  have hg : 0 < (Cfg.ofGen n₁ bs u).inGranul := by
    simp only [Cfg.ofGen, memCompress]
    omega
  exact output_eq (c₁ := Cfg.ofGen n₁ bs u) (c₂ := Cfg.ofGen n₂ bs u) ok rfl hg rfl h₁ f₁ h₂ f₂

/-- **output_perm**: the multiset form together with strict position order, a weakening of
    `output_canon`. -/
theorem output_perm {c : Cfg} {cd : Codec α σ} {input : List α} {s : State α σ}
    (ok : cd.OK) (hg : 0 < c.inGranul) (h : Reach c cd input s)
    (hf : finished c s = true) :
    s.written = s.handed ∧ s.handed.Perm (canon c cd input) ∧
      s.handed.Pairwise (fun x y => x.pos.lt y.pos = true) := by
  obtain ⟨a, b⟩ := output_canon ok hg h hf
  exact ⟨a.trans b.symm, b ▸ List.Perm.refl _, (chain_pairwise (order_reach h).chain).1⟩

/-- `output_eq` restricted to non-sequential mode, under the name `checks/C03.py`
    asks for; a corollary of `output_eq`. -/
theorem output_eq_partial {c₁ c₂ : Cfg} {cd : Codec α σ} {input : List α}
    {s₁ s₂ : State α σ} (ok : cd.OK) (hu₁ : c₁.ultra = false) (hu₂ : c₂.ultra = false)
    (hg : 0 < c₁.inGranul) (hgg : c₁.inGranul = c₂.inGranul)
    (h₁ : Reach c₁ cd input s₁) (f₁ : finished c₁ s₁ = true)
    (h₂ : Reach c₂ cd input s₂) (f₂ : finished c₂ s₂ = true) :
    s₁.written = s₂.written :=
  output_eq ok (hu₁.trans hu₂.symm) hg hgg h₁ f₁ h₂ f₂

/-- non-vacuity: the witness codec satisfies `Codec.OK`, and a terminated
    3-block run exists. -/
theorem wCodec_ok : wCodec.OK := by
  have key : ∀ (r st : List Nat) (k : Nat),
      k ≤ (wcollect st r k).2.1 ∧ (wcollect st r k).2.1 ≤ k + r.length ∧
      ((wcollect st r k).2.2 = false → (wcollect st r k).2.1 = k + r.length) ∧
      (r ≠ [] → k + 1 ≤ (wcollect st r k).2.1) := by
    intro r
    induction r with
    | nil =>
      intro st k
      simp [wcollect]
    | cons b r ih =>
      intro st k
      simp only [wcollect]
      split
      · simp
      · have := ih (st ++ [b]) (k + 1)
        simp only [List.length_cons]
        refine ⟨by omega, by omega, fun h => ?_, fun _ => by omega⟩
        have := this.2.2.1 h
        omega
  refine ⟨fun r hr => ?_, fun s r h => ?_, fun s r => ?_⟩
  · have := (key r [] 0).2.2.2 hr
    simpa [wCodec] using this
  · have := (key r s 0).2.2.1 h
    simp only [wCodec] at this ⊢
    omega
  · have := (key r s 0).2.1
    simpa [wCodec] using this

example : finished wCfg wFinal = true ∧ Reach wCfg wCodec wInput wFinal ∧ wCodec.OK ∧
    wCfg.ultra = false ∧ 0 < wCfg.inGranul ∧ wFinal.written.map (·.enc) = [[0, 1], [0, 1], [0]] :=
  ⟨wFinal_facts.2.1, wFinal_reach, wCodec_ok, rfl, by decide, wFinal_facts.2.2.2⟩

/-- non-vacuity in sequential mode: a terminated run whose first block ends
    inside chunk 1 and whose second block spans chunks 1–2; and the canonical
    list obtained through `output_canon`. -/
example : finished sCfg sFinal = true ∧ Reach sCfg wCodec sInput sFinal ∧
    sCfg.ultra = true ∧ 0 < sCfg.inGranul ∧
    sFinal.written.map (·.enc) = [[0, 0, 1], [0, 0, 1], [0]] ∧
    (canon sCfg wCodec sInput).map (·.enc) = [[0, 0, 1], [0, 0, 1], [0]] :=
  ⟨sFinal_facts.2.1, sFinal_reach, rfl, by decide, sFinal_facts.2.2.2, by
    rw [← (output_canon wCodec_ok (by decide) sFinal_reach sFinal_facts.2.1).1]
    exact sFinal_facts.2.2.2⟩

/-- the two witnesses differ only in mode: the outputs differ, as they may -/
example : wFinal.written.map (·.enc) ≠ sFinal.written.map (·.enc) ∨ wInput ≠ sInput := by
  rw [wFinal_eq, sFinal_eq]
  decide

end LbzVerif.Props.C03
