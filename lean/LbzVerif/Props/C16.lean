/-
  Props.C16 — interrupted or failed runs never lose data.

  All theorems are about `Model.Files`: every configuration reachable by
  `step` from `init fs0`, for EVERY initial file system `fs0`, EVERY scenario
  `sc` (compress / decompress, ±k, ±f, any list of work() events) and EVERY
  behaviour of the environment (`Inj` at every step: an errno for the call, a
  signal before / after it — SIGINT, SIGTERM, SIGKILL —, the asynchrony bit
  `defer`, a failing cleanup unlink).  The only hypothesis on the scenario
  is that input and output path differ (`sc.inP ≠ sc.outP`; the output name is
  the input name with a suffix added or removed).
-/
import LbzVerif.Lemmas.Files
import LbzVerif.Lemmas.Fail

namespace LbzVerif.Props.C16

open LbzVerif.Model.Fail (Errno Signo Ending SIGINT SIGTERM SIGKILL SIGPIPE SIGXFSZ
  mainBailoutEnd silent mainBailoutEnd_cases mainBailoutEnd_ne_exit0)
open LbzVerif.Model.Files

section
variable (sc : Scn) (fs0 : FS)

def InSame (c : Cfg) : Prop := c.fs sc.inP = fs0 sc.inP

/-- what work() has written so far, with the writes still `todo`, is the complete output -/
def OutData (c : Cfg) (todo : List WOp) : Prop :=
  ∃ f, c.fs sc.outP = some f ∧ f.kind = .reg ∧ f.bytes ++ writes todo = expected sc

/-- `instat` (from `lstat`/`fstat`) is the input file as it was before the run -/
def InstatOk (c : Cfg) : Prop := fs0 sc.inP = some c.instat

/-- What `f` has of the metadata of `i` after `k` of the three calls of `output_regf_uninit`
(fchown, fchmod, futimens). -/
def Stage (k : Nat) (f i : File) : Prop :=
  (1 ≤ k → f.uid = i.uid ∧ f.gid = i.gid) ∧ (2 ≤ k → f.mode = i.mode &&& 0o777) ∧
  (3 ≤ k → f.atime = i.atime ∧ f.mtime = i.mtime)

/-- Unless a warning was issued, the output file has the input's metadata up to stage `k`
(a failing fchown / fchmod / futimens only warns). -/
def Meta (k : Nat) (c : Cfg) : Prop :=
  c.warned = false → ∀ f, c.fs sc.outP = some f → Stage k f c.instat

/-- The phase in which the output file is ours (created by this run with
O_EXCL and tracked in `opathn`): at creation time the path was free, so
either it was free from the start or `-f` had removed what was there. -/
def Ours (c : Cfg) (todo : List WOp) : Prop :=
  InSame sc fs0 c ∧ OutData sc c todo ∧ c.opathn = true ∧ c.blocked = true ∧
  InstatOk sc fs0 c ∧ (fs0 sc.outP = none ∨ sc.force = true)

/-- What SIGKILL may leave behind at any moment: the input as it was, or gone with the
complete output in place. -/
def KillSafe (c : Cfg) : Prop :=
  c.fs sc.inP = fs0 sc.inP ∨ (c.fs sc.inP = none ∧ Complete sc c)

/-- The operand once its sequence is through: skipped with a message and untouched, or done
with the metadata copied. -/
def Settled (c : Cfg) : Prop :=
  (c.warned = true ∧ c.stderr = true ∧ Untouched sc fs0 c) ∨
  (Done sc fs0 c ∧ InstatOk sc fs0 c ∧ Meta sc 3 c)

/-- The assertion at each program counter of `main`'s per-operand sequence (`ended e`: the table
exit status / signal ↦ state of the operand). -/
def Inv (c : Cfg) : Prop :=
  match c.pc with
  | .lstat | .openIn =>
    InSame sc fs0 c ∧ c.fs sc.outP = fs0 sc.outP ∧ c.opathn = false
  | .closeInSkip =>
    InSame sc fs0 c ∧ c.fs sc.outP = fs0 sc.outP ∧ c.opathn = false ∧
    c.warned = true ∧ c.stderr = true
  | .fstat =>
    InSame sc fs0 c ∧ c.fs sc.outP = fs0 sc.outP ∧ c.opathn = false ∧ (∃ f, fs0 sc.inP = some f)
  | .cli =>
    InSame sc fs0 c ∧ c.fs sc.outP = fs0 sc.outP ∧ c.opathn = false ∧ InstatOk sc fs0 c
  | .unlinkOut =>
    InSame sc fs0 c ∧ c.fs sc.outP = fs0 sc.outP ∧ c.opathn = false ∧ c.blocked = true ∧
    InstatOk sc fs0 c ∧ sc.force = true
  | .openOut =>
    InSame sc fs0 c ∧ (c.fs sc.outP = fs0 sc.outP ∨ (sc.force = true ∧ c.fs sc.outP = none)) ∧
    c.opathn = false ∧ c.blocked = true ∧ InstatOk sc fs0 c
  | .work todo => Ours sc fs0 c todo
  | .fchown => Ours sc fs0 c []
  | .fchmod => Ours sc fs0 c [] ∧ Meta sc 1 c
  | .futimens => Ours sc fs0 c [] ∧ Meta sc 2 c
  | .closeOut => Ours sc fs0 c [] ∧ Meta sc 3 c
  | .unlinkIn =>
    InSame sc fs0 c ∧ Complete sc c ∧ c.opathn = false ∧ c.blocked = true ∧
    InstatOk sc fs0 c ∧ Meta sc 3 c
  | .sti | .closeIn => Settled sc fs0 c ∧ c.opathn = false
  | .exit => Settled sc fs0 c
  | .ended e =>
    KillSafe sc fs0 c ∧
    (e ≠ .died SIGKILL → c.cleanupFailed = false → Untouched sc fs0 c ∨ Done sc fs0 c) ∧
    (e = .exit 0 → Settled sc fs0 c ∧ c.warned = false) ∧
    (e = .exit 4 → Settled sc fs0 c ∧ c.warned = true)

end

def FaultEnd (e : Ending) : Prop := e = .exit 1 ∨ e = .died SIGPIPE ∨ e = .died SIGXFSZ

theorem bail_faultEnd (a b : Bool) : FaultEnd (mainBailoutEnd a b) := by
  rcases mainBailoutEnd_cases a b with ⟨h, _⟩ | ⟨h, _⟩ | h
  · exact .inr (.inl h)
  · exact .inr (.inr h)
  · exact .inl h

theorem FaultEnd.ne {e : Ending} (h : FaultEnd e) : e ≠ .exit 4 ∧ e ≠ .died SIGKILL := by
  rcases h with rfl | rfl | rfl <;> decide

theorem bail_ne_exit4 (a b : Bool) : mainBailoutEnd a b ≠ .exit 4 := (bail_faultEnd a b).ne.1

theorem bail_ne_kill (a b : Bool) : mainBailoutEnd a b ≠ .died SIGKILL := (bail_faultEnd a b).ne.2

section
variable {sc : Scn} {fs0 : FS}

theorem untouched_of_pre {c : Cfg} (h1 : InSame sc fs0 c) (h2 : c.fs sc.outP = fs0 sc.outP) :
    Untouched sc fs0 c :=
  ⟨h1, Or.inl h2⟩

theorem settled_cases {c : Cfg} (h : Settled sc fs0 c) : Untouched sc fs0 c ∨ Done sc fs0 c := by
  rcases h with hs | hd
  · exact Or.inl hs.2.2
  · exact Or.inr hd.1

theorem killSafe_of_cases {c : Cfg} (hk : Untouched sc fs0 c ∨ Done sc fs0 c) :
    KillSafe sc fs0 c := by
  rcases hk with hu | hd
  · exact Or.inl hu.1
  · rcases hd.2 with hg | hs
    · exact Or.inr ⟨hg, hd.1⟩
    · exact Or.inl hs.1

/-- What the invariant says at every program counter alike. -/
theorem inv_view {c : Cfg} (h : Inv sc fs0 c) :
    (InSame sc fs0 c ∧ (c.blocked = false → c.fs sc.outP = fs0 sc.outP)) ∨ Settled sc fs0 c ∨
    ((∃ e, c.pc = .ended e) ∧ KillSafe sc fs0 c) := by
  cases hpc : c.pc
  all_goals simp only [Inv, hpc] at h
  case lstat | openIn | fstat | closeInSkip | cli => exact .inl ⟨h.1, fun _ => h.2.1⟩
  case unlinkOut | openOut | work | fchown | unlinkIn =>
    exact .inl ⟨h.1, fun hb => absurd (hb.symm.trans h.2.2.2.1) Bool.false_ne_true⟩
  case fchmod | futimens | closeOut =>
    exact .inl ⟨h.1.1, fun hb => absurd (hb.symm.trans h.1.2.2.2.1) Bool.false_ne_true⟩
  case sti | closeIn => exact .inr (.inl h.1)
  case exit => exact .inr (.inl h)
  case ended e => exact .inr (.inr ⟨⟨e, rfl⟩, h.1⟩)

theorem killSafe_of_inv {c : Cfg} (h : Inv sc fs0 c) : KillSafe sc fs0 c := by
  rcases inv_view h with ⟨h1, _⟩ | hs | ⟨_, hk⟩
  · exact .inl h1
  · exact killSafe_of_cases (settled_cases hs)
  · exact hk

theorem inv_end_plain {c c' : Cfg} {e : Ending}
    (hfs : c'.fs = c.fs) (hcl : c'.closedOk = c.closedOk) (hrm : c'.rmFailed = c.rmFailed)
    (hpc : c'.pc = .ended e)
    (hk : Untouched sc fs0 c ∨ Done sc fs0 c) (h0 : e ≠ .exit 0) (h4 : e ≠ .exit 4) :
    Inv sc fs0 c' := by
  have hk' : Untouched sc fs0 c' ∨ Done sc fs0 c' := by
    simpa [Untouched, Done, Complete, hfs, hcl, hrm] using hk
  simp only [Inv, hpc]
  exact ⟨killSafe_of_cases hk', fun _ _ => hk', fun h => absurd h h0, fun h => absurd h h4⟩

theorem cleanup_ours (hne : sc.inP ≠ sc.outP) {c : Cfg} {todo : List WOp} (inj : Inj)
    (h : Ours sc fs0 c todo) :
    InSame sc fs0 (cleanup sc c inj) ∧
    ((cleanup sc c inj).cleanupFailed = false → Untouched sc fs0 (cleanup sc c inj)) := by
  obtain ⟨hin, _, hop, _, _, hwas⟩ := h
  unfold cleanup
  simp only [hop, if_true]
  split
  · exact ⟨hin, fun hc => by simp at hc⟩
  · have hin' : (c.fs.set sc.outP none) sc.inP = fs0 sc.inP := by rwa [set_ne _ _ hne]
    refine ⟨hin', fun _ => ⟨hin', ?_⟩⟩
    rcases hwas with hw | hf
    · exact Or.inl ((set_same _ _ _).trans hw.symm)
    · exact Or.inr ⟨hf, set_same _ _ _⟩

theorem end_ours (hne : sc.inP ≠ sc.outP) {c : Cfg} {todo : List WOp} (inj : Inj) (st : Bool)
    {e : Ending} (h : Ours sc fs0 c todo) (h0 : e ≠ .exit 0) (h4 : e ≠ .exit 4) :
    Inv sc fs0 { cleanup sc c inj with stderr := st, pc := .ended e } := by
  obtain ⟨h1, h2⟩ := cleanup_ours hne inj h
  exact ⟨Or.inl h1, fun _ hcf => Or.inl (h2 hcf), fun h => absurd h h0, fun h => absurd h h4⟩

theorem fatal_ours (hne : sc.inP ≠ sc.outP) {c : Cfg} {todo : List WOp} (inj : Inj)
    (msg p x : Bool) (h : Ours sc fs0 c todo) : Inv sc fs0 (fatal sc c inj msg p x) :=
  end_ours hne inj _ h (mainBailoutEnd_ne_exit0 _ _) (bail_ne_exit4 _ _)

theorem halt_ours (hne : sc.inP ≠ sc.outP) {c : Cfg} {todo : List WOp} (inj : Inj)
    (h : Ours sc fs0 c todo) : Inv sc fs0 (haltSignal sc c inj) :=
  end_ours hne inj _ h (by simp) (by simp)

theorem fatal_free {c : Cfg} (inj : Inj) (msg p x : Bool) (hop : c.opathn = false)
    (hk : Untouched sc fs0 c ∨ Done sc fs0 c) : Inv sc fs0 (fatal sc c inj msg p x) := by
  have hc : cleanup sc c inj = c := by simp [cleanup, hop]
  simp only [fatal, hc]
  exact inv_end_plain rfl rfl rfl rfl hk (mainBailoutEnd_ne_exit0 _ _) (bail_ne_exit4 _ _)

/-- SIGKILL, also when it lands right after a call whose message and `warned` flag are then
not there (`after`). -/
theorem inv_kill {c : Cfg} (st w : Bool) (h : Inv sc fs0 c) :
    Inv sc fs0 { c with pc := .ended (.died SIGKILL), stderr := st, warned := w } :=
  ⟨killSafe_of_inv (c := c) h, fun h => absurd rfl h, nofun, nofun⟩

/-- SIGINT / SIGTERM with the default action (outside cli()..sti()). -/
theorem inv_sigdfl {c : Cfg} (sg : Signo) (h : Inv sc fs0 c) (hb : c.blocked = false)
    (hne : c.isEnded = false) :
    Inv sc fs0 { c with pc := .ended (.died sg) } := by
  have hk : Untouched sc fs0 c ∨ Done sc fs0 c := by
    rcases inv_view h with ⟨h1, h2⟩ | hs | ⟨⟨e, hpc⟩, _⟩
    · exact .inl (untouched_of_pre h1 (h2 hb))
    · exact settled_cases hs
    · simp [Cfg.isEnded, hpc] at hne
  exact inv_end_plain rfl rfl rfl rfl hk (by simp) (by simp)

theorem inv_arrive {c : Cfg} (sg : Sig) (h : Inv sc fs0 c) (hne : c.isEnded = false) :
    Inv sc fs0 (arrive c sg) := by
  cases sg with
  | kill => exact inv_kill c.stderr c.warned h
  | int | term =>
    simp only [arrive]
    split
    · exact h
    · rename_i hb
      exact inv_sigdfl _ h (by simpa using hb) hne

/-- `skip` (input_init returned -1) from a state before cli(). -/
theorem skip_inv {c : Cfg}
    (h : InSame sc fs0 c ∧ c.fs sc.outP = fs0 sc.outP ∧ c.opathn = false) :
    Inv sc fs0 (skip c) :=
  Or.inl ⟨rfl, rfl, untouched_of_pre h.1 h.2.1⟩

theorem ours_updOut (hne : sc.inP ≠ sc.outP) {c : Cfg} {todo todo' : List WOp} (g : File → File)
    (hk : ∀ f, (g f).kind = f.kind)
    (hb : ∀ f, (g f).bytes ++ writes todo' = f.bytes ++ writes todo)
    (h : Ours sc fs0 c todo) : Ours sc fs0 (updOut sc c g) todo' := by
  obtain ⟨h1, ⟨f, hf, hkind, hbytes⟩, h3, h4, h5, h6⟩ := h
  simp only [updOut, hf, Ours]
  exact ⟨(set_ne _ _ hne).trans h1,
    ⟨g f, set_same _ _ _, (hk f).trans hkind, (hb f).trans hbytes⟩, h3, h4, h5, h6⟩

theorem updOut_ours (hne : sc.inP ≠ sc.outP) {c : Cfg} {todo : List WOp} (g : File → File)
    (hk : ∀ f, (g f).kind = f.kind) (hb : ∀ f, (g f).bytes = f.bytes)
    (h : Ours sc fs0 c todo) : Ours sc fs0 (updOut sc c g) todo :=
  ours_updOut hne g hk (fun f => congrArg (· ++ writes todo) (hb f)) h

theorem meta_updOut {k : Nat} {c : Cfg} {g : File → File}
    (hg : ∀ f, Stage k f c.instat → Stage (k + 1) (g f) c.instat) (h : Meta sc k c) :
    Meta sc (k + 1) (updOut sc c g) := by
  intro hw f hf
  obtain ⟨f0, hf0, rfl⟩ := updOut_out hf
  rw [updOut_instat]
  exact hg f0 (h ((updOut_warned c g).symm.trans hw) f0 hf0)

theorem meta_warn (k : Nat) (c : Cfg) : Meta sc k (warn c) :=
  fun hw => nomatch hw

theorem meta_zero (c : Cfg) : Meta sc 0 c :=
  fun _ _ _ => ⟨nofun, nofun, nofun⟩

theorem ours_warn {c : Cfg} {todo : List WOp} (h : Ours sc fs0 c todo) :
    Ours sc fs0 (warn c) todo := by
  simpa [Ours, warn, InSame, OutData, InstatOk] using h

def readOnly : Pc → Bool
  | .lstat | .openIn | .fstat | .closeInSkip | .cli | .sti | .closeIn | .exit | .ended _ => true
  | _ => false

/-- These keep the invariant even if the two paths were one. -/
theorem inv_exec_ro {c : Cfg} (inj : Inj) (h : Inv sc fs0 c) (hro : readOnly c.pc = true) :
    Inv sc fs0 (exec sc c inj) := by
  cases hpc : c.pc
  case work | unlinkOut | openOut | fchown | fchmod | futimens | closeOut | unlinkIn =>
    rw [hpc] at hro
    cases hro
  case ended =>
    have : exec sc c inj = c := by simp only [exec, hpc]
    rw [this]
    exact h
  all_goals simp only [Inv, hpc] at h
  all_goals simp only [exec, hpc]
  case lstat =>
    split
    · exact h
    · split
      · exact skip_inv h
      · exact skip_inv h
      · split
        · exact skip_inv (c := { c with instat := _ }) h
        · split
          · exact skip_inv (c := { c with instat := _ }) h
          · exact h
  case openIn =>
    split
    · exact skip_inv h
    · split
      · exact skip_inv h
      · exact skip_inv h
      · rename_i hf _
        exact ⟨h.1, h.2.1, h.2.2, _, h.1.symm.trans hf⟩
  case fstat =>
    obtain ⟨h1, h2, h3, f, hf⟩ := h
    split
    · exact ⟨h1, h2, h3, rfl, rfl⟩
    · split
      · rename_i g hg
        exact ⟨h1, h2, h3, h1.symm.trans hg⟩
      · rename_i hg
        cases hg.symm.trans (h1.trans hf)
  case closeInSkip =>
    obtain ⟨h1, h2, h3, h5, h6⟩ := h
    split
    · exact fatal_free inj _ _ _ h3 (Or.inl (untouched_of_pre h1 h2))
    · exact Or.inl ⟨h5, h6, untouched_of_pre h1 h2⟩
  case cli =>
    obtain ⟨h1, h2, h3, h5⟩ := h
    split
    next hf => exact ⟨h1, h2, h3, rfl, h5, hf⟩
    next => exact ⟨h1, Or.inl h2, h3, rfl, h5⟩
  case sti =>
    split
    · exact inv_end_plain rfl rfl rfl rfl (settled_cases h.1) (by simp) (by simp)
    · split
      · exact inv_end_plain rfl rfl rfl rfl (settled_cases h.1) (by simp) (by simp)
      · exact h
  case closeIn =>
    split
    · exact fatal_free inj _ _ _ h.2 (settled_cases h.1)
    · exact h.1
  case exit =>
    simp only [Inv]
    have hk := settled_cases h
    refine ⟨killSafe_of_cases hk, fun _ _ => hk, fun h0 => ⟨h, ?_⟩, fun h4 => ⟨h, ?_⟩⟩
    · by_cases hw : c.warned = true
      · simp [hw] at h0
      · simpa using hw
    · by_cases hw : c.warned = true
      · exact hw
      · simp [hw] at h4

theorem inv_exec (hne : sc.inP ≠ sc.outP) {c : Cfg} (inj : Inj) (h : Inv sc fs0 c) :
    Inv sc fs0 (exec sc c inj) := by
  cases hpc : c.pc
  case lstat | openIn | fstat | closeInSkip | cli | sti | closeIn | exit | ended =>
    exact inv_exec_ro inj h (by rw [hpc]; rfl)
  -- `work` apart: there `exec` reduces only once the list of events is split
  case work todo =>
    simp only [Inv, hpc] at h
    cases todo with
    | nil =>
      simp only [exec, hpc]
      split
      · split
        · exact h
        · exact halt_ours hne inj h
      · exact h
    | cons op todo =>
      simp only [exec, hpc]
      split
      · exact halt_ours hne inj h
      · split
        · exact fatal_ours hne inj _ _ _ h
        · exact fatal_ours hne inj _ _ _ h
        · exact fatal_ours hne inj _ _ _ h
        · exact h
        · exact ours_updOut hne _ (fun _ => rfl) (fun _ => List.append_assoc ..) h
  all_goals simp only [Inv, hpc] at h
  all_goals simp only [exec, hpc]
  case unlinkOut =>
    obtain ⟨h1, h2, h3, h4, h5, h6⟩ := h
    split
    · exact ⟨h1, Or.inl h2, h3, h4, h5⟩
    · exact ⟨h1, Or.inl h2, h3, h4, h5⟩
    · exact ⟨(set_ne _ _ hne).trans h1, Or.inr ⟨h6, set_same _ _ _⟩, h3, h4, h5⟩
  case openOut =>
    obtain ⟨h1, h2, h3, h4, h5⟩ := h
    split
    · exact ⟨Or.inl ⟨rfl, rfl, h1, h2⟩, h3⟩
    · exact ⟨Or.inl ⟨rfl, rfl, h1, h2⟩, h3⟩
    · rename_i hnone _
      refine ⟨(set_ne _ _ hne).trans h1, ⟨newFile sc c, set_same _ _ _, rfl, rfl⟩, rfl, h4, h5, ?_⟩
      rcases h2 with h2 | h2
      · exact Or.inl (h2.symm.trans hnone)
      · exact Or.inr h2.1
  case fchown =>
    split
    · exact ⟨ours_warn h, meta_warn 2 c⟩
    · have hu := updOut_ours hne (fun f => { f with uid := c.instat.uid, gid := c.instat.gid })
        (fun _ => rfl) (fun _ => rfl) h
      split
      · exact ⟨ours_warn hu, meta_warn 1 _⟩
      · exact ⟨hu, meta_updOut (fun f h => by simp [Stage]) (meta_zero c)⟩
  case fchmod =>
    split
    · exact ⟨ours_warn h.1, meta_warn 2 c⟩
    · exact ⟨updOut_ours hne _ (fun _ => rfl) (fun _ => rfl) h.1,
        meta_updOut (fun f h => by simpa [Stage] using h) h.2⟩
  case futimens =>
    split
    · exact ⟨ours_warn h.1, meta_warn 3 c⟩
    · exact ⟨updOut_ours hne _ (fun _ => rfl) (fun _ => rfl) h.1,
        meta_updOut (fun f h => by simpa [Stage] using h) h.2⟩
  case closeOut =>
    obtain ⟨hours, hmeta⟩ := h
    split
    · exact fatal_ours hne inj _ _ _ hours
    · obtain ⟨h1, ⟨f, hf, hkind, hbytes⟩, h3, h4, h5, h6⟩ := hours
      have hb : f.bytes = expected sc := by simpa [writes] using hbytes
      have hcomp : ∀ pc, Complete sc { c with closedOk := true, opathn := false, pc := pc } :=
        fun _ => ⟨f, hf, hkind, hb, rfl⟩
      split
      next hk =>
        exact ⟨Or.inr ⟨⟨hcomp _, Or.inr ⟨h1, Or.inl hk⟩⟩, h5, hmeta⟩, rfl⟩
      next => exact ⟨h1, hcomp _, rfl, h4, h5, hmeta⟩
  case unlinkIn =>
    obtain ⟨h1, hcomp, h3, h4, h5, hmeta⟩ := h
    split
    · rename_i hnone
      exact ⟨Or.inr ⟨⟨hcomp, Or.inl hnone⟩, h5, hmeta⟩, h3⟩
    · split
      · exact ⟨Or.inr ⟨⟨hcomp, Or.inr ⟨h1, Or.inr rfl⟩⟩, h5, hmeta⟩, h3⟩
      · exact ⟨Or.inr ⟨⟨hcomp, Or.inr ⟨h1, Or.inr rfl⟩⟩, h5, meta_warn 3 _⟩, h3⟩
    · have hout : (c.fs.set sc.inP none) sc.outP = c.fs sc.outP := set_ne _ _ (Ne.symm hne)
      have hgone : (c.fs.set sc.inP none) sc.inP = none := set_same _ _ _
      obtain ⟨f, hf, hrest⟩ := hcomp
      exact ⟨Or.inr ⟨⟨⟨f, hout.trans hf, hrest⟩, Or.inl hgone⟩, h5,
        fun hw g hg => hmeta hw g (hout.symm.trans hg)⟩, h3⟩

theorem inv_before {c : Cfg} (inj : Inj) (h : Inv sc fs0 c) (hne : c.isEnded = false) :
    Inv sc fs0 (before c inj) := by
  unfold before
  split
  · exact inv_arrive _ h hne
  · exact h

theorem inv_after {c1 c2 : Cfg} (inj : Inj) (h : Inv sc fs0 c2) :
    Inv sc fs0 (after c1 c2 inj) := by
  unfold after
  split
  · split
    · exact h
    · exact inv_kill (c := c2) c1.stderr c1.warned h
  · split
    · exact h
    · rename_i he2
      exact inv_arrive _ h (by simpa using he2)
  · exact h

theorem inv_step (hne : sc.inP ≠ sc.outP) {c : Cfg} (inj : Inj) (h : Inv sc fs0 c) :
    Inv sc fs0 (step sc c inj) := by
  unfold step
  split
  · exact h
  · rename_i he
    have h1 := inv_before inj h (by simpa using he)
    split
    · exact h1
    · exact inv_after inj (inv_exec hne inj h1)

theorem inv_init : Inv sc fs0 (init fs0) := by
  simp [init, Inv, InSame]

theorem inv_reach (hne : sc.inP ≠ sc.outP) {c : Cfg} (h : Reach sc fs0 c) : Inv sc fs0 c := by
  induction h with
  | init => exact inv_init
  | step inj _ ih => exact inv_step hne inj ih

end

section
variable (sc : Scn) (fs0 : FS)

/-- **kill_prefix.**  In EVERY reachable configuration — i.e. after every
prefix of the step sequence, which is where a SIGKILL (or a power cut) leaves
the file system — the input is exactly as it was, or it has been removed and
then the complete output exists and its close() has succeeded. -/
theorem kill_prefix (hne : sc.inP ≠ sc.outP) {c : Cfg} (h : Reach sc fs0 c) :
    c.fs sc.inP = fs0 sc.inP ∨ (c.fs sc.inP = none ∧ Complete sc c) :=
  killSafe_of_inv (inv_reach hne h)

/-- **two_states.**  When the process has ended in any way other than SIGKILL
(exit status, or death by SIGINT / SIGTERM / SIGPIPE / SIGXFSZ), the operand
is *untouched* or *done* — provided cleanup()'s own unlink did not fail (its
result is ignored by the code; if it fails a partial output stays, the input
is still intact: `kill_prefix`).

`Untouched` says precisely what holds at the output path: it names what it
named before the run, or — ONLY with `-f` — nothing, because `-f` removed a
pre-existing file there before the new output was created (the user's
request; that file is not restored when the run then fails). -/
theorem two_states (hne : sc.inP ≠ sc.outP) {c : Cfg} (h : Reach sc fs0 c) {e : Ending}
    (hpc : c.pc = .ended e) (hk : e ≠ .died SIGKILL) (hcf : c.cleanupFailed = false) :
    Untouched sc fs0 c ∨ Done sc fs0 c := by
  have hi := inv_reach hne h
  simp only [Inv, hpc] at hi
  exact hi.2.1 hk hcf

/-- Without `-f` an untouched operand means literally: both paths name what
they named before. -/
theorem untouched_without_force {c : Cfg} (hf : sc.force = false)
    (h : Untouched sc fs0 c) : c.fs sc.inP = fs0 sc.inP ∧ c.fs sc.outP = fs0 sc.outP := by
  refine ⟨h.1, ?_⟩
  rcases h.2 with h2 | h2
  · exact h2
  · exact absurd (hf.symm.trans h2.1) Bool.false_ne_true

/-- **status_ok.**  Exit status 0 ⇒ the operand is done, nothing was warned
about, the input is gone unless `-k` (or its unlink reported ENOENT), and the
output carries the input's owner, permission bits and times. -/
theorem status_ok (hne : sc.inP ≠ sc.outP) {c : Cfg} (h : Reach sc fs0 c)
    (hpc : c.pc = .ended (.exit 0)) :
    Done sc fs0 c ∧ c.warned = false ∧
    (sc.keep = true ∨ c.fs sc.inP = none ∨ c.rmFailed = true) ∧
    (∀ f i, c.fs sc.outP = some f → fs0 sc.inP = some i →
      f.uid = i.uid ∧ f.gid = i.gid ∧ f.mode = i.mode &&& 0o777 ∧
      f.atime = i.atime ∧ f.mtime = i.mtime) := by
  have hi := inv_reach hne h
  simp only [Inv, hpc] at hi
  obtain ⟨hs, hw⟩ := hi.2.2.1 trivial
  rcases hs with hs | hd
  · exact absurd (hw.symm.trans hs.1) Bool.false_ne_true
  · obtain ⟨hdone, m4, hm⟩ := hd
    refine ⟨hdone, hw, ?_, fun f i hf hi0 => ?_⟩
    · exact hdone.2.elim (fun hg => .inr (.inl hg)) fun h => h.2.elim .inl fun hr => .inr (.inr hr)
    have : i = c.instat := Option.some.inj (hi0.symm.trans m4)
    subst this
    obtain ⟨m1, m2, m3⟩ := hm hw f hf
    exact ⟨(m1 (by decide)).1, (m1 (by decide)).2, m2 (by decide), (m3 (by decide)).1,
      (m3 (by decide)).2⟩

/-- **status_warn.**  Exit status 4 ⇒ the operand is done (something about
metadata or the input's removal was warned about), or it was skipped: untouched
and a message was printed. -/
theorem status_warn (hne : sc.inP ≠ sc.outP) {c : Cfg} (h : Reach sc fs0 c)
    (hpc : c.pc = .ended (.exit 4)) :
    c.warned = true ∧ ((Untouched sc fs0 c ∧ c.stderr = true) ∨ Done sc fs0 c) := by
  have hi := inv_reach hne h
  simp only [Inv, hpc] at hi
  obtain ⟨hs, hw⟩ := hi.2.2.2 trivial
  refine ⟨hw, ?_⟩
  rcases hs with hs | hd
  · exact Or.inl ⟨hs.2.2, hs.2.1⟩
  · exact Or.inr hd.1

/-- **status_fault.**  In any reachable configuration inside work(): if the
next read()/write() fails (any errno), or the data is corrupt, the process
ends right there with status 1 (or SIGPIPE / SIGXFSZ for EPIPE / EFBIG on a
write) and the operand is untouched. -/
theorem status_fault (hne : sc.inP ≠ sc.outP) {c : Cfg} (h : Reach sc fs0 c) (inj : Inj)
    (op : WOp) (todo : List WOp) (hpc : c.pc = .work (op :: todo))
    (hsb : inj.sigBefore = none) (hp1 : c.pendInt = false) (hp2 : c.pendTerm = false)
    (hfail : op = .corrupt ∨ inj.err.isSome = true) :
    ∃ e, (step sc c inj).pc = .ended e ∧ FaultEnd e ∧
      ((step sc c inj).cleanupFailed = false → Untouched sc fs0 (step sc c inj)) := by
  have hi := inv_reach hne h
  simp only [Inv, hpc] at hi
  have hex : ∃ msg p x, exec sc c inj = fatal sc c inj msg p x := by
    simp only [exec, hpc, hp1, hp2, Bool.or_self, Bool.false_and, Bool.false_eq_true, if_false]
    cases op with
    | corrupt => exact ⟨_, _, _, rfl⟩
    | read | write ch =>
      cases hie : inj.err with
      | none => simp [hie] at hfail
      | some e => exact ⟨_, _, _, rfl⟩
  obtain ⟨msg, p, x, hex⟩ := hex
  rw [step_of_exec_ended (by simp [Cfg.isEnded, hpc]) hsb hex rfl]
  exact ⟨mainBailoutEnd p x, rfl, bail_faultEnd _ _, (cleanup_ours hne inj hi).2⟩

/-- **status_fault_close.**  A failing close() of the output ends the process
with status 1 and the operand untouched (cleanup() removes the output). -/
theorem status_fault_close (hne : sc.inP ≠ sc.outP) {c : Cfg} (h : Reach sc fs0 c) (inj : Inj)
    (hpc : c.pc = .closeOut) (hsb : inj.sigBefore = none) (e : Errno) (he : inj.err = some e) :
    (step sc c inj).pc = .ended (.exit 1) ∧
      ((step sc c inj).cleanupFailed = false → Untouched sc fs0 (step sc c inj)) := by
  have hi := inv_reach hne h
  simp only [Inv, hpc] at hi
  have hex : exec sc c inj = fatal sc c inj (!silent e) false false := by
    simp only [exec, hpc, he]
  rw [step_of_exec_ended (by simp [Cfg.isEnded, hpc]) hsb hex rfl]
  exact ⟨rfl, (cleanup_ours hne inj hi.1).2⟩

/-- **status_fault_halt.**  A SIGINT / SIGTERM that the main thread acts on
inside halt() (pending, not deferred) ends the process by that signal with the
operand untouched. -/
theorem status_fault_halt (hne : sc.inP ≠ sc.outP) {c : Cfg} (h : Reach sc fs0 c) (inj : Inj)
    (todo : List WOp) (hpc : c.pc = .work todo) (hsb : inj.sigBefore = none)
    (hp : c.pendInt = true ∨ c.pendTerm = true) (hd : inj.defer = false) :
    ∃ sg, (sg = SIGINT ∨ sg = SIGTERM) ∧ (step sc c inj).pc = .ended (.died sg) ∧
      ((step sc c inj).cleanupFailed = false → Untouched sc fs0 (step sc c inj)) := by
  have hi := inv_reach hne h
  simp only [Inv, hpc] at hi
  have hpp : (c.pendInt || c.pendTerm) = true := by
    rcases hp with hp | hp <;> simp [hp]
  have hex : exec sc c inj = haltSignal sc c inj := by
    cases todo with
    | nil => simp only [exec, hpc, hpp, hd, if_true, Bool.false_eq_true, if_false]
    | cons op todo => simp [exec, hpc, hpp, hd]
  rw [step_of_exec_ended (by simp [Cfg.isEnded, hpc]) hsb hex rfl]
  refine ⟨if (cleanup sc c inj).pendInt then SIGINT else SIGTERM, ?_, rfl,
    (cleanup_ours hne inj hi).2⟩
  split <;> simp

/-- **status_exit1.**  The one way to exit status 1 with the operand DONE: the
final close() of the *input* descriptor fails (input_uninit → failx).  By then
`opathn` is 0, so nothing is removed: the file system is not changed by this
step and the operand stays as it was — untouched (it had been skipped) or done.
Data-safe, but the status is 1 although the output is complete. -/
theorem status_exit1 (hne : sc.inP ≠ sc.outP) {c : Cfg} (h : Reach sc fs0 c) (inj : Inj)
    (hpc : c.pc = .closeIn) (hsb : inj.sigBefore = none) (e : Errno) (he : inj.err = some e) :
    (step sc c inj).pc = .ended (.exit 1) ∧ (step sc c inj).fs = c.fs ∧
      (Untouched sc fs0 c ∨ Done sc fs0 c) := by
  have hi := inv_reach hne h
  simp only [Inv, hpc] at hi
  have hex : exec sc c inj = fatal sc c inj (!silent e) false false := by
    simp only [exec, hpc, he]
  rw [step_of_exec_ended (by simp [Cfg.isEnded, hpc]) hsb hex rfl]
  refine ⟨by simp [fatal, mainBailoutEnd], by simp [fatal, cleanup, hi.2], settled_cases hi.1⟩

/-- **frame.**  No path other than the operand's input and output path is ever
changed. -/
theorem frame {c : Cfg} (h : Reach sc fs0 c) {q : Path} (h1 : q ≠ sc.inP) (h2 : q ≠ sc.outP) :
    c.fs q = fs0 q := by
  induction h with
  | init => rfl
  | step inj _ ih => rw [step_frame inj h1 h2, ih]

end

/-! ### The hypotheses are satisfiable: concrete runs

`a` (mode 0644) is compressed to `a.bz2` with `-f` while an old `a.bz2`
exists; work() does one read and two writes. -/

namespace Ex

def sc : Scn :=
  { decompress := false, force := true, keep := false, inP := "a", outP := "a.bz2",
    sufSkip := false, ops := [.read, .write [1, 2], .write [3]], euid := 0, egid := 0,
    now := 9, disp := ⟨true, true⟩ }

def fileA : File :=
  { kind := .reg, bytes := [7, 7], mode := 0o644, nlink := 1, uid := 5, gid := 6,
    atime := 1, mtime := 2 }

def old : File :=
  { kind := .reg, bytes := [0xEE], mode := 0o600, nlink := 1, uid := 0, gid := 0,
    atime := 3, mtime := 4 }

def fs0 : FS := fun q =>
  if q = "a" then some fileA else if q = "a.bz2" then some old else none

def runL (injs : List Inj) : Cfg := injs.foldl (step sc) (init fs0)

theorem reach_foldl {c : Cfg} (h : Reach sc fs0 c) (injs : List Inj) :
    Reach sc fs0 (injs.foldl (step sc) c) := by
  induction injs generalizing c with
  | nil => exact h
  | cons i l ih => exact ih (Reach.step i h)

theorem reach_runL (injs : List Inj) : Reach sc fs0 (runL injs) := reach_foldl Reach.init injs

theorem hne : sc.inP ≠ sc.outP := by decide +kernel

def ok : Inj := {}
def errAt (e : Errno) : Inj := { err := some e }

def good : List Inj := List.replicate 18 ok

example : (runL good).pc = .ended (.exit 0) := by decide +kernel
example : Done sc fs0 (runL good) := (status_ok sc fs0 hne (reach_runL good) (by decide +kernel)).1
example : (runL good).fs "a" = none ∧
    ((runL good).fs "a.bz2").map (fun f => (f.bytes, f.mode)) = some ([1, 2, 3], 0o644) := by
  decide +kernel

/-- the second write fails with ENOSPC; with `-f` the OLD `a.bz2` is gone as well (removed before
the new one was created) -/
def wfail : List Inj := List.replicate 8 ok ++ [errAt 28]

example : (runL wfail).pc = .ended (.exit 1) := by decide +kernel
example : Untouched sc fs0 (runL wfail) ∨ Done sc fs0 (runL wfail) :=
  two_states sc fs0 hne (reach_runL wfail) (e := .exit 1) (by decide +kernel) (by decide +kernel)
    (by decide +kernel)
example : (runL wfail).fs "a" = some fileA ∧ (runL wfail).fs "a.bz2" = none := by decide +kernel
example :=
  status_fault sc fs0 hne (reach_runL (List.replicate 8 ok)) (errAt 28)
    (.write [3]) [] (by decide +kernel) rfl (by decide +kernel) (by decide +kernel) (Or.inr rfl)

/-- SIGKILL right after the first write -/
def killed : List Inj := List.replicate 7 ok ++ [({ sigAfter := some .kill } : Inj)]

example : (runL killed).pc = .ended (.died SIGKILL) := by decide +kernel
example := kill_prefix sc fs0 hne (reach_runL killed)
example : (runL killed).fs "a" = some fileA ∧
    ((runL killed).fs "a.bz2").map (·.bytes) = some [1, 2] := by decide +kernel

/-- SIGTERM during fchmod: pending until sti() -/
def late : List Inj :=
  List.replicate 11 ok ++ [({ sigBefore := some .term } : Inj)] ++ List.replicate 6 ok

example : (runL late).pc = .ended (.died SIGTERM) := by decide +kernel
example : (runL late).fs "a" = none ∧ ((runL late).fs "a.bz2").map (·.bytes) = some [1, 2, 3] := by
  decide +kernel

example : (step sc (runL (List.replicate 13 ok)) (errAt 5)).pc = .ended (.exit 1) :=
  (status_fault_close sc fs0 hne (reach_runL (List.replicate 13 ok)) (errAt 5)
    (by decide +kernel) rfl 5 rfl).1

example : (step sc (runL (List.replicate 16 ok)) (errAt 5)).pc = .ended (.exit 1) :=
  (status_exit1 sc fs0 hne (reach_runL (List.replicate 16 ok)) (errAt 5)
    (by decide +kernel) rfl 5 rfl).1
example : ((runL (List.replicate 16 ok)).fs "a") = none := by decide +kernel

example :=
  status_fault_halt sc fs0 hne
    (reach_runL (List.replicate 6 ok ++ [({ sigAfter := some .int } : Inj)])) ok
    [.write [1, 2], .write [3]] (by decide +kernel) rfl (Or.inl (by decide +kernel)) rfl

/-- open() of the input fails with EACCES -/
def skipped : List Inj := [ok, errAt 13] ++ List.replicate 3 ok

example : (runL skipped).pc = .ended (.exit 4) := by decide +kernel
example := status_warn sc fs0 hne (reach_runL skipped) (by decide +kernel)

example (q : Path) (h1 : q ≠ "a") (h2 : q ≠ "a.bz2") : (runL good).fs q = fs0 q :=
  frame sc fs0 (reach_runL good) h1 h2

end Ex

end LbzVerif.Props.C16
