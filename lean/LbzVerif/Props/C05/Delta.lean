/-
  C05 (soundness), delta-coded code lengths.

  `Model.Delta.table` is `retrieve()`'s table-driven reader (6-bit windows
  through the tables `L`, `R`, `HI`, `LO` regenerated from src/decode.c);
  `Spec.Delta.table` is the bit-by-bit reference in which EVERY value of the
  running code length — start value and all intermediate values — must be in
  1…20.  The theorems hold for every bit list, i.e. wherever the 6-bit windows
  happen to fall.  `0 < n`: an alphabet always has ≥ 3 symbols (with `n = 0`
  the C loop would not look at the start value at all).

  On the tree before the fix "reject delta codes whose intermediate value
  leaves 1..20" (`Gen.deltaCheckShape = 0`) the finite core
  `Lemmas.Delta.core` is false and this file does not compile.
-/
import LbzVerif.Lemmas.Delta

namespace LbzVerif.Props.C05

/-- The delta tables of the C code are, window by window, the reference run of
at most three steps: same verdict (no intermediate value outside 1…20), same
new length, same number of bits, same "terminator seen".  (The 64 windows by
evaluation of the regenerated tables against the windows' summaries
`Lemmas.Delta.summ`; the length enters only through two range conditions.) -/
theorem deltaWindow_core : ∀ c, c < 32 → ∀ b1 b2 b3 b4 b5 b6 : Bool,
    Lemmas.Delta.winModel c (Model.Delta.toNum [b1, b2, b3, b4, b5, b6]) =
      Lemmas.Delta.symW 3 c [b1, b2, b3, b4, b5, b6] :=
  fun c _ => Lemmas.Delta.core c

-- window `101010` (three increments) at length 17 reaches 20 and continues;
-- at length 18 it would reach 21 and is rejected
example : Lemmas.Delta.winModel 17 0b101010 = .cont 20 6 ∧
    Lemmas.Delta.winModel 18 0b101010 = .reject ∧
    Lemmas.Delta.winModel 20 0b101100 = .reject ∧       -- 20 → 21 → 20
    Lemmas.Delta.winModel 1 0b111000 = .reject := by     -- 1 → 0 → 1
  decide

/-- If the windowed reader accepts a table, the
bit-by-bit reference accepts the same bits, yields the same lengths and leaves
the same unread bits (so it consumed the same number of bits). -/
theorem deltaWindow_sound (n : Nat) (hn : 0 < n) (bits : List Bool)
    (lens : List Nat) (rest : List Bool)
    (h : Model.Delta.table n bits = .ok lens rest) :
    Spec.Delta.table n bits = some (lens, rest) := by
  rw [← Lemmas.Delta.table_eq n hn bits, h]; rfl

/-- In particular every accepted length is in 1…20 and there is one per
symbol. -/
theorem delta_lens_inRange (n : Nat) (hn : 0 < n) (bits : List Bool)
    (lens : List Nat) (rest : List Bool)
    (h : Model.Delta.table n bits = .ok lens rest) :
    lens.length = n ∧ ∀ l ∈ lens, 1 ≤ l ∧ l ≤ 20 :=
  (Lemmas.Delta.table_some (deltaWindow_sound n hn bits lens rest h)).1

/-- End of input: whenever the model stops with `errEof` (a window would DUMP
more bits than are left — in the C code `NEED` fails first, with `ERR_EOF` or
`MORE`), the reference does not accept the bits either: the table is not
complete within them. -/
theorem delta_eof (n : Nat) (hn : 0 < n) (bits : List Bool)
    (h : Model.Delta.table n bits = .errEof) : Spec.Delta.table n bits = none := by
  rw [← Lemmas.Delta.table_eq n hn bits, h]; rfl

/-- Sanity of the finite core (it can fail): with the range test of the tree
BEFORE the fix (`shape = 0`: net effect of the window only) the window
`10 11 0` at length 20 — the excursion 20 → 21 → 20 of finding F1 — is
accepted although the reference rejects it. -/
theorem deltaWindow_excursion_old_shape :
    Model.Delta.stepLenShape 0 20 0b101100 = some 20 ∧
      Lemmas.Delta.symW 3 20 [true, false, true, true, false, false] = .reject := by
  decide

private def bitsOf (s : String) : List Bool := s.toList.map (· == '1')

-- a zig-zag table for 4 symbols: start 19, +1 → 20 | −1 −1 → 18 | = | +1 → 19
example : Model.Delta.table 4 (bitsOf ("10011" ++ "100" ++ "11110" ++ "0" ++ "100" ++ "1011")) =
    .ok [20, 18, 18, 19] (bitsOf "1011") := by decide
-- the four probe shapes of finding F1 are rejected (and were accepted before the fix)
example : Model.Delta.table 3 (bitsOf "101001011000") = .errDelta := by decide   -- 20→21→20
example : Model.Delta.table 3 (bitsOf "000011110000") = .errDelta := by decide   -- 1→0→1
example : Model.Delta.table 3 (bitsOf "00000100000") = .errDelta := by decide    -- start 0, +1
example : Model.Delta.table 3 (bitsOf "10101110000") = .errDelta := by decide    -- start 21, −1

end LbzVerif.Props.C05
