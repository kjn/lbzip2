/-
  Props.C05.Mtf — the decoder's inverse MTF ("sliding lists") and zero-run
  accumulation equal the reference (C05 / C06).
-/
import LbzVerif.Spec.Mtf
import LbzVerif.Model.MtfDec
import LbzVerif.Lemmas.MtfOne
import LbzVerif.Lemmas.MtfRun
import LbzVerif.Lemmas.MtfInit
import LbzVerif.Props.C01.Mtf

namespace LbzVerif.Props.C05.Mtf
open LbzVerif.Model.MtfDec LbzVerif.Lemmas.MtfOne LbzVerif.Lemmas.MtfRun

/-- One call: `mtf_one(c)` returns the byte at position `c` of the logical list
(abstraction: the 16 rows concatenated) and leaves the logical list equal to
list move-to-front of position `c` — also when the call rebuilds the pool. -/
theorem imtf_one (s : Slide) (h : Inv s) (c : UInt8) (hc : c ≠ 0) :
    ∃ b s', mtfOne s c = some (b, s') ∧ Inv s' ∧ (abs s)[c.toNat]? = some b ∧
      abs s' = Spec.Mtf.moveToFront (abs s) c.toNat := by
  exact mtfOne_abs s h c (toNat_pos hc)

/-- C05 (`imtf_sound`): for every sequence of indices 1…255, from every state
satisfying the layout invariant (in particular the initial one), the sliding
lists return exactly the bytes list-MTF returns and end with the same logical
list — across any number of rebuilds. -/
theorem imtf_sound (s : Slide) (h : Inv s) (cs : List UInt8) (hcs : ∀ c ∈ cs, c ≠ 0) :
    ∃ bs s', mtfMany s cs = some (bs, s') ∧ Inv s' ∧
      Spec.Mtf.mtfDecode (abs s) (cs.map UInt8.toNat) = some bs ∧
      abs s' = (cs.map UInt8.toNat).foldl Spec.Mtf.moveToFront (abs s) :=
  mtfMany_abs cs s h hcs

/-- The initial state: invariant holds and the logical list is the 256 bytes
stored at `CMAP_BASE`. -/
theorem imtf_init (bytes : List UInt8) (hb : bytes.length = 256) :
    Inv (slideOf bytes) ∧ abs (slideOf bytes) = bytes :=
  ⟨inv_slideOf bytes, abs_slideOf bytes hb⟩

/- Non-vacuity: the initial identity list and a sequence mixing fast-path and
general-path indices. -/
example : ∃ bs s', mtfMany (slideOf ((List.range 256).map UInt8.ofNat)) [1, 17, 255, 3] = some (bs, s') ∧
    Spec.Mtf.mtfDecode ((List.range 256).map UInt8.ofNat) [1, 17, 255, 3] = some bs := by
  obtain ⟨bs, s', e1, _, e3, _⟩ := imtf_sound (slideOf ((List.range 256).map UInt8.ofNat))
    (inv_slideOf _) [1, 17, 255, 3] (by decide)
  rw [abs_slideOf _ (by simp)] at e3
  exact ⟨bs, s', e1, e3⟩

/-- C05/C06 (`runAccum_sound`), general form.  `st` is any state of
`retrieve()`'s symbol loop coupled with a state of the reference decoder
(`Coupled N st l`: layout invariant, `2^shift ≤ run + 1`, the logical list
starts with the reference list `l` of the `N` bytes in use, `runChar` is its
head), `syms` any bzip2-numbered symbols of the alphabet `0 … N+1`, and the
pending run still fits (`n + run ≤ limit`, where `limit ≤ MAX_BLOCK_SIZE` is
`tt_limit - ds->tt`).  Then the loop — delayed writes of `runChar`,
`run += RUN(s) << shift++` in 32-bit arithmetic under the `run <=
MAX_BLOCK_SIZE` guard, `run > tt_limit - tt` tests, flush at EOB — succeeds
exactly when the reference decoder does, with exactly the reference's bytes
(appended to what is already written / pending); it reports ERR_OVERFLOW /
ERR_UNTERM (or anything but success) exactly when the reference rejects
(block longer than `limit`, or EOB missing). -/
theorem runAccum_sound (N limit : Nat) (hl : limit ≤ Gen.MAX_BLOCK_SIZE)
    (syms : List Nat) (st : RunSt) (l : List UInt8) (hc : Coupled N st l)
    (hsyms : ∀ s ∈ syms, s ≤ N + 1) (hfit : st.n + st.run ≤ limit) :
    toOpt (consume limit st (syms.map (internalSym N))) =
      (Spec.Mtf.unGo (N + 1) limit l (st.n + st.run) (2 ^ st.shift) syms).map
        (fun r => st.out.reverse ++ List.replicate st.run st.runChar ++ r) :=
  consume_spec N limit hl syms st l hc hsyms hfit

/-- `runAccum_sound` from the state in which `retrieve()` enters the loop
(`runChar = imtf_row[0][0]`, `run = 0`, `shift = 0`), for any slide satisfying
the layout invariant whose logical list starts with the bytes in use:
the loop's verdict and bytes are exactly `Spec.Mtf.unMtfRle2 used syms limit`. -/
theorem runAccum_sound_init (sl : Slide) (hinv : Inv sl) (used : List UInt8)
    (h1 : 1 ≤ used.length) (h256 : used.length ≤ 256)
    (habs : ∃ junk, abs sl = used ++ junk)
    (limit : Nat) (hl : limit ≤ Gen.MAX_BLOCK_SIZE) (syms : List Nat)
    (hsyms : ∀ s ∈ syms, s ≤ used.length + 1) :
    ∃ st0, initRun sl = some st0 ∧
      toOpt (consume limit st0 (syms.map (internalSym used.length))) =
        Spec.Mtf.unMtfRle2 used syms limit :=
  consume_init sl hinv used h1 h256 habs limit hl syms hsyms

/- Non-vacuity: the slide holding [97, 98, 99, 0, …] and the symbols of
"aabccccа" (initial run, RUNB, positions 1 and 2, EOB = 4). -/
example : ∃ st0, initRun (slideOf ([97, 98, 99] ++ List.replicate 253 0)) = some st0 ∧
    toOpt (consume 900000 st0 ([1, 2, 3, 0, 0, 3, 4].map (internalSym 3))) =
      some [97, 97, 98, 99, 99, 99, 99, 97] := by
  obtain ⟨st0, e1, e2⟩ := runAccum_sound_init (slideOf ([97, 98, 99] ++ List.replicate 253 0))
    (inv_slideOf _) [97, 98, 99] (by decide) (by decide)
    ⟨List.replicate 253 0, by rw [abs_slideOf _ (by rw [List.length_append, List.length_replicate]; rfl)]⟩ 900000 (by decide)
    [1, 2, 3, 0, 0, 3, 4] (by decide)
  exact ⟨st0, e1, e2.trans (by decide)⟩

/-- C05/C06, whole stage: for every strictly ascending non-empty set `used`
of bytes in use, every bzip2-numbered symbol sequence over the alphabet
`0 … |used|+1` and every capacity `limit ≤ MAX_BLOCK_SIZE`, the model of
`retrieve()`'s MTF-value stage — bitmap loop filling `imtf_slide[CMAP_BASE…]`,
row set-up, `runChar = imtf_row[0][0]`, then the symbol loop over the sliding
lists — returns `ok out` exactly when the reference `unMtfRle2` returns
`some out`, with the same bytes, and anything else exactly when the reference
rejects.  `toOpt` does not tell overflow, unterminated and `ub` apart; that the
symbol loop never yields `ub` is `Props.C08.Slide.tt_write_bound`, for `consume` from any
state with the layout invariant. -/
theorem retrieveSyms_sound (used : List UInt8) (hs : used.Pairwise (· < ·)) (h1 : 1 ≤ used.length)
    (limit : Nat) (hl : limit ≤ Gen.MAX_BLOCK_SIZE) (syms : List Nat)
    (hsyms : ∀ s ∈ syms, s ≤ used.length + 1) :
    toOpt (retrieveSyms (Model.MtfEnc.inuseOf used) syms limit) =
      Spec.Mtf.unMtfRle2 used syms limit := by
  obtain ⟨h2, hinv, habs⟩ := Lemmas.MtfInit.initSlide_spec used hs
  obtain ⟨st0, e1, e2⟩ := consume_init _ hinv used h1 (Lemmas.MtfEnc.sorted_length_le used hs) habs
    limit hl syms hsyms
  rw [Lemmas.MtfInit.retrieveSyms_eq _ _ _ _ e1, h2]
  exact e2

/-- Model compressor stage followed by model decompressor stage is the
identity: what `do_mtf` emits for a block over `used` (≤ `limit` ≤ 900000
bytes) is decoded by the sliding-list decoder to exactly that block. -/
theorem retrieve_doMtf (used block : List UInt8) (hs : used.Pairwise (· < ·))
    (h1 : 1 ≤ used.length) (hmem : ∀ x ∈ block, x ∈ used)
    (limit : Nat) (hl : limit ≤ Gen.MAX_BLOCK_SIZE) (hfit : block.length ≤ limit) :
    ∃ syms, Model.MtfEnc.doMtf used block = some syms ∧
      toOpt (retrieveSyms (Model.MtfEnc.inuseOf used) syms limit) = some block := by
  obtain ⟨syms, e1, e2⟩ := Props.C01.Mtf.un_mtf used block limit hs hmem hfit
  refine ⟨syms, e1, ?_⟩
  rw [retrieveSyms_sound used hs h1 limit hl syms, e2]
  -- every emitted symbol is in the alphabet: otherwise the reference would reject
  intro s hsm
  rw [Props.C01.Mtf.doMtf_eq_spec used block hs hmem] at e1
  have e1' := Option.some.inj e1
  subst e1'
  exact Lemmas.MtfSpec.mtfRle2_le used block hmem s hsm

example : toOpt (retrieveSyms (Model.MtfEnc.inuseOf [97, 98, 99]) [1, 2, 3, 0, 0, 3, 4] 900000) =
    some [97, 97, 98, 99, 99, 99, 99, 97] :=
  (retrieveSyms_sound [97, 98, 99] (by decide) (by decide) 900000 (by decide) _ (by decide)).trans
    (by decide)

end LbzVerif.Props.C05.Mtf
