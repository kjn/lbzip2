/-
  Props.C05.BlockDecode — the whole block decoder against the oracle:
  `Props.C05.Block.retrieve_sound` composed with the back end
  `Props.C05.decode_emit_sound` (`decode()` + `emit()`, whose inverse-BWT part
  is `ibwt_sound`, `ibwt_sound_rand`).  A block that lbzip2's pipeline accepts
  is one the strict reference accepts, and the bytes are the reference decoding.
-/
import LbzVerif.Props.C05.Block
import LbzVerif.Props.C05.Stages
import LbzVerif.Lemmas.SpecMtfLink

namespace LbzVerif.Props.C05.BlockDecode
open LbzVerif LbzVerif.Model.Retrieve
open LbzVerif.Lemmas.RetrieveBits

/-- What `decode()` + `emit()` (with output buffers of the given sizes) make of
the block a call of `retrieve()` handed over. -/
def emitOf (r : Result) (sizes : List Nat) : Model.Emit.Run :=
  Model.Emit.run (Model.Emit.St.init
    (Model.Ibwt.nodes (r.st.rand == 1) r.st.bwtIdx r.st.run.out.reverse)) sizes

/-- If `retrieve()` answers OK on the bits after a block's CRC, the block passes
the size test of expand.c (`blk_sz ≤ bs100k·100000`), `decode()` + any sequence
of `emit()` calls on the retrieved block end with OK, and the CRC `emit()`
computed equals the stored block CRC (the comparison the caller makes), then the
oracle parses the same bits as a block `b`, with the same unread bits, and
`Spec.Bzip2.decodeBlock b` — MTF/RLE2 with the level's capacity, inverse BWT,
derandomisation, final run-length decoding, CRC check — accepts with exactly the
emitted bytes and the retriever's block size. -/
theorem block_decode_sound (v w : Nat) (ws : List Nat) (eof : Bool) (inv : BufInv v w) (hw : w ≤ 63)
    (hok : (retrieve (St.start v w) ws eof).status = .ok)
    (level start crc : Nat) (bits : List Bool)
    (h32 : Basic.takeNat 32 bits = some (crc, bitsOf (St.start v w) ws))
    (hlev : (retrieve (St.start v w) ws eof).st.run.n ≤ level * 100000)
    (sizes : List Nat) (hs : ∀ z ∈ sizes, z < Model.Emit.M1)
    (hemit : (emitOf (retrieve (St.start v w) ws eof) sizes).final = .ok)
    (hcrc : (emitOf (retrieve (St.start v w) ws eof) sizes).crc.toNat = crc) :
    ∃ b : Spec.Bzip2.Block,
      Spec.Bzip2.parseBlock level start bits =
        .ok (b, bitsOf (retrieve (St.start v w) ws eof).st (retrieve (St.start v w) ws eof).rest) ∧
      Spec.Bzip2.decodeBlock b =
        .ok { nblock := (retrieve (St.start v w) ws eof).st.run.n,
              bytes := (emitOf (retrieve (St.start v w) ws eof) sizes).bytes.toArray } := by
  obtain ⟨b, tt, h1, hlv, _, hsc, hrand, hidx, hm, htl, hsz, hne, hop⟩ :=
    Props.C05.Block.retrieve_sound v w ws eof inv hw hok level start crc bits h32
  refine ⟨b, h1, ?_⟩
  generalize retrieve (St.start v w) ws eof = R at *
  have hcapB : tt.size ≤ Spec.Bzip2.blockCap b.level := by
    rw [hlv, hsz]
    exact hlev
  have hmcap := Lemmas.SpecMtfLink.unMtfRle2_cap_mono b.used Gen.MAX_BLOCK_SIZE _ _ tt hm hcapB
  rw [Props.C05.decodeBlock_of_stages b tt hmcap hne]
  have htt : tt = (R.st.run.out.reverse).toArray := by
    rw [← htl]
  have hlen : (R.st.run.out.reverse).length = tt.size := by
    rw [← htl]
    simp
  have hcap9 := (Lemmas.SpecMtfLink.unMtfRle2_size_ge b.used Gen.MAX_BLOCK_SIZE _ tt hm).2
  have hdes := Props.C05.decode_emit_sound (R.st.rand == 1) R.st.run.out.reverse R.st.bwtIdx
    (by rw [hlen, ← hidx]; exact hop)
    (by
      rw [hlen]
      have : Gen.MAX_BLOCK_SIZE < Model.Emit.M1 := by decide
      omega) sizes hs
  obtain ⟨e1, e2⟩ := hdes.1 hemit
  rw [hrand, hidx, htt, e1]
  simp only
  unfold emitOf at hcrc
  rw [if_pos (by rw [hsc, ← e2]; exact hcrc)]
  rw [← htt, hsz]
  rfl

-- Non-vacuity: the block `tiny` (last column "ab", origPtr 0, not randomised; as a BWT block with
-- this origPtr it decodes to "aa") behind the CRC of its text, level 9, one output buffer of 100
-- bytes: all hypotheses hold, and the oracle's `decodeBlock` accepts with the emitted bytes.
theorem tiny_emit : (emitOf (retrieve (St.start 0 0) Props.C09.Retrieve.tiny true) [100]).final = .ok ∧
    (emitOf (retrieve (St.start 0 0) Props.C09.Retrieve.tiny true) [100]).bytes = [97, 97] := by
  obtain ⟨_, _, _, hrand, hidx, _, hout⟩ := Props.C09.Retrieve.tiny_eval
  unfold emitOf
  rw [hrand, hidx, hout]
  decide +kernel

example : ∃ b : Spec.Bzip2.Block,
    Spec.Bzip2.decodeBlock b = .ok { nblock := 2, bytes := #[97, 97] } := by
  have hlt : (emitOf (retrieve (St.start 0 0) Props.C09.Retrieve.tiny true) [100]).crc.toNat < 2 ^ 32 :=
    UInt32.toNat_lt _
  have hn := Props.C09.Retrieve.tiny_eval.2.2.2.2.2.1
  obtain ⟨b, _, h2⟩ := block_decode_sound 0 0 Props.C09.Retrieve.tiny true bufInv_start (by omega)
    Props.C09.Retrieve.tiny_ok 9 0 (emitOf (retrieve (St.start 0 0) Props.C09.Retrieve.tiny true) [100]).crc.toNat
    (Basic.natToBits 32 (emitOf (retrieve (St.start 0 0) Props.C09.Retrieve.tiny true) [100]).crc.toNat ++
      bitsOf (St.start 0 0) Props.C09.Retrieve.tiny)
    (by rw [Basic.takeNat_natToBits, Nat.mod_eq_of_lt hlt])
    (by rw [hn]; omega) [100] (by decide) tiny_emit.1 rfl
  rw [hn, tiny_emit.2] at h2
  exact ⟨b, h2⟩

end LbzVerif.Props.C05.BlockDecode
