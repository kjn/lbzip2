/-
  Props.C05.File — whole-file soundness of lbzip2's decompression: what the sequential composition
  of lbzip2's own pieces (`Model.Expand.expandFile`) accepts, the strict reference
  `Spec.Bzip2.decodeFile` accepts with the same output (`expand_sound`, from
  `Lemmas.ExpandMain.expand_eq`).  That the real scheduler (any number of workers, speculation,
  any interleaving) produces what `expandFile` produces is `Props.C09.File`.
-/
import LbzVerif.Lemmas.ExpandMain
import LbzVerif.Lemmas.ExpandTop
import LbzVerif.Lemmas.ExpandHello

namespace LbzVerif.Props.C05.File
open LbzVerif.Basic LbzVerif.Spec.Bzip2 LbzVerif.Model.Expand
open LbzVerif.Lemmas.ExpandBits LbzVerif.Lemmas.ExpandSpec LbzVerif.Lemmas.ExpandTop
open LbzVerif.Lemmas.ExpandMain

/-- What `expandFile` is made of is said at the head of Model/Expand.lean.  The statement is about every byte string: any
length, any alignment of the end of the data with respect to the 32-bit words lbzip2 reads, any
trailing data.  Corners it settles (as does checks/w22_expand.py on the real binary): 1–3 trailing
bytes, "B"/"BZ"/"BZh" at the very end (the second header word then reaches into the zero padding
and cannot be "h1"…"h9": `Lemmas.ExpandMain.no_header_in_pad`), garbage shorter than 16 bits, a
stream whose last bytes are zero and missing (completed only by the padding: rejected by the
`eof_missing` test, `finishCheck_eq`).  No side condition is needed: lbzip2's word-level rule and
the byte-level rule "trailing data is ignored unless it begins with a full BZh1…BZh9 header"
coincide. -/
theorem expand_sound (x y : List UInt8) (h : expandFile x = .ok y) : Spec.Bzip2.decodeFile x = .ok y :=
  Lemmas.ExpandChain.okOf_eq_some.mp (expand_eq x ▸ Lemmas.ExpandChain.okOf_eq_some.mpr h)

/-- The contrapositive: a byte string the strict reference rejects is never
decompressed (whatever its length, padding, trailing data). -/
theorem expand_rejects_malformed (x : List UInt8) (e : Reject) (h : Spec.Bzip2.decodeFile x = .error e) :
    ∃ e', expandFile x = .error e' := by
  cases hx : expandFile x with
  | error e' => exact ⟨e', rfl⟩
  | ok y =>
    rw [expand_sound x y hx] at h
    cases h

-- Non-vacuity: the hypothesis holds on a real file ("a", `bzip2 -9`; the model kernel-evaluated
-- in Lemmas/ExpandHello.lean), and the conclusion is the reference's own verdict on it.
example : Spec.Bzip2.decodeFile Lemmas.ExpandHello.aBz2 = .ok [97] :=
  expand_sound _ _ Lemmas.ExpandHello.expandFile_aBz2

-- … and of the contrapositive: a header with nothing behind it.
example : ∃ e', expandFile [0x42, 0x5A, 0x68, 0x39] = .error e' :=
  expand_rejects_malformed _ .truncated (by decide +kernel)

end LbzVerif.Props.C05.File
