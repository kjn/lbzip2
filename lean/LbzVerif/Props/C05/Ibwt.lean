/-
  C05 — `decode()`: inverse BWT as lbzip2 does it (packed singly-linked list,
  in-situ variant + derandomisation for randomised blocks).

  Reference (Model/Ibwt.lean second half, namespace `Spec.Ibwt`; Props/C05/Stages.lean
  proves it equal to `Spec.Bzip2.ibwt` / `Spec.Bzip2.derand`): `ibwt L idx` = follow the
  successor vector obtained by stably sorting the positions of the last column `L`;
  `derand` = bzip2's (rNToGo, rTPos) automaton; `ibwtNaive` = row `idx` of the sorted
  rotation matrix rebuilt by n rounds of "prepend `L`, sort".

  `IbwtSound` holds for all blocks (`ibwt_sound_all` = `ibwt_sound` + `ibwt_sound_rand`).
  `rle_index_bound_rand` is the C08 bound on the randomised path (the other path:
  `Props.C08.rle_index_bound_partial`).  `ibwt_sound_tests` ties `ibwt` to `ibwtNaive`
  on small inputs by kernel evaluation; that equation is not proved in general.
  The per-run campaign (checks/w12_emit.py) compares the real `decode()`, the model and
  the reference on blocks of sizes around 617/1337 and above.
-/
import LbzVerif.Lemmas.Ibwt
import LbzVerif.Lemmas.IbwtTests
import LbzVerif.Lemmas.IbwtSort
import LbzVerif.Lemmas.IbwtRand

namespace LbzVerif.Props.C05

open LbzVerif.Model.Ibwt
open LbzVerif.Lemmas.Ibwt

def IbwtSound : Prop :=
  ∀ (L : List UInt8) (idx : Nat), idx < L.length →
    nodes false idx L = Spec.Ibwt.ibwt L idx ∧
    nodes true idx L = Spec.Ibwt.derand Gen.randTable (Spec.Ibwt.ibwt L idx)

/-- The structural part of `ibwt_sound`: `pos L` is an injective, order-reflecting map into
`[0,n)`, and the list `decode()` builds is a successor-vector structure for it. -/
theorem ibwt_link_sound_partial (L : List UInt8) (idx : Nat) (hidx : idx < L.length) :
    (∀ i, i < L.length → pos L i < L.length) ∧
    (∀ i j, i < L.length → j < L.length → pos L i = pos L j → i = j) ∧
    (∀ i j, i < L.length → j < L.length →
      (pos L i < pos L j ↔ byteAt L i < byteAt L j ∨ (byteAt L i = byteAt L j ∧ i < j))) ∧
    ∃ T : List Nat, T.length = L.length ∧ (∀ i, i < L.length → T.getD (pos L i) 0 = i) ∧
      nodes false idx L = Spec.Ibwt.follow L T L.length idx :=
  ⟨fun i hi => pos_lt L i hi, fun i j hi hj h => pos_inj L i j hi hj h,
    fun i j hi hj => pos_order L i j hi hj, Lemmas.IbwtLink.nodes_eq_follow L idx hidx⟩

-- "banana": last column nnbaaa; the ranks of its six positions and the decoding from row 3
example : (List.range 6).map (pos [110, 110, 98, 97, 97, 97]) = [4, 5, 3, 0, 1, 2] ∧
    nodes false 3 [110, 110, 98, 97, 97, 97] = [98, 97, 110, 97, 110, 97] := by
  simp only [nodes, Lemmas.IbwtTests.decode_false_nnbaaa]
  decide

/-- TESTS of `IbwtSound` on enumerated small inputs (see Lemmas/IbwtTests.lean). -/
theorem ibwt_sound_tests :
    (((List.range 4).drop 1).all (fun n => (Lemmas.IbwtTests.allLists 3 n).all
        (fun L => Lemmas.IbwtTests.agree L && Lemmas.IbwtTests.ptrsOK L)) &&
      (Lemmas.IbwtTests.allLists 2 4).all
        (fun L => Lemmas.IbwtTests.agree L && Lemmas.IbwtTests.ptrsOK L) &&
      (Lemmas.IbwtTests.allLists 2 5).all
        (fun L => Lemmas.IbwtTests.agree L && Lemmas.IbwtTests.ptrsOK L)) = true ∧
    (derandLoop 2000 2000 0 Gen.RAND_THRESH (List.replicate 2000 0)).map (UInt8.ofNat ·) =
      Spec.Ibwt.derand Gen.randTable (List.replicate 2000 0) :=
  ⟨Lemmas.IbwtTests.test_small_alphabet, Lemmas.IbwtTests.test_derand⟩

/-- The rank function is onto `[0,n)`, and the reference's
successor vector (stable insertion sort of the positions) is its inverse. -/
theorem pos_onto (L : List UInt8) :
    (∀ q, q < L.length → ∃ i, i < L.length ∧ pos L i = q) ∧
    (∀ q, q < L.length → pos L ((Spec.Ibwt.succVec L).getD q 0) = q) ∧
    (∀ i, i < L.length → (Spec.Ibwt.succVec L).getD (pos L i) 0 = i) :=
  ⟨Lemmas.IbwtSort.pos_surj L, Lemmas.IbwtSort.pos_succVec L, Lemmas.IbwtSort.succVec_pos L⟩

example : Spec.Ibwt.succVec [110, 110, 98, 97, 97, 97] = [3, 4, 5, 2, 0, 1] ∧
    (List.range 6).map (pos [110, 110, 98, 97, 97, 97]) = [4, 5, 3, 0, 1, 2] := by
  decide +kernel

/-- Non-randomised path, every block, every primary index
below the block size: the bytes `emit()` reads after `decode()` are the
textbook inverse BWT of `(L, idx)`. -/
theorem ibwt_sound (L : List UInt8) (idx : Nat) (hidx : idx < L.length) :
    nodes false idx L = Spec.Ibwt.ibwt L idx :=
  Lemmas.IbwtLink.nodes_false_eq_ibwt L idx hidx

example : nodes false 3 [110, 110, 98, 97, 97, 97] = Spec.Ibwt.ibwt [110, 110, 98, 97, 97, 97] 3 ∧
    Spec.Ibwt.ibwt [110, 110, 98, 97, 97, 97] 3 = [98, 97, 110, 97, 110, 97] :=
  ⟨ibwt_sound _ 3 (by decide), by decide +kernel⟩

/-- The eight-step binary search returns `k ≤ 255` with
`ftab[k-1] ≤ j < ftab[k]` (reading `ftab[-1]` as 0 and `ftab[255]` as +∞), for
any table; over the table `decode()` has at that point (`ftab[b]` = number of
bytes `≤ b`) and a slot `j = pos L i` it returns `L[i]`, the first-column byte
of that slot. -/
theorem bsearch_sound (L : List UInt8) (F : List Nat) (j : Nat) :
    (bsearch F j ≤ 255 ∧ (bsearch F j = 0 ∨ F.getD (bsearch F j - 1) 0 ≤ j) ∧
      (bsearch F j = 255 ∨ j < F.getD (bsearch F j) 0)) ∧
    ((∀ b, b < 256 → F.getD b 0 = cntLt L (b + 1)) →
      ∀ i, i < L.length → bsearch F (pos L i) = byteAt L i) ∧
    (∀ b, b < 256 →
      (link (L.map (·.toNat)) (cumulate 0 (counts L)) L.length).2.getD b 0 = cntLt L (b + 1)) :=
  ⟨Lemmas.IbwtRand.bsearch_spec F j, fun hF i hi => Lemmas.IbwtRand.bsearch_pos L F hF i hi,
    (Lemmas.IbwtRand.link_state L).2⟩

-- ftab after `link` on "nnbaaa": a→3, b→4, n→6; slots 0-2 ↦ 'a', 3 ↦ 'b', 4-5 ↦ 'n'
example :
    (List.range 6).map (bsearch (link (([110, 110, 98, 97, 97, 97] : List UInt8).map (·.toNat))
      (cumulate 0 (counts [110, 110, 98, 97, 97, 97])) 6).2) = [97, 97, 97, 98, 110, 110] := by
  decide +kernel

/-- For every cell array: the bytes after
`i = 0, j = RAND_THRESH; while (j < n) { tt[j] ^= 1; i = (i+1) & 0x1FF;
j += rand_table[i]; }` are the reference derandomisation (the `rNToGo` /
`rTPos` automaton over the same table) of the bytes before. -/
theorem derand_loop_sound (tt : List Nat) :
    (derandLoop tt.length tt.length 0 Gen.RAND_THRESH tt).map Lemmas.IbwtDerand.low =
      Spec.Ibwt.derand Gen.randTable (tt.map Lemmas.IbwtDerand.low) :=
  Lemmas.IbwtDerand.derandLoop_low tt rfl

-- 700 cells holding byte 5: exactly cell 617 (= RAND_THRESH) is flipped
example :
    ((derandLoop 700 700 0 Gen.RAND_THRESH (List.replicate 700 5)).map
      Lemmas.IbwtDerand.low).zipIdx.filter (fun (b, _) => b != 5) = [(4, 617)] := by
  decide +kernel

/-- Randomised path, every block: the bytes `emit()`
reads after `decode()` are the reference derandomisation of the textbook
inverse BWT of `(L, idx)`. -/
theorem ibwt_sound_rand (L : List UInt8) (idx : Nat) (hidx : idx < L.length) :
    nodes true idx L = Spec.Ibwt.derand Gen.randTable (Spec.Ibwt.ibwt L idx) :=
  Lemmas.IbwtRand.nodes_true_eq L idx hidx

-- (blocks of ≤ 617 bytes are not changed by derandomisation; for a longer one see the
-- example after `derand_loop_sound` and `Lemmas.IbwtTests.test_derand`)
example : nodes true 3 [110, 110, 98, 97, 97, 97] =
      Spec.Ibwt.derand Gen.randTable (Spec.Ibwt.ibwt [110, 110, 98, 97, 97, 97] 3) ∧
    nodes true 3 [110, 110, 98, 97, 97, 97] = [98, 97, 110, 97, 110, 97] :=
  ⟨ibwt_sound_rand _ 3 (by decide),
    by simp only [nodes, Lemmas.IbwtTests.decode_true_nnbaaa]; decide⟩

theorem ibwt_sound_all : IbwtSound :=
  fun L idx h => ⟨ibwt_sound L idx h, ibwt_sound_rand L idx h⟩

/-- C08, randomised path: `rle_index = 0` and the
traversal `emit()` performs dereferences the pointers `0 … n-1` only (the
pointer `n` stored in the last cell is never followed). -/
theorem rle_index_bound_rand (L : List UInt8) (idx : Nat) (hn : 0 < L.length) :
    let d := decode true idx L (counts L)
    d.rleIndex = 0 ∧ walkMaxPtr d.tt L.length d.rleIndex < L.length := by
  obtain ⟨h0, h1⟩ := Lemmas.IbwtRand.decode_walk_bound_rand L idx hn
  exact ⟨h0, by rw [h1]; omega⟩

example :
    (let d := decode true 3 [110, 110, 98, 97, 97, 97] (counts [110, 110, 98, 97, 97, 97]);
     walkMaxPtr d.tt 6 d.rleIndex = 5 ∧ d.tt.map (· >>> 8) = [1, 2, 3, 4, 5, 6]) := by
  simp only [Lemmas.IbwtTests.decode_true_nnbaaa]
  decide

end LbzVerif.Props.C05
