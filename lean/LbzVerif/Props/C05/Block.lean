/-
  Props.C05.Block — end-to-end soundness of the block retriever.  Whenever
  `retrieve()` (`Model.Retrieve`), started in `S_INIT` on the bits that follow a
  block's 32-bit CRC, answers OK, the oracle `Spec.Bzip2.parseBlock` accepts the
  same bits with the same values, and `Spec.Bzip2.unMtfRle2` (capacity 900000 =
  MAX_BLOCK_SIZE: `retrieve()` does not know the stream's level) yields the
  bytes handed to `decode()` (`retrieve_sound`).

  The proof is Lemmas/GroupFinal.run_ok_sound (the chain header – lookup – group
  loop – symbols is listed at the head of that file).  It includes
  ERR_INCOMPLT/ERR_PREFIX ⇔ used table not complete, surplus selectors ignored,
  the 18001 clamp, ERR_UNTERM ⇔ missing EOB.
  Hypothesis `w ≤ 63`: the 64-bit buffer never holds 64 live bits (`NEED`
  refills only below 32; `bs->live` < 32 on entry in the C code).
-/
import LbzVerif.Lemmas.GroupFinal
import LbzVerif.Props.C05.Retrieve

namespace LbzVerif.Props.C05.Block
open LbzVerif LbzVerif.Model.Retrieve
open LbzVerif.Lemmas.RetrieveBits LbzVerif.Lemmas.GroupFinal

/-- `v`, `w`: any legal buffer with at most 63 live bits; `ws`: any words;
`eof`: any.  If the call answers OK then for every bit string `bits` = 32 bits
(the stored CRC `crc`) followed by the unread bits of the call, the oracle
parses a block `b` out of `bits`, leaving exactly the bits the retriever leaves
unread, with `b.rand` / `b.origPtr` = the `rand` / `bwt_idx` handed to
`decode()`, and `unMtfRle2 b.used 900000 b.syms` = the bytes of `tt` (`run.out`
is stored most recent first), `block_size = |tt| ≠ 0`, `origPtr < |tt|`. -/
theorem retrieve_sound (v w : Nat) (ws : List Nat) (eof : Bool) (inv : BufInv v w) (hw : w ≤ 63)
    (hok : (retrieve (St.start v w) ws eof).status = .ok)
    (level start crc : Nat) (bits : List Bool)
    (h32 : Basic.takeNat 32 bits = some (crc, bitsOf (St.start v w) ws)) :
    ∃ (b : Spec.Bzip2.Block) (tt : Array UInt8),
      Spec.Bzip2.parseBlock level start bits =
        .ok (b, bitsOf (retrieve (St.start v w) ws eof).st (retrieve (St.start v w) ws eof).rest) ∧
      b.level = level ∧ b.startBit = start ∧ b.storedCrc = crc ∧
      b.rand = ((retrieve (St.start v w) ws eof).st.rand == 1) ∧
      b.origPtr = (retrieve (St.start v w) ws eof).st.bwtIdx ∧
      Spec.Bzip2.unMtfRle2 b.used Gen.MAX_BLOCK_SIZE b.syms.toList = .ok tt ∧
      tt.toList = (retrieve (St.start v w) ws eof).st.run.out.reverse ∧
      tt.size = (retrieve (St.start v w) ws eof).st.run.n ∧ tt.size ≠ 0 ∧ b.origPtr < tt.size := by
  rw [Props.C09.Retrieve.retrieve_init _ ws eof rfl] at hok ⊢
  obtain ⟨s', rest', hr⟩ := Props.C09.Retrieve.result_ok hok
  rw [hr]
  exact run_ok_sound v w ws inv hw s' rest' hr level start crc bits h32

/-- Contrapositive of `retrieve_sound`: if the oracle does not accept the bits
as a block whose MTF/RLE2 stage gives a non-empty block of at most 900000 bytes
containing its origPtr, `retrieve()` never answers OK — whatever the words, the
`eof` flag (and, by `retrieveAll_sound`, the segmentation). -/
theorem retrieve_rejects_malformed (v w : Nat) (ws : List Nat) (eof : Bool) (inv : BufInv v w)
    (hw : w ≤ 63) (level start crc : Nat) (bits : List Bool)
    (h32 : Basic.takeNat 32 bits = some (crc, bitsOf (St.start v w) ws))
    (hbad : ∀ b rest tt, Spec.Bzip2.parseBlock level start bits = .ok (b, rest) →
      Spec.Bzip2.unMtfRle2 b.used Gen.MAX_BLOCK_SIZE b.syms.toList = .ok tt →
      tt.size = 0 ∨ tt.size ≤ b.origPtr) :
    (retrieve (St.start v w) ws eof).status ≠ .ok := by
  intro hok
  obtain ⟨b, tt, h1, _, _, _, _, _, h2, _, _, h3, h4⟩ :=
    retrieve_sound v w ws eof inv hw hok level start crc bits h32
  cases hbad b _ tt h1 h2 with
  | inl h => exact h3 h
  | inr h => omega

-- Non-vacuity: a block cut off after one word — the oracle rejects (truncated), so the hypothesis
-- holds, and the retriever indeed does not answer OK (it answers ERR_EOF).
example : (retrieve (St.start 0 0) [1] true).status ≠ .ok :=
  retrieve_rejects_malformed 0 0 [1] true bufInv_start (by omega) 9 0 0
    (Basic.natToBits 32 0 ++ bitsOf (St.start 0 0) [1]) (by rw [Basic.takeNat_natToBits])
    (by
      intro b rest tt hp
      exfalso
      have h : (match Spec.Bzip2.parseBlock 9 0 (Basic.natToBits 32 0 ++ bitsOf (St.start 0 0) [1]) with
          | .ok _ => false | .error _ => true) = true := by decide +kernel
      rw [hp] at h
      cases h)

/-- `retrieve_sound` for the input delivered in any admissible segmentation
(every call but the last with `eof = false`). -/
theorem retrieveAll_sound (v w : Nat) (segs : List (List Nat)) (inv : BufInv v w) (hw : w ≤ 63)
    (hadm : Props.C09.Retrieve.Admissible (St.start v w) segs)
    (hok : (retrieveAll (St.start v w) segs).status = .ok)
    (level start crc : Nat) (bits : List Bool)
    (h32 : Basic.takeNat 32 bits = some (crc, bitsOf (St.start v w) segs.flatten)) :
    ∃ (b : Spec.Bzip2.Block) (tt : Array UInt8),
      Spec.Bzip2.parseBlock level start bits =
        .ok (b, bitsOf (retrieveAll (St.start v w) segs).st (retrieveAll (St.start v w) segs).rest) ∧
      b.rand = ((retrieveAll (St.start v w) segs).st.rand == 1) ∧
      b.origPtr = (retrieveAll (St.start v w) segs).st.bwtIdx ∧
      Spec.Bzip2.unMtfRle2 b.used Gen.MAX_BLOCK_SIZE b.syms.toList = .ok tt ∧
      tt.toList = (retrieveAll (St.start v w) segs).st.run.out.reverse ∧
      tt.size ≠ 0 ∧ b.origPtr < tt.size := by
  rw [Props.C09.Retrieve.retrieve_split segs _ hadm] at hok ⊢
  obtain ⟨b, tt, h1, _, _, _, h5, h6, h7, h8, _, h10, h11⟩ :=
    retrieve_sound v w segs.flatten true inv hw hok level start crc bits h32
  exact ⟨b, tt, h1, h5, h6, h7, h8, h10, h11⟩

-- Non-vacuity of the segmented form: `tiny` delivered as 1 + 2 + 3 words.
example : Props.C09.Retrieve.Admissible (St.start 0 0)
      [[1], [3145760, 3178537], [230686720, 2863311530, 2863311530]] ∧
    (retrieveAll (St.start 0 0) [[1], [3145760, 3178537], [230686720, 2863311530, 2863311530]]).status = .ok := by
  have hadm : Props.C09.Retrieve.Admissible (St.start 0 0)
      [[1], [3145760, 3178537], [230686720, 2863311530, 2863311530]] := by
    simp [Props.C09.Retrieve.Admissible, Props.C09.Retrieve.MiddleNonEmpty]
  exact ⟨hadm, (congrArg Result.status (Props.C09.Retrieve.retrieve_split _ _ hadm)).trans
    Props.C09.Retrieve.tiny_ok⟩

-- Non-vacuity: the block `tiny` of Props.C09.Retrieve ("ab", origPtr 0) behind the CRC 0.
example : ∃ (b : Spec.Bzip2.Block) (tt : Array UInt8),
    Spec.Bzip2.parseBlock 9 0 (Basic.natToBits 32 0 ++ bitsOf (St.start 0 0) Props.C09.Retrieve.tiny) =
      .ok (b, bitsOf (retrieve (St.start 0 0) Props.C09.Retrieve.tiny true).st
        (retrieve (St.start 0 0) Props.C09.Retrieve.tiny true).rest) ∧
    Spec.Bzip2.unMtfRle2 b.used Gen.MAX_BLOCK_SIZE b.syms.toList = .ok tt ∧
    tt.toList = (retrieve (St.start 0 0) Props.C09.Retrieve.tiny true).st.run.out.reverse := by
  obtain ⟨b, tt, h1, _, _, _, _, _, h7, h8, _⟩ :=
    retrieve_sound 0 0 Props.C09.Retrieve.tiny true bufInv_start (by omega) Props.C09.Retrieve.tiny_ok 9 0 0
      (Basic.natToBits 32 0 ++ bitsOf (St.start 0 0) Props.C09.Retrieve.tiny)
      (by rw [Basic.takeNat_natToBits])
  exact ⟨b, tt, h1, h7, h8⟩

-- … and what comes out: the two bytes "ab"
example : (retrieve (St.start 0 0) Props.C09.Retrieve.tiny true).st.run.out.reverse = [97, 98] :=
  Props.C09.Retrieve.tiny_out

end LbzVerif.Props.C05.Block
