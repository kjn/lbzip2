/-
  C05 — `emit()` writes exactly the run-length decoding of the block, computes
  the CRC of exactly those bytes, and reports ERR_RUNLEN exactly when the block
  ends right after four equal bytes (count byte missing).

  Reference: `Spec.UnRle1.unRle1` (Model/Emit.lean, second half; independent of
  lbzip2): copy bytes; after four equal bytes the next byte is a repeat count.
  `xs` is the node sequence of the block in traversal order (what `decode()`
  prepared); conditions as in Props/C09/Emit.lean.  `Lemmas.Emit.unOut 0 0 xs` (MORE
  clause of `emit_sound`, `hbig` of `emit_status_iff`) is what that reference writes,
  also when it rejects in the end: `unRle1 xs = if unBad 0 0 xs then none else some
  (unOut 0 0 xs)` (`Lemmas.Emit.go_eq`).
-/
import LbzVerif.Lemmas.Emit

namespace LbzVerif.Props.C05

open LbzVerif.Model.Emit
open LbzVerif.Lemmas.Emit

/-- For every list of output buffer sizes:
* final status OK ⇒ the reference accepts the block, the bytes written (over
  all calls) are its decoding, and `ds->crc` is the bzip2 CRC register run over
  exactly those bytes (`0xFFFFFFFF` initial value, final complement);
* final status ERR_RUNLEN ⇒ the reference rejects the block (count byte
  missing);
* the emitter never aborts, and if the buffers run out first (MORE) the bytes
  so far are a prefix of the reference output. -/
theorem emit_sound (xs : List UInt8) (hx : xs.length < M1) (sizes : List Nat)
    (hs : ∀ z ∈ sizes, z < M1) :
    ((run (St.init xs) sizes).final = .ok →
        Spec.UnRle1.unRle1 xs = some (run (St.init xs) sizes).bytes ∧
        (run (St.init xs) sizes).crc =
          crcBytes 0xFFFFFFFF (run (St.init xs) sizes).bytes ^^^ 0xFFFFFFFF) ∧
    ((run (St.init xs) sizes).final = .errRunlen → Spec.UnRle1.unRle1 xs = none) ∧
    (run (St.init xs) sizes).final ≠ .abort ∧
    ((run (St.init xs) sizes).final = .more →
        ∃ rest, unOut 0 0 xs = (run (St.init xs) sizes).bytes ++ rest) := by
  have r := run_init_ok xs hx sizes hs
  have hgo : Spec.UnRle1.unRle1 xs = if unBad 0 0 xs then none else some (unOut 0 0 xs) :=
    go_eq xs 0 0
  refine ⟨fun e => ?_, fun e => ?_, r.ne_abort, fun e => ⟨_, (r.more e).1⟩⟩
  · obtain ⟨r1, r2, r3, _⟩ := r.ok e
    refine ⟨?_, r3⟩
    rw [hgo, r2, r1]
    rfl
  · rw [hgo, (r.errRunlen e).2.1]
    rfl

/-- Converse direction (needed for "exactly when"): with enough output space
the emitter ends with OK iff the reference accepts, and with ERR_RUNLEN iff the
reference rejects. -/
theorem emit_status_iff (xs : List UInt8) (hx : xs.length < M1) (sizes : List Nat)
    (hs : ∀ z ∈ sizes, z < M1) (hbig : (unOut 0 0 xs).length < sizes.sum) :
    ((run (St.init xs) sizes).final = .ok ↔ (Spec.UnRle1.unRle1 xs).isSome) ∧
    ((run (St.init xs) sizes).final = .errRunlen ↔ Spec.UnRle1.unRle1 xs = none) := by
  have r := run_init_ok xs hx sizes hs
  have hgo : Spec.UnRle1.unRle1 xs = if unBad 0 0 xs then none else some (unOut 0 0 xs) :=
    go_eq xs 0 0
  have hne := run_ne_more (St.init xs) (init_Inv xs hx) sizes hs hbig
  rw [hgo, (r.done hne).2]
  cases unBad 0 0 xs <;> simp

/-- The two ways a block can end in equal bytes: three are fine, four need
their count. -/
example : Spec.UnRle1.unRle1 [1, 2, 2, 2] = some [1, 2, 2, 2] ∧
    Spec.UnRle1.unRle1 [1, 2, 2, 2, 2] = none ∧
    Spec.UnRle1.unRle1 [1, 2, 2, 2, 2, 3] = some [1, 2, 2, 2, 2, 2, 2, 2] ∧
    (run (St.init [1, 2, 2, 2, 2]) [2, 2, 50]).final = .errRunlen ∧
    (run (St.init [1, 2, 2, 2, 2]) [2, 2, 50]).bytes = [1, 2, 2, 2, 2] ∧
    (run (St.init [1, 2, 2, 2, 2, 3]) [2, 2, 50]).final = .ok ∧
    (run (St.init [1, 2, 2, 2, 2, 3]) [2, 2, 50]).bytes = [1, 2, 2, 2, 2, 2, 2, 2] := by decide

end LbzVerif.Props.C05
