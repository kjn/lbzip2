/-
  Props.C05.Tree — make_tree (decode.c) against the Spec.

  Here:
    * `makeTree_kraft` — the accept / ERR_INCOMPLT / ERR_PREFIX verdict is
      exactly the Kraft comparison;
    * `makeTree_sound` — for a complete length list the start/base/count/perm
      lookup of `retrieve()` on any 64-bit window `v < 2^64 − 1` (the all-ones
      window equals the sentinel `base[21]`, so the walk would not stop there
      when a code is longer than HUFF_START_WIDTH) returns the same (symbol,
      length) as the bit-by-bit reference decoders `Spec.Prefix.decodeSym` and
      `Spec.Bzip2.decodeSym (mkCode lens)`, the symbol renumbered by
      `Model.Canon.renumber` (RUN_A = 257, RUN_B = 258, MTF value s − 1,
      EOB = 0);
    * `canon_lookup_bound` — no table access of the lookup is out of bounds:
      the `start[]` entry is a length ≤ 20, the canonical walk stops at ≤ 20
      (sentinel `base[21] = UINT64_MAX`), the `perm` index is below
      `alpha_size`;
    * `canon_lookup_bound_partial` — the sentinel argument alone, for any
      length list.
  The key ingredient is the rank formula `TransmitSym.canonCode_rank`.
-/
import LbzVerif.Spec.Prefix
import LbzVerif.Model.Canon
import LbzVerif.Lemmas.PrefixTree
import LbzVerif.Lemmas.TreeSound
import LbzVerif.Lemmas.BitsBasic

namespace LbzVerif.Props.C05.Tree
open LbzVerif.Spec.Prefix LbzVerif.Model.Canon LbzVerif.Lemmas.PrefixTree

/-- For code lengths in 1…20 (what the delta decoder hands over) and at most
258 symbols, make_tree accepts iff the lengths are a complete code; it answers
ERR_INCOMPLT iff the Kraft sum is below one and ERR_PREFIX iff it is above;
tables are built exactly when it accepts. -/
theorem makeTree_kraft (lens : List Nat) (hr : ∀ l ∈ lens, 1 ≤ l ∧ l ≤ 20)
    (hn : lens.length ≤ Gen.MAX_ALPHA_SIZE) :
    (verdict lens = .ok ↔ Complete lens) ∧
    (verdict lens = .incomplete ↔ kraft20 lens < 2 ^ 20) ∧
    (verdict lens = .oversubscribed ↔ 2 ^ 20 < kraft20 lens) ∧
    ((makeTree lens).2.isSome ↔ Complete lens) ∧ (makeTree lens).1 = verdict lens := by
  have hok := verdict_ok_iff lens hr hn
  have hv : (verdict lens = .incomplete ↔ kraft20 lens < 2 ^ 20) ∧
      (verdict lens = .oversubscribed ↔ 2 ^ 20 < kraft20 lens) := by
    rw [verdict_eq lens hr hn]
    by_cases h1 : kraft20 lens = 2 ^ 20
    · simp [h1]
    · by_cases h2 : kraft20 lens < 2 ^ 20
      · simp [h1, h2]; omega
      · simp [h1, h2]; omega
  refine ⟨hok, hv.1, hv.2, ?_, ?_⟩
  · rw [← hok]
    unfold makeTree
    cases verdict lens <;> simp
  · unfold makeTree
    cases verdict lens <;> rfl

example : verdict [2, 3, 1, 3] = .ok ∧ verdict [2, 3, 3] = .incomplete ∧
    verdict [1, 1, 3] = .oversubscribed := by decide

/-- The sentinel argument of `canon_lookup_bound` alone: for any length list, any window
`v < 2^64 − 1` (the bit buffer holds at most 63 live bits, so the lowest bit is
0) and any start index `k ≤ 20`, the walk `while (v >= base[k+1]) k++` over the
table built by make_tree stops with `k ≤ 20`, because `base[21] = UINT64_MAX`. -/
theorem canon_lookup_bound_partial (lens : List Nat) (v : Nat) (hv : v < 2 ^ 64 - 1)
    (fuel k : Nat) (hk : k ≤ Gen.MAX_CODE_LENGTH) :
    walkUp (mkTree lens).base v fuel k ≤ Gen.MAX_CODE_LENGTH := by
  have h21 : v < (mkTree lens).base.getD 21 0 := by
    show v < (mkBase lens).getD 21 0
    rw [base21]; exact hv
  exact Lemmas.TreeSoundTables.walkUp_le_above _ v v 20 (Nat.le_refl v) h21 fuel k hk

example : lookup (mkTree [1, 2, 3, 4, 5, 6, 7, 8, 9, 10, 11, 12, 12]) (2 ^ 64 - 2) = some (0, 12) := by
  decide +kernel

open LbzVerif.Lemmas.PrefixCanon LbzVerif.Lemmas.TransmitSym
  LbzVerif.Lemmas.TreeSound LbzVerif.Lemmas.TreeSoundTables

/-- `lens` complete (Kraft sum one, lengths 1…20), at most
258 symbols, `v` any 64-bit window except `2^64 − 1` (which the bit buffer of
`retrieve()` cannot hold: it never has 64 live bits, so the lowest bit is 0).
Then there is a symbol `i` such that
  * the table lookup of `retrieve()` on the tables built by `make_tree`
    returns `i` in the decoder's internal numbering, with its code length,
  * the bit-by-bit reference `Spec.Prefix.decodeSym` reads `i` from the 64 bits
    of the window (followed by anything) and leaves the bits after the code,
  * the oracle's decoder `Spec.Bzip2.decodeSym (mkCode lens)` does the same. -/
theorem makeTree_sound (lens : List Nat) (hc : Complete lens) (hn : lens.length ≤ Gen.MAX_ALPHA_SIZE)
    (v : Nat) (hv : v < 2 ^ 64 - 1) (pos : Nat) (rest : List Bool) :
    ∃ i, i < lens.length ∧
      lookup (mkTree lens) v = some (renumber lens.length i, lens[i]!) ∧
      Spec.Prefix.decodeSym lens (Basic.natToBits 64 v ++ rest) =
        some (i, Basic.natToBits (64 - lens[i]!) v ++ rest) ∧
      Spec.Bzip2.decodeSym (Spec.Bzip2.mkCode lens) pos (Basic.natToBits 64 v ++ rest) =
        .ok (i, pos + lens[i]!, Basic.natToBits (64 - lens[i]!) v ++ rest) := by
  obtain ⟨l, r, i, hd, hl⟩ := lookup_sound lens hc hn v hv
  have l20 := hd.l20
  have hsplit : Basic.natToBits 64 v = Basic.natToBits l (canonCode lens i) ++ Basic.natToBits (64 - l) v := by
    rw [← top_bits_code lens v l r i hd, ← Basic.natToBits_split]
    congr 1
    omega
  refine ⟨i, hd.i_lt, by rw [hd.len]; exact hl, ?_, ?_⟩
  · rw [hd.len, hsplit, List.append_assoc, ← bitsMSB_eq]
    have := decodeSym_encodeSym lens hc i hd.i_lt (Basic.natToBits (64 - l) v ++ rest)
    unfold encodeSym at this
    rw [hd.len] at this
    exact this
  · rw [hd.len, hsplit, List.append_assoc]
    have := decodeSym_canon lens hc i hd.i_lt pos (Basic.natToBits (64 - l) v ++ rest)
    rw [hd.len] at this
    exact this

-- the window 1011… under the code [2,3,1,3,…]: not vacuous — a concrete complete table
example : ∃ i, i < 4 ∧ lookup (mkTree [2, 3, 1, 3]) (0xB000000000000000) = some (renumber 4 i, [2, 3, 1, 3][i]!) :=
  let ⟨i, h1, h2, _⟩ := makeTree_sound [2, 3, 1, 3] (by decide) (by decide) 0xB000000000000000 (by decide) 0 []
  ⟨i, h1, h2⟩

example : lookup (mkTree [2, 3, 1, 3]) (0xB000000000000000) = some (257, 2) ∧
    Spec.Prefix.decodeSym [2, 3, 1, 3] [true, false, true, true] = some (0, [true, true]) ∧
    Complete [2, 3, 1, 3] := by decide +kernel

/-- For a complete table of at most 258 symbols and any
window `v < 2^64 − 1`, every array access of the lookup in `retrieve()` is in
bounds: the 5-bit length field `k` of the `start[]` entry is at most 20; when
it exceeds HUFF_START_WIDTH the canonical walk `while (v >= base[k+1]) k++`
stops at `k' ≤ 20` (so `base[k'+1]`, `count[k']` exist), and the index into
`perm[]`, `count[k'] + ((v − base[k']) >> (64 − k'))`, is below `alpha_size`
(= the number of entries of `perm[]`). -/
theorem canon_lookup_bound (lens : List Nat) (hc : Complete lens) (hn : lens.length ≤ Gen.MAX_ALPHA_SIZE)
    (v : Nat) (hv : v < 2 ^ 64 - 1) :
    let t := mkTree lens
    let k := t.start.getD (v >>> (64 - Gen.HUFF_START_WIDTH)) 0 &&& 0x1F
    let k' := walkUp t.base v (Gen.MAX_CODE_LENGTH + 1) k
    t.perm.length = lens.length ∧ k ≤ Gen.MAX_CODE_LENGTH ∧
      (Gen.HUFF_START_WIDTH < k → k' ≤ Gen.MAX_CODE_LENGTH ∧
        t.count.getD k' 0 + (((v + M64 - t.base.getD k' 0) % M64) >>> (64 - k')) < lens.length) := by
  intro t k k'
  have hpl : t.perm.length = lens.length := perm_length lens hc.2
  obtain ⟨l, r, i, hd, hl⟩ := lookup_sound lens hc hn v hv
  have hsw : SW = Gen.HUFF_START_WIDTH := rfl
  have hml : MAXL = Gen.MAX_CODE_LENGTH := rfl
  have h10 : Gen.HUFF_START_WIDTH = 10 := rfl
  have h20 : Gen.MAX_CODE_LENGTH = 20 := rfl
  unfold lookup at hl
  simp only at hl
  rw [hsw, hml] at hl
  change (if k ≤ Gen.HUFF_START_WIDTH then _ else
    (if k' > Gen.MAX_CODE_LENGTH then none else _)) = _ at hl
  by_cases hk : k ≤ Gen.HUFF_START_WIDTH
  · exact ⟨hpl, by omega, fun h => by omega⟩
  · rw [if_neg hk] at hl
    by_cases hk' : k' > Gen.MAX_CODE_LENGTH
    · rw [if_pos hk'] at hl; cases hl
    · rw [if_neg hk'] at hl
      have hge : k ≤ k' := walkUp_ge _ _ _ _
      refine ⟨hpl, by omega, fun _ => ⟨by omega, ?_⟩⟩
      rw [← hpl]
      split at hl
      · assumption
      · cases hl

example : Complete [1, 2, 3, 4, 5, 6, 7, 8, 9, 10, 11, 12, 12] := by decide

end LbzVerif.Props.C05.Tree
