/-
  Props.C05.Retrieve — what an OK answer of the block retriever (`Model.Retrieve`, the model of
  `retrieve()` in src/decode.c) guarantees, fact by fact, for all states, word
  lists and segmentations.  `Props.C05.Block.retrieve_sound` joins them with the
  group phase (Lemmas/Group*) into the statement against the oracle
  `Spec.Bzip2.parseBlock`; the reference side is what lbzdrv `specretr`
  evaluates, and checks/w15_retrieve.py compares the real `retrieve()` with it.
  Every lemma behind `retrieve_header_sound` (Lemmas/Retrieve*.lean) starts from
  an arbitrary state at a `NEED` site, so resumed calls are covered, and is an
  "iff with escape": reference accepts ⇒ machine gets there or runs out of
  words; reference rejects ⇒ machine answers an error or runs out of words.
-/
import LbzVerif.Lemmas.RetrieveOk
import LbzVerif.Lemmas.RetrieveSpecLink
import LbzVerif.Props.C09.Retrieve
import LbzVerif.Props.C05.Mtf

namespace LbzVerif.Props.C05.Retrieve
open LbzVerif LbzVerif.Model.Retrieve
open LbzVerif.Lemmas.RetrieveOk LbzVerif.Lemmas.RetrieveCall

/-- Whatever the state, the words, the `eof` flag: if one call of the retriever
answers OK, the block it hands over is not empty and `bwt_idx` lies inside it.
Holds from every state, not only `S_INIT`; the statement against the oracle is
`Props.C05.Block.retrieve_sound`. -/
theorem retrieve_sound_partial (st : St) (ws : List Nat) (eof : Bool)
    (h : (retrieve st ws eof).status = .ok) :
    1 ≤ (retrieve st ws eof).st.run.n ∧ (retrieve st ws eof).st.bwtIdx < (retrieve st ws eof).st.run.n := by
  have e := Props.C09.Retrieve.retrieve_eq_run st ws eof (Or.inl h)
  rw [e] at h ⊢
  obtain ⟨s, rest, hr⟩ := Props.C09.Retrieve.result_ok h
  rw [hr]
  exact run_ok st ws s rest hr

/-- … and the same for any admissible segmentation (by `retrieve_split`). -/
theorem retrieveAll_sound_partial (st : St) (segs : List (List Nat))
    (hadm : Props.C09.Retrieve.Admissible st segs)
    (h : (retrieveAll st segs).status = .ok) :
    1 ≤ (retrieveAll st segs).st.run.n ∧ (retrieveAll st segs).st.bwtIdx < (retrieveAll st segs).st.run.n := by
  rw [Props.C09.Retrieve.retrieve_split segs st hadm] at h ⊢
  exact retrieve_sound_partial st _ true h

-- the block of `Props.C09.Retrieve.tiny`: 2 bytes, primary index 0
example : (retrieve (St.start 0 0) Props.C09.Retrieve.tiny true).status = .ok ∧
    (retrieve (St.start 0 0) Props.C09.Retrieve.tiny true).st.run.n = 2 ∧
    (retrieve (St.start 0 0) Props.C09.Retrieve.tiny true).st.bwtIdx = 0 := by
  obtain ⟨hok, _, _, _, hidx, hn, _⟩ := Props.C09.Retrieve.tiny_eval
  exact ⟨hok, hn, hidx⟩

-- a primary index outside the block is refused (bit 24 of the first word set: bwt_idx = 2)
example : (retrieve (St.start 0 0) (257 :: Props.C09.Retrieve.tiny.tail) true).status =
    .err Gen.ERR_BWTIDX := by decide +kernel

open LbzVerif.Lemmas.RetrieveBits LbzVerif.Lemmas.RetrieveBitmap LbzVerif.Lemmas.RetrieveHeader
  LbzVerif.Lemmas.RetrieveDelta LbzVerif.Lemmas.RetrieveSpecLink in
/-- A fresh call (`S_INIT`, any legal buffer `v`, `w`, any words, any `eof`)
that answers OK has read a block header the reference accepts: on the same
unread bits `specHeader` — the header part of THE oracle `Spec.Bzip2.parseBlock`
(`parseBlock_factor`: rand bit, origPtr, non-empty bitmap, `nGroups` ∈ 2…6,
`nSelectors` ≠ 0, every selector code below `nGroups`, `nGroups` delta-coded
tables with EVERY intermediate length in 1…20) — succeeds, and the `rand` flag
and `bwt_idx` handed to `decode()` are the reference's.  Consequently the
oracle, run on these bits behind any 32-bit CRC, is `parseTail` on the header
values: it can only fail later (groups).  A block with a malformed header is
never accepted. -/
theorem retrieve_header_sound (v w : Nat) (ws : List Nat) (eof : Bool) (inv : BufInv v w)
    (hok : (retrieve (St.start v w) ws eof).status = .ok) :
    ∃ h : Hdr,
      specHeader (bitsOf (St.start v w) ws) =
        some ((retrieve (St.start v w) ws eof).st.rand, (retrieve (St.start v w) ws eof).st.bwtIdx, h) ∧
      ∀ (level start crc : Nat) (bits : List Bool),
        Basic.takeNat 32 bits = some (crc, bitsOf (St.start v w) ws) →
        ∃ pos, Spec.Bzip2.parseBlock level start bits =
          parseTail level start crc (retrieve (St.start v w) ws eof).st.rand
            (retrieve (St.start v w) ws eof).st.bwtIdx h pos := by
  rw [Props.C09.Retrieve.retrieve_init _ ws eof rfl] at hok ⊢
  obtain ⟨s', rest, hr⟩ := Props.C09.Retrieve.result_ok hok
  rw [hr]
  simp only [RunOut.result]
  obtain ⟨r0, idx0, h, s1, rest1, hsp, _, hk, _, _, hg⟩ := run_ok_top (St.start v w) ws (Or.inl rfl) inv hr
  obtain ⟨i1, i2⟩ := groups_id _ s1 rest1 s' rest hg
  have hrand : s'.rand = r0 := by rw [i1, hk.rand]
  have hidx : s'.bwtIdx = idx0 := by rw [i2, hk.bwtIdx]
  refine ⟨h, by rw [hrand, hidx]; exact hsp, ?_⟩
  intro level start crc bits h32
  rw [hrand, hidx]
  exact (parseBlock_factor level start bits crc _ h32).2 r0 idx0 h hsp

open LbzVerif.Lemmas.RetrieveBits LbzVerif.Lemmas.RetrieveBitmap LbzVerif.Lemmas.RetrieveHeader in
/-- The header of `tiny` as the reference reads it: bytes a, b in use, two tables,
one selector (MTF index 1), lengths [2,2,2,2] and [1,2,3,3]; 99 bits read, 93 are left. -/
theorem tiny_header : ∃ h : Hdr, specHeader (bitsOf (St.start 0 0) Props.C09.Retrieve.tiny) = some (0, 0, h) ∧
    h.used = [97, 98] ∧ h.ng = 2 ∧ h.ns = 1 ∧ h.sels = [1] ∧ h.tabs = [[2, 2, 2, 2], [1, 2, 3, 3]] ∧
    h.rest.length = 93 := by
  have e : (match specHeader (bitsOf (St.start 0 0) Props.C09.Retrieve.tiny) with
      | some (r, i, h) => decide (r = 0 ∧ i = 0 ∧ h.used = [97, 98] ∧ h.ng = 2 ∧ h.ns = 1 ∧ h.sels = [1] ∧
          h.tabs = [[2, 2, 2, 2], [1, 2, 3, 3]] ∧ h.rest.length = 93)
      | none => false) = true := by decide +kernel
  cases hs : specHeader (bitsOf (St.start 0 0) Props.C09.Retrieve.tiny) with
  | none => rw [hs] at e; cases e
  | some x =>
    obtain ⟨r, i, h⟩ := x
    rw [hs] at e
    obtain ⟨rfl, rfl, hh⟩ := of_decide_eq_true e
    exact ⟨h, rfl, hh⟩

open LbzVerif.Lemmas.RetrieveBits LbzVerif.Lemmas.RetrieveBitmap LbzVerif.Lemmas.RetrieveHeader in
example : (specHeader (bitsOf (St.start 0 0) Props.C09.Retrieve.tiny)).map
      (fun x => (x.1, x.2.1, x.2.2.used, x.2.2.ng, x.2.2.ns)) = some (0, 0, [97, 98], 2, 1) ∧
    (specHeader (bitsOf (St.start 0 0) Props.C09.Retrieve.tiny)).map
      (fun x => (x.2.2.sels, x.2.2.tabs, x.2.2.rest.length)) =
        some ([1], [[2, 2, 2, 2], [1, 2, 3, 3]], 93) := by
  obtain ⟨h, e, h1, h2, h3, h4, h5, h6⟩ := tiny_header
  simp only [e, Option.map_some, h1, h2, h3, h4, h5, h6, and_self]

open LbzVerif.Lemmas.RetrieveBits in
/-- Start with any legal buffer (`BufInv`: `v < 2^64`, bits below the `w` live
ones zero — e.g. the empty buffer, or what the header parser left) and any
words.  Whenever a call answers OK or MORE (also ERR_EOF coming from `NEED`, not
stated), the position it saves (`v`, `w`, unread words) is again a legal buffer,
and the unread bits it designates are a SUFFIX of the unread bits it was given:
the retriever consumes the stream strictly in order, never skips, duplicates or
re-reads a bit, and the end position of a block is well defined (`k` = number of
bits consumed). -/
theorem retrieve_reads_sequentially (st : St) (ws : List Nat) (eof : Bool)
    (inv : BufInv st.v st.w)
    (h : (retrieve st ws eof).status = .ok ∨ (retrieve st ws eof).status = .more) :
    BufInv (retrieve st ws eof).st.v (retrieve st ws eof).st.w ∧
      ∃ k, bitsOf (retrieve st ws eof).st (retrieve st ws eof).rest = (bitsOf st ws).drop k := by
  have e := Props.C09.Retrieve.retrieve_eq_run st ws eof h
  rw [e] at h ⊢
  have hb := run_does st ws
  cases hr : run false st ws with
  | susp s =>
    rw [hr] at hb
    cases hb with
    | susp hs _ _ => exact hs inv
  | halt r s rest =>
    rw [hr] at hb h
    cases hb with
    | ok hs _ => exact hs inv
    | other hne =>
      exfalso
      cases r with
      | ok => exact hne rfl
      | err c => simp [RunOut.result, Halt.toStatus] at h
      | ub => simp [RunOut.result, Halt.toStatus] at h
      | overread => simp [RunOut.result, Halt.toStatus] at h

open LbzVerif.Lemmas.RetrieveBits in
theorem tiny_unread : (bitsOf (retrieve (St.start 0 0) Props.C09.Retrieve.tiny true).st
    (retrieve (St.start 0 0) Props.C09.Retrieve.tiny true).rest).length = 86 := by
  simp [bitsOf, bufBits_length, wordBits, Props.C09.Retrieve.tiny_eval.2.1,
    Props.C09.Retrieve.tiny_eval.2.2.1]

open LbzVerif.Lemmas.RetrieveBits in
-- `tiny`: 106 bits of block, 192 bits offered: 86 bits are left (54 live + one word)
example : BufInv 0 0 ∧
    (bitsOf (retrieve (St.start 0 0) Props.C09.Retrieve.tiny true).st
      (retrieve (St.start 0 0) Props.C09.Retrieve.tiny true).rest).length = 86 ∧
    (bitsOf (St.start 0 0) Props.C09.Retrieve.tiny).length = 192 :=
  ⟨bufInv_start, tiny_unread,
    by simp [bitsOf, bufBits_length, wordBits, Props.C09.Retrieve.tiny, St.start]⟩

open LbzVerif.Lemmas.RetrieveBits LbzVerif.Lemmas.RetrieveValues in
/-- Both directions, an equation: on a legal buffer every `TAKE(x, k)` of the
retriever — the rand bit, the 24-bit index, the bitmap words, `num_trees`,
`num_selectors`, the 5-bit start lengths — yields exactly what the reference's
`takeNat k` yields on the unread bits, and keeps exactly the bits the reference
keeps. -/
theorem retrieve_take_sound (st st' : St) (k x : Nat) (ws : List Nat)
    (h : take st k = some (x, st')) (inv : BufInv st.v st.w) :
    Basic.takeNat k (bitsOf st ws) = some (x, bitsOf st' ws) ∧ BufInv st'.v st'.w := by
  obtain ⟨rfl, hd⟩ := Lemmas.RetrieveEqns.take_eq_some st st' k x h
  obtain ⟨hk1, hk, rfl⟩ := Lemmas.RetrieveEqns.dump_eq_some st st' k hd
  exact (take_both st ws k hk1 hk inv).2

open LbzVerif.Lemmas.RetrieveBits LbzVerif.Lemmas.RetrieveValues in
-- one word 0xC0000005 in the buffer: the first two bits are the number 3
example : ∃ st', take (refill (St.start 0 0) 0xC0000005) 2 = some (3, st') ∧
    Basic.takeNat 2 (bitsOf (refill (St.start 0 0) 0xC0000005) [7]) = some (3, bitsOf st' [7]) := by
  have inv := (refill_st_bits (St.start 0 0) 0xC0000005 (by decide) bufInv_start).2
  exact ⟨_, rfl, (retrieve_take_sound _ _ 2 3 [7] rfl inv).1⟩

open LbzVerif.Lemmas.RetrieveBits LbzVerif.Lemmas.RetrieveValues in
/-- Both directions: one pass of the selector loop (`table[PEEK(6)]`, `k >
num_trees → ERR_SELECTOR`, `DUMP(k)`) is the reference's unary code
`Spec.Bzip2.readUnary num_trees 0` on the unread bits: same index, same rest;
bad-selector ⇔ ERR_SELECTOR. -/
theorem retrieve_selector_sound (st : St) (ws : List Nat) (h6 : 6 ≤ st.w) (inv : BufInv st.v st.w)
    (hj : st.j < st.numSel) (hn1 : 1 ≤ st.numTrees) (hn6 : st.numTrees ≤ 6) :
    match Spec.Bzip2.readUnary st.numTrees 0 (bitsOf st ws) with
    | .ok (i, B') =>
      ∃ st', selLoop st = .cont st' ∧ BufInv st'.v st'.w ∧ bitsOf st' ws = B' ∧
        st'.selector = st.selector.push i ∧ st'.j = st.j ∧ st'.numSel = st.numSel ∧
        st'.numTrees = st.numTrees ∧ st'.pc = .selectorMtf ∧ st'.w < st.w ∧
        st' = { st with v := st'.v, w := st'.w, selector := st.selector.push i, pc := .selectorMtf }
    | .error e => e = .badSelector ∧ selLoop st = errS Gen.ERR_SELECTOR :=
  selector_value st ws h6 inv hj hn1 hn6

open LbzVerif.Lemmas.RetrieveBits LbzVerif.Lemmas.RetrieveValues in
-- bits 110… with three tables: MTF index 2; with two tables: rejected
example : (Spec.Bzip2.readUnary 3 0 (bitsOf (refill (St.start 0 0) 0xC0000005) [])).toOption.map (·.1) = some 2 ∧
    Spec.Bzip2.readUnary 2 0 (bitsOf (refill (St.start 0 0) 0xC0000005) []) = .error .badSelector := by
  decide

open LbzVerif.Lemmas.RetrieveBits LbzVerif.Lemmas.RetrieveValues in
/-- Both directions: one iteration of the delta loop of the retriever, with the
window `k` = the next six unread bits and `c = code_len[j]`: it goes on iff
`Model.Delta.stepLen c k` accepts — by `Lemmas.Delta.core` / `sym_eq_winModel`
iff at most three steps of the bit-by-bit reference `Spec.Delta.sym` stay within
1…20 — with the reference's new length, `tL k` bits dropped, the symbol finished
iff `tL k ≠ 6`; it answers ERR_DELTA iff `stepLen` rejects. -/
theorem retrieve_delta_window_sound (st : St) (ws : List Nat) (h6 : 6 ≤ st.w)
    (inv : BufInv st.v st.w) :
    let k := Model.Delta.peek6 (bitsOf st ws)
    match Model.Delta.stepLen st.clCur k with
    | none => deltaWindow st = errS Gen.ERR_DELTA
    | some c' =>
      ∃ st', deltaWindow st = .cont st' ∧ BufInv st'.v st'.w ∧
        bitsOf st' ws = (bitsOf st ws).drop (Model.Delta.tL k) ∧ st'.clCur = c' ∧
        (if Model.Delta.tL k ≠ 6 then st'.j = st.j + 1 ∧ st'.clAcc = c' :: st.clAcc
         else st'.j = st.j ∧ st'.clAcc = st.clAcc) ∧
        st'.alphaSize = st.alphaSize ∧ st'.t = st.t ∧ st'.pc = .deltaTag := by
  intro k
  obtain ⟨hl1, hl6⟩ := Lemmas.Delta.tL_bounds (bitsOf st ws)
  have hd := fun s => @bitsOf_dump st (Model.Delta.tL k) ws
    (show Model.Delta.tL (Model.Delta.peek6 (bitsOf st ws)) ≤ st.w by omega) inv s
  rw [deltaWindow_eq st ws h6 inv]
  cases Model.Delta.stepLen st.clCur k with
  | none => rfl
  | some c' =>
    dsimp only
    split
    · exact ⟨_, rfl, (hd _ rfl rfl).2, (hd _ rfl rfl).1, rfl, ⟨rfl, rfl⟩, rfl, rfl, rfl⟩
    · exact ⟨_, rfl, (hd _ rfl rfl).2, (hd _ rfl rfl).1, rfl, ⟨rfl, rfl⟩, rfl, rfl, rfl⟩

-- window 101100 at length 20 is the excursion 20 → 21 → 20: refused
example : deltaWindow { refill (St.start 0 0) 0xB0000000 with clCur := 20 } = errS Gen.ERR_DELTA ∧
    Model.Delta.stepLen 20 0b101100 = none := ⟨by rfl, by decide⟩

open LbzVerif.Model.MtfDec LbzVerif.Lemmas.MtfOne LbzVerif.Lemmas.MtfRun in
/-- Started as `retrieve()` starts its MTF-value loop (`runChar =
imtf_row[0][0]`, `run = 0`, `shift = 0`) on any slide satisfying the layout
invariant whose logical list begins with the bytes in use, the retriever's
symbol actions over ANY bzip2-numbered symbol sequence give exactly the
reference `Spec.Mtf.unMtfRle2`: the same bytes when the reference accepts,
overflow / unterminated (never success) when it rejects. -/
theorem retrieve_symbols_sound (sl : Slide) (hinv : Inv sl) (used : List UInt8)
    (h1 : 1 ≤ used.length) (h256 : used.length ≤ 256)
    (habs : ∃ junk, abs sl = used ++ junk) (syms : List Nat)
    (hsyms : ∀ s ∈ syms, s ≤ used.length + 1) :
    ∃ st0, initRun sl = some st0 ∧
      toOpt (symLoop st0 (syms.map (internalSym used.length))) =
        Spec.Mtf.unMtfRle2 used syms Gen.MAX_BLOCK_SIZE := by
  obtain ⟨st0, e1, e2⟩ := Props.C05.Mtf.runAccum_sound_init sl hinv used h1 h256 habs
    Gen.MAX_BLOCK_SIZE (Nat.le_refl _) syms hsyms
  exact ⟨st0, e1, by rw [symLoop_eq_consume]; exact e2⟩

open LbzVerif.Model.MtfDec LbzVerif.Lemmas.MtfOne LbzVerif.Lemmas.MtfRun in
example : ∃ st0, initRun (slideOf ([97, 98, 99] ++ List.replicate 253 0)) = some st0 ∧
    toOpt (symLoop st0 ([1, 2, 3, 0, 0, 3, 4].map (internalSym 3))) =
      some [97, 97, 98, 99, 99, 99, 99, 97] := by
  obtain ⟨st0, e1, e2⟩ := retrieve_symbols_sound (slideOf ([97, 98, 99] ++ List.replicate 253 0))
    (inv_slideOf _) [97, 98, 99] (by decide) (by decide)
    ⟨List.replicate 253 0, by rw [abs_slideOf _ (by rw [List.length_append, List.length_replicate]; rfl)]⟩
    [1, 2, 3, 0, 0, 3, 4] (by decide)
  exact ⟨st0, e1, e2.trans (by decide)⟩

end LbzVerif.Props.C05.Retrieve
