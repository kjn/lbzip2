/-
  C05 — the stage references agree, and the decoder's back end composed.
  The stages have three references: the list-level `Spec.Ibwt.ibwt` / `Spec.Ibwt.derand`
  (Model/Ibwt.lean) and `Spec.UnRle1.unRle1` (Model/Emit.lean); the stages `Spec.Bzip2.ibwt`
  (counting sort) / `derand` / `unRle1` of the oracle `Spec.Bzip2.decodeBlock`; and C04's
  `Spec.unRle1` (Spec/Rle1.lean).  They are the same functions (`spec_ibwt_link`,
  `spec_derand_link`, `spec_unrle1_link`), so the per-stage theorems compose into one
  statement about the oracle's stages, `decode_emit_sound` (`decode_emit_prefix` for MORE),
  and about `Spec.Bzip2.decodeBlock` itself, `decode_emit_decodeBlock`.
-/
import LbzVerif.Props.C05.Ibwt
import LbzVerif.Props.C05.Emit
import LbzVerif.Lemmas.SpecIbwtLink
import LbzVerif.Lemmas.SpecTailLink
import LbzVerif.Basic.Crc

namespace LbzVerif.Props.C05

open LbzVerif.Model.Emit

/-- The oracle's inverse BWT (counting-sort formulation
over arrays) is the textbook one (stable sort of the positions, follow the
successor vector) for every last column and every primary index below its
length; at or beyond the length the oracle rejects (`badOrigPtr`). -/
theorem spec_ibwt_link (l : Array UInt8) (idx : Nat) :
    Spec.Bzip2.ibwt l idx =
      if idx < l.size then some (Spec.Ibwt.ibwt l.toList idx).toArray else none :=
  Lemmas.SpecIbwtLink.bzip2_ibwt_eq l idx

example : Spec.Bzip2.ibwt #[110, 110, 98, 97, 97, 97] 3 = some #[98, 97, 110, 97, 110, 97] ∧
    Spec.Ibwt.ibwt [110, 110, 98, 97, 97, 97] 3 = [98, 97, 110, 97, 110, 97] ∧
    Spec.Bzip2.ibwt #[110, 110, 98, 97, 97, 97] 6 = none := by
  rw [spec_ibwt_link, spec_ibwt_link]
  decide +kernel

/-- The oracle's derandomisation is the list-level automaton over
the generated table. -/
theorem spec_derand_link (bs : Array UInt8) :
    (Spec.Bzip2.derand bs).toList = Spec.Ibwt.derand Gen.randTable bs.toList := by
  simp [Spec.Bzip2.derand, Spec.Ibwt.derand, Lemmas.SpecTailLink.derandGo_eq]

-- 620 bytes of value 5: exactly byte 617 is flipped (evaluated on the list-level reference)
example : ((Spec.Bzip2.derand (Array.replicate 620 5)).toList.zipIdx.filter
    (fun (b, _) => b != 5)) = [(4, 617)] := by
  rw [spec_derand_link]
  decide +kernel

/-- Three definitions of the final run-length decoding
(the list-level one, C04's, the oracle's) are one function; the oracle's only
rejection is `missingCount`, exactly where the other two return `none`. -/
theorem spec_unrle1_link (bs : Array UInt8) :
    Spec.UnRle1.unRle1 bs.toList = Spec.unRle1 bs.toList ∧
    Spec.Bzip2.unRle1 bs =
      (match Spec.UnRle1.unRle1 bs.toList with
       | none => .error .missingCount
       | some out => .ok out.toArray) :=
  ⟨Lemmas.SpecTailLink.unRle1_refs_agree bs.toList, Lemmas.SpecTailLink.bzip2_unRle1_eq bs⟩

example : Spec.Bzip2.unRle1 #[1, 2, 2, 2, 2] = .error .missingCount ∧
    Spec.unRle1 [1, 2, 2, 2, 2] = none ∧
    Spec.Bzip2.unRle1 #[1, 2, 2, 2, 2, 3] = .ok #[1, 2, 2, 2, 2, 2, 2, 2] ∧
    Spec.unRle1 [1, 2, 2, 2, 2, 3] = some [1, 2, 2, 2, 2, 2, 2, 2] := by decide +kernel

/-- The oracle's stages after the MTF stage, on a retrieved block
`(tt, origPtr, rand)`: inverse BWT, derandomisation if flagged, final
run-length decoding. -/
def specStages (rand : Bool) (idx : Nat) (tt : Array UInt8) :
    Except Spec.Bzip2.Reject (Array UInt8) :=
  match Spec.Bzip2.ibwt tt idx with
  | none => .error .badOrigPtr
  | some t => Spec.Bzip2.unRle1 (if rand then Spec.Bzip2.derand t else t)

/-- A parsed block for the example: level 1, alphabet {a, b, n}, symbols
`3 RUNA 3 3 RUNB` (MTF/RLE2 coding of the last column `nnbaaa`), primary
index 3, stored CRC = CRC of "banana". -/
def bananaBlock : Spec.Bzip2.Block :=
  { level := 1, startBit := 32, endBit := 0,
    storedCrc := (Basic.crc32Arr #[98, 97, 110, 97, 110, 97]).toNat,
    rand := false, origPtr := 3, used := [97, 98, 110], nGroups := 2, selectors := [0],
    tables := [], nSelectorsUsed := 1, syms := #[3, 0, 3, 3, 1] }

/-- The oracle's `decodeBlock` is its MTF stage, the emptiness test,
`specStages` and the CRC comparison. -/
theorem decodeBlock_of_stages (b : Spec.Bzip2.Block) (tt : Array UInt8)
    (hmtf : Spec.Bzip2.unMtfRle2 b.used (Spec.Bzip2.blockCap b.level) b.syms.toList = .ok tt)
    (hne : tt.size ≠ 0) :
    Spec.Bzip2.decodeBlock b =
      match specStages b.rand b.origPtr tt with
      | .error e => .error e
      | .ok out =>
        if (Basic.crc32Arr out).toNat = b.storedCrc then .ok { nblock := tt.size, bytes := out }
        else .error .blockCrc := by
  unfold Spec.Bzip2.decodeBlock specStages
  simp only [hmtf, hne, if_false]
  cases Spec.Bzip2.ibwt tt b.origPtr <;> rfl

example : Spec.Bzip2.decodeBlock bananaBlock =
    match specStages bananaBlock.rand bananaBlock.origPtr #[110, 110, 98, 97, 97, 97] with
    | .error e => .error e
    | .ok out =>
      if (Basic.crc32Arr out).toNat = bananaBlock.storedCrc then
        .ok { nblock := (#[110, 110, 98, 97, 97, 97] : Array UInt8).size, bytes := out }
      else .error .blockCrc :=
  decodeBlock_of_stages bananaBlock #[110, 110, 98, 97, 97, 97] (by decide +kernel) (by simp)

/-- The oracle's stages in terms of the list-level references (the three links
applied). -/
theorem specStages_eq (rand : Bool) (idx : Nat) (L : List UInt8) (hidx : idx < L.length) :
    specStages rand idx L.toArray =
      match Spec.UnRle1.unRle1 (if rand then Spec.Ibwt.derand Gen.randTable (Spec.Ibwt.ibwt L idx)
                                 else Spec.Ibwt.ibwt L idx) with
      | none => .error .missingCount
      | some out => .ok out.toArray := by
  unfold specStages
  rw [spec_ibwt_link]
  simp only [List.size_toArray, hidx, if_true]
  rw [(spec_unrle1_link _).2]
  cases rand with
  | false => simp
  | true =>
    simp only [if_true]
    rw [spec_derand_link]

example : specStages true 3 #[110, 110, 98, 97, 97, 97] = .ok #[98, 97, 110, 97, 110, 97] := by
  rw [show (#[110, 110, 98, 97, 97, 97] : Array UInt8) = [110, 110, 98, 97, 97, 97].toArray from rfl,
    specStages_eq true 3 _ (by decide)]
  decide +kernel

/-- What `emit()` reads after `decode()`: the reference inverse BWT, derandomised if flagged. -/
theorem nodes_spec (rand : Bool) (L : List UInt8) (idx : Nat) (hidx : idx < L.length) :
    Model.Ibwt.nodes rand idx L =
      if rand then Spec.Ibwt.derand Gen.randTable (Spec.Ibwt.ibwt L idx)
      else Spec.Ibwt.ibwt L idx := by
  cases rand with
  | false => exact ibwt_sound L idx hidx
  | true => exact ibwt_sound_rand L idx hidx

theorem nodes_length (rand : Bool) (L : List UInt8) (idx : Nat) (hidx : idx < L.length) :
    (Model.Ibwt.nodes rand idx L).length = L.length := by
  rw [nodes_spec rand L idx hidx]
  cases rand with
  | false => exact Lemmas.IbwtSort.follow_length L _ _ _
  | true =>
    rw [if_pos rfl, Lemmas.IbwtDerand.derand_randTable, Lemmas.IbwtDerand.flipsGo_length]
    exact Lemmas.IbwtSort.follow_length L _ _ _

/-- The oracle's stages run-length decode what `emit()` reads. -/
theorem specStages_nodes (rand : Bool) (L : List UInt8) (idx : Nat) (hidx : idx < L.length) :
    specStages rand idx L.toArray =
      match Spec.UnRle1.unRle1 (Model.Ibwt.nodes rand idx L) with
      | none => .error .missingCount
      | some out => .ok out.toArray := by
  rw [nodes_spec rand L idx hidx]
  exact specStages_eq rand idx L hidx

/-- `decode()` followed by any sequence of `emit()`
calls on a retrieved block `(L, idx, rand)` (`idx < |L|`, as `retrieve()`
guarantees; sizes below `0xFFFFFFFF`), against the oracle's stages
ibwt → derand → unRle1 → crc of the same block:
* OK ⇒ the oracle's stages accept, the bytes written over all calls are the
  oracle's plaintext, and `ds->crc` is the CRC the oracle compares with the
  stored block CRC;
* ERR_RUNLEN ⇒ the oracle's stages reject with `missingCount`;
* never `abort`;
* with enough output space the converse holds: OK iff the oracle's stages
  accept, ERR_RUNLEN iff they reject. -/
theorem decode_emit_sound (rand : Bool) (L : List UInt8) (idx : Nat) (hidx : idx < L.length)
    (hL : L.length < M1) (sizes : List Nat) (hs : ∀ z ∈ sizes, z < M1) :
    let r := run (St.init (Model.Ibwt.nodes rand idx L)) sizes
    (r.final = .ok →
        specStages rand idx L.toArray = .ok r.bytes.toArray ∧
        r.crc = Basic.crc32Arr r.bytes.toArray) ∧
    (r.final = .errRunlen → specStages rand idx L.toArray = .error .missingCount) ∧
    r.final ≠ .abort ∧
    ((Lemmas.Emit.unOut 0 0 (Model.Ibwt.nodes rand idx L)).length < sizes.sum →
        (r.final = .ok ↔ ∃ out, specStages rand idx L.toArray = .ok out) ∧
        (r.final = .errRunlen ↔ specStages rand idx L.toArray = .error .missingCount)) := by
  intro r
  have hlen : (Model.Ibwt.nodes rand idx L).length < M1 := by
    rw [nodes_length rand L idx hidx]
    exact hL
  have hst := specStages_nodes rand L idx hidx
  obtain ⟨e1, e2, e3, _⟩ := emit_sound (Model.Ibwt.nodes rand idx L) hlen sizes hs
  refine ⟨?_, ?_, e3, ?_⟩
  · intro hok
    obtain ⟨a1, a2⟩ := e1 hok
    rw [hst, a1]
    exact ⟨rfl, by rw [a2, Lemmas.SpecTailLink.crc_link]⟩
  · intro herr
    rw [hst, e2 herr]
  · intro hbig
    obtain ⟨b1, b2⟩ := emit_status_iff (Model.Ibwt.nodes rand idx L) hlen sizes hs hbig
    rw [hst]
    constructor
    · rw [b1]
      cases Spec.UnRle1.unRle1 (Model.Ibwt.nodes rand idx L) <;> simp
    · rw [b2]
      cases Spec.UnRle1.unRle1 (Model.Ibwt.nodes rand idx L) <;> simp

-- concrete instance: L = nnbaaa, idx 3, not randomised, output cut into buffers of 2, 2, 50;
-- and a block whose text ends in four equal bytes: both sides reject
example :
    (run (St.init (Model.Ibwt.nodes false 3 [110, 110, 98, 97, 97, 97])) [2, 2, 50]).final = .ok ∧
    (run (St.init (Model.Ibwt.nodes false 3 [110, 110, 98, 97, 97, 97])) [2, 2, 50]).bytes =
      [98, 97, 110, 97, 110, 97] ∧
    (run (St.init (Model.Ibwt.nodes false 0 [7, 7, 7, 7])) [50]).final = .errRunlen := by
  decide +kernel

example :
    specStages false 3 [110, 110, 98, 97, 97, 97].toArray = .ok #[98, 97, 110, 97, 110, 97] ∧
    specStages false 0 [7, 7, 7, 7].toArray = .error .missingCount := by
  rw [specStages_eq _ _ _ (by decide), specStages_eq _ _ _ (by decide)]
  decide +kernel

/-- The same, stated about the oracle's
`decodeBlock` of a parsed block `b` whose MTF stage yields the (non-empty)
block `tt` with `origPtr < |tt|`: what `decode()` + `emit()` + lbzip2's CRC
comparison (`ds->crc` against the stored block CRC) conclude is what the
oracle concludes — same plaintext on acceptance, `blockCrc` on a CRC mismatch,
`missingCount` on ERR_RUNLEN. -/
theorem decode_emit_decodeBlock (b : Spec.Bzip2.Block) (tt : Array UInt8)
    (hmtf : Spec.Bzip2.unMtfRle2 b.used (Spec.Bzip2.blockCap b.level) b.syms.toList = .ok tt)
    (hidx : b.origPtr < tt.size) (hL : tt.size < M1) (sizes : List Nat)
    (hs : ∀ z ∈ sizes, z < M1) :
    let r := run (St.init (Model.Ibwt.nodes b.rand b.origPtr tt.toList)) sizes
    (r.final = .ok → r.crc.toNat = b.storedCrc →
        Spec.Bzip2.decodeBlock b = .ok { nblock := tt.size, bytes := r.bytes.toArray }) ∧
    (r.final = .ok → r.crc.toNat ≠ b.storedCrc →
        Spec.Bzip2.decodeBlock b = .error .blockCrc) ∧
    (r.final = .errRunlen → Spec.Bzip2.decodeBlock b = .error .missingCount) := by
  intro r
  have hne : tt.size ≠ 0 := by omega
  have hd := decodeBlock_of_stages b tt hmtf hne
  obtain ⟨c1, c2, _, _⟩ := decode_emit_sound b.rand tt.toList b.origPtr (by simpa using hidx)
    (by simpa using hL) sizes hs
  rw [Array.toArray_toList] at c1 c2
  refine ⟨?_, ?_, ?_⟩
  · intro hok hcrc
    obtain ⟨a1, a2⟩ := c1 hok
    rw [hd, a1]
    have : (Basic.crc32Arr r.bytes.toArray).toNat = b.storedCrc := by rw [← a2]; exact hcrc
    exact if_pos this
  · intro hok hcrc
    obtain ⟨a1, a2⟩ := c1 hok
    rw [hd, a1]
    have : ¬ (Basic.crc32Arr r.bytes.toArray).toNat = b.storedCrc := by rw [← a2]; exact hcrc
    exact if_neg this
  · intro herr
    rw [hd, c2 herr]

example :
    Spec.Bzip2.unMtfRle2 bananaBlock.used (Spec.Bzip2.blockCap bananaBlock.level)
      bananaBlock.syms.toList = .ok #[110, 110, 98, 97, 97, 97] ∧
    (run (St.init (Model.Ibwt.nodes false 3 [110, 110, 98, 97, 97, 97])) [4, 4]).final = .ok ∧
    (run (St.init (Model.Ibwt.nodes false 3 [110, 110, 98, 97, 97, 97])) [4, 4]).crc.toNat =
      bananaBlock.storedCrc ∧
    (run (St.init (Model.Ibwt.nodes false 3 [110, 110, 98, 97, 97, 97])) [4, 4]).bytes =
      [98, 97, 110, 97, 110, 97] := by
  decide +kernel

/-- If the output space runs out first (last call
returned MORE) and the oracle's stages accept the block, the bytes written so
far are a prefix of the oracle's plaintext. -/
theorem decode_emit_prefix (rand : Bool) (L : List UInt8) (idx : Nat) (hidx : idx < L.length)
    (hL : L.length < M1) (sizes : List Nat) (hs : ∀ z ∈ sizes, z < M1) (out : Array UInt8)
    (hacc : specStages rand idx L.toArray = .ok out)
    (hmore : (run (St.init (Model.Ibwt.nodes rand idx L)) sizes).final = .more) :
    ∃ rest, out.toList = (run (St.init (Model.Ibwt.nodes rand idx L)) sizes).bytes ++ rest := by
  have hlen : (Model.Ibwt.nodes rand idx L).length < M1 := by
    rw [nodes_length rand L idx hidx]
    exact hL
  have hst := specStages_nodes rand L idx hidx
  rw [hacc] at hst
  obtain ⟨_, _, _, e4⟩ := emit_sound (Model.Ibwt.nodes rand idx L) hlen sizes hs
  obtain ⟨rest, hr⟩ := e4 hmore
  refine ⟨rest, ?_⟩
  rw [← hr]
  unfold Spec.UnRle1.unRle1 at hst
  rw [Lemmas.Emit.go_eq] at hst
  by_cases hb : Lemmas.Emit.unBad 0 0 (Model.Ibwt.nodes rand idx L) = true
  · simp [hb] at hst
  · simp [hb] at hst
    rw [hst]

example :
    (run (St.init (Model.Ibwt.nodes false 3 [110, 110, 98, 97, 97, 97])) [2, 2]).final = .more ∧
    (run (St.init (Model.Ibwt.nodes false 3 [110, 110, 98, 97, 97, 97])) [2, 2]).bytes =
      [98, 97, 110, 97] := by
  decide +kernel

end LbzVerif.Props.C05
