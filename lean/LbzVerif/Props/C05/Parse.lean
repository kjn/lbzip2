/-
  C05 — header parser facts over the step function translated from parse.c on every run
  (`Gen.parseStep`, `Gen.parseAtEof`).  Trailing-data rule: after a complete stream the parser is
  in STREAM_MAGIC_1; the remaining data is ignored (FINISH, success) exactly when it does not
  begin with the 16-bit words "BZ", "h1".."h9"; once a full header has been read the parser is
  committed: anything that is not a block header or an end-of-stream marker is ERR_HEADER, and end
  of input is ERR_EOF.  Every magic word is compared (`magic_enforced`); end of input is success
  only between streams or inside a partial "BZ" prefix (`eof_rule`).
-/
import LbzVerif.Gen.Parse
import LbzVerif.Lemmas.ExpandParse

namespace LbzVerif.Props.C05.Parse
open LbzVerif.Gen
open LbzVerif.Lemmas.ExpandParse (ps0 ps1 ps2 ps3 ps4 ps7 ps8 eof_instream)

/-- the 16-bit word "BZ" -/
def wBZ : Nat := 0x425A
/-- the 16-bit word is one of "h1" … "h9" -/
def isLevelWord (w : Nat) : Bool := decide (0x6831 ≤ w ∧ w ≤ 0x6839)

theorem trailing_not_BZ_ignored (p : ParseSt) (w : Nat)
    (hs : p.state = PS_STREAM_MAGIC_1) (hw : w ≠ wBZ) :
    (parseStep p w).2 = some RV_FINISH ∧ (parseStep p w).1.garbage = 16 ∧
    (parseStep p w).1.state = PS_ACCEPT := by
  rw [ps0 p w hs, if_neg (show ¬ w = 16986 from hw)]
  exact ⟨rfl, rfl, rfl⟩

theorem trailing_BZ_continues (p : ParseSt)
    (hs : p.state = PS_STREAM_MAGIC_1) :
    (parseStep p wBZ).2 = none ∧ (parseStep p wBZ).1.state = PS_STREAM_MAGIC_2 := by
  rw [ps0 p wBZ hs, if_pos (show wBZ = 16986 from rfl)]
  exact ⟨rfl, rfl⟩

theorem trailing_BZ_nonlevel_ignored (p : ParseSt) (w : Nat)
    (hs : p.state = PS_STREAM_MAGIC_2) (hw : isLevelWord w = false) :
    (parseStep p w).2 = some RV_FINISH ∧ (parseStep p w).1.garbage = 32 ∧
    (parseStep p w).1.state = PS_ACCEPT := by
  rw [ps1 p w hs, if_neg (of_decide_eq_false hw)]
  exact ⟨rfl, rfl, rfl⟩

/-- A full "BZh1".."BZh9" header commits the parser to a new stream with that
    level. -/
theorem full_header_commits (p : ParseSt) (w : Nat)
    (hs : p.state = PS_STREAM_MAGIC_2) (hw : isLevelWord w = true) :
    (parseStep p w).2 = none ∧ (parseStep p w).1.state = PS_BLOCK_MAGIC_1 ∧
    (parseStep p w).1.bs100k = w &&& 15 := by
  rw [ps1 p w hs, if_pos (of_decide_eq_true hw)]
  exact ⟨rfl, rfl, rfl⟩

/-- ... and the level is the digit. -/
theorem level_of_word (w : Nat) (hw : isLevelWord w = true) :
    1 ≤ w &&& 15 ∧ w &&& 15 ≤ 9 ∧ w &&& 15 = w - 0x6830 := by
  have hr : 0x6831 ≤ w ∧ w ≤ 0x6839 := of_decide_eq_true hw
  have := Lemmas.ExpandParse.levelWord_and15 w hr.1 hr.2
  omega

/-- Magic words are all compared: in each of the five magic states the only
    words that do not produce ERR_HEADER are the expected ones. -/
theorem magic_enforced (p : ParseSt) (w : Nat) :
    (p.state = PS_BLOCK_MAGIC_1 → w ≠ 0x3141 → w ≠ 0x1772 →
        (parseStep p w).2 = some ERR_HEADER) ∧
    (p.state = PS_BLOCK_MAGIC_2 → w ≠ 0x5926 → (parseStep p w).2 = some ERR_HEADER) ∧
    (p.state = PS_BLOCK_MAGIC_3 → w ≠ 0x5359 → (parseStep p w).2 = some ERR_HEADER) ∧
    (p.state = PS_EOS_2 → w ≠ 0x4538 → (parseStep p w).2 = some ERR_HEADER) ∧
    (p.state = PS_EOS_3 → w ≠ 0x5090 → (parseStep p w).2 = some ERR_HEADER) := by
  refine ⟨?_, ?_, ?_, ?_, ?_⟩
  · intro hs h1 h2
    rw [ps2 p w hs, if_neg h2, if_neg h1]
    rfl
  · intro hs h1
    rw [ps3 p w hs, if_neg h1]
    rfl
  · intro hs h1
    rw [ps4 p w hs, if_neg h1]
    rfl
  · intro hs h1
    rw [ps7 p w hs, if_neg h1]
    rfl
  · intro hs h1
    rw [ps8 p w hs, if_neg h1]
    rfl

/-- End of input: success only in STREAM_MAGIC_1 / STREAM_MAGIC_2 (between
    streams, possibly after a lone "BZ"); in every other state ERR_EOF. -/
theorem eof_rule (p : ParseSt) :
    ((parseAtEof p).2 = RV_FINISH ↔
        (p.state = PS_STREAM_MAGIC_1 ∨ p.state = PS_STREAM_MAGIC_2)) ∧
    ((parseAtEof p).2 ≠ RV_FINISH → (parseAtEof p).2 = ERR_EOF) := by
  unfold parseAtEof
  by_cases h1 : p.state = PS_STREAM_MAGIC_1
  · simp [h1, RV_FINISH]
  · by_cases h2 : p.state = PS_STREAM_MAGIC_2
    · simp [h2, RV_FINISH, PS_STREAM_MAGIC_1, PS_STREAM_MAGIC_2]
    · simp [h1, h2, RV_FINISH, ERR_EOF]

/-- A committed stream (full header read, no block yet) that ends is an error,
    not trailing garbage. -/
theorem header_only_is_eof_error (p : ParseSt) (w : Nat)
    (hs : p.state = PS_STREAM_MAGIC_2) (hw : isLevelWord w = true) :
    (parseAtEof (parseStep p w).1).2 = ERR_EOF := by
  have h := (full_header_commits p w hs hw).2.1
  rw [eof_instream _ (by rw [h]; decide) (by rw [h]; decide)]

example : (parseStep { parserInit 9 false with state := PS_STREAM_MAGIC_1 } 0x1234).2
    = some RV_FINISH := by decide
example : isLevelWord 0x6835 = true ∧ isLevelWord 0x6830 = false ∧
    isLevelWord 0x683A = false := by decide

end LbzVerif.Props.C05.Parse
