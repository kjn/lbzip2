/-
  C08 — index / counter arithmetic of `retrieve()` that keeps it inside its
  buffers, with every limit taken from Gen (regenerated from the source):

  * `fastpath_refills`: the fast decoding path (taken only when at least
    `Gen.fastWords` = 32 input words are available) never reads more than
    `Gen.fastWords` words for one group; the bit buffer never underflows and
    never holds more than 63 bits.  The bound is tight (example).
  * `selectors_enough`: a block that ends successfully has its EOB among the
    first `Gen.selectorBound · GROUP_SIZE` symbols, so clamping the number of
    selectors to `Gen.selectorBound` (18001) cannot lose a needed group.
  * `run_shift_bound`: while RUN symbols are accepted the shift count stays
    ≤ 19 and `run` stays far below 2³² (no shift UB, no wrap-around).
  * `tt_link_bound`: the list construction of `decode()` stores only into
    `tt[0, n)`, at most once per cell, and leaves every cell with a pointer
    `< n`; `rle_index_bound_partial`: the traversal `emit()` performs
    (`t[p >> 8]`) never indexes at or beyond `block_size` — non-randomised
    blocks (the randomised path, which re-forms the list as `i ↦ i+1`, is
    `Props.C05.rle_index_bound_rand`; both together: Props/C08/RleIndex.lean).

  Models: `Lemmas.DeltaFastpath` (`refills`, `bufOK`, `accStep`), `Model.Ibwt`.
  `accStep` / `accRun` keep only the counters of `retrieve()`'s symbol loop (`n`,
  `run`, `shift`, three kinds of symbol, no 32-bit truncation); no theorem ties
  them to `Model.MtfDec.consume`, for which the shift bound is proved
  separately (`Props.C08.Slide.shift_bound`).
-/
import LbzVerif.Lemmas.DeltaFastpath
import LbzVerif.Lemmas.MtfRun
import LbzVerif.Lemmas.IbwtLink
import LbzVerif.Props.C08.RleIndex

namespace LbzVerif.Props.C08

open LbzVerif.Lemmas.DeltaFastpath

/-- The constants fit: 63 live bits at most, plus 49 symbols of 20 bits dumped
before the last fetch, is less than 33 words. -/
theorem fastpath_consts :
    63 + Gen.MAX_CODE_LENGTH * (Gen.GROUP_SIZE - 1) < 32 * (Gen.fastWords + 1) ∧
      Gen.MAX_CODE_LENGTH ≤ 32 := by decide

/-- Each `NEED_FAST` fetches one word and only when
fewer than 32 bits are live (by definition of `refills`); over one group of at
most `GROUP_SIZE` symbols of at most `MAX_CODE_LENGTH` bits, starting with any
legal buffer fill `w ≤ 63`, at most `Gen.fastWords` words are fetched — exactly
the number the guard `(limit - next) >= 32` has made sure are there — and no
`DUMP` underflows / the buffer never exceeds 63 bits. -/
theorem fastpath_refills (w : Nat) (lens : List Nat) (hw : w ≤ 63)
    (hn : lens.length ≤ Gen.GROUP_SIZE) (hk : ∀ k ∈ lens, k ≤ Gen.MAX_CODE_LENGTH) :
    refills w lens ≤ Gen.fastWords ∧ bufOK w lens := by
  obtain ⟨hc, h32⟩ := fastpath_consts
  have hk32 : ∀ k ∈ lens, k ≤ 32 := fun k h => Nat.le_trans (hk k h) h32
  refine ⟨?_, bufOK_of_le lens w hw hk32⟩
  have h1 := refills_le lens w hw hk32
  have h2 := sum_le lens.dropLast Gen.MAX_CODE_LENGTH
    (fun k h => hk k (List.dropLast_subset lens h))
  have h3 : lens.dropLast.length ≤ Gen.GROUP_SIZE - 1 := by
    simp only [List.length_dropLast]; omega
  have h4 := Nat.mul_le_mul_left Gen.MAX_CODE_LENGTH h3
  omega

-- tight: 19 live bits and fifty 20-bit codes fetch exactly 32 words
example : refills 19 (List.replicate 50 20) = 32 ∧ refills 20 (List.replicate 50 20) = 31 := by
  decide

/-- The numeric fact behind the clamp `if (num_selectors > 18001)`. -/
theorem selectors_enough_consts :
    Gen.selectorBound * Gen.GROUP_SIZE > Gen.MAX_BLOCK_SIZE + 1 := by decide

/-- If the symbols `ss` (RUN-A / RUN-B / MTF values)
are accumulated without `ERR_OVERFLOW` from the initial state and the EOB that
follows them passes its own overflow test, then EOB is symbol number
`ss.length + 1 ≤ MAX_BLOCK_SIZE + 1`, i.e. it lies within the first
`Gen.selectorBound` groups. -/
theorem selectors_enough (ss : List Sym) (a : Acc)
    (h : accRun ⟨0, 0, 0⟩ ss = some a) (heob : ¬ a.run > Gen.MAX_BLOCK_SIZE - a.n) :
    ss.length + 1 ≤ Gen.MAX_BLOCK_SIZE + 1 ∧
      ss.length + 1 < Gen.selectorBound * Gen.GROUP_SIZE := by
  have hi : AccInv ⟨0, 0, 0⟩ := by simp [AccInv]
  obtain ⟨⟨hn, _⟩, hc⟩ := accRun_count ss ⟨0, 0, 0⟩ a hi h
  have := selectors_enough_consts
  simp only at hc
  omega

example : accRun ⟨0, 0, 0⟩ [.runA, .runB, .other, .other, .runB] = some ⟨6, 3, 1⟩ := by decide

/-- Whenever a RUN symbol is accepted (`run ≤
MAX_BLOCK_SIZE`) in a reachable accumulator state, the shift count is ≤ 19
and the new run length is < 2³². -/
theorem run_shift_bound (a : Acc) (hi : AccInv a) (h : a.run ≤ Gen.MAX_BLOCK_SIZE) :
    a.shift ≤ 19 ∧ a.run + (2 <<< a.shift) < 2 ^ 32 := by
  obtain ⟨hs, _, _, h21, _⟩ := Lemmas.MtfRun.accum_step a.run a.shift 258 (Or.inr rfl) hi.2 h
  exact ⟨hs, by rw [Nat.shiftLeft_eq]; omega⟩

example : AccInv ⟨0, 524287, 19⟩ ∧ (524287 : Nat) ≤ Gen.MAX_BLOCK_SIZE := by
  simp [AccInv, Gen.MAX_BLOCK_SIZE]

/-- In iteration `k < n` of
`tt[ftab[uc]] += i << 8; ftab[uc]++` the store index `ftab[tt[k] & 0xff]` is
`pos L k < n` (inside the block, hence inside the `tt` allocation), distinct
iterations store to distinct cells, and afterwards every cell of `tt[0,n)`
still has its byte and has a pointer `< n` (so `+=` never carried into the
pointer of another node; with `n ≤ 900000` a cell then fits 28 bits:
`tt_cells_28bit`). -/
theorem tt_link_bound (L : List UInt8) :
    (∀ k, k < L.length → Lemmas.Ibwt.pos L k < L.length) ∧
    (∀ i j, i < L.length → j < L.length → Lemmas.Ibwt.pos L i = Lemmas.Ibwt.pos L j → i = j) ∧
    (let tt := (Model.Ibwt.link (L.map (·.toNat)) (Model.Ibwt.cumulate 0 (Model.Ibwt.counts L))
        L.length).1
     tt.length = L.length ∧ ∀ q, q < L.length →
       tt.getD q 0 % 256 = Lemmas.Ibwt.byteAt L q ∧ tt.getD q 0 >>> 8 < L.length) := by
  obtain ⟨hfl, hfc⟩ := Lemmas.Ibwt.cumulate_counts L
  have hl := Lemmas.IbwtLink.link_correct L _ hfl hfc
  exact ⟨fun k hk => Lemmas.Ibwt.pos_lt L k hk,
    fun i j hi hj h => Lemmas.Ibwt.pos_inj L i j hi hj h, hl.1, hl.2.2⟩

/-- In the loop itself: the slot read from `ftab` in iteration `k` IS
`pos L k` (so the model's `List.set`, which ignores out-of-range indices, never
hides an out-of-bounds store). -/
theorem tt_link_store_index (L : List UInt8) (tt ftab : List Nat) (k : Nat)
    (hk : k < L.length) (h : Lemmas.Ibwt.Ik L tt ftab k) :
    ftab.getD (tt.getD k 0 % 256) 0 = Lemmas.Ibwt.pos L k ∧
      Lemmas.Ibwt.pos L k < tt.length := by
  refine ⟨(Lemmas.Ibwt.linkStep_inv L tt ftab k hk h).2, ?_⟩
  rw [h.ttLen]; exact Lemmas.Ibwt.pos_lt L k hk

/-- Non-randomised blocks (see the header). -/
theorem rle_index_bound_partial (L : List UInt8) (idx : Nat) (hidx : idx < L.length) :
    let d := Model.Ibwt.decode false idx L (Model.Ibwt.counts L)
    Model.Ibwt.walkMaxPtr d.tt L.length d.rleIndex < L.length :=
  rle_index_bound false L idx hidx

example :
    (let d := Model.Ibwt.decode false 3 [110, 110, 98, 97, 97, 97]
        (Model.Ibwt.counts [110, 110, 98, 97, 97, 97]);
     Model.Ibwt.walkMaxPtr d.tt 6 d.rleIndex = 5 ∧ d.tt.map (· >>> 8) = [3, 4, 5, 2, 0, 1]) := by
  simp only [Lemmas.IbwtTests.decode_false_nnbaaa]
  decide

end LbzVerif.Props.C08
