/-
  C08 — `rle_index_bound`: the traversal `emit()` performs over the list that
  `decode()` leaves (`c = p = t[p >> 8]`, `block_size` times from
  `rle_index`) never indexes at or beyond `block_size` — for both paths of
  `decode()`.  (Props/C08/Arith.lean has `rle_index_bound_partial` for the
  non-randomised path only; the randomised path — in-situ IBWT, derandomised,
  list re-formed as `i ↦ i+1`, `rle_index = 0` — is
  `Props.C05.rle_index_bound_rand`.  The last cell's pointer is
  `block_size` itself; it is stored but never followed.)

  `tt_cells_28bit`: for a block of at most `MAX_BLOCK_SIZE` bytes every cell
  `decode()` leaves is below 2^28 ("Bits 28-31 are unused (always clear)"), so
  the model's use of unbounded `Nat` cells hides no `uint32_t` wrap-around.
-/
import LbzVerif.Lemmas.Ibwt
import LbzVerif.Lemmas.IbwtTests
import LbzVerif.Props.C05.Ibwt
import LbzVerif.Gen.Consts

namespace LbzVerif.Props.C08

/-- For every block `L`, every primary index
`idx < |L|` (what `retrieve()` guarantees) and either value of the
randomisation flag: the largest pointer the traversal dereferences is below
`block_size`. -/
theorem rle_index_bound (rand : Bool) (L : List UInt8) (idx : Nat) (hidx : idx < L.length) :
    let d := Model.Ibwt.decode rand idx L (Model.Ibwt.counts L)
    Model.Ibwt.walkMaxPtr d.tt L.length d.rleIndex < L.length := by
  cases rand with
  | false => exact Lemmas.IbwtLink.decode_walk_bound L idx hidx
  | true => exact (C05.rle_index_bound_rand L idx (by omega)).2

example :
    (let d := Model.Ibwt.decode true 3 [110, 110, 98, 97, 97, 97]
        (Model.Ibwt.counts [110, 110, 98, 97, 97, 97]);
     Model.Ibwt.walkMaxPtr d.tt 6 d.rleIndex = 5 ∧ d.rleIndex = 0 ∧
       d.tt.map (· >>> 8) = [1, 2, 3, 4, 5, 6]) ∧
    (let d := Model.Ibwt.decode false 3 [110, 110, 98, 97, 97, 97]
        (Model.Ibwt.counts [110, 110, 98, 97, 97, 97]);
     Model.Ibwt.walkMaxPtr d.tt 6 d.rleIndex = 5) := by
  simp only [Lemmas.IbwtTests.decode_true_nnbaaa, Lemmas.IbwtTests.decode_false_nnbaaa]
  decide

/-- Every cell of the list `decode()` leaves (either
path) is `< (n + 1)·256`, hence `< 2^28` for `n ≤ MAX_BLOCK_SIZE`. -/
theorem tt_cells_28bit (rand : Bool) (L : List UInt8) (idx : Nat)
    (hL : L.length ≤ Gen.MAX_BLOCK_SIZE) (q : Nat) :
    (Model.Ibwt.decode rand idx L (Model.Ibwt.counts L)).tt.getD q 0 < 2 ^ 28 := by
  have h := Lemmas.IbwtRand.decode_cells_lt rand L idx q
  have h2 : (L.length + 1) * 256 ≤ (Gen.MAX_BLOCK_SIZE + 1) * 256 :=
    Nat.mul_le_mul_right _ (by omega)
  have h3 : (Gen.MAX_BLOCK_SIZE + 1) * 256 < 2 ^ 28 := by decide
  omega

-- the largest cell of the re-formed list of a 6-byte block is (6 << 8) + 'a'
example : (Model.Ibwt.decode true 3 [110, 110, 98, 97, 97, 97]
    (Model.Ibwt.counts [110, 110, 98, 97, 97, 97])).tt.getD 5 0 = 6 * 256 + 97 ∧
    (6 : Nat) ≤ Gen.MAX_BLOCK_SIZE := by
  rw [Lemmas.IbwtTests.decode_true_nnbaaa.1]
  decide

end LbzVerif.Props.C08
