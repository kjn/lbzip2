/-
  Props.C08.Slide — index bounds of decode.c's sliding lists (`mtf_one`).

  The model (Model.MtfDec) performs every access to `imtf_slide` through the
  checked `rd` / `wr` and every pointer decrement through a test against the
  array base, returning `none` on a violation; `imtf_row` offsets are natural
  numbers.  Hence "`mtfOne` returns `some`" *is* "every index read or written
  lies in `[0, SLIDE_LENGTH)` and no row pointer moves below `imtf_slide`".
  `Inv` (Lemmas.MtfOne) is the layout invariant: `imtf_slide` has
  `SLIDE_LENGTH` cells, there are 16 rows, row `j` starts at least
  `16 * (j - i)` cells above row `i ≤ j`, and row 15 ends inside the pool.
-/
import LbzVerif.Model.MtfDec
import LbzVerif.Lemmas.MtfOne
import LbzVerif.Lemmas.MtfRun

namespace LbzVerif.Props.C08.Slide
open LbzVerif.Model.MtfDec LbzVerif.Lemmas.MtfOne

/-- The state `retrieve()` sets up (`imtf_row[i] = imtf_slide + CMAP_BASE +
i * ROW_WIDTH`) satisfies the invariant, whatever the 256 list bytes are. -/
theorem slide_init (bytes : List UInt8) : Inv (slideOf bytes) := inv_slideOf bytes

/-- C08 (sliding lists): from any state satisfying the invariant, `mtf_one`
with any index 1…255 stays inside `imtf_slide[0, SLIDE_LENGTH)` (the model
returns `some`) and re-establishes the invariant.  (Index 0 is `abort()` in
the C code and is never passed by `retrieve()`.) -/
theorem slide_bounds (s : Slide) (h : Inv s) (c : UInt8) (hc : c ≠ 0) :
    ∃ b s', mtfOne s c = some (b, s') ∧ Inv s' := by
  obtain ⟨s', e1, e2, _⟩ := mtfOne_spec s h c (toNat_pos hc)
  exact ⟨_, s', e1, e2⟩

theorem slide_bounds_seq (bytes : List UInt8) (cs : List UInt8) (hcs : ∀ c ∈ cs, c ≠ 0) :
    ∃ bs s', mtfMany (slideOf bytes) cs = some (bs, s') ∧ Inv s' := by
  obtain ⟨bs, s', e1, e2, _⟩ := mtfMany_abs cs (slideOf bytes) (inv_slideOf bytes) hcs
  exact ⟨bs, s', e1, e2⟩

/-- Movement of the rows.  The fast path (index < ROW_WIDTH) leaves all row
pointers where they are.  The general path moves rows `0 … c / 16 - 1` down by
exactly one cell — after first rebuilding when row 0 sits at offset 0, which
puts row `i` at `CMAP_BASE + 16 * i` (the rows then occupy the top 256 bytes).
So row 0 is decremented only from a positive offset: it reaches offset 0 only
as the result of such a step and the next general-path call rebuilds. -/
theorem slide_rows (s : Slide) (h : Inv s) (c : UInt8) (hc : c ≠ 0) :
    ∃ b s', mtfOne s c = some (b, s') ∧
      (c.toNat < Gen.ROW_WIDTH → s'.row = s.row) ∧
      (Gen.ROW_WIDTH ≤ c.toNat → ∀ i, i < NUM_ROWS → s'.row.getD i 0 =
        (if s.row.getD 0 0 = 0 then CMAP_BASE + Gen.ROW_WIDTH * i else s.row.getD i 0)
          - (if i < c.toNat / Gen.ROW_WIDTH then 1 else 0)) := by
  obtain ⟨s', e1, _, _, e4, e5⟩ := mtfOne_spec s h c (toNat_pos hc)
  exact ⟨_, s', e1, e4, e5⟩

/-- After a rebuild the rows occupy exactly the top 256 bytes of the pool and
the logical list is unchanged. -/
theorem rebuild_top (s : Slide) (h : Inv s) :
    ∃ s1, rebuild s = some s1 ∧ Inv s1 ∧
      (∀ i, i < NUM_ROWS → s1.row.getD i 0 = CMAP_BASE + Gen.ROW_WIDTH * i) ∧
      abs s1 = abs s := by
  obtain ⟨s1, e1, e2, e3, e4⟩ := rebuild_spec s h
  refine ⟨s1, e1, e2, e3, ?_⟩
  apply List.ext_getElem
  · simp [abs_length]
  · intro k hk _
    rw [abs_length] at hk
    rw [abs_getElem, abs_getElem, e4 k hk]

/- Non-vacuity: the invariant holds in the initial state (identity list), so
the theorems apply to it; e.g. a general-path call with index 200 (rows 0…11
slide down by one; the campaign checks the concrete offsets against the C
code). -/
example : Inv (slideOf ((List.range 256).map UInt8.ofNat)) := slide_init _
example : ∃ b s', mtfOne (slideOf ((List.range 256).map UInt8.ofNat)) 200 = some (b, s') ∧ Inv s' :=
  slide_bounds _ (slide_init _) 200 (by decide)
example : ∃ b s', mtfOne (slideOf ((List.range 256).map UInt8.ofNat)) 200 = some (b, s') ∧
    s'.row.getD 0 0 = 7935 ∧ s'.row.getD 11 0 = 8111 ∧ s'.row.getD 12 0 = 8128 := by
  obtain ⟨b, s', e1, _, e3⟩ := slide_rows _ (slide_init _) 200 (by decide)
  refine ⟨b, s', e1, ?_, ?_, ?_⟩
  · have := e3 (by decide) 0 (by decide); rw [this]; decide
  · have := e3 (by decide) 11 (by decide); rw [this]; decide
  · have := e3 (by decide) 12 (by decide); rw [this]; decide

/-- C08 (`shift_bound`): whenever a shift is performed — a RUN symbol arrives
and the guard `run <= MAX_BLOCK_SIZE` holds — in a state with
`2^shift ≤ run + 1` (true at `run = 0, shift = 0`, at `run = 1, shift = 0`
after an MTF symbol, and re-established by this very step):
`shift ≤ 19 < 32` (no undefined shift), `RUN(s) << shift ≤ 2^20`, the 32-bit
addition does not wrap (`run` stays below `2^21`). -/
theorem shift_bound (run shift s : Nat) (hs : s = 257 ∨ s = 258)
    (hpow : 2 ^ shift ≤ run + 1) (hrun : run ≤ Gen.MAX_BLOCK_SIZE) :
    shift ≤ 19 ∧
    (s - 256) <<< shift ≤ 2 ^ 20 ∧
    (run + ((s - 256) <<< shift) % 4294967296) % 4294967296 = run + (s - 256) * 2 ^ shift ∧
    run + (s - 256) * 2 ^ shift < 2 ^ 21 ∧
    2 ^ (shift + 1) ≤ run + (s - 256) * 2 ^ shift + 1 :=
  Lemmas.MtfRun.accum_step run shift s hs hpow hrun

/-- C08 (`tt_write_bound` and absence of UB in the symbol loop): for every
sequence of symbols `make_tree` can produce (EOB, MTF index 1…255, RUN_A,
RUN_B), from every state with the layout invariant, `2^shift ≤ run + 1` and
`n = |bytes written| ≤ limit ≤ MAX_BLOCK_SIZE`, the loop never performs an
undefined shift, never makes `mtf_one` abort or touch memory outside
`imtf_slide` (`≠ .ub`), and all bytes it writes to `tt` lie below `tt_limit`
(a successful result has at most `limit` bytes; a run is flushed only after
the `run > tt_limit - tt` test). -/
theorem tt_write_bound (limit : Nat) (hl : limit ≤ Gen.MAX_BLOCK_SIZE)
    (syms : List Nat) (st : RunSt) (hv : ∀ s ∈ syms, Lemmas.MtfRun.validSym s)
    (hinv : Inv st.sl) (hpow : 2 ^ st.shift ≤ st.run + 1)
    (hout : st.out.length = st.n) (hn : st.n ≤ limit) :
    consume limit st syms ≠ .ub ∧
    ∀ out f, consume limit st syms = .ok out f → out.length ≤ limit := by
  induction syms generalizing st with
  | nil => exact ⟨nofun, nofun⟩
  | cons s ss ih =>
    have hvs := hv s (List.mem_cons_self ..)
    have hvss : ∀ x ∈ ss, Lemmas.MtfRun.validSym x :=
      fun x hx => hv x (List.mem_cons_of_mem _ hx)
    have hM := Lemmas.MtfRun.max_block
    by_cases hr : 256 ≤ s ∧ st.run ≤ Gen.MAX_BLOCK_SIZE
    · obtain ⟨e, hpow'⟩ := Lemmas.MtfRun.consume_run limit st s ss (hvs.run hr.1) hpow hr.2
      rw [e]
      exact ih _ hvss hinv hpow' hout hn
    · by_cases hgt : st.run > limit - st.n
      · rw [Lemmas.MtfRun.consume_overflow limit st s ss hr hgt]
        exact ⟨nofun, nofun⟩
      · by_cases h0 : s = 0
        · rw [h0, Lemmas.MtfRun.consume_eob limit st ss hgt]
          refine ⟨nofun, ?_⟩
          intro out f h
          rw [← (Res.ok.inj h).1]
          simp only [flush, List.length_reverse, List.length_append, List.length_replicate, hout]
          omega
        · -- not a run symbol here: otherwise run > MAX_BLOCK_SIZE ≥ limit - n
          have hs256 : 1 ≤ s ∧ s < 256 := by
            rcases hvs with h | h | h | h <;> omega
          obtain ⟨b, sl', e2, _, _, e⟩ :=
            Lemmas.MtfRun.consume_mtf limit st s ss hinv hs256.1 hs256.2 hgt
          rw [e]
          apply ih _ hvss e2
          · show 2 ^ 0 ≤ 1 + 1
            omega
          · show (List.replicate st.run st.runChar ++ st.out).length = st.n + st.run
            simp [hout]; omega
          · show st.n + st.run ≤ limit
            omega

/- Non-vacuity: the loop's initial state (`run = 0`, `shift = 0`) satisfies the
guard's precondition; the last example below runs forty RUN_B symbols in a row
from it. -/
example : (2 : Nat) ^ 0 ≤ 0 + 1 := by decide
/- the extreme case: nineteen RUN_A symbols from `run = 0` give `run = 2^19 - 1`,
`shift = 19`; the twentieth shift is still defined -/
example : (19 : Nat) ≤ 19 ∧ (258 - 256) <<< 19 ≤ 2 ^ 20 :=
  let h := shift_bound 524287 19 258 (Or.inr rfl) (by decide) (by decide)
  ⟨h.1, h.2.1⟩
example : ∃ st0, initRun (slideOf []) = some st0 ∧
    consume 900000 st0 (List.replicate 40 258 ++ [0]) ≠ .ub := by
  refine ⟨_, Lemmas.MtfRun.initRun_spec _ (slide_init []), ?_⟩
  refine (tt_write_bound 900000 (by decide) _ _ ?_ (slide_init []) (by decide) rfl (by decide)).1
  intro s hs
  rcases List.mem_append.mp hs with h | h
  · rw [List.eq_of_mem_replicate h]; exact Or.inr (Or.inr (Or.inr rfl))
  · simp at h; subst h; exact Or.inl rfl

end LbzVerif.Props.C08.Slide
