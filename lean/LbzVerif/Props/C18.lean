/-
  Props.C18 — multiple operands are processed independently.

  Model: `LbzVerif.Model.Operands` (the operand loop of `main()`).  `runOne`
  (what one operand does to the outside world, and how it ends) is an
  arbitrary function: the theorems hold for every per-operand behaviour, every
  operand list and every initial world.

  The scheduler-state part (`terminal_restores`: the sticky statics are back
  at their initial values when a run ends) is proved from the scheduler models
  in Props/C18/Restore.lean; here it appears as the hypothesis
  `TerminalRestores` of `independence`.
-/
import LbzVerif.Model.Operands

namespace LbzVerif.Props.C18

open LbzVerif.Model.Operands

variable {ω σ : Type}

theorem foldl_fatal (runOne : ω → σ → σ × Outcome) (ops : List ω) (a : Acc σ) (h : a.fatal = true) :
    ops.foldl (stepAcc runOne) a = a := by
  induction ops with
  | nil => rfl
  | cons op ops ih =>
    simp only [List.foldl_cons, stepAcc, h, if_true]
    exact ih

theorem loop_eq_foldl (runOne : ω → σ → σ × Outcome) (ops : List ω) (w : σ) (warned : Bool)
    (n : Nat) :
    loop runOne ops w warned n = (ops.foldl (stepAcc runOne) ⟨w, warned, false, n⟩).result := by
  fun_induction loop runOne ops w warned n with
  | case1 => rfl
  | case2 _ ops _ _ _ ho =>
    simp only [List.foldl_cons, stepAcc, ho, Bool.false_eq_true, if_false]
    rw [foldl_fatal runOne ops _ rfl]
    rfl
  | case3 _ _ _ _ _ ho ih =>
    simpa only [List.foldl_cons, stepAcc, ho, Bool.false_eq_true, if_false] using ih
  | case4 _ _ _ _ _ ho ih =>
    simpa only [List.foldl_cons, stepAcc, ho, Bool.false_eq_true, if_false] using ih

/-- `runMany ops w` is the fold of the one-operand step over the operands; the
accumulator holds the world, `warned`, the absorbing `fatal` flag and a
counter — nothing else. -/
theorem runMany_eq_foldl (runOne : ω → σ → σ × Outcome) (ops : List ω) (w : σ) :
    runMany runOne ops w = (ops.foldl (stepAcc runOne) (Acc.start w)).result :=
  loop_eq_foldl runOne ops w false 0

theorem loop_statusOf (runOne : ω → σ → σ × Outcome) (ops : List ω) (w : σ) (warned : Bool)
    (n : Nat) :
    ((loop runOne ops w warned n).status, (loop runOne ops w warned n).completed) =
      statusOf (outcomes runOne ops w) warned n := by
  fun_induction loop runOne ops w warned n with
  | case1 => rfl
  | case2 _ _ _ _ _ ho => simp only [outcomes, ho, statusOf]
  | case3 _ _ _ _ _ ho ih => simpa only [outcomes, ho, statusOf] using ih
  | case4 _ _ _ _ _ ho ih => simpa only [outcomes, ho, statusOf] using ih

/-- Exit status and number of finished operands are `statusOf` of the outcome
sequence (the function the driver command `status` evaluates). -/
theorem status_of_outcomes (runOne : ω → σ → σ × Outcome) (ops : List ω) (w : σ) :
    ((runMany runOne ops w).status, (runMany runOne ops w).completed) =
      statusOf (outcomes runOne ops w) false 0 :=
  loop_statusOf runOne ops w false 0

theorem statusOf_cases (os : List Outcome) (warned : Bool) (n : Nat) :
    ((statusOf os warned n).1 = exFail ↔ Outcome.fatal ∈ os) ∧
    ((statusOf os warned n).1 = exWarn ↔ Outcome.fatal ∉ os ∧ (warned = true ∨ Outcome.warned ∈ os)) ∧
    ((statusOf os warned n).1 = exOk ↔ warned = false ∧ ∀ o ∈ os, o = Outcome.ok) := by
  fun_induction statusOf os warned n with
  | case1 warned n => cases warned <;> simp [exFail, exWarn, exOk]
  | case2 => simp [exFail, exWarn, exOk]
  | case3 _ _ _ ih => simpa using ih
  | case4 _ _ _ ih => simpa using ih

/-- The exit status is 1 iff some operand ended fatally; 4 iff none was fatal
and some operand warned; 0 iff every operand was processed without a warning.
(`outcomes` stops at the first fatal operand.) -/
theorem status_algebra (runOne : ω → σ → σ × Outcome) (ops : List ω) (w : σ) :
    ((runMany runOne ops w).status = exFail ↔ Outcome.fatal ∈ outcomes runOne ops w) ∧
    ((runMany runOne ops w).status = exWarn ↔
      Outcome.fatal ∉ outcomes runOne ops w ∧ Outcome.warned ∈ outcomes runOne ops w) ∧
    ((runMany runOne ops w).status = exOk ↔ ∀ o ∈ outcomes runOne ops w, o = Outcome.ok) := by
  have hs : (runMany runOne ops w).status = (statusOf (outcomes runOne ops w) false 0).1 :=
    congrArg Prod.fst (status_of_outcomes runOne ops w)
  obtain ⟨h1, h2, h3⟩ := statusOf_cases (outcomes runOne ops w) false 0
  rw [hs]
  exact ⟨h1, by simpa using h2, by simpa using h3⟩

/-- Where the loop stands matters only through the world: the `warned` flag and the counter it
starts from are added to what the operands contribute. -/
theorem foldl_shift (runOne : ω → σ → σ × Outcome) (ys : List ω) : ∀ a : Acc σ, a.fatal = false →
    ys.foldl (stepAcc runOne) a =
      ⟨(ys.foldl (stepAcc runOne) (Acc.start a.world)).world,
       a.warned || (ys.foldl (stepAcc runOne) (Acc.start a.world)).warned,
       (ys.foldl (stepAcc runOne) (Acc.start a.world)).fatal,
       a.completed + (ys.foldl (stepAcc runOne) (Acc.start a.world)).completed⟩ := by
  induction ys with
  | nil =>
    intro a h
    cases a
    simp_all [Acc.start]
  | cons y ys ih =>
    intro a h
    simp only [List.foldl_cons, stepAcc, h, Acc.start, Bool.false_eq_true, if_false]
    cases (runOne y a.world).2 with
    | fatal => simp [foldl_fatal]
    | ok =>
      simp only
      rw [ih ⟨_, a.warned, false, _⟩ rfl, ih ⟨_, false, false, 0 + 1⟩ rfl]
      simp only [Acc.start, Bool.false_or, Acc.mk.injEq, true_and]
      omega
    | warned =>
      simp only
      rw [ih ⟨_, true, false, _⟩ rfl, ih ⟨_, true, false, 0 + 1⟩ rfl]
      simp only [Acc.start, Bool.true_or, Bool.or_true, Acc.mk.injEq, true_and]
      omega

theorem result_fatal (a : Acc σ) : a.result.status = exFail ↔ a.fatal = true := by
  cases hf : a.fatal <;> cases hw : a.warned <;> simp [Acc.result, hf, hw, exFail, exWarn, exOk]

/-- Processing `xs ++ ys` in one invocation = processing `xs`, and — unless that
ended fatally — processing `ys` in a second invocation on the world the first
one left; statuses combine with `combineStatus`. -/
theorem runMany_append (runOne : ω → σ → σ × Outcome) (xs ys : List ω) (w : σ) :
    runMany runOne (xs ++ ys) w =
      if (runMany runOne xs w).status = exFail then runMany runOne xs w
      else ⟨(runMany runOne ys (runMany runOne xs w).world).world,
            combineStatus (runMany runOne xs w).status (runMany runOne ys (runMany runOne xs w).world).status,
            (runMany runOne xs w).completed + (runMany runOne ys (runMany runOne xs w).world).completed⟩ := by
  simp only [runMany_eq_foldl, List.foldl_append, result_fatal]
  generalize xs.foldl (stepAcc runOne) (Acc.start w) = a
  cases hf : a.fatal with
  | true => rw [foldl_fatal runOne ys a hf, if_pos rfl]
  | false =>
    rw [if_neg Bool.false_ne_true, foldl_shift runOne ys a hf,
      show (Acc.result a).world = a.world from rfl]
    generalize ys.foldl (stepAcc runOne) (Acc.start a.world) = b
    obtain ⟨_, aw, af, _⟩ := a
    obtain ⟨_, bw, bf, _⟩ := b
    cases hf
    cases aw <;> cases bf <;> cases bw <;> simp [Acc.result, combineStatus, exFail, exWarn, exOk]

/-- One invocation with all operands = one invocation per operand, in order,
each on the world left by the previous one, stopping at the first fatal one:
same final world, same number of finished operands, and the combined status is
the `combineStatus`-fold of the separate statuses. -/
theorem runMany_singletons (runOne : ω → σ → σ × Outcome) (ops : List ω) (w : σ) :
    runMany runOne ops w = separately runOne ops w := by
  induction ops generalizing w with
  | nil => rfl
  | cons op ops ih =>
    have h := runMany_append runOne [op] ops w
    simp only [List.singleton_append] at h
    rw [h]
    simp only [separately, ih]

/-- A fatal operand stops the invocation: status 1, the operands before it
are complete (world = what they produced, then the fatal operand's own effect,
e.g. its output removed), and nothing after it matters. -/
theorem fatal_stops (runOne : ω → σ → σ × Outcome) (pre post : List ω) (op : ω) (w : σ)
    (hpre : (runMany runOne pre w).status ≠ exFail)
    (hf : (runOne op (runMany runOne pre w).world).2 = Outcome.fatal) :
    runMany runOne (pre ++ op :: post) w =
      ⟨(runOne op (runMany runOne pre w).world).1, exFail, (runMany runOne pre w).completed⟩ := by
  rw [runMany_append, if_neg hpre]
  have : runMany runOne (op :: post) (runMany runOne pre w).world =
      ⟨(runOne op (runMany runOne pre w).world).1, exFail, 0⟩ := by
    simp only [runMany] at hf
    simp only [runMany, loop, hf]
  rw [this]
  rw [combineStatus, if_neg hpre, if_pos rfl, Nat.add_zero]

theorem loop_completed (runOne : ω → σ → σ × Outcome) (ops : List ω) (w : σ) (warned : Bool)
    (n : Nat) (h : (loop runOne ops w warned n).status ≠ exFail) :
    (loop runOne ops w warned n).completed = ops.length + n := by
  fun_induction loop runOne ops w warned n with
  | case1 => exact (Nat.zero_add _).symm
  | case2 => exact absurd rfl h
  | case3 _ _ _ _ _ _ ih =>
    rw [ih h, List.length_cons]
    omega
  | case4 _ _ _ _ _ _ ih =>
    rw [ih h, List.length_cons]
    omega

theorem completed_all (runOne : ω → σ → σ × Outcome) (ops : List ω) (w : σ)
    (h : (runMany runOne ops w).status ≠ exFail) : (runMany runOne ops w).completed = ops.length :=
  loop_completed runOne ops w false 0 h

theorem loopS_eq (body : ω → σ → Statics → (σ × Outcome) × Statics)
    (hread : ReadsOnlySticky body) (hrest : TerminalRestores body) (v0 : Volatile) (ops : List ω)
    (w : σ) (st : Statics) (warned : Bool) (n : Nat) (hst : st.sticky = Sticky.initial) :
    loopS body ops w st warned n =
      loop (fun op w => (body op w ⟨Sticky.initial, v0⟩).1) ops w warned n := by
  fun_induction loopS body ops w st warned n with
  | case1 => rfl
  | case2 op _ w st _ _ ho =>
    simp only [loop, ← hread op w st ⟨Sticky.initial, v0⟩ hst, ho]
  | case3 op _ w st _ _ ho ih =>
    simp only [loop, ← hread op w st ⟨Sticky.initial, v0⟩ hst, ho]
    exact ih (hrest op w st hst (by simp [ho]))
  | case4 op _ w st _ _ ho ih =>
    simp only [loop, ← hread op w st ⟨Sticky.initial, v0⟩ hst, ho]
    exact ih (hrest op w st hst (by simp [ho]))

/-- If every run reads the surviving statics only through the part nobody
resets (`ReadsOnlySticky`: `work()`, `primary_thread()`/`copy()`, `init_io()`
and `init()` overwrite the rest first) and every non-fatal run puts that part
back (`TerminalRestores`, Props/C18/Restore.lean), then the invocation that
physically threads the statics from operand to operand equals `runMany` of the
per-operand function started from the initial statics: operand k+1 behaves as
if it were the first. -/
theorem independence (body : ω → σ → Statics → (σ × Outcome) × Statics)
    (hread : ReadsOnlySticky body) (hrest : TerminalRestores body)
    (st0 : Statics) (h0 : st0.sticky = Sticky.initial) (ops : List ω) (w : σ) :
    loopS body ops w st0 false 0 =
      runMany (fun op w => (body op w ⟨Sticky.initial, st0.vol⟩).1) ops w :=
  loopS_eq body hread hrest st0.vol ops w st0 false 0 h0

/-- A toy world: the list of file names.  "bad" is a corrupt file (fatal), a
name that exists becomes `name.bz2`, a missing one is skipped with a
warning. -/
def toyRun (op : String) (fs : List String) : List String × Outcome :=
  if op = "bad" then (fs, .fatal)
  else if fs.contains op then ((fs.erase op) ++ [op ++ ".bz2"], .ok)
  else (fs, .warned)

example : runMany toyRun ["a", "nope", "b"] ["a", "b", "c"] = ⟨["c", "a.bz2", "b.bz2"], 4, 3⟩ := by
  decide +kernel
example : runMany toyRun ["a", "bad", "b"] ["a", "b"] = ⟨["b", "a.bz2"], 1, 1⟩ := by
  decide +kernel
example : runMany toyRun ["a", "a"] ["a"] = ⟨["a.bz2"], 4, 2⟩ := by decide +kernel
example : outcomes toyRun ["a", "bad", "b"] ["a", "b"] = [.ok, .fatal] := by decide +kernel
example : separately toyRun ["a", "nope", "b"] ["a", "b", "c"] = ⟨["c", "a.bz2", "b.bz2"], 4, 3⟩ := by
  decide +kernel
/-- `fatal_stops` has satisfiable hypotheses. -/
example : (runMany toyRun ["a"] ["a", "b"]).status ≠ exFail ∧
    (toyRun "bad" (runMany toyRun ["a"] ["a", "b"]).world).2 = Outcome.fatal := by decide +kernel

def endVol : Volatile := ⟨2, 2, 65536, 0, true, 2, 2, 0, false, true⟩   -- e.g. what `copy()` leaves

/-- A body in the scope of `independence`: it looks at `collect_token` only,
refuses to work without it (in the C code: `can_collect_seq` never fires and
the run hangs), and hands it back. -/
def goodBody (op : String) (fs : List String) (st : Statics) : (List String × Outcome) × Statics :=
  if st.sticky.collectToken then (toyRun op fs, ⟨Sticky.initial, endVol⟩)
  else ((fs, .fatal), ⟨st.sticky, endVol⟩)

example : ReadsOnlySticky goodBody := by
  intro op w st st' h
  simp [goodBody, h]
example : TerminalRestores goodBody := by
  intro op w st h _
  simp [goodBody, h, Sticky.initial]

example :
    loopS goodBody ["a", "nope"] ["a", "b"] ⟨Sticky.initial, endVol⟩ false 0 = ⟨["b", "a.bz2"], 4, 2⟩ := by
  decide +kernel

/-- …and one outside it: the token is not handed back.  The second operand of
the same invocation then behaves differently from a first operand — the
hypothesis `TerminalRestores` is what excludes this. -/
def leakyBody (op : String) (fs : List String) (st : Statics) : (List String × Outcome) × Statics :=
  if st.sticky.collectToken then
    (toyRun op fs, { st with sticky := { st.sticky with collectToken := false } })
  else ((fs, .fatal), st)

example :
    let st0 : Statics := ⟨Sticky.initial, ⟨0, 0, 0, 0, false, 0, 0, 0, false, false⟩⟩
    loopS leakyBody ["a", "b"] ["a", "b"] st0 false 0 ≠
      runMany (fun op w => (leakyBody op w st0).1) ["a", "b"] ["a", "b"] := by decide +kernel

end LbzVerif.Props.C18
