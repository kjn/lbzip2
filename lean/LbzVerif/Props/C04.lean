/-
  Props.C04 — Block boundaries follow the greedy run-length packing rule (and the RLE1 stage
  of C01).  `Spec.rle1` / `unRle1` / `rleLen` / `pack` (Spec/Rle1.lean) say what is right;
  `Model.collect` / `collectMany` / `finish` (Model/Collect.lean, tied to the C code by
  checks/C04.py) are what encode.c does.  Every theorem quantifies over all inputs, capacities
  ≥ 1 and ways of cutting the input into buffers.  That `do_collect` / `do_collect_seq` call
  `collect` on exactly the remainders `xs.drop …` needs the scheduler model of C03:
  Props.C04.Blocks.
-/
import LbzVerif.Lemmas.CollectSpec

namespace LbzVerif.Props.C04
open LbzVerif.Spec LbzVerif.Model
open LbzVerif.Lemmas.Rle1Len LbzVerif.Lemmas.CollectCanon LbzVerif.Lemmas.CollectSpec

/-- RLE1 round trip: decoding the run-length encoding of any byte string gives
the string back (in particular the decoder never reports a missing count). -/
theorem unrle_rle (xs : List UInt8) : unRle1 (rle1 xs) = some xs :=
  Spec.unrle_rle xs

example : rle1 [7, 7, 7, 7, 7, 9, 9, 9, 9] = [7, 7, 7, 7, 1, 9, 9, 9, 9, 0] := by decide
example : unRle1 [7, 7, 7, 7, 1, 9, 9, 9, 9, 0] = some [7, 7, 7, 7, 7, 9, 9, 9, 9] := by decide
example : unRle1 [7, 7, 7, 7] = none := by decide

/-- What `rle1` does, stated on runs: a maximal run of `n ≤ 259` copies of `c`
(followed by nothing or by a different byte) is written as `flush c n` — the
copies themselves when `n < 4`, four copies and the count `n - 4` otherwise —
and the rest is encoded independently. -/
theorem rle1_run (c : UInt8) (n : Nat) (rest : List UInt8) (h1 : 1 ≤ n) (h2 : n ≤ 259)
    (hrest : ∀ d ys, rest = d :: ys → d ≠ c) :
    rle1 (List.replicate n c ++ rest) = flush c n ++ rle1 rest :=
  Lemmas.Rle1Len.rle1_replicate c n rest h1 h2 (.inr hrest)

/-- … and a run is cut after 259 copies whatever follows. -/
theorem rle1_maxrun (c : UInt8) (rest : List UInt8) :
    rle1 (List.replicate 259 c ++ rest) = flush c 259 ++ rle1 rest :=
  Lemmas.Rle1Len.rle1_replicate c 259 rest (by decide) (Nat.le_refl _) (.inl rfl)

example : rle1 (List.replicate 259 5 ++ [5, 6]) = [5, 5, 5, 5, 255, 5, 6] := by
  rw [rle1_maxrun]
  decide

/-- Appending one byte makes the encoding longer by 0, 1 or 2 bytes (2 exactly
when the byte is the fourth of a run: it brings its count byte with it). -/
theorem rleLen_snoc (xs : List UInt8) (x : UInt8) :
    rleLen xs ≤ rleLen (xs ++ [x]) ∧ rleLen (xs ++ [x]) ≤ rleLen xs + 2 :=
  Lemmas.Rle1Len.rleLen_snoc xs x

example : rleLen [3, 3, 3] = 3 ∧ rleLen [3, 3, 3, 3] = 5 ∧ rleLen [3, 3, 3, 3, 3] = 5 ∧
    rleLen [3, 3, 3, 3, 3, 4] = 6 := by decide

/-- `rleLen` is monotone along prefixes. -/
theorem rleLen_take_mono (xs : List UInt8) (i j : Nat) (h : i ≤ j) :
    rleLen (xs.take i) ≤ rleLen (xs.take j) :=
  Lemmas.Rle1Len.rleLen_take_mono xs i j h

/-- The prefix chosen by `pack` fits, and (unless it is the whole input) one more
byte does not. -/
theorem pack_maximal (cap : Nat) (xs : List UInt8) :
    pack cap xs ≤ xs.length ∧
    rleLen (xs.take (pack cap xs)) ≤ cap ∧
    (pack cap xs < xs.length → cap < rleLen (xs.take (pack cap xs + 1))) :=
  ⟨pack_le_length cap xs, pack_fits cap xs, pack_next_overflows cap xs⟩

/-- Nor does any longer prefix fit: `pack cap xs` is the largest `k` with
`rleLen (xs.take k) ≤ cap`. -/
theorem pack_largest (cap : Nat) (xs : List UInt8) (j : Nat) (hj : j ≤ xs.length)
    (h : rleLen (xs.take j) ≤ cap) : j ≤ pack cap xs :=
  Lemmas.Rle1Len.pack_largest cap xs j hj h

/-- The fourth byte of a run is left out when only one byte of room remains. -/
example : pack 4 [8, 8, 8, 8, 8, 2] = 3 ∧ pack 5 [8, 8, 8, 8, 8, 2] = 5 ∧
    pack 6 [8, 8, 8, 8, 8, 2] = 6 := by decide

/-- Progress: with room for at least one byte, a non-empty input always yields a
non-empty block (so cutting an input into blocks terminates). -/
theorem pack_pos (cap : Nat) (hcap : 1 ≤ cap) (xs : List UInt8) (hne : xs ≠ []) :
    1 ≤ pack cap xs :=
  Lemmas.Rle1Len.pack_pos cap hcap xs hne

/-- Cutting a chunk (default mode) or the whole input (`--sequential`) into
blocks: the first block is the `pack` prefix, the rest is cut the same way … -/
theorem blocksOf_unfold (cap : Nat) (hcap : 1 ≤ cap) (xs : List UInt8) :
    blocksOf cap xs =
      if xs = [] then []
      else xs.take (pack cap xs) :: blocksOf cap (xs.drop (pack cap xs)) :=
  Lemmas.Rle1Len.blocksOf_unfold cap hcap xs

/-- … and no byte is lost or reordered. -/
theorem blocksOf_flatten (cap : Nat) (hcap : 1 ≤ cap) (xs : List UInt8) :
    (blocksOf cap xs).flatten = xs :=
  Lemmas.Rle1Len.blocksOf_flatten cap hcap xs

example : blocksOf 5 [1, 1, 1, 1, 1, 1, 2, 2, 2, 2, 3] = [[1, 1, 1, 1, 1, 1], [2, 2, 2, 2], [3]] ∧
    blocksOf 4 [1, 1, 1, 1, 1, 2] = [[1, 1, 1], [1, 1, 2]] := by
  decide

theorem collect_preserves_inv (s : CollectState) (hs : s.Inv) (buf : List UInt8) :
    (collect s buf).1.Inv := by
  rw [collect_eq_canon s hs]
  exact canon_inv s.cap hs.1 buf _ _ _ (inv_room s hs)

/-- Buffer boundaries are invisible: collecting `a ++ b` in one call is the same —
final state, number of bytes consumed, return value — as collecting `a` and, if
that did not fill the block, `b` in a second call.  (If `a` alone fills the
block, the joint call stops at the same byte.)  `s.Inv` holds for
`encoder_init` and is preserved by `collect` (`collect_preserves_inv`). -/
theorem collect_split (s : CollectState) (hs : s.Inv) (a b : List UInt8) :
    collect s (a ++ b) =
      (let ra := collect s a
       if ra.2.2 then ra
       else
         let rb := collect ra.1 b
         (rb.1, ra.2.1 + rb.2.1, rb.2.2)) := by
  have hi := collect_preserves_inv s hs a
  rw [collect_eq_canon s hs] at hi ⊢
  rw [collect_eq_canon s hs a]
  simp only
  rw [collect_eq_canon _ hi]
  exact collectCanon_append s hs a b

theorem init_wellformed (cap : Nat) (h : 1 ≤ cap) : (init cap).Inv := by
  simp only [CollectState.Inv, init, List.length_nil]; exact ⟨h, by omega⟩

/-- Any sequence of buffers (empty ones included) handed over as compress.c does
— stop at the first "full" — behaves like one call on the concatenation. -/
theorem collectMany_flatten (s : CollectState) (hs : s.Inv) (bufs : List (List UInt8)) :
    collectMany s bufs = collect s bufs.flatten := by
  induction bufs generalizing s with
  | nil => simp [collectMany, collect_nil s hs]
  | cons b bs ih =>
    simp only [collectMany, List.flatten_cons]
    rw [collect_split s hs]
    simp only
    split
    · rfl
    · rw [ih _ (collect_preserves_inv s hs b)]

-- the resume path (`finish_run`) is really exercised: a run of seven bytes cut
-- after 1, 3 and 4 bytes, capacity reached inside it
example : (init 9).Inv := init_wellformed 9 (by decide)
example :
    (collectMany (init 9) [[1], [1, 1], [1], [], [1, 1, 1, 2, 2, 2], [2, 2, 2]]).2
      = (10, true) ∧
    (collect (init 9) [1, 1, 1, 1, 1, 1, 1, 2, 2, 2, 2, 2, 2]).2 = (10, true) := by
  decide

theorem collect_consumed_le (s : CollectState) (hs : s.Inv) (buf : List UInt8) :
    (collect s buf).2.1 ≤ buf.length := by
  rw [collect_eq_canon s hs]
  simp only [collectCanon]
  omega

/-- A call that does not report "full" has consumed the whole buffer. -/
theorem collect_notfull (s : CollectState) (hs : s.Inv) (buf : List UInt8)
    (h : (collect s buf).2.2 = false) : (collect s buf).2.1 = buf.length := by
  rw [collect_eq_canon s hs] at h ⊢
  simp only [collectCanon] at h ⊢
  have hne : (canon s.cap s.block s.rle s.crc buf).1.rle ≠ Rle.full := by
    simpa using h
  have := (canon_exit s.cap buf s.block s.rle s.crc).2.2 hne
  omega

/-- The packing rule for one buffer (what `do_collect` does with one
N·100000-byte chunk); `collect_pack` is the same for any list of buffers. -/
theorem collect_pack_single (cap : Nat) (hcap : 1 ≤ cap) (xs : List UInt8) :
    let r := collect (init cap) xs
    r.2.1 = pack cap xs ∧
    finish r.1 = rle1 (xs.take r.2.1) ∧
    (finish r.1).length ≤ cap ∧
    r.1.crc = crcFold 0xFFFFFFFF (xs.take r.2.1) ∧
    (r.2.2 = false → r.2.1 = xs.length) := by
  intro r
  have hr : r = collectCanon (init cap) xs := collect_eq_canon _ (init_wellformed cap hcap) xs
  obtain ⟨k, hk, h1, h2, h3, h4⟩ :=
    canon_spec cap xs 0xFFFFFFFF ⟨[], 0, 0⟩ (by simp [lenSt])
  change k + (canon cap [] Rle.idle 0xFFFFFFFF xs).2 = _ at hk
  change finish (canon cap [] Rle.idle 0xFFFFFFFF xs).1 = _ at h3
  change (canon cap [] Rle.idle 0xFFFFFFFF xs).1.crc = _ at h4
  have hle : r.2.1 ≤ xs.length := collect_consumed_le _ (init_wellformed cap hcap) xs
  have hcons : r.2.1 = k := by
    rw [hr] at hle ⊢
    simp only [collectCanon, init] at hle ⊢
    omega
  have hst : ∀ l : List UInt8, l.foldl stepSt ⟨[], 0, 0⟩ = stOf l := fun _ => rfl
  rw [hst, ← rleLen_eq_lenSt] at h1 h2
  rw [hst, ← rle1_eq_encSt] at h3
  have hfin : finish r.1 = rle1 (xs.take k) := by
    rw [hr]
    exact h3
  refine ⟨?_, ?_, ?_, ?_, collect_notfull _ (init_wellformed cap hcap) xs⟩
  · rw [hcons]
    exact (pack_unique cap xs k (by omega) h1 h2).symm
  · rw [hcons]
    exact hfin
  · rw [hfin]
    exact h1
  · rw [hcons, hr]
    exact h4

/-- The packing rule.  For every capacity ≥ 1 and every list of buffers, let
`xs` be their concatenation and let the encoder start from `encoder_init`.  Then
  * the number of bytes consumed is `Spec.pack cap xs`, the longest prefix whose
    run-length encoding fits into `cap` bytes;
  * the block handed to the sorter (`finish`) is exactly `Spec.rle1` of the
    bytes consumed, and it is at most `cap` bytes long;
  * `block_crc` is the CRC of the bytes consumed (continued from 0xFFFFFFFF);
  * if `collect` never reported "full", everything was consumed. -/
theorem collect_pack (cap : Nat) (hcap : 1 ≤ cap) (bufs : List (List UInt8)) :
    let xs := bufs.flatten
    let r := collectMany (init cap) bufs
    r.2.1 = pack cap xs ∧
    finish r.1 = rle1 (xs.take r.2.1) ∧
    (finish r.1).length ≤ cap ∧
    r.1.crc = crcFold 0xFFFFFFFF (xs.take r.2.1) ∧
    (r.2.2 = false → r.2.1 = xs.length) := by
  intro xs r
  have hr : r = collect (init cap) xs :=
    collectMany_flatten _ (init_wellformed cap hcap) bufs
  rw [hr]
  exact collect_pack_single cap hcap xs

-- capacity 6: "aaaaa" + count fills five bytes, one 'b' fits, the second does not
example :
    let r := collectMany (init 6) [[97, 97, 97], [97, 97, 98, 98]]
    r.2 = (6, true) ∧ finish r.1 = [97, 97, 97, 97, 1, 98] ∧ pack 6 [97, 97, 97, 97, 97, 98, 98] = 6 := by
  decide
-- capacity 4: after three 'a' one byte of room is left; the fourth 'a' is refused
example :
    let r := collectMany (init 4) [[97, 97, 97], [97, 97, 98, 98]]
    r.2 = (3, true) ∧ finish r.1 = [97, 97, 97] ∧ r.1.block.length = 3 := by
  decide

end LbzVerif.Props.C04
