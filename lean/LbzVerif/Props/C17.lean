/-
  C17 — File operands follow the documented naming and safety rules.

  Every theorem is about `Model.Naming` (`suffix_xform`, `input_init`,
  `output_init`, `output_regf_uninit`, operand loop of `main`) interpreting
  the suffix table and the permission masks regenerated from src/main.c
  (`Gen.suffixTable`, `Gen.outputCreateMask`, `Gen.outputChmodMask`); they
  quantify over all operand names, all system-call answers (`World`) and all
  flag combinations.  Names are character lists (`Tok`).
-/
import LbzVerif.Lemmas.CliNaming

namespace LbzVerif.Props.C17
open LbzVerif.Gen LbzVerif.Model.Naming LbzVerif.Lemmas.CliNaming
open LbzVerif.Model.Cli (Tok)

/-- The generated table has the documented content: the four compressed
suffixes with their replacements (in ANY order), then the catch-all `.out`
row that is not used for the "already compressed" test. -/
theorem documented_suffix_table :
    suffixL.dropLast.Perm
      [(".bz2".toList, [], true), (".tbz".toList, ".tar".toList, true),
       (".tbz2".toList, ".tar".toList, true), (".tz2".toList, ".tar".toList, true)]
    ∧ suffixL.getLast? = some ([], ".out".toList, false) := by decide +kernel

/-- No two check rows can match the same name (neither suffix is a suffix of
the other), so the order of the check rows in `suffix[]` is irrelevant. -/
theorem suffix_rows_exclusive : suffixL.dropLast.Pairwise Excl := by decide +kernel

theorem shape : Shape suffixL ".out".toList :=
  ⟨by decide +kernel, by decide +kernel, suffix_rows_exclusive⟩

/-- the strongest form: whichever check row is a suffix of the name decides
the output name, independently of the row order -/
theorem outName_decompress_row (name : Tok) (r : Tok × Tok × Bool)
    (hr : r ∈ suffixL.dropLast) (hs : r.1 <:+ name) :
    outNameDecompress name = some (name.take (name.length - r.1.length) ++ r.2.1) :=
  shape.of_row name true r hr hs

theorem hasCompressedSuffix_iff (name : Tok) :
    hasCompressedSuffix name = true ↔
      (".bz2".toList <:+ name ∨ ".tbz".toList <:+ name
        ∨ ".tbz2".toList <:+ name ∨ ".tz2".toList <:+ name) := by
  unfold hasCompressedSuffix
  rw [shape.isSome_iff]
  simp only [documented_suffix_table.1.mem_iff, List.mem_cons, List.not_mem_nil, or_false,
    exists_eq_or_imp, exists_eq_left]

example : hasCompressedSuffix "x.tbz2".toList = true ∧ hasCompressedSuffix "x.bz".toList = false
    ∧ hasCompressedSuffix "xbz2".toList = false ∧ hasCompressedSuffix "x.TBZ".toList = false
    ∧ hasCompressedSuffix "x.tbz2x".toList = false ∧ hasCompressedSuffix ".bz2".toList = true := by
  decide +kernel

/-- Compressing appends `.bz2`. -/
theorem outName_compress (name : Tok) : outNameCompress name = name ++ ".bz2".toList := by
  rfl

example : outNameCompress "a.tar".toList = "a.tar.bz2".toList := by decide +kernel

/-- the same on `String`s -/
theorem outName_compress_string (s : String) :
    String.ofList (outNameCompress s.toList) = s ++ ".bz2" := by
  rw [outName_compress, ← String.toList_append, String.ofList_toList]

example : String.ofList (outNameCompress "dir/a b".toList) = "dir/a b.bz2" := by decide +kernel

/-- The output name of decompression always exists (the `assert` in
`suffix_xform` cannot fail). -/
theorem outName_decompress_total (name : Tok) : (outNameDecompress name).isSome = true :=
  shape.total name

private theorem take_stem (stem suf : Tok) :
    (stem ++ suf).take ((stem ++ suf).length - suf.length) = stem := by
  simp

/-- Decompressing: `.bz2` is stripped; `.tbz`, `.tbz2`, `.tz2` become `.tar`;
every other name gets `.out` appended. -/
theorem outName_decompress (stem name : Tok) :
    outNameDecompress (stem ++ ".bz2".toList) = some stem
    ∧ outNameDecompress (stem ++ ".tbz".toList) = some (stem ++ ".tar".toList)
    ∧ outNameDecompress (stem ++ ".tbz2".toList) = some (stem ++ ".tar".toList)
    ∧ outNameDecompress (stem ++ ".tz2".toList) = some (stem ++ ".tar".toList)
    ∧ (hasCompressedSuffix name = false →
        outNameDecompress name = some (name ++ ".out".toList)) := by
  refine ⟨?_, ?_, ?_, ?_, ?_⟩
  · rw [outName_decompress_row _ (".bz2".toList, [], true) (by decide +kernel)
      (List.suffix_append _ _), take_stem]
    simp
  · rw [outName_decompress_row _ (".tbz".toList, ".tar".toList, true) (by decide +kernel)
      (List.suffix_append _ _), take_stem]
  · rw [outName_decompress_row _ (".tbz2".toList, ".tar".toList, true) (by decide +kernel)
      (List.suffix_append _ _), take_stem]
  · rw [outName_decompress_row _ (".tz2".toList, ".tar".toList, true) (by decide +kernel)
      (List.suffix_append _ _), take_stem]
  · intro h
    refine (shape.of_none name fun r hr hs => ?_).1
    exact Bool.false_ne_true (h.symm.trans ((shape.isSome_iff name).mpr ⟨r, hr, hs⟩))

example : outNameDecompress "a.tar.bz2".toList = some "a.tar".toList
    ∧ outNameDecompress "a.tbz2".toList = some "a.tar".toList
    ∧ outNameDecompress "a.bz".toList = some "a.bz.out".toList
    ∧ outNameDecompress "a.TBZ".toList = some "a.TBZ.out".toList
    ∧ outNameDecompress ".bz2".toList = some [] := by decide +kernel

theorem outName_total (fl : Flags) (name : Tok) : ∃ out, outName fl name = some out := by
  unfold outName
  split
  · exact Option.isSome_iff_exists.mp (outName_decompress_total name)
  · exact ⟨_, rfl⟩

/-- `force && -1 != unlink(tmp)`: what was at the output pathname has been removed -/
def removedOld (fl : Flags) (w : World) : Bool := fl.force && w.outExists && w.outUnlinkOk

/-- the creating `open` of `output_init` fails -/
def openFails (fl : Flags) (w : World) : Bool :=
  (outputOpenExcl && w.outExists && !removedOld fl w) || !w.outCreatable

theorem removedOld_of_not_force {fl : Flags} (w : World) (hf : fl.force = false) :
    removedOld fl w = false := by
  simp [removedOld, hf]

/-- The five ways one operand is dealt with: skipped by `input_init`; else
sent to standard output or tested; else refused by the creating `open`; else
`work()` fails; else an output file is produced. -/
theorem admitOp_elim (fl : Flags) (name : Tok) (w : World) {P : Effect → Prop}
    (skip : ∀ r, inputInit fl name w = some r → P (skipE r))
    (other : fl.outmode ≠ .regf → P { fatal := !w.workOk })
    (openOut : fl.outmode = .regf → openFails fl w = true →
      P { skip := some .openOut, warned := true, oldOutputRemoved := removedOld fl w })
    (work : fl.outmode = .regf → openFails fl w = false → w.workOk = false →
      P { fatal := true, oldOutputRemoved := removedOld fl w })
    (file : ∀ out, fl.outmode = .regf → openFails fl w = false → w.workOk = true →
      outName fl name = some out →
      P { outPath := some out
          oldOutputRemoved := removedOld fl w
          createMode := w.fstat.mode &&& outputCreateMask
          finalMode := if w.chownOk then w.fstat.mode &&& outputChmodMask
                       else w.fstat.mode &&& outputCreateMask
          atime := w.fstat.atime
          mtime := w.fstat.mtime
          warned := !w.chownOk || (w.fstat.mode &&& specialBits) != 0
          inputRemoved := !fl.keep }) :
    ∀ e, e = admitOp fl name w → P e := by
  intro e he
  subst he
  unfold admitOp
  cases hi : inputInit fl name w with
  | some r => exact skip r hi
  | none =>
    cases hm : fl.outmode with
    | stdout => exact other (fun h => by rw [hm] at h; cases h)
    | discard => exact other (fun h => by rw [hm] at h; cases h)
    | regf =>
      obtain ⟨out, ho⟩ := outName_total fl name
      rw [ho]
      show P (if openFails fl w = true then _ else _)
      by_cases hc : openFails fl w = true
      · rw [if_pos hc]
        exact openOut hm hc
      · have hc' : openFails fl w = false := Bool.eq_false_iff.mpr hc
        rw [if_neg hc]
        cases hw : w.workOk with
        | false => exact work hm hc' hw
        | true => exact file out hm hc' hw ho

/-- Without `-f`, an object that exists at the output pathname is never
touched: nothing is unlinked, nothing is created, the operand is skipped
with a warning (exit status 4) and stays. -/
theorem no_clobber (fl : Flags) (name : Tok) (w : World)
    (hf : fl.force = false) (hm : fl.outmode = .regf) (he : w.outExists = true) :
    ∀ e, e = admitOp fl name w →
    e.oldOutputRemoved = false ∧ e.outPath = none ∧ e.inputRemoved = false
      ∧ e.skip.isSome = true ∧ e.fatal = false ∧ e.status = 4 := by
  have hopen : openFails fl w = true := by simp [openFails, removedOld, hf, he, outputOpenExcl]
  refine admitOp_elim fl name w (fun r _ => ?_) (fun hn => absurd hm hn) (fun _ _ => ?_)
    (fun _ hc _ => ?_) (fun out _ hc _ _ => ?_)
  · simp [skipE, Effect.status]
  · simp [removedOld, hf, Effect.status]
  · rw [hopen] at hc
    cases hc
  · rw [hopen] at hc
    cases hc

example : (admitOp { decompress := true } "a.bz2".toList { outExists := true }).status = 4 := by
  decide +kernel

/-- in every output mode, without `-f` nothing at the output pathname is removed -/
theorem no_unlink_without_force (fl : Flags) (name : Tok) (w : World)
    (hf : fl.force = false) : (admitOp fl name w).oldOutputRemoved = false :=
  admitOp_elim fl name w (P := fun e => e.oldOutputRemoved = false) (fun _ _ => rfl) (fun _ => rfl)
    (fun _ _ => removedOld_of_not_force w hf) (fun _ _ _ => removedOld_of_not_force w hf)
    (fun _ _ _ _ _ => removedOld_of_not_force w hf) _ rfl

/-- Writing files without `-f`: an operand that is not a regular file
(directory, symbolic link, device, socket …) is skipped with a warning,
exit status 4, nothing created or removed. -/
theorem skip_nonregular (fl : Flags) (name : Tok) (w : World) (st : Stat)
    (hf : fl.force = false) (hm : fl.outmode = .regf)
    (hl : w.lstat = some st) (hk : st.kind ≠ .regular) :
    admitOp fl name w = skipE .notRegular ∧ (skipE .notRegular).status = 4 := by
  refine ⟨?_, rfl⟩
  unfold admitOp inputInit
  simp [hf, hm, hl, hk]

example : admitOp {} "d".toList { lstat := some { kind := .directory } } = skipE .notRegular := by
  decide +kernel

theorem inputInit_multiLink {fl : Flags} {name : Tok} {w : World}
    (h : inputInit fl name w = some .multiLink) : fl.force = false ∧ fl.keep = false := by
  unfold inputInit at h
  split at h
  · cases h
  split at h
  · cases h
  split at h
  next hc =>
    simp only [Bool.and_eq_true, Bool.not_eq_true'] at hc
    exact ⟨hc.1.1.1, hc.1.2⟩
  split at h
  · cases h
  split at h <;> cases h

/-- Writing files with neither `-k` nor `-f`: a regular file with more than
one link is skipped with a warning, exit status 4; with `-k` or `-f` the link
count is never a reason to skip. -/
theorem skip_multilink (fl : Flags) (name : Tok) (w : World) (st : Stat)
    (hl : w.lstat = some st) (hk : st.kind = .regular) (hn : st.nlink > 1) :
    (fl.force = false → fl.keep = false → fl.outmode = .regf →
        admitOp fl name w = skipE .multiLink ∧ (skipE .multiLink).status = 4)
    ∧ ((fl.force = true ∨ fl.keep = true) → (admitOp fl name w).skip ≠ some .multiLink) := by
  constructor
  · intro hf hkp hm
    refine ⟨?_, rfl⟩
    unfold admitOp inputInit
    simp [hf, hm, hl, hk, hkp, hn]
  · intro h
    refine admitOp_elim fl name w (P := fun e => e.skip ≠ some .multiLink) (fun r hi hc => ?_)
      (fun _ => nofun) (fun _ _ => nofun) (fun _ _ _ => nofun) (fun _ _ _ _ _ => nofun) _ rfl
    cases Option.some.inj hc
    obtain ⟨hf, hkp⟩ := inputInit_multiLink hi
    rcases h with h | h
    · exact Bool.false_ne_true (hf.symm.trans h)
    · exact Bool.false_ne_true (hkp.symm.trans h)

example : admitOp {} "a".toList { lstat := some { nlink := 2 } } = skipE .multiLink
    ∧ (admitOp { keep := true } "a".toList { lstat := some { nlink := 2 } }).outPath
        = some "a.bz2".toList := by decide +kernel

/-- Compressing: an operand whose name ends in `.bz2`, `.tbz`, `.tbz2` or
`.tz2` is skipped with a warning (exit status 4), nothing created, removed or
unlinked — whatever `-f`, `-k`, `-c` say (an earlier skip reason may apply
instead when `-f` is absent). -/
theorem skip_compressed_suffix (fl : Flags) (name : Tok) (w : World)
    (hd : fl.decompress = false)
    (hs : ".bz2".toList <:+ name ∨ ".tbz".toList <:+ name
        ∨ ".tbz2".toList <:+ name ∨ ".tz2".toList <:+ name) :
    ∀ e, e = admitOp fl name w →
    e.skip.isSome = true ∧ e.status = 4 ∧ e.outPath = none ∧ e.inputRemoved = false
      ∧ e.oldOutputRemoved = false
      ∧ (fl.force = true → e = skipE .suffix) := by
  intro e he
  subst he
  have hc := (hasCompressedSuffix_iff name).mpr hs
  have hi : ∃ r, inputInit fl name w = some r ∧ (fl.force = true → r = .suffix) := by
    unfold inputInit
    simp only [hd, hc]
    split
    · exact ⟨_, rfl, by simp_all⟩
    · split
      · exact ⟨_, rfl, by simp_all⟩
      · split
        · exact ⟨_, rfl, by simp_all⟩
        · exact ⟨_, by simp, fun _ => rfl⟩
  obtain ⟨r, hr, hrf⟩ := hi
  unfold admitOp
  rw [hr]
  refine ⟨rfl, rfl, rfl, rfl, rfl, ?_⟩
  intro hf
  rw [hrf hf]

example : admitOp { force := true } "x.tbz2".toList {} = skipE .suffix := by decide +kernel

/-- An output file that is produced is created with the input's permission
bits `& 0600`, ends with the input's bits `& 0777` (when `fchown` worked) and
carries the input's access and modification times. -/
theorem metadata (fl : Flags) (name : Tok) (w : World) (out : Tok)
    (h : (admitOp fl name w).outPath = some out) :
    ∀ e, e = admitOp fl name w →
    e.createMode = w.fstat.mode &&& 0o600
    ∧ (w.chownOk = true → e.finalMode = w.fstat.mode &&& 0o777)
    ∧ e.atime = w.fstat.atime ∧ e.mtime = w.fstat.mtime
    ∧ some out = outName fl name ∧ fl.outmode = .regf := by
  intro e he
  have h' : e.outPath = some out := he ▸ h
  revert e
  refine admitOp_elim fl name w ?_ ?_ ?_ ?_ ?_
  · exact fun _ _ => nofun
  · exact fun _ => nofun
  · exact fun _ _ => nofun
  · exact fun _ _ _ => nofun
  · intro o hm _ _ ho h
    cases h
    exact ⟨rfl, fun hc => by simp [hc, outputChmodMask], rfl, rfl, ho.symm, hm⟩

example : (admitOp { decompress := true } "a.bz2".toList { fstat := { mode := 0o4755 } }).finalMode
    = 0o755 := by decide +kernel

/-- The input is removed exactly when an output FILE was produced and `-k`
is absent; in particular never with `-c` / `-t` (other output modes), never
when the operand was skipped, never after a fatal error. -/
theorem input_removed_iff (fl : Flags) (name : Tok) (w : World) :
    ∀ e, e = admitOp fl name w →
    (e.inputRemoved = true ↔
      (fl.outmode = .regf ∧ fl.keep = false ∧ e.outPath.isSome = true
        ∧ e.skip = none ∧ e.fatal = false)) := by
  refine admitOp_elim fl name w (fun r _ => ?_) (fun _ => ?_) (fun _ _ => ?_) (fun _ _ _ => ?_)
    (fun o hm _ _ _ => ?_)
  · simp [skipE]
  · simp
  · simp
  · simp
  · simp [hm]

example : (admitOp {} "a".toList {}).inputRemoved = true
    ∧ (admitOp { keep := true } "a".toList {}).inputRemoved = false
    ∧ (admitOp { outmode := .stdout } "a".toList {}).inputRemoved = false
    ∧ (admitOp { outmode := .discard, decompress := true } "a".toList {}).inputRemoved = false := by
  decide +kernel

end LbzVerif.Props.C17
