/-
  Props.C20 — the length-limited optimum `Spec.Prefix.optLL` really is the
  minimum over ALL complete codes within the limit, and therefore the
  executable checker `tableOptimal` is sound for property C20 as worded:
  "each used table gives the smallest possible total coded length for the
  symbols coded with it, among all complete prefix codes no longer than that
  table's longest code; no code is longer than 20 bits".

  Nothing here is about `package_merge`: the checker is applied to the tables
  the real encoder produces (checks/w11_prefix.py, and the per-stream table
  check of the C20 campaign).
-/
import LbzVerif.Spec.Prefix
import LbzVerif.Lemmas.PrefixOpt
import LbzVerif.Lemmas.PrefixOptTable

namespace LbzVerif.Props.C20
open LbzVerif.Spec.Prefix LbzVerif.Lemmas.PrefixOpt LbzVerif.Lemmas.PrefixOptTable

theorem optLL_eq (f : List Nat) (L : Nat) (hL : 1 ≤ L) :
    optLL f L = optN L (L - 1) 2 (sortDesc f) := optSorted_eq _ L hL

/-- `optLL f L = some c` is attained: some complete code for `f.length` symbols
with every length in `1..L` has cost exactly `c`. -/
theorem optLL_attained (f : List Nat) (L c : Nat) (hL1 : 1 ≤ L) (hL : L ≤ 20)
    (h : optLL f L = some c) :
    ∃ lens : List Nat, lens.length = f.length ∧ CompleteWithin L lens ∧ cost f lens = c := by
  rw [optLL_eq f L hL1] at h
  obtain ⟨ls, hl, hr, hk, hc⟩ := optN_attained L (L - 1) (by omega) 2 (sortDesc f) c h
  obtain ⟨lens, hs, hcost⟩ := cost_perm (sortDesc_perm f) ls hl
  refine ⟨lens, hs.length_eq.trans (hl.trans (sortDesc_perm f).length_eq), ?_, hcost.trans hc⟩
  apply (completeWithin_iff L hL lens).mpr
  refine ⟨?_, fun l hl' => ?_⟩
  · rw [kraftL_perm L hs, hk, Nat.mul_comm, Nat.two_pow_pred_mul_two hL1]
  · have := hr l (hs.mem_iff.mp hl')
    omega

/-- No complete code within `L` is cheaper than `optLL f L` — for EVERY
assignment of lengths to symbols, monotone in the frequencies or not (the
exchange argument `monotone_wlog` is `Lemmas.PrefixOpt.swapFront`, used inside
the induction `optRow_le`). -/
theorem optLL_le (f lens : List Nat) (L : Nat) (hL : L ≤ 20) (hlen : lens.length = f.length)
    (hc : CompleteWithin L lens) :
    ∃ c, optLL f L = some c ∧ c ≤ cost f lens := by
  have hk := (completeWithin_iff L hL lens).mp hc
  -- a complete code is non-empty, so L ≥ 1
  have hL1 : 1 ≤ L := by
    cases lens with
    | nil => simp [kraftL] at hk; have := Nat.two_pow_pos L; omega
    | cons l t => have := hk.2 l (List.mem_cons_self ..); omega
  obtain ⟨ls, hs, hcost⟩ := cost_perm (sortDesc_perm f).symm lens hlen
  rw [optLL_eq f L hL1, ← hcost]
  apply optN_le L (L - 1) (by omega) 2 (sortDesc f) ls (sortDesc_sorted f)
  · rw [hs.length_eq, hlen, (sortDesc_perm f).length_eq]
  · intro l hl
    have := hk.2 l (hs.mem_iff.mp hl)
    omega
  · rw [kraftL_perm L hs, hk.1, Nat.mul_comm, Nat.two_pow_pred_mul_two hL1]

/-- The exchange step on its own: sorting is never needed, one swap with the
front suffices — if `d ≤ l0` occurs further back under a frequency not larger
than `g0`, swapping the two lengths does not increase the cost and keeps the
multiset of lengths. -/
theorem monotone_wlog (L d g0 l0 : Nat) (hl : d ≤ l0) (ls gs : List Nat)
    (hlen : gs.length = ls.length) (hg : ∀ g ∈ gs, g ≤ g0) (hd : d ∈ ls) :
    ∃ ls2 : List Nat, ls2.length = ls.length ∧
      kraftL L ls2 + 2 ^ (L - d) = kraftL L ls + 2 ^ (L - l0) ∧
      (∀ l ∈ ls2, l = l0 ∨ l ∈ ls) ∧
      cost (g0 :: gs) (d :: ls2) ≤ cost (g0 :: gs) (l0 :: ls) := by
  obtain ⟨ls2, h1, h2, h3, h4⟩ := swapFront L d g0 l0 hl ls gs hlen hg (List.mem_cons_of_mem _ hd)
  exact ⟨ls2, h1, h2, h3, by simpa [cost_cons] using h4⟩

theorem le_maxLen (lens : List Nat) : ∀ l ∈ lens, l ≤ maxLen lens :=
  (Lemmas.ListAux.le_foldl_max lens 0).2

/-- Soundness of the C20 checker.  If `tableOptimal freq lens` holds for a
table `lens` (one length per alphabet symbol; symbols with frequency 0 are in
the alphabet and need codes; the padding symbol of the last group is not in the
alphabet) and the per-table symbol counts `freq`, then no code is longer than
20 bits and every complete prefix code for the same alphabet whose longest code
is no longer than this table's longest code costs at least as much. -/
theorem checker_sound (freq lens : List Nat) (_hlen : lens.length = freq.length)
    (h : tableOptimal freq lens = true) :
    (∀ l ∈ lens, l ≤ 20) ∧
    ∀ lens' : List Nat, lens'.length = freq.length → CompleteWithin (maxLen lens) lens' →
      cost freq lens ≤ cost freq lens' := by
  simp only [tableOptimal, Bool.and_eq_true, decide_eq_true_eq, beq_iff_eq] at h
  refine ⟨fun l hl => Nat.le_trans (le_maxLen lens l hl) h.1, ?_⟩
  intro lens' hlen' hc'
  obtain ⟨c, hc, hle⟩ := optLL_le freq lens' (maxLen lens) h.1 hlen' hc'
  rw [h.2] at hc
  have : cost freq lens = c := Option.some.inj hc
  omega

/-- The checker accepts a length-limited table that plain Huffman would not
produce (limit 3), and rejects a complete but more expensive one. -/
example : tableOptimal [5, 3, 2, 1, 1] [2, 2, 2, 3, 3] = true ∧
    tableOptimal [5, 3, 2, 1, 1] [1, 2, 3, 4, 4] = true ∧
    tableOptimal [5, 3, 2, 1, 1] [3, 3, 2, 2, 2] = false ∧
    optLL [5, 3, 2, 1, 1] 3 = some 26 ∧ CompleteWithin 3 [2, 2, 2, 3, 3] := by decide

example : ∃ lens : List Nat, lens.length = 5 ∧ CompleteWithin 3 lens ∧ cost [5, 3, 2, 1, 1] lens = 26 :=
  optLL_attained [5, 3, 2, 1, 1] 3 26 (by decide) (by decide) (by decide)

end LbzVerif.Props.C20
