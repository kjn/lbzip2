/-
  C15 — stored CRC fields are enforced.  The comparison sites are taken from the source on every
  run: `Gen.parseStep` is the translated `switch (ps->state)` body of `parse()` (arms
  BLOCK_CRC_1/2 capture the stored block CRC and fold it into the computed stream CRC; arm
  EOS_CRC_2 compares the stored stream CRC); `Gen.reorderStatus` is `do_reorder`'s declared-size /
  block-CRC decision (source text checked verbatim by the translator).  Whatever the two 16-bit
  words of a stored CRC field are, flipping any single bit of the field makes the comparison fail,
  hence the run is fatal (status 1): for all parser states, all CRC values, all 32 bit positions.
-/
import LbzVerif.Gen.Parse
import LbzVerif.Lemmas.Reorder
import LbzVerif.Lemmas.ExpandParse

namespace LbzVerif.Props.C15
open LbzVerif.Gen
open LbzVerif.Lemmas.ExpandParse (ps5 ps6 ps9 ps10_any)

/-- The 32-bit value `parse()` assembles from two consecutive 16-bit words. -/
def join (hi lo : Nat) : Nat := ((hi <<< 16) % 4294967296 ||| lo) % 4294967296

/-- Flipping bit `k` (0 = most significant of the field) of the 32-bit field
    whose big-endian halves are `hi`, `lo`. -/
abbrev flipHi (hi : Nat) (k : Nat) : Nat := hi ^^^ (1 <<< (15 - k))
abbrev flipLo (lo : Nat) (k : Nat) : Nat := lo ^^^ (1 <<< (15 - k))

theorem join_eq (hi lo : Nat) (hh : hi < 65536) (hl : lo < 65536) :
    join hi lo = hi * 65536 + lo :=
  Lemmas.ExpandParse.shl16_or hi lo hh hl

theorem join_inj (hi lo hi' lo' : Nat) (hh : hi < 65536) (hl : lo < 65536)
    (hh' : hi' < 65536) (hl' : lo' < 65536) (h : join hi lo = join hi' lo') :
    hi = hi' ∧ lo = lo' := by
  rw [join_eq hi lo hh hl, join_eq hi' lo' hh' hl'] at h
  omega

theorem flip16_lt (w k : Nat) (hw : w < 65536) (hk : k < 16) :
    w ^^^ (1 <<< (15 - k)) < 65536 := by
  have : (1 : Nat) <<< (15 - k) < 2 ^ 16 := by
    rw [Nat.shiftLeft_eq, Nat.one_mul]
    exact Nat.pow_lt_pow_right (by omega) (by omega)
  exact Nat.xor_lt_two_pow (n := 16) hw this

theorem flip16_ne (w k : Nat) : w ^^^ (1 <<< (15 - k)) ≠ w := by
  intro h
  have h2 : (w ^^^ (1 <<< (15 - k))) ^^^ w = 0 := by rw [h]; exact Nat.xor_self w
  rw [Nat.xor_comm, ← Nat.xor_assoc, Nat.xor_self, Nat.zero_xor] at h2
  have : (1 : Nat) <<< (15 - k) ≠ 0 := by
    rw [Nat.shiftLeft_eq, Nat.one_mul]; exact Nat.pos_iff_ne_zero.mp (Nat.two_pow_pos _)
  exact this h2

theorem join_flip_ne (hi lo k : Nat) (hh : hi < 65536) (hl : lo < 65536)
    (hk : k < 32) :
    (if k < 16 then join (flipHi hi k) lo else join hi (flipLo lo (k - 16)))
      ≠ join hi lo := by
  split
  · rename_i h
    intro e
    have := join_inj _ _ _ _ (flip16_lt hi k hh h) hl hh hl e
    exact flip16_ne hi k this.1
  · rename_i h
    intro e
    have := join_inj _ _ _ _ hh (flip16_lt lo (k - 16) hl (by omega)) hh hl e
    exact flip16_ne lo (k - 16) this.2

/-! ### stream CRC (parse(), arms EOS_CRC_1 / EOS_CRC_2) -/

/-- Running the two arms that read the stored stream CRC. -/
def readStreamCrc (p : ParseSt) (hi lo : Nat) : ParseSt × Option Nat :=
  let r1 := parseStep p hi
  match r1.2 with
  | some rv => (r1.1, some rv)
  | none => parseStep r1.1 lo

theorem streamCrc_compare (p : ParseSt) (hi lo : Nat)
    (hs : p.state = PS_EOS_CRC_1) (hh : hi < 65536) :
    (readStreamCrc p hi lo).2 = some ERR_STRMCRC ↔ join hi lo ≠ p.computedCrc := by
  unfold readStreamCrc
  rw [ps9 p hi hs, Nat.mod_eq_of_lt (show hi < 4294967296 by omega)]
  show (parseStep { p with storedCrc := hi, state := 10 } lo).2 = _ ↔ _
  rw [ps10_any _ lo rfl]
  dsimp only
  show Prod.snd (if join hi lo = p.computedCrc then _ else _) = _ ↔ _
  by_cases h : join hi lo = p.computedCrc
  · rw [if_pos h]
    constructor
    · cases p.streamMode <;> intro e <;> cases e
    · intro hne; exact absurd h hne
  · rw [if_neg h]
    exact ⟨fun _ => h, fun _ => rfl⟩

/-- **Stream CRC is enforced**: if the stored field equals the computed value
    (the file was valid up to here), flipping any one of its 32 bits makes
    `parse()` return ERR_STRMCRC — for every parser state at EOS_CRC_1, every
    CRC value and every bit position. -/
theorem stream_flip_rejected (p : ParseSt) (hi lo k : Nat)
    (hs : p.state = PS_EOS_CRC_1) (hh : hi < 65536) (hl : lo < 65536)
    (hk : k < 32) (hvalid : join hi lo = p.computedCrc) :
    (if k < 16 then readStreamCrc p (flipHi hi k) lo
     else readStreamCrc p hi (flipLo lo (k - 16))).2 = some ERR_STRMCRC := by
  have hne := join_flip_ne hi lo k hh hl hk
  split
  · rename_i h
    rw [if_pos h] at hne
    exact (streamCrc_compare p _ lo hs (flip16_lt hi k hh h)).2 (hvalid ▸ hne)
  · rename_i h
    rw [if_neg h] at hne
    exact (streamCrc_compare p hi _ hs hh).2 (hvalid ▸ hne)

/-- and an unflipped valid field is not rejected by this comparison. -/
theorem stream_valid_accepted (p : ParseSt) (hi lo : Nat)
    (hs : p.state = PS_EOS_CRC_1) (hh : hi < 65536)
    (hvalid : join hi lo = p.computedCrc) :
    (readStreamCrc p hi lo).2 ≠ some ERR_STRMCRC := by
  intro h
  exact (streamCrc_compare p hi lo hs hh).1 h hvalid

/-! ### block CRC (parse() arms BLOCK_CRC_1 / BLOCK_CRC_2, then do_reorder) -/

def readBlockCrc (p : ParseSt) (hi lo : Nat) : ParseSt × Option Nat :=
  let r1 := parseStep p hi
  match r1.2 with
  | some rv => (r1.1, some rv)
  | none => parseStep r1.1 lo

/-- The parser hands the stored block CRC to the block's header unchanged. -/
theorem blockCrc_captured (p : ParseSt) (hi lo : Nat)
    (hs : p.state = PS_BLOCK_CRC_1) (hh : hi < 65536) :
    (readBlockCrc p hi lo).2 = some RV_OK ∧
    (readBlockCrc p hi lo).1.hdCrc = join hi lo := by
  unfold readBlockCrc
  rw [ps5 p hi hs, Nat.mod_eq_of_lt (show hi < 4294967296 by omega)]
  show (parseStep { p with storedCrc := hi, state := 6 } lo).2 = _ ∧
    (parseStep { p with storedCrc := hi, state := 6 } lo).1.hdCrc = _
  rw [ps6 _ lo rfl]
  exact ⟨rfl, rfl⟩

/-- **Block CRC is enforced**: a block that decoded successfully (status OK,
    within its declared size) with computed CRC `crc` equal to the stored field
    becomes fatal (ERR_BLKCRC) in `do_reorder` when any one bit of the stored
    field is flipped — for every block, CRC value and bit position. -/
theorem block_flip_rejected (p : ParseSt) (hi lo k blkSz bs100k : Nat)
    (hs : p.state = PS_BLOCK_CRC_1) (hh : hi < 65536) (hl : lo < 65536)
    (hk : k < 32) (hsz : ¬ blkSz > bs100k * 100000) :
    let crc := join hi lo        -- the block is valid: computed = stored
    let stored' := (if k < 16 then readBlockCrc p (flipHi hi k) lo
                    else readBlockCrc p hi (flipLo lo (k - 16))).1.hdCrc
    reorderStatus blkSz bs100k RV_OK crc stored' = ERR_BLKCRC ∧
    reorderFatal blkSz bs100k RV_OK crc stored' = true := by
  intro crc stored'
  have hne := join_flip_ne hi lo k hh hl hk
  have hst : stored' ≠ crc := by
    show (if k < 16 then readBlockCrc p (flipHi hi k) lo
          else readBlockCrc p hi (flipLo lo (k - 16))).1.hdCrc ≠ join hi lo
    split
    · rename_i h
      rw [if_pos h] at hne
      rw [(blockCrc_captured p _ lo hs (flip16_lt hi k hh h)).2]; exact hne
    · rename_i h
      rw [if_neg h] at hne
      rw [(blockCrc_captured p hi _ hs hh).2]; exact hne
  unfold reorderFatal
  rw [reorderStatus_eq, if_neg hsz, if_pos ⟨rfl, fun e => hst e.symm⟩]
  exact ⟨rfl, rfl⟩

/-- An unmodified valid block is not turned into an error by `do_reorder`. -/
theorem block_valid_accepted (blkSz bs100k crc : Nat)
    (hsz : ¬ blkSz > bs100k * 100000) :
    reorderStatus blkSz bs100k RV_OK crc crc = RV_OK := by
  rw [reorderStatus_eq, if_neg hsz, if_neg (fun h => h.2 rfl)]

/-- The stored block CRC also enters the computed stream CRC (so a flipped
    block CRC cannot be masked by the stream check being skipped): the update
    is `rotl1(computed) xor stored`. -/
theorem computedCrc_update (p : ParseSt) (hi lo : Nat)
    (hs : p.state = PS_BLOCK_CRC_1) (hh : hi < 65536) :
    (readBlockCrc p hi lo).1.computedCrc =
      ((((p.computedCrc <<< 1) % 4294967296) ^^^ (p.computedCrc >>> 31)) ^^^
        join hi lo) % 4294967296 := by
  unfold readBlockCrc
  rw [ps5 p hi hs, Nat.mod_eq_of_lt (show hi < 4294967296 by omega)]
  show (parseStep { p with storedCrc := hi, state := 6 } lo).1.computedCrc = _
  rw [ps6 _ lo rfl]
  rfl

/-! non-vacuity: a concrete state at EOS_CRC_1 with a matching CRC, bit 5 and
    bit 27 flipped -/
example :
    let p : ParseSt := { state := PS_EOS_CRC_1, bs100k := 9, storedCrc := 0,
                         computedCrc := 0x12345678, streamMode := false }
    join 0x1234 0x5678 = p.computedCrc ∧
    (readStreamCrc p (flipHi 0x1234 5) 0x5678).2 = some ERR_STRMCRC ∧
    (readStreamCrc p 0x1234 (flipLo 0x5678 (27 - 16))).2 = some ERR_STRMCRC ∧
    (readStreamCrc p 0x1234 0x5678).2 = none := by decide

example : reorderStatus 5000 9 RV_OK 0xCAFEBABE 0xCAFEBABF = ERR_BLKCRC := by decide

end LbzVerif.Props.C15
