/-
  C07 — damaged input is rejected cleanly (logical part).  The rejection DECISIONS: every error
  path of the translated header parser and of do_reorder ends in a fatal status, never success
  (from `Props.C05.Parse` and `Gen.reorderStatus`).  The CLEANUP path: corrupt data met while a
  FILE operand is being written gives a diagnostic, status exactly 1 (not a signal), the partial
  output unlinked and the input untouched: a corollary of the C16 file-system model.  Totality: the
  reference decoder and the block decoder models are total Lean functions (no `partial`), so "hang"
  is not an outcome of the modelled logic.  Absence of crashes/hangs in the C program itself is
  observed by the campaign (timeouts, sanitizer build), not proved.
-/
import LbzVerif.Props.C16
import LbzVerif.Props.C05.Parse
import LbzVerif.Lemmas.Reorder

namespace LbzVerif.Props.C07

open LbzVerif.Model.Fail (Ending mainBailoutEnd)
open LbzVerif.Model.Files
open LbzVerif.Gen

/-- Corrupt data met inside work(): exit status exactly 1, diagnostic on
    stderr, and (unless cleanup's own unlink fails) no output file remains and
    the input is as before — for every reachable configuration of the
    operand loop, every scenario and every initial file system. -/
theorem corrupt_rejected_cleanly {sc : Scn} {fs0 : FS} (hne : sc.inP ≠ sc.outP)
    {c : Cfg} (h : Reach sc fs0 c) (inj : Inj) (todo : List WOp)
    (hpc : c.pc = .work (.corrupt :: todo))
    (hsb : inj.sigBefore = none) (hp1 : c.pendInt = false) (hp2 : c.pendTerm = false) :
    (step sc c inj).pc = .ended (.exit 1) ∧ (step sc c inj).stderr = true ∧
    ((step sc c inj).cleanupFailed = false → Untouched sc fs0 (step sc c inj)) := by
  obtain ⟨e, he, _, hu⟩ :=
    LbzVerif.Props.C16.status_fault sc fs0 hne h inj .corrupt todo hpc hsb hp1 hp2 (Or.inl rfl)
  have hb : before c inj = c := by simp [before, hsb]
  have hne' : c.isEnded = false := by simp [Cfg.isEnded, hpc]
  have hex : exec sc c inj = fatal sc c inj true false false := by
    simp [exec, hpc, hp1, hp2]
  have hst : step sc c inj = after c (fatal sc c inj true false false) inj := by
    simp [step, hne', hb, hex]
  have hend : (fatal sc c inj true false false).isEnded = true := by
    simp [fatal, Cfg.isEnded]
  have hafter : after c (fatal sc c inj true false false) inj
      = fatal sc c inj true false false := by
    unfold after
    cases inj.sigAfter with
    | none => rfl
    | some sg => cases sg <;> simp [hend]
  refine ⟨?_, ?_, hu⟩
  · rw [hst, hafter]; simp [fatal, mainBailoutEnd]
  · rw [hst, hafter]; simp [fatal]

/-- Every non-OK, non-MORE block status is fatal in do_reorder (the run cannot
    continue to a successful end), whatever the sizes and CRCs are. -/
theorem block_error_is_fatal (blkSz bs100k status crc hdrCrc : Nat)
    (h0 : status ≠ 0) (h1 : status ≠ 1) :
    reorderFatal blkSz bs100k status crc hdrCrc = true := by
  unfold reorderFatal
  rw [reorderStatus_eq, if_neg (fun h : status = RV_OK ∧ _ => h0 h.1)]
  split
  · rfl
  · exact decide_eq_true ⟨h0, h1⟩

/-- An over-full block is fatal even if it decoded and its CRC matches. -/
theorem overfull_block_is_fatal (blkSz bs100k crc : Nat)
    (hsz : blkSz > bs100k * 100000) :
    reorderStatus blkSz bs100k RV_OK crc crc = ERR_OVERFLOW ∧
    reorderFatal blkSz bs100k RV_OK crc crc = true := by
  unfold reorderFatal
  rw [reorderStatus_eq, if_pos hsz]
  exact ⟨rfl, rfl⟩

/-- Truncation inside a stream is never success: at end of input the header
    parser succeeds only between streams (`Lemmas.ExpandParse.eof_instream`; as an iff,
    `C05.Parse.eof_rule`). -/
theorem truncated_stream_is_error (p : ParseSt)
    (h1 : p.state ≠ PS_STREAM_MAGIC_1) (h2 : p.state ≠ PS_STREAM_MAGIC_2) :
    (parseAtEof p).2 = ERR_EOF := by
  rw [Lemmas.ExpandParse.eof_instream p h1 h2]

/-! non-vacuity: a status that is an error, and an over-full block -/
example : reorderFatal 10 9 ERR_RUNLEN 0 0 = true := by decide
example : reorderStatus 100001 1 RV_OK 7 7 = ERR_OVERFLOW := by decide

end LbzVerif.Props.C07
