/-
  C07 — damaged input is rejected, at file level.  `Props.C07` shows what happens once corrupt data
  has been met inside work(); this file says WHICH byte strings lead there.  A byte string the
  strict reference decoder (`Spec.Bzip2.decodeFile`) does not accept — truncated anywhere, any bit
  flipped so that a CRC / code / selector / size rule fails, a wrong magic — is rejected by the
  model of `lbzip2 -d` (`Model.Expand.expandFile`), and no run of the decompression scheduler
  model on it terminates cleanly.  There is no "silently accepted" third outcome: `expandFile`
  returns `.ok bytes` or `.error`, and an answer `fuel` could only fall on a file the reference rejects
  (`Props.C06.File.expandFile_ne_fuel`).
-/
import LbzVerif.Props.C05.File
import LbzVerif.Props.C06.File
import LbzVerif.Props.C09.File

namespace LbzVerif.Props.C07.File
open LbzVerif.Model.Expand LbzVerif.Model.SchedD
open LbzVerif.Lemmas.ExpandSched (cfgOf render)

/-- A file the reference does not decode to anything is rejected by the
    sequential model of `lbzip2 -d`. -/
theorem damaged_rejected (x : List UInt8) (h : ∀ y, Spec.Bzip2.decodeFile x ≠ .ok y) :
    ∃ e, expandFile x = .error e := by
  cases hx : expandFile x with
  | error e => exact ⟨e, rfl⟩
  | ok y => exact absurd (Props.C05.File.expand_sound x y hx) (h y)

/-- … and conversely `lbzip2 -d` rejects nothing else: acceptance and rejection
    are both decided by the reference. -/
theorem rejected_iff (x : List UInt8) :
    (∃ e, expandFile x = .error e) ↔ ∀ y, Spec.Bzip2.decodeFile x ≠ .ok y := by
  constructor
  · rintro ⟨e, he⟩ y hy
    rw [Props.C06.File.expand_complete x y hy] at he
    cases he
  · exact damaged_rejected x

/-- **No schedule lets a damaged file through.**  On a file (with a bzip2
    header, i.e. one that is not passed to the copy path) that the reference
    does not decode, no reachable state of the decompression scheduler model is
    a clean termination — for every `n`, `W`, slot totals, `ultra`, candidate
    set and interleaving. -/
theorem damaged_never_terminates (x : List UInt8) (hh : Lemmas.Copy.hasHeader x = true)
    (h : ∀ y, Spec.Bzip2.decodeFile x ≠ .ok y)
    (n W totalIn totalOut : Nat) (ultra : Bool) (cand : List Nat) {s : State}
    (hr : Reach (cfgOf (Lemmas.Copy.headerLevel x) (x.drop 4) n W totalIn totalOut ultra cand) s) :
    terminated (cfgOf (Lemmas.Copy.headerLevel x) (x.drop 4) n W totalIn totalOut ultra cand) s
      = false := by
  obtain ⟨e, he⟩ := damaged_rejected x h
  exact Props.C09.File.rejected_never_terminates x hh e he n W totalIn totalOut ultra cand hr

/-- A file without a bzip2 header is not decompressed at all (`notBzip2`; the
    real program then fails, or copies under -cdf: property C19). -/
theorem no_header_rejected (x : List UInt8) (hh : Lemmas.Copy.hasHeader x = false) :
    expandFile x = .error .notBzip2 := by
  rw [Lemmas.ExpandTop.expandFile_eq]
  simp [hh]

/-- Truncation: the first `k` bytes of a file are either themselves a file the reference accepts, or
    rejected — never decoded to something the reference would not produce from those same bytes. -/
theorem prefix_sound (x : List UInt8) (k : Nat) (y : List UInt8)
    (h : expandFile (x.take k) = .ok y) : Spec.Bzip2.decodeFile (x.take k) = .ok y :=
  Props.C05.File.expand_sound _ _ h

/-! non-vacuity: the header-only file is not decoded by the reference, hence
    rejected, hence no run on it terminates -/
example : ∀ y, Spec.Bzip2.decodeFile [0x42, 0x5A, 0x68, 0x39] ≠ .ok y := by
  intro y h
  have : Spec.Bzip2.decodeFile [0x42, 0x5A, 0x68, 0x39] = .error .truncated := by decide +kernel
  rw [this] at h
  cases h

example : Lemmas.Copy.hasHeader [0x42, 0x5A, 0x68, 0x39] = true := by decide

end LbzVerif.Props.C07.File
