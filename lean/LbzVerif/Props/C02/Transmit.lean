/-
  Props.C02.Transmit — the block `transmit()` writes obeys the syntactic rules
  of C02 that concern one block: 2…6 tables, every start value and every
  intermediate value of the delta coding in 1…20, at most 18002 selectors,
  rand bit 0 — for every well-formed encoder state (Model.Transmit.WF).
-/
import LbzVerif.Model.Transmit
import LbzVerif.Lemmas.TransmitCompose
import LbzVerif.Props.C01.Transmit

namespace LbzVerif.Props.C02.Transmit
open LbzVerif LbzVerif.Basic LbzVerif.Model.Canon LbzVerif.Model.Transmit
open LbzVerif.Lemmas.TransmitLen LbzVerif.Lemmas.TransmitBits LbzVerif.Lemmas.TransmitParse
open LbzVerif.Lemmas.TransmitGroups LbzVerif.Lemmas.TransmitCompose

/-- The start value `transmit()` sends for table `t`. -/
def startValue (b : EncBlock) (t : Nat) : Nat :=
  let a0 := (b.lens.getD t []).getD 0 0
  if t = 0 then paddedStart a0 b.treePad else a0

/-- The rand bit is bit 80 of the block (after 48 magic + 32 CRC bits). -/
theorem rand_bit_zero (b : EncBlock) : (transmitBits b)[80]? = some false := by
  unfold transmitBits headerBits
  simp only [List.append_assoc]
  rw [← List.append_assoc (send 24 _), ← List.append_assoc (send 24 _ ++ send 24 _)]
  rw [List.getElem?_append_right (by simp [send_length])]
  simp [send]
  rfl

/-- **transmit_wellformed.**  For every well-formed encoder state:
    * `2 ≤ num_trees ≤ 6`;
    * `1 ≤ num_selectors ≤ 18002` (dummy selector included), so the 15-bit
      field holds it;
    * the rand bit is 0;
    * every table's 5-bit start value is in 1…20 — also the first one, moved
      `tree_pad ≤ 3` away from `len[0]` (`a < 4 → a+3 ≤ 6`, `a ≥ 4 → a−3 ≥ 1`);
    * the strict reader `Spec.readTables`, which rejects a table as soon as a
      start value or ANY intermediate value of the delta coding leaves 1…20,
      accepts all tables and returns the encoder's lengths. -/
theorem transmit_wellformed (b : EncBlock) (hw : WF b) :
    (2 ≤ b.numTrees ∧ b.numTrees ≤ 6) ∧
    (1 ≤ b.numSelectors ∧ b.numSelectors ≤ 18002 ∧ b.numSelectors < 2 ^ 15) ∧
    (transmitBits b)[80]? = some false ∧
    (∀ t, t < b.numTrees → 1 ≤ startValue b t ∧ startValue b t ≤ 20) ∧
    (∀ (pos : Nat) (rest : Bits),
      Spec.Bzip2.readTables b.alphaSize b.numTrees pos
          ((List.range b.numTrees).flatMap (tableBits b) ++ rest) #[] =
        .ok (b.lens, pos + ((List.range b.numTrees).flatMap (tableBits b)).length, rest)) := by
  have hns := numSelectors_lt hw
  refine ⟨hw.trees_range, ⟨hns.2, hns.1, by omega⟩, rand_bit_zero b, ?_,
    Props.C01.Transmit.parse_transmit_tables b hw⟩
  intro t ht
  obtain ⟨a0, rest', hq, _, hr⟩ := hw.table ht
  unfold startValue
  rw [hq]
  exact startValue_range t (hr a0 (List.mem_cons_self ..)) (treePad_le hw)

/-- With complete tables (`Coded`), the block the reference parser returns
    (`Props.C01.Transmit.parse_transmit`) passes the producer-side block rules of
    `Spec.inspect`: not randomised, every table (used or not — the dummy second
    table too) Kraft-complete, at most 18002 selectors. -/
theorem transmit_strictBlockCheck (b : EncBlock) (hw : WF b) (hc : Coded b) (level start : Nat) :
    Spec.Bzip2.strictBlockCheck (expectedBlock level start b) = .ok () := by
  have hns := numSelectors_lt hw
  have hall : (expectedBlock level start b).tables.all Spec.Bzip2.kraftComplete = true := by
    rw [List.all_eq_true]
    intro l hl
    exact kraftComplete_of_complete l (hc.complete l hl)
  unfold Spec.Bzip2.strictBlockCheck
  rw [hall, expectedBlock_selectors_length hw]
  simp only [expectedBlock, Bool.false_eq_true, if_false, Bool.not_true]
  rw [if_neg (by simp only [Spec.Bzip2.maxSelectorsStrict]; omega)]

example : 2 ≤ Props.C01.Transmit.helloBlock.numTrees ∧
    (transmitBits Props.C01.Transmit.helloBlock)[80]? = some false :=
  ⟨(transmit_wellformed _ Props.C01.Transmit.helloBlock_wf).1.1,
   (transmit_wellformed _ Props.C01.Transmit.helloBlock_wf).2.2.1⟩

example : startValue Props.C01.Transmit.helloBlock 0 = 5 ∧
    startValue Props.C01.Transmit.helloBlock 1 = 2 := by decide

example : Spec.Bzip2.strictBlockCheck (expectedBlock 1 0 Props.C01.Transmit.helloBlock) = .ok () :=
  transmit_strictBlockCheck _ Props.C01.Transmit.helloBlock_wf Props.C01.Transmit.helloBlock_coded 1 0

end LbzVerif.Props.C02.Transmit
