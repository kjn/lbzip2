/-
  Props.C02.Inspect — C02 "the output is a strictly well-formed bzip2 stream" for the whole
  file: the strict inspector `Spec.Bzip2.inspect` accepts what `Model.Compress.compressFile`
  writes (every input, level 1…9, both modes, every contract-satisfying choice of the unverified
  parts) and reports one stream of the requested level, from bit 0 to the last bit of the file,
  whose blocks obey the producer-side rules (`Lemmas.CompressInspect.BlockRules`, written out in
  the theorem).
  For acceptance `inspect` itself enforces: header digit, block and end-of-stream magics, block
  and combined CRCs, decoded-RLE size ≤ level·100000, `origPtr < nblock`, 2…6 tables, delta
  coding within 1…20, no randomised block, EVERY table (used or not) Kraft-complete, ≤ 18002
  selectors, a single stream, nothing after the padding.
-/
import LbzVerif.Model.Compress
import LbzVerif.Lemmas.CompressInspect
import LbzVerif.Lemmas.CompressSimple
import LbzVerif.Lemmas.CompressWitness

namespace LbzVerif.Props.C02.Inspect
open LbzVerif LbzVerif.Basic LbzVerif.Model.Compress
open LbzVerif.Lemmas.CompressFile LbzVerif.Lemmas.CompressCut LbzVerif.Lemmas.CompressInspect
open LbzVerif.Spec.Bzip2

/-- **inspect_compress_gen.**  The statement with the block capacity `cap`
    (1 … level·100000) and the chunk size `granul ≥ 1` as parameters. -/
theorem inspect_compress_gen (level cap granul : Nat) (h1 : 1 ≤ level) (h9 : level ≤ 9)
    (hcap : 1 ≤ cap) (hcl : cap ≤ level * 100000) (hg : 0 < granul) (seq : Bool)
    (input : List UInt8) (choose : List UInt8 → Choice)
    (hch : ∀ b ∈ cutBlocks cap granul seq input, ChoicesOK (Spec.rle1 b) (choose (Spec.rle1 b))) :
    ∃ r sr, inspect (compressFileGen level cap granul seq input choose) = .ok r ∧
      -- the whole plaintext
      r.size = input.length ∧ r.crc = (crc32 input).toNat ∧
      -- a single stream of the requested level, from bit 0 to the last bit of the file
      r.streams = [sr] ∧ sr.level = level ∧ sr.startBit = 0 ∧
      sr.endBit = 8 * (compressFileGen level cap granul seq input choose).length ∧
      -- one record per block of the packing rule
      sr.blocks.length = (cutBlocks cap granul seq input).length ∧
      ∀ br ∈ sr.blocks,
        br.block.level = level ∧
        1 ≤ br.nblock ∧ br.nblock ≤ level * 100000 ∧
        br.block.rand = false ∧
        br.block.origPtr < br.nblock ∧
        2 ≤ br.block.nGroups ∧ br.block.nGroups ≤ 6 ∧
        br.block.tables.length = br.block.nGroups ∧
        (∀ t ∈ br.block.tables, t.length = br.block.alphaSize ∧ (∀ x ∈ t, 1 ≤ x ∧ x ≤ 20) ∧
          kraftComplete t = true) ∧
        1 ≤ br.block.selectors.length ∧ br.block.selectors.length ≤ 18002 ∧
        (∀ s ∈ br.block.selectors, s < br.block.nGroups) := by
  have hb := cutBlocks_fit hcl granul seq input
  unfold inspect compressFileGen
  rw [walk_blocks true level h1 h9 choose _ hb hch, cutBlocks_flatten cap granul hcap hg]
  refine ⟨_, _, rfl, rfl, ?_, rfl, rfl, rfl, rfl, ?_, ?_⟩
  · show (crc32Arr input.toArray).toNat = (crc32 input).toNat
    rw [crc32Arr_eq]
  · show (reportsOf level 32 (itemsOf choose (cutBlocks cap granul seq input))).length = _
    simp only [reportsOf_length, itemsOf, List.length_map]
  · intro br hbr
    obtain ⟨p, it, hit, rfl⟩ := reportsOf_mem level _ 32 br hbr
    obtain ⟨b, hbm, rfl⟩ := List.mem_map.mp hit
    exact report_rules level h9 choose b (hb b hbm).1 (hb b hbm).2 (hch b hbm) p

/-- **inspect_compress** (C02, whole file).  For every input, level 1…9, both
    modes, and every choice function satisfying the contract on the blocks of
    this input, the strict inspector ACCEPTS `compressFile level seq input
    choose` and reports: the plaintext size and CRC of the input; exactly one
    stream, of level `level`, from bit 0 to the last bit of the file (so the
    end is byte-aligned and nothing follows); and for every block: decoded-RLE
    size `nblock` in 1 … level·100000, not randomised, `origPtr < nblock`,
    2…6 tables — one row per table, each over the block's alphabet, with
    lengths 1…20 and Kraft-complete, including tables no selector uses —,
    1…18002 selectors each naming a table. -/
theorem inspect_compress (level : Nat) (h1 : 1 ≤ level) (h9 : level ≤ 9) (seq : Bool)
    (input : List UInt8) (choose : List UInt8 → Choice)
    (hch : ∀ b ∈ cutBlocks (level * 100000) (Gen.memCompress 1 level).2.2.1 seq input,
      ChoicesOK (Spec.rle1 b) (choose (Spec.rle1 b))) :
    ∃ r sr, inspect (compressFile level seq input choose) = .ok r ∧
      r.size = input.length ∧ r.crc = (crc32 input).toNat ∧
      r.streams = [sr] ∧ sr.level = level ∧ sr.startBit = 0 ∧
      sr.endBit = 8 * (compressFile level seq input choose).length ∧
      sr.blocks.length =
        (cutBlocks (level * 100000) (Gen.memCompress 1 level).2.2.1 seq input).length ∧
      ∀ br ∈ sr.blocks,
        br.block.level = level ∧
        1 ≤ br.nblock ∧ br.nblock ≤ level * 100000 ∧
        br.block.rand = false ∧
        br.block.origPtr < br.nblock ∧
        2 ≤ br.block.nGroups ∧ br.block.nGroups ≤ 6 ∧
        br.block.tables.length = br.block.nGroups ∧
        (∀ t ∈ br.block.tables, t.length = br.block.alphaSize ∧ (∀ x ∈ t, 1 ≤ x ∧ x ≤ 20) ∧
          kraftComplete t = true) ∧
        1 ≤ br.block.selectors.length ∧ br.block.selectors.length ≤ 18002 ∧
        (∀ s ∈ br.block.selectors, s < br.block.nGroups) :=
  inspect_compress_gen level (level * 100000) (Gen.memCompress 1 level).2.2.1 h1 h9 (by omega)
    (Nat.le_refl _) (by simp only [Gen.memCompress]; omega) seq input choose hch

/-- the stream ends on a byte boundary: immediate from `endBit = 8 · length` -/
theorem inspect_compress_aligned (level : Nat) (h1 : 1 ≤ level) (h9 : level ≤ 9) (seq : Bool)
    (input : List UInt8) (choose : List UInt8 → Choice)
    (hch : ∀ b ∈ cutBlocks (level * 100000) (Gen.memCompress 1 level).2.2.1 seq input,
      ChoicesOK (Spec.rle1 b) (choose (Spec.rle1 b))) :
    ∃ r, inspect (compressFile level seq input choose) = .ok r ∧
      ∀ sr ∈ r.streams, sr.endBit % 8 = 0 ∧ sr.level = level := by
  obtain ⟨r, sr, h, _, _, hs, hl, _, he, _⟩ := inspect_compress level h1 h9 seq input choose hch
  refine ⟨r, h, ?_⟩
  intro sr' hsr
  rw [hs, List.mem_singleton] at hsr
  subst hsr
  exact ⟨by rw [he]; omega, hl⟩

/-- **inspect_compress_naive**: `inspect_compress` without any hypothesis about
    choices — for every input, level 1…9 and both modes the compressor model
    with the simple choice function (rotation-sort BWT, dummy tables;
    `Lemmas.CompressSimple.simpleChoice_ok_rle`) writes a file the strict
    inspector accepts, with the report described at `inspect_compress`. -/
theorem inspect_compress_naive (level : Nat) (h1 : 1 ≤ level) (h9 : level ≤ 9) (seq : Bool)
    (input : List UInt8) :
    ∃ r sr, inspect (compressFile level seq input simpleChoice) = .ok r ∧
      r.size = input.length ∧ r.crc = (crc32 input).toNat ∧
      r.streams = [sr] ∧ sr.level = level ∧ sr.startBit = 0 ∧
      sr.endBit = 8 * (compressFile level seq input simpleChoice).length ∧
      sr.blocks.length =
        (cutBlocks (level * 100000) (Gen.memCompress 1 level).2.2.1 seq input).length ∧
      ∀ br ∈ sr.blocks,
        br.block.level = level ∧
        1 ≤ br.nblock ∧ br.nblock ≤ level * 100000 ∧
        br.block.rand = false ∧
        br.block.origPtr < br.nblock ∧
        2 ≤ br.block.nGroups ∧ br.block.nGroups ≤ 6 ∧
        br.block.tables.length = br.block.nGroups ∧
        (∀ t ∈ br.block.tables, t.length = br.block.alphaSize ∧ (∀ x ∈ t, 1 ≤ x ∧ x ≤ 20) ∧
          kraftComplete t = true) ∧
        1 ≤ br.block.selectors.length ∧ br.block.selectors.length ≤ 18002 ∧
        (∀ s ∈ br.block.selectors, s < br.block.nGroups) :=
  inspect_compress level h1 h9 seq input simpleChoice (simpleChoice_ok_cut _ _ seq input)

/-- `inspect_compress_naive` needs no witness: any input will do -/
example (input : List UInt8) : ∃ r, inspect (compressFile 4 false input simpleChoice) = .ok r ∧
    r.size = input.length := by
  obtain ⟨r, _, h, hs, _⟩ := inspect_compress_naive 4 (by decide) (by decide) false input
  exact ⟨r, h, hs⟩

/-- three blocks (`5 5 5 | 5 | 5 6 6`, capacity 4, default mode with chunks of
    4) and two blocks (`5 5 5 | 5 5 6 6`, `--sequential`): accepted by the
    strict inspector, one stream, three resp. two block records -/
example : ∃ r sr, inspect (compressFileGen 1 4 4 false Lemmas.CompressWitness.xInput
      simpleChoice) = .ok r ∧ r.size = 7 ∧ r.streams = [sr] ∧ sr.blocks.length = 3 := by
  obtain ⟨r, sr, h, hsz, _, hs, _, _, _, hbl, _⟩ :=
    inspect_compress_gen 1 4 4 (by decide) (by decide) (by decide) (by decide) (by decide) false
      Lemmas.CompressWitness.xInput simpleChoice Lemmas.CompressWitness.xChoices_non
  exact ⟨r, sr, h, hsz, hs, by rw [hbl, Lemmas.CompressWitness.xCut.2]; rfl⟩

example : ∃ r sr, inspect (compressFileGen 1 4 2 true Lemmas.CompressWitness.xInput
      simpleChoice) = .ok r ∧ r.size = 7 ∧ r.streams = [sr] ∧ sr.blocks.length = 2 := by
  obtain ⟨r, sr, h, hsz, _, hs, _, _, _, hbl, _⟩ :=
    inspect_compress_gen 1 4 2 (by decide) (by decide) (by decide) (by decide) (by decide) true
      Lemmas.CompressWitness.xInput simpleChoice Lemmas.CompressWitness.xChoices_seq
  exact ⟨r, sr, h, hsz, hs, by rw [hbl, Lemmas.CompressWitness.xCut.1]; rfl⟩

/-- the empty input: a stream without blocks -/
example : ∃ r sr, inspect (compressFile 3 false [] simpleChoice) = .ok r ∧ r.size = 0 ∧
    r.streams = [sr] ∧ sr.level = 3 := by
  obtain ⟨r, sr, h, hsz, _, hs, hl, _⟩ :=
    inspect_compress 3 (by decide) (by decide) false [] simpleChoice (by
      rw [cutBlocks_nil]
      intro b hb
      cases hb)
  exact ⟨r, sr, h, hsz, hs, hl⟩

end LbzVerif.Props.C02.Inspect
