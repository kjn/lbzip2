/-
  Props.C06.Block — end-to-end completeness of the block retriever.  Whenever
  the oracle accepts the bits that follow a block's 32-bit CRC
  (`Spec.Bzip2.parseBlock` succeeds, `Spec.Bzip2.unMtfRle2` with capacity 900000
  gives a non-empty block containing its origPtr) and at least 32 bits follow
  the block, `retrieve()` (`Model.Retrieve`) answers OK with the oracle's values
  (`retrieve_complete`); without the 32 bits the only other answer is "input
  exhausted" (`retrieve_complete_or_starved`).
  Why 32 bits: `NEED` asks for a whole 32-bit word before every code, so a
  block followed by fewer than 32 bits can legitimately end in ERR_EOF; in a
  real stream at least 80 bits — the next magic and a CRC — follow a block.

  The proof is Lemmas/GroupFinal.run_complete: the chain of `run_ok_sound` read
  in the other direction (the 18001 clamp cuts nothing off: an accepted block
  uses at most 18001 selectors), and neither the header phase nor the group
  phase runs out of words while 32 bits follow (the `Suspended` clause of
  `Lemmas.RetrieveSim.Sim`, the `Short` clauses of Lemmas/GroupMachine).
-/
import LbzVerif.Lemmas.GroupFinal
import LbzVerif.Props.C05.Block

namespace LbzVerif.Props.C06.Block
open LbzVerif LbzVerif.Model.Retrieve
open LbzVerif.Lemmas.RetrieveBits LbzVerif.Lemmas.GroupFinal

/-- `v`, `w` any legal buffer with at most 63 live bits, `ws` any words, `eof`
any; `bits` = a 32-bit CRC followed by the unread bits.  If the oracle accepts,
the retriever answers OK with the oracle's values, or — only when fewer than 32
bits follow the block — reports that the input is exhausted. -/
theorem retrieve_complete_or_starved (v w : Nat) (ws : List Nat) (eof : Bool) (inv : BufInv v w)
    (hw : w ≤ 63) (level start crc : Nat) (bits : List Bool)
    (h32 : Basic.takeNat 32 bits = some (crc, bitsOf (St.start v w) ws))
    (b : Spec.Bzip2.Block) (restB : List Bool)
    (hp : Spec.Bzip2.parseBlock level start bits = .ok (b, restB)) (tt : Array UInt8)
    (hm : Spec.Bzip2.unMtfRle2 b.used Gen.MAX_BLOCK_SIZE b.syms.toList = .ok tt)
    (hne : tt.size ≠ 0) (hop : b.origPtr < tt.size) :
    ((retrieve (St.start v w) ws eof).status = .ok ∧
      bitsOf (retrieve (St.start v w) ws eof).st (retrieve (St.start v w) ws eof).rest = restB ∧
      b.rand = ((retrieve (St.start v w) ws eof).st.rand == 1) ∧
      (retrieve (St.start v w) ws eof).st.bwtIdx = b.origPtr ∧
      (retrieve (St.start v w) ws eof).st.run.out.reverse = tt.toList ∧
      (retrieve (St.start v w) ws eof).st.run.n = tt.size) ∨
    ((retrieve (St.start v w) ws eof).status = (if eof then .err Gen.ERR_EOF else .more) ∧
      (retrieve (St.start v w) ws eof).rest = [] ∧ restB.length < 32) := by
  rw [Props.C09.Retrieve.retrieve_init _ ws eof rfl]
  cases run_complete v w ws inv hw level start crc bits h32 b restB hp tt hm hne hop with
  | inl h =>
    obtain ⟨s', rest', e, h1, h2, h3, h4, h5⟩ := h
    left
    rw [e]
    exact ⟨rfl, h1, h2, h3, h4, h5⟩
  | inr h =>
    obtain ⟨s, e, h1⟩ := h
    right
    rw [e]
    exact ⟨rfl, rfl, h1⟩

/-- If at least 32 bits follow the block, everything the oracle accepts is
accepted, with the same result: rand flag, origPtr, the bytes of the block, its
size, and the unread bits (end position). -/
theorem retrieve_complete (v w : Nat) (ws : List Nat) (eof : Bool) (inv : BufInv v w)
    (hw : w ≤ 63) (level start crc : Nat) (bits : List Bool)
    (h32 : Basic.takeNat 32 bits = some (crc, bitsOf (St.start v w) ws))
    (b : Spec.Bzip2.Block) (restB : List Bool)
    (hp : Spec.Bzip2.parseBlock level start bits = .ok (b, restB)) (tt : Array UInt8)
    (hm : Spec.Bzip2.unMtfRle2 b.used Gen.MAX_BLOCK_SIZE b.syms.toList = .ok tt)
    (hne : tt.size ≠ 0) (hop : b.origPtr < tt.size) (hmore : 32 ≤ restB.length) :
    (retrieve (St.start v w) ws eof).status = .ok ∧
      bitsOf (retrieve (St.start v w) ws eof).st (retrieve (St.start v w) ws eof).rest = restB ∧
      b.rand = ((retrieve (St.start v w) ws eof).st.rand == 1) ∧
      (retrieve (St.start v w) ws eof).st.bwtIdx = b.origPtr ∧
      (retrieve (St.start v w) ws eof).st.run.out.reverse = tt.toList ∧
      (retrieve (St.start v w) ws eof).st.run.n = tt.size := by
  cases retrieve_complete_or_starved v w ws eof inv hw level start crc bits h32 b restB hp tt hm hne hop with
  | inl h => exact h
  | inr h =>
    obtain ⟨_, _, h3⟩ := h
    omega

/-- `retrieve_complete` for the input delivered in ANY admissible segmentation
(every call but the last with `eof = false`, any number of MORE answers in
between). -/
theorem retrieveAll_complete (v w : Nat) (segs : List (List Nat)) (inv : BufInv v w)
    (hw : w ≤ 63) (hadm : Props.C09.Retrieve.Admissible (St.start v w) segs)
    (level start crc : Nat) (bits : List Bool)
    (h32 : Basic.takeNat 32 bits = some (crc, bitsOf (St.start v w) segs.flatten))
    (b : Spec.Bzip2.Block) (restB : List Bool)
    (hp : Spec.Bzip2.parseBlock level start bits = .ok (b, restB)) (tt : Array UInt8)
    (hm : Spec.Bzip2.unMtfRle2 b.used Gen.MAX_BLOCK_SIZE b.syms.toList = .ok tt)
    (hne : tt.size ≠ 0) (hop : b.origPtr < tt.size) (hmore : 32 ≤ restB.length) :
    (retrieveAll (St.start v w) segs).status = .ok ∧
      bitsOf (retrieveAll (St.start v w) segs).st (retrieveAll (St.start v w) segs).rest = restB ∧
      b.rand = ((retrieveAll (St.start v w) segs).st.rand == 1) ∧
      (retrieveAll (St.start v w) segs).st.bwtIdx = b.origPtr ∧
      (retrieveAll (St.start v w) segs).st.run.out.reverse = tt.toList ∧
      (retrieveAll (St.start v w) segs).st.run.n = tt.size := by
  rw [Props.C09.Retrieve.retrieve_split segs _ hadm]
  exact retrieve_complete v w segs.flatten true inv hw level start crc bits h32 b restB hp tt hm hne hop
    hmore

-- Non-vacuity: the hypotheses hold for `tiny` ("ab", origPtr 0) behind the CRC 0 — the oracle
-- accepts it, 86 bits follow the block — and the conclusion's first alternative is the true one.
example : ∃ (b : Spec.Bzip2.Block) (restB : List Bool) (tt : Array UInt8),
    Spec.Bzip2.parseBlock 9 0 (Basic.natToBits 32 0 ++ bitsOf (St.start 0 0) Props.C09.Retrieve.tiny) =
      .ok (b, restB) ∧
    Spec.Bzip2.unMtfRle2 b.used Gen.MAX_BLOCK_SIZE b.syms.toList = .ok tt ∧
    tt.size ≠ 0 ∧ b.origPtr < tt.size ∧ 32 ≤ restB.length := by
  obtain ⟨b, tt, h1, _, _, _, _, _, h7, _, _, h10, h11⟩ :=
    Props.C05.Block.retrieve_sound 0 0 Props.C09.Retrieve.tiny true bufInv_start (by omega)
      Props.C09.Retrieve.tiny_ok 9 0 0
      (Basic.natToBits 32 0 ++ bitsOf (St.start 0 0) Props.C09.Retrieve.tiny)
      (by rw [Basic.takeNat_natToBits])
  exact ⟨b, _, tt, h1, h7, h10, h11, by rw [Props.C05.Retrieve.tiny_unread]; omega⟩

example : (retrieve (St.start 0 0) Props.C09.Retrieve.tiny true).status = .ok ∧
    (retrieve (St.start 0 0) Props.C09.Retrieve.tiny true).st.run.out.reverse = [97, 98] :=
  ⟨Props.C09.Retrieve.tiny_ok, Props.C09.Retrieve.tiny_out⟩

end LbzVerif.Props.C06.Block
