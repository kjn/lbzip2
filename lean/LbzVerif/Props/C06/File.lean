/-
  Props.C06.File — whole-file completeness of lbzip2's decompression: what the strict reference
  `Spec.Bzip2.decodeFile` accepts, the sequential composition of lbzip2's own pieces
  `Model.Expand.expandFile` (Model/Expand.lean says what it is made of) accepts with the same
  output (`expand_complete`, from `Lemmas.ExpandMain.expand_eq`).  With
  `Props.C05.File.expand_sound`: `expand_iff`.  What an answer `fuel` would mean: `expandFile_ne_fuel`.
-/
import LbzVerif.Props.C05.File

namespace LbzVerif.Props.C06.File
open LbzVerif.Basic LbzVerif.Spec.Bzip2 LbzVerif.Model.Expand
open LbzVerif.Lemmas.ExpandBits LbzVerif.Lemmas.ExpandSpec LbzVerif.Lemmas.ExpandTop
open LbzVerif.Lemmas.ExpandMain

/-- Every conforming file (one or more streams, any levels, any trailing data that does not begin
with a full "BZh1"…"BZh9" header, any length modulo 4) is decompressed, to the right bytes. -/
theorem expand_complete (x y : List UInt8) (h : Spec.Bzip2.decodeFile x = .ok y) :
    expandFile x = .ok y :=
  Lemmas.ExpandChain.okOf_eq_some.mp (expand_eq x ▸ Lemmas.ExpandChain.okOf_eq_some.mpr h)

/-- lbzip2's sequential decompression accepts a byte string with output `y`
iff the strict reference does, with the same `y`. -/
theorem expand_iff (x y : List UInt8) : expandFile x = .ok y ↔ Spec.Bzip2.decodeFile x = .ok y :=
  ⟨Props.C05.File.expand_sound x y, expand_complete x y⟩

/-- An answer `fuel` of `expandFile` could only fall on a file that the strict reference rejects too,
for a genuine reason. -/
theorem expandFile_ne_fuel (x : List UInt8) (h : expandFile x = .error .fuel) :
    ∃ e, Spec.Bzip2.decodeFile x = .error e ∧ e ≠ .fuel := by
  cases hd : Spec.Bzip2.decodeFile x with
  | ok y => rw [expand_complete x y hd] at h; cases h
  | error e => exact ⟨e, rfl, fun he => decodeFile_ne_fuel x (he ▸ hd)⟩

-- Non-vacuity: the reference accepts "hello" (`decodeFile_helloBz2`, kernel-evaluated), hence so
-- does the model.
example : expandFile Spec.Bzip2.helloBz2 = .ok [104, 101, 108, 108, 111] :=
  expand_complete _ _ Spec.Bzip2.decodeFile_helloBz2

example : expandFile Spec.Bzip2.helloBz2 = .ok [104, 101, 108, 108, 111] ↔
    Spec.Bzip2.decodeFile Spec.Bzip2.helloBz2 = .ok [104, 101, 108, 108, 111] := expand_iff _ _

-- the empty stream followed by "BZh" (a header prefix at the very end, reaching into the padding):
-- accepted with empty output by the reference, hence by the model
example : expandFile [0x42, 0x5A, 0x68, 0x39, 0x17, 0x72, 0x45, 0x38, 0x50, 0x90, 0, 0, 0, 0,
    0x42, 0x5A, 0x68] = .ok [] :=
  expand_complete _ _ (by decide +kernel)

end LbzVerif.Props.C06.File
