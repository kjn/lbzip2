/-
  Props.C06.Retrieve — the completeness side of the block retriever (`Model.Retrieve`), fact by
  fact; `Props.C06.Block.retrieve_complete` joins them with the group phase
  (Lemmas/Group*) into the statement against the oracle.  The converse is
  `Props.C05.Retrieve`; the header is done in both directions
  (`retrieve_header_complete` here, `retrieve_header_sound` there — the lemmas
  under them are equivalences).
-/
import LbzVerif.Props.C05.Retrieve

namespace LbzVerif.Props.C06.Retrieve
open LbzVerif LbzVerif.Model.Retrieve
open LbzVerif.Lemmas.RetrieveOk

open LbzVerif.Lemmas.RetrieveBits LbzVerif.Lemmas.RetrieveBitmap LbzVerif.Lemmas.RetrieveHeader
  LbzVerif.Lemmas.RetrieveDelta in
/-- A block header the reference accepts (`specHeader`, the header part of
`Spec.Bzip2.parseBlock`, see `Lemmas.RetrieveSpecLink.parseBlock_factor`) is
never rejected: the retriever arrives at the top of the group loop with exactly
the reference's rand flag, origPtr, bytes in use, counts, selector indices,
`make_tree` applied to the reference's length lists, and the reference's unread
bits — unless the words of the segment run out first (MORE / ERR_EOF), wherever
that happens and however often the call is resumed (`retrieve_split`). -/
theorem retrieve_header_complete (v w : Nat) (ws : List Nat) (inv : BufInv v w)
    (r idx : Nat) (h : Hdr) (hsp : specHeader (bitsOf (St.start v w) ws) = some (r, idx, h)) :
    (∃ s rest, toTop (St.start v w) ws = .top s rest ∧
        HdrOk { St.start v w with rand := r, bwtIdx := idx } s h ∧
        bitsOf s rest = h.rest ∧ BufInv s.v s.w) ∨
      (∃ s, toTop (St.start v w) ws = .susp s) :=
  ((header_spec_rest (St.start v w) ws (Or.inl rfl) inv).of_some hsp).imp id And.left

open LbzVerif.Lemmas.RetrieveBits LbzVerif.Lemmas.RetrieveBitmap LbzVerif.Lemmas.RetrieveHeader in
-- `tiny`: the reference accepts the header (see Props.C05.Retrieve); five of the six words are fetched
example : (specHeader (bitsOf (St.start 0 0) Props.C09.Retrieve.tiny)).isSome = true ∧
    (match toTop (St.start 0 0) Props.C09.Retrieve.tiny with
      | .top s rest => decide (s.numTrees = 2 ∧ s.alphaSize = 4 ∧ s.selector = #[1] ∧
          rest = [2863311530])
      | _ => false) = true := by
  constructor
  · obtain ⟨h, e, _⟩ := Props.C05.Retrieve.tiny_header
    rw [e]
    rfl
  · decide +kernel

/-- Acceptance does not depend on how the input arrives, nor on the fast
branch: if ONE call on the whole word list answers OK then every admissible
segmentation answers OK with the same block, index, `rand`, position.  So
completeness only has to be shown for one-shot runs of the slow branch; the
statement against the oracle is `Props.C06.Block.retrieve_complete`. -/
theorem retrieve_complete_partial (st : St) (segs : List (List Nat))
    (hadm : Props.C09.Retrieve.Admissible st segs)
    (h : (retrieve st segs.flatten true).status = .ok) :
    (retrieveAll st segs).status = .ok ∧
      (retrieveAll st segs).st = (retrieve st segs.flatten true).st ∧
      (retrieveAll st segs).rest = (retrieve st segs.flatten true).rest ∧
      retrieveAllWith false st segs = retrieve st segs.flatten true := by
  have e := Props.C09.Retrieve.retrieve_split segs st hadm
  refine ⟨by rw [e]; exact h, by rw [e], by rw [e], ?_⟩
  rw [← Props.C09.Retrieve.fast_eq_slow_all segs st]
  exact e

example : (retrieveAll (St.start 0 0)
    [[1], [3145760], [3178537], [230686720], [2863311530], [2863311530], []]).status = .ok :=
  (retrieve_complete_partial (St.start 0 0)
    [[1], [3145760], [3178537], [230686720], [2863311530], [2863311530], []]
    (by simp [Props.C09.Retrieve.Admissible, Props.C09.Retrieve.MiddleNonEmpty])
    Props.C09.Retrieve.tiny_ok).1

open LbzVerif.Model.MtfDec LbzVerif.Lemmas.MtfOne LbzVerif.Lemmas.MtfRun in
/-- Every symbol sequence the reference `Spec.Mtf.unMtfRle2` accepts (block ≤
900000 bytes, EOB present) is accepted by the retriever's symbol actions with
exactly the reference bytes. -/
theorem retrieve_symbols_complete (sl : Slide) (hinv : Inv sl) (used : List UInt8)
    (h1 : 1 ≤ used.length) (h256 : used.length ≤ 256)
    (habs : ∃ junk, abs sl = used ++ junk) (syms : List Nat)
    (hsyms : ∀ s ∈ syms, s ≤ used.length + 1) (out : List UInt8)
    (hspec : Spec.Mtf.unMtfRle2 used syms Gen.MAX_BLOCK_SIZE = some out) :
    ∃ st0 ftab, initRun sl = some st0 ∧
      symLoop st0 (syms.map (internalSym used.length)) = .ok out ftab := by
  obtain ⟨st0, e1, e2⟩ := Props.C05.Retrieve.retrieve_symbols_sound sl hinv used h1 h256 habs syms hsyms
  rw [hspec] at e2
  cases hr : symLoop st0 (syms.map (internalSym used.length)) with
  | ok o f =>
    rw [hr] at e2
    simp only [toOpt, Option.some.injEq] at e2
    exact ⟨st0, f, e1, by rw [hr, e2]⟩
  | overflow =>
    rw [hr] at e2
    simp [toOpt] at e2
  | unterm =>
    rw [hr] at e2
    simp [toOpt] at e2
  | ub =>
    rw [hr] at e2
    simp [toOpt] at e2

open LbzVerif.Model.MtfDec LbzVerif.Lemmas.MtfOne LbzVerif.Lemmas.MtfRun in
example : ∃ st0 ftab, initRun (slideOf ([97, 98, 99] ++ List.replicate 253 0)) = some st0 ∧
    symLoop st0 ([1, 2, 3, 0, 0, 3, 4].map (internalSym 3)) =
      .ok [97, 97, 98, 99, 99, 99, 99, 97] ftab :=
  retrieve_symbols_complete (slideOf ([97, 98, 99] ++ List.replicate 253 0))
    (inv_slideOf _) [97, 98, 99] (by decide) (by decide)
    ⟨List.replicate 253 0, by rw [abs_slideOf _ (by rw [List.length_append, List.length_replicate]; rfl)]⟩
    [1, 2, 3, 0, 0, 3, 4] (by decide) _ (by decide)

end LbzVerif.Props.C06.Retrieve
