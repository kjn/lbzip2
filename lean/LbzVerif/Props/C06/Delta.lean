/-
  C06 (completeness), delta-coded code lengths: every table the strict
  bit-by-bit reference accepts — any start value 1…20, any zig-zag path that
  stays within 1…20 — is accepted by `retrieve()`'s windowed reader with the
  same lengths and the same number of bits consumed, wherever the 6-bit
  windows fall and whatever bits follow the table.
-/
import LbzVerif.Lemmas.Delta

namespace LbzVerif.Props.C06

theorem deltaWindow_complete (n : Nat) (hn : 0 < n) (bits : List Bool)
    (lens : List Nat) (rest : List Bool)
    (h : Spec.Delta.table n bits = some (lens, rest)) :
    Model.Delta.table n bits = .ok lens rest := by
  rw [← Lemmas.Delta.table_eq n hn bits] at h
  exact Lemmas.Delta.toOpt_eq_some.mp h

/-- Both directions at once: the windowed reader accepts exactly the tables of
the format. -/
theorem deltaWindow_iff (n : Nat) (hn : 0 < n) (bits : List Bool)
    (lens : List Nat) (rest : List Bool) :
    Model.Delta.table n bits = .ok lens rest ↔
      Spec.Delta.table n bits = some (lens, rest) := by
  rw [← Lemmas.Delta.table_eq n hn bits]
  exact Lemmas.Delta.toOpt_eq_some.symm

private def bitsOf (s : String) : List Bool := s.toList.map (· == '1')

-- one symbol walks 1 → 4 → 1 (three-step windows without terminator), the
-- next ones stay; the bits after the table ("111") are not touched
example : Spec.Delta.table 3 (bitsOf "00001101010111111000111") =
      some ([1, 1, 1], bitsOf "111") ∧
    Model.Delta.table 3 (bitsOf "00001101010111111000111") =
      .ok [1, 1, 1] (bitsOf "111") := by decide

end LbzVerif.Props.C06
