/-
  C11, expansion half (tree as of /repo commit b64cc56: `discard()` frees the
  job's unord_blk and takes it out of unord_q; F2, F4, F5 repaired).

  The theorems hold for every `n`, slot count, granularity, input abstraction, candidate set
  and interleaving (all reachable states of `Model.SchedD`): the safety properties, `progress`
  (deadlock-freedom, under `EMIT_THRESH < total_out`) and `terminates`; then, on the refinement
  `Model.SchedDW` that adds `next_task`, the mutex holder and the workers' condition-variable
  states, `no_lost_wakeup`, `deadlock_free_w` and `terminates_w` (only spurious wake-ups can
  keep a run going).
-/
import LbzVerif.Lemmas.SchedD.Safe
import LbzVerif.Lemmas.SchedD.Lo
import LbzVerif.Lemmas.SchedD.Leak
import LbzVerif.Lemmas.SchedD.Cons
import LbzVerif.Lemmas.SchedD.Hi
import LbzVerif.Lemmas.SchedD.Progress
import LbzVerif.Lemmas.SchedD.Exact
import LbzVerif.Lemmas.SchedD.OrderCap
import LbzVerif.Lemmas.SchedD.UnordCap
import LbzVerif.Lemmas.SchedD.ProgressFinal
import LbzVerif.Lemmas.SchedD.Measure
import LbzVerif.Lemmas.SchedD.Wake
import LbzVerif.Lemmas.SchedD.WakeLive
import LbzVerif.Lemmas.SchedD.Witness
import LbzVerif.Props.C10
import LbzVerif.Lemmas.SchedD.WakeWitness

namespace LbzVerif.Props.C11.Expand
open LbzVerif.Model.SchedD LbzVerif.Lemmas.SchedD LbzVerif.Gen

/-- **order** (full strength): in every reachable state the buffers handed to
    the sink are, in this order, an initial segment of the sequential output —
    so blocks reach the writer in stream order, without gap or repetition. -/
theorem order {c : Cfg} {s : State} (h : Reach c s) : s.written <+: (seqRun c).1 :=
  (C10.spec_safe h).2.1

/-- **mastership** (full strength): the parse token and the master retrieve
    job exclude each other — at most one job in `retr_q` or running is
    master-capable (created by the parser, or confirmed legitimate), and none
    while the parser holds or may take the token. -/
theorem single_master {c : Cfg} {s : State} (h : Reach c s) (hf : s.failed = false) :
    mcount s ≤ 1 ∧ ((s.ptok = true ∨ s.pphase.isSome = true) → mcount s = 0) ∧
    (s.ptok = true → s.pphase = none) := by
  have g := (inv_reach h).si hf
  exact ⟨g.mc1, g.mc0, g.excl⟩

theorem reach_of_run {c : Cfg} {ls : List Label} {p : State → Bool}
    (h : (run c (init c) ls).any p = true) : ∃ s, Reach c s ∧ p s = true :=
  Lemmas.SchedD.reach_of_run h

example : ∃ s, Reach cfgF5 s ∧ s.failed = false ∧ mcount s = 1 := by
  have h : (run cfgF5 (init cfgF5) traceF5).any
      (fun s => !s.failed && decide (mcount s = 1)) = true := by decide +kernel
  obtain ⟨s, hr, hp⟩ := reach_of_run h
  simp only [Bool.and_eq_true, decide_eq_true_eq, Bool.not_eq_true'] at hp
  exact ⟨s, hr, hp.1, hp.2⟩

theorem f2_terminated :
    ∃ s, run cfgF4 (init cfgF4) traceF2 = some s ∧ terminated cfgF4 s = true := by
  obtain ⟨s, hr, hp⟩ := (Option.any_eq_true _ _).1 f2_repaired
  simp only [Bool.and_eq_true] at hp
  exact ⟨s, hr, hp.1.1.1⟩

/-- **conservation** (full strength): while `failf` has not been called, the
    free work units plus the jobs queued in `retr_q`/`emit_q` plus the busy
    workers make up `n`, and the free output slots plus the buffers in
    `reord_q`, at the writer, and being emitted make up `total_out`. -/
theorem conservation {c : Cfg} {s : State} (h : Reach c s) (hf : s.failed = false) :
    s.wu + s.retrQ.length + s.emitQ.length + busyCount s = c.n ∧
    s.outSlots + s.reordQ.length + s.outq + emitBusy s = c.totalOut :=
  let ci := ci_reach h hf
  ⟨ci.wuC, ci.osC⟩

/-- **capacity** (full strength) of `retr_q`, `emit_q` (≤ n) and `reord_q`,
    `output_q` (≤ total_out); the counters never exceed their totals. -/
theorem capacity {c : Cfg} {s : State} (h : Reach c s) (hf : s.failed = false) :
    s.retrQ.length ≤ c.n ∧ s.emitQ.length ≤ c.n ∧ s.reordQ.length ≤ c.totalOut ∧
    s.outq ≤ c.totalOut ∧ s.wu ≤ c.n ∧ s.outSlots ≤ c.totalOut ∧ busyCount s ≤ c.n :=
  capacities h hf

/-- **conservation of input slots** (full strength for input granularity
    `W ≥ 1`): free input slots + blocks in `input_q` + released blocks still
    attached by a worker + the buffer the reader holds = `total_in`. -/
theorem in_slots_conservation {c : Cfg} (hW : 0 < c.W) {s : State} (h : Reach c s) :
    s.inSlots + inputAlive s = c.totalIn :=
  in_slots_conserved hW h

/-- **no lost block** (full strength): every entry `(b,i)` of `order_q` keeps a
    producer — a master-capable retrieve job of block `b`, an emit job of block
    `b` that will still produce buffer `i`, or a buffer of block `b` with index
    `≥ i` in `reord_q` — so a parsed block can never be forgotten, and `order_q`
    is empty when the run terminates. -/
theorem no_lost_block {c : Cfg} {s : State} (h : Reach c s) :
    (s.failed = false → HI c s) ∧ (terminated c s = true → s.orderQ = []) :=
  ⟨fun hf => holder_reach h hf, fun ht => terminated_order_empty h ht⟩

/-- **unord_cap** (on the tree with the F4 repair; full strength under the stated
    hypotheses): with at least one worker, more output slots than the emit
    reserve (`EMIT_THRESH < total_out`; the shipped slot formulas give
    `total_out ≥ 2n`, and scanning needs `n ≥ 2`) and non-empty input blocks,
    `|unord_q| ≤ Gen.unordCap n total_out = n + total_out − UNORD_THRESH` in every
    reachable state: every entry is backed by a work unit (a live speculative
    job or an emit job of its finished block) or by an output slot (a buffer of
    its finished block in `reord_q`), and one work unit and two output slots are
    always free or held by something non-speculative (`unord_reserve`).  The
    hypotheses are necessary: BFS finds `|unord_q| > cap` when `total_out ≤ 2`. -/
theorem unord_q_capacity {c : Cfg} (hW : 0 < c.W) (hn : 1 ≤ c.n) (ho : EMIT_THRESH < c.totalOut)
    {s : State} (h : Reach c s) (hf : s.failed = false) :
    unordSize s ≤ unordCap c.n c.totalOut :=
  unord_cap hW hn ho h hf

/-- on the F4 run the dropped jobs' entries have left unord_q -/
example : ∃ s, Reach cfgF4 s ∧ unordSize s = 1 ∧ unordCapOf cfgF4 = 3 := by
  obtain ⟨s, hr, hp⟩ := reach_of_run f4_repaired
  simp only [Bool.and_eq_true, decide_eq_true_eq] at hp
  exact ⟨s, hr, hp.1.1, hp.1.2⟩

/-- **capacity of `order_q`** (full strength): `|order_q| ≤ n + total_out`
    (`Gen.orderCap`, the extent given to `deque_init(order_q, …)`): entries have
    pairwise different bases and each has a producer holding a work unit or an
    output slot. -/
theorem order_q_capacity {c : Cfg} {s : State} (h : Reach c s) (hf : s.failed = false) :
    s.orderQ.length ≤ orderCap c.n c.totalOut :=
  order_cap h hf

/-- **everything is given back** (full strength): when all workers have left
    the loop, no job, buffer or busy worker is left, no `unord_blk` is live. -/
theorem quiescent_at_termination {c : Cfg} {s : State} (h : Reach c s)
    (ht : terminated c s = true) :
    s.retrQ = [] ∧ s.emitQ = [] ∧ s.busy = [] ∧ s.pphase = none ∧ s.reordQ = [] ∧ s.outq = 0
    ∧ s.orphans = [] ∧ s.orderQ = [] :=
  let q := terminated_quiescent h ht
  ⟨q.1, q.2.1, q.2.2.1, q.2.2.2.1, q.2.2.2.2.1, q.2.2.2.2.2, (no_unord_leak_terminated h ht).1,
    terminated_order_empty h ht⟩

example : ∃ s, Reach cfgF4 s ∧ terminated cfgF4 s = true :=
  let ⟨s, hr, ht⟩ := f2_terminated
  ⟨s, reach_run _ Reach.init hr, ht⟩

/-- **attach_in_range** (full strength, on the tree with the F5 repair): every
    retrieve job in `retr_q` — master or speculative —, every scan job and,
    while parsing is not done, the parser position lie at or after `head_offs`;
    so `attach()` is only ever called in range (`can_attach` supplies the upper
    bound `≤ tail_offs`). -/
theorem attach_in_range {c : Cfg} {s : State} (h : Reach c s) :
    (∀ j ∈ s.retrQ, headOffs c s ≤ j.curr) ∧ (∀ sp ∈ s.scanQ, headOffs c s ≤ sp) ∧
    (s.pdone = false → headOffs c s ≤ s.ppos) ∧ staleAttach c s = false :=
  LbzVerif.Lemmas.SchedD.attach_in_range h

/-- on the F5 run the overtaken job is discarded (its unord_blk leaves
    unord_q with it) and `retr_q` is in range -/
example : ∃ s, Reach cfgF5 s ∧ headOffs cfgF5 s = 6 ∧ unordSize s = 0 := by
  obtain ⟨s, hr, hp⟩ := reach_of_run f5_repaired
  simp only [Bool.and_eq_true, decide_eq_true_eq] at hp
  exact ⟨s, hr, hp.1.1.2, hp.2⟩

/-- **no_unord_leak** (full strength, on the tree with the F2 repair): every
    `unord_blk` that no retrieve job owns is still in `unord_q` (so the parser
    frees it when it pops it), none is left once parsing is done, and the leak
    counter of the model is 0.  (That an owned `unord_blk` is linked from exactly
    one job holds by construction of the model: `Job.ub`.) -/
theorem no_unord_leak {c : Cfg} {s : State} (h : Reach c s) (hf : s.failed = false) :
    (∀ u ∈ s.orphans, u.f.inq = true) ∧ (s.pdone = true → s.orphans = []) ∧ leakedCount s = 0 :=
  let l := LbzVerif.Lemmas.SchedD.no_unord_leak h hf
  ⟨l.1, l.2, leakedCount_zero h hf⟩

/-- **progress** (deadlock-freedom, full strength under the stated hypotheses):
    with at least one worker, more output slots than the emit reserve
    (`EMIT_THRESH < total_out`), non-empty input blocks and at least one input
    slot, every reachable state that is not final (`failf` not called, workers
    not all gone) has an enabled transition — of the reader, the writer or a
    worker.  The hypothesis on `total_out` is necessary: with `total_out ≤ 2` and
    `n ≥ 2` BFS finds stuck states (an emit job of a spurious block beyond the
    end of the stream can never take a slot once `order_q` is empty); the
    shipped slot formulas give `total_out ≥ 2n ≥ 4` whenever scanning is possible.
    Proof: a state without enabled transition is quiescent (`progress_partial`),
    and a reachable quiescent state is the terminated state
    (`Lemmas/SchedD/ProgressFinal.lean: quiescent_final`, from: the exact next
    buffer of the head of `order_q` exists or is still to be produced; at most
    `total_out − 2` slots are held ahead of the output position; while the
    parse token is available a work unit is free or held by the emit job of a
    confirmed block; a master or parser waiting for input stands at `tail_offs`
    and then `input_q` is empty, so the reader has a free slot). -/
theorem progress {c : Cfg} (hW : 0 < c.W) (hn : 1 ≤ c.n) (ho : EMIT_THRESH < c.totalOut)
    (hti : 1 ≤ c.totalIn) {s : State} (h : Reach c s) (hnf : final c s = false) :
    enabled c s ≠ [] :=
  progress_reach hW hn ho hti h hnf

/-- the hypotheses are satisfiable: the F4 shape (n = 2, in = 2, out = 4, W = 2) -/
example : enabled cfgF4 (init cfgF4) ≠ [] :=
  progress (c := cfgF4) (by decide) (by decide) (by decide) (by decide) Reach.init (by decide)

/-- **progress_partial** (a lemma of `progress`, without hypotheses on the
    configuration): a reachable state in which no transition at all is enabled
    is QUIESCENT: no worker is inside a task, the writer has nothing to write,
    the reader is done or blocked on `in_slots = 0`, and `select_task()` finds
    no runnable task (or `n = 0`). -/
theorem progress_partial {c : Cfg} {s : State} (_h : Reach c s) (hf : s.failed = false)
    (hs : enabled c s = []) : Quiescent c s :=
  stuck_quiescent hf hs

/-- the hypotheses of `progress_partial` are met by the terminated state of the
    F2 run (which is final, hence legitimately without successor) -/
example : ∃ s, Reach cfgF4 s ∧ s.failed = false ∧ enabled cfgF4 s = [] := by
  obtain ⟨s, hr, ht⟩ := f2_terminated
  have hR := reach_run _ Reach.init hr
  refine ⟨s, hR, (terminated_facts ht).1, List.filter_eq_nil_iff.2 fun l _ => ?_⟩
  rw [terminated_no_step hR ht]
  exact Bool.false_ne_true

/-- **measure**: `mu c s` is a 10-tuple (not failed; unread input and reader
    phase; parsing not done; distance of the next header origin to the end of
    the input; distance of the parser position to the end; scan tasks with the
    candidates they can still report; retrieve jobs with their distance to the
    end of the input; buffers still to emit; buffers in reord_q / at the writer;
    queued items not yet picked up) that decreases in the lexicographic order
    `muLt` (well-founded: `muLt_wf`) along EVERY transition of a reachable state
    — there is no label that may repeat for free (the base model has no
    spurious wake-up; the wake-up layer is `Model.SchedDW`).  Only `0 < W` (input
    blocks are non-empty) is needed: `T` is finite, each block emits finitely
    many buffers (`RRes.nb`), and speculative work is bounded because a scan
    position only moves forward and reports each candidate once. -/
theorem measure_decreases {c : Cfg} (hW : 0 < c.W) {s s' : State} {l : Label} (h : Reach c s)
    (hs : step c s l = some s') : muLt (mu c s') (mu c s) :=
  step_measure hW h hs

/-- **terminates**: there is no infinite run from a reachable state, for any
    schedule (no fairness assumption, no hypothesis on the slot counts). -/
theorem terminates {c : Cfg} (hW : 0 < c.W) (f : Nat → State) (ℓ : Nat → Label)
    (h0 : Reach c (f 0)) : ¬ ∀ i, step c (f i) (ℓ i) = some (f (i + 1)) :=
  Lemmas.Lts.no_infinite_run (step := step c) muLt_wf (fun _ _ _ hr hs => .step _ hr hs)
    (fun _ _ _ => step_measure hW) f ℓ h0

/-- … and a run that cannot be extended has ended in the final state (`failf`
    was called, or all workers left the loop — then `output_eq` applies).  So
    every maximal run is finite and ends in the final state. -/
theorem maximal_run_final {c : Cfg} (hW : 0 < c.W) (hn : 1 ≤ c.n) (ho : EMIT_THRESH < c.totalOut)
    (hti : 1 ≤ c.totalIn) {s : State} (h : Reach c s) (hmax : enabled c s = []) :
    final c s = true := by
  cases hfin : final c s with
  | true => rfl
  | false => exact absurd hmax (progress hW hn ho hti h hfin)

/-- non-vacuity: the measure of the initial state of the F4 shape, and the
    37-step run `traceF2` is a strictly descending chain ending in termination -/
example : ∃ s', run cfgF4 (init cfgF4) traceF2 = some s' ∧ terminated cfgF4 s' = true ∧
    Relation.TransGen muLt (mu cfgF4 s') (mu cfgF4 (init cfgF4)) :=
  let ⟨s', hr, ht⟩ := f2_terminated
  ⟨s', hr, ht, run_measure (c := cfgF4) (by decide) traceF2 Reach.init hr (by simp [traceF2])⟩

open LbzVerif.Model.SchedDW in
/-- **no_lost_wakeup**.  `Model.SchedDW` refines the base model with the C
    variable `next_task`, the holder of `sched_mutex` and one state per worker
    (`ready`: runnable, wants the mutex; `inloop`: holds it at the top of
    `while (next_task != NULL)`; `running`: inside a task, mutex released;
    `waiting`: in `xwait`; `exited`), `sched_unlock` = `select_task()` + `xsignal`
    iff `next_task != NULL || finished()`, `xwait` without signal, `xbroadcast`
    at exit, and spurious wake-ups.  Every refined run projects to a run of the
    base model (`reachW_base`), so all theorems above apply.  In every reachable
    refined state:
    * whenever `sched_mutex` is free, `next_task = select_task(state)`, and if a
      task is ready or the process has finished then some worker is runnable
      (`ready`) or nobody is waiting — no wake-up is lost;
    * a worker has exited only if the base state is terminated, and then nobody
      waits any more;
    * the `running` workers are exactly the base model's busy workers, and a
      worker at the top of the loop always finds the base model's
      "a worker is available" guard true — the refinement never blocks a task
      the C program would start. -/
theorem no_lost_wakeup {c : Cfg} (hW : 0 < c.W) {w : WState} (h : ReachW c w) :
    (w.holder = none → (w.nextTask.isSome = true ∨ finished c w.base = true) →
      WPh.ready ∈ w.ws ∨ ∀ p ∈ w.ws, p ≠ .waiting) ∧
    (w.holder = none → w.nextTask = selectTask c w.base) ∧
    (WPh.exited ∈ w.ws → terminated c w.base = true ∧ ∀ p ∈ w.ws, p ≠ .waiting) ∧
    (w.ws.filter (· == .running)).length = busyCount w.base ∧
    (∀ i : Nat, w.ws[i]? = some WPh.inloop → freeWorker c w.base = true) ∧
    Reach c w.base :=
  let n := LbzVerif.Lemmas.SchedD.no_lost_wakeup h
  ⟨n.1, n.2, exit_final h, running_count h, fun _ hi => inloop_free h hi, reachW_base h⟩

open LbzVerif.Model.SchedDW in
/-- non-vacuity: a refined run (n = 2) reaches a state with the mutex free, a task
    selected, one worker waiting and the other one runnable; another one reaches
    the state where both workers have exited -/
example : (∃ w, ReachW wakeCfg w ∧ w.holder = none ∧ w.nextTask.isSome = true ∧
      WPh.waiting ∈ w.ws ∧ WPh.ready ∈ w.ws) ∧ (∃ w, ReachW wakeCfg w ∧ WPh.exited ∈ w.ws) :=
  ⟨wake_reach_signal, wake_reach_exit⟩

open LbzVerif.Model.SchedDW in
/-- **deadlock_free_w**.  On `Model.SchedDW` (threads, `sched_mutex`, `next_task`,
    `xwait`/`xsignal`/`xbroadcast`, spurious wake-ups): every reachable refined
    state that is not final — `finalW c w` = `failf` was called, or the scheduler
    data are terminated AND every worker thread has left its loop — has an
    enabled transition that is not a spurious wake-up.  Hypotheses exactly as
    for `progress`.  Combines `progress` (some task section / I/O step is
    enabled in the base model), `no_lost_wakeup` (when `next_task != NULL` or
    `finished()`, a worker is runnable or nobody waits; with the mutex free,
    `next_task` is `select_task()` of the current data) and `inloop_free` (the
    worker at the top of the loop can start the selected task).  So the C
    program cannot hang with all workers in `xwait` while work is left or the
    exit broadcast is due — for any schedule, no fairness assumption. -/
theorem deadlock_free_w {c : Cfg} (hW : 0 < c.W) (hn : 1 ≤ c.n) (ho : EMIT_THRESH < c.totalOut)
    (hti : 1 ≤ c.totalIn) {w : WState} (h : ReachW c w) (hnf : finalW c w = false) :
    ∃ l, WLabel.isSpurious l = false ∧ (stepW c w l).isSome = true :=
  LbzVerif.Lemmas.SchedD.deadlock_free_w hW hn ho hti h hnf

open LbzVerif.Model.SchedDW in
/-- non-vacuity: the hypotheses hold for the two-worker configuration `wakeCfg`;
    a reachable non-final state with worker 1 still in `xwait` (worker 0 was
    woken by the reader's signal) has an enabled non-spurious transition -/
example : ∃ w, ReachW wakeCfg w ∧ WPh.waiting ∈ w.ws ∧ finalW wakeCfg w = false ∧
    ∃ l, WLabel.isSpurious l = false ∧ (stepW wakeCfg w l).isSome = true :=
  wake_reach_live

open LbzVerif.Model.SchedDW in
/-- the measure of the refined model: the base measure `mu`, then the number of
    worker threads that have not exited, then the steps an idle worker still
    takes on its own (`ready` 2, `inloop` 1).  It decreases (`muLtW`,
    well-founded: `muLtW_wf`) along every transition of a reachable refined
    state except a spurious wake-up, which costs exactly 2 units of the last
    component and nothing else (`spurious_cost_w`). -/
theorem measure_decreases_w {c : Cfg} (hW : 0 < c.W) {w w' : WState} {l : WLabel}
    (h : ReachW c w) (hl : WLabel.isSpurious l = false) (hs : stepW c w l = some w') :
    muLtW (muW c w') (muW c w) :=
  stepW_measure hW h hl hs

open LbzVerif.Model.SchedDW in
/-- **terminates_w**: in every infinite run of the refined model, from any
    reachable state and for any schedule, the steps that are not spurious
    wake-ups run out again and again: after every index `N` there is an
    `i ≥ N` whose label is a spurious wake-up (the same form as on the
    compression side, `Props.C11.Compress.terminates`).  In particular there is
    no infinite run without spurious wake-ups (`terminates_w_ns`), so every
    maximal run in which the environment eventually stops waking waiters
    spuriously is finite, and it ends in the final state with all workers
    exited (`maximal_run_final_w`).  (Literally "finitely many non-spurious
    steps" would be false: each spurious wake-up is answered by the woken
    worker re-taking the mutex and calling `xwait` again — two non-spurious
    steps, which is exactly what `spurious_cost_w` accounts for.) -/
theorem terminates_w {c : Cfg} (hW : 0 < c.W) (f : Nat → WState) (ℓ : Nat → WLabel)
    (h0 : ReachW c (f 0)) (hstep : ∀ i, stepW c (f i) (ℓ i) = some (f (i + 1))) :
    ∀ N, ∃ i, N ≤ i ∧ WLabel.isSpurious (ℓ i) = true :=
  LbzVerif.Lemmas.SchedD.terminates_w hW f ℓ h0 hstep

open LbzVerif.Model.SchedDW in
/-- no infinite run without spurious wake-ups -/
theorem terminates_w_ns {c : Cfg} (hW : 0 < c.W) (f : Nat → WState) (ℓ : Nat → WLabel)
    (h0 : ReachW c (f 0)) :
    ¬ ∀ i, WLabel.isSpurious (ℓ i) = false ∧ stepW c (f i) (ℓ i) = some (f (i + 1)) :=
  LbzVerif.Lemmas.SchedD.terminates_w_ns hW f ℓ h0

open LbzVerif.Model.SchedDW in
/-- … and a run that ends in a state with no enabled non-spurious transition
    has ended in the final state (`finalW`; when terminated, `output_eq` applies). -/
theorem maximal_run_final_w {c : Cfg} (hW : 0 < c.W) (hn : 1 ≤ c.n) (ho : EMIT_THRESH < c.totalOut)
    (hti : 1 ≤ c.totalIn) {w : WState} (h : ReachW c w)
    (hmax : ∀ l, WLabel.isSpurious l = false → stepW c w l = none) :
    w.base.failed = true ∨ (terminated c w.base = true ∧ ∀ p ∈ w.ws, p = .exited) := by
  cases hfw : finalW c w with
  | false =>
    obtain ⟨l, hl, hs⟩ := deadlock_free_w hW hn ho hti h hfw
    rw [hmax l hl] at hs; cases hs
  | true =>
    simp only [finalW, Bool.or_eq_true, Bool.and_eq_true, List.all_eq_true, beq_iff_eq] at hfw
    exact hfw

open LbzVerif.Model.SchedDW in
/-- non-vacuity: in `wakeCfg` a first step strictly decreases the measure, a
    spurious wake-up is enabled in a reachable state (and adds 2 to the last
    component only), and the run `wakeTrace2` reaches the final state with both
    workers exited -/
example : (∃ w', stepW wakeCfg (initW wakeCfg) (.acquire 0) = some w' ∧
      muLtW (muW wakeCfg w') (muW wakeCfg (initW wakeCfg))) ∧
    (∃ w w', ReachW wakeCfg w ∧ stepW wakeCfg w (.spurious 0) = some w' ∧
      w'.base = w.base ∧ live w' = live w ∧ phW w' = phW w + 2) ∧
    (∃ w, ReachW wakeCfg w ∧ finalW wakeCfg w = true ∧ w.base.failed = false ∧
      ∀ p ∈ w.ws, p = WPh.exited) := by
  refine ⟨?_, wake_spurious, ?_⟩
  · obtain ⟨w', hs, _, hlt⟩ := wake_first_step
    exact ⟨w', hs, hlt⟩
  · obtain ⟨w, hr, hp⟩ := reachW_of_any wake_run2
    simp only [Bool.and_eq_true, Bool.not_eq_true', decide_eq_true_eq] at hp
    obtain ⟨⟨hws, ht⟩, hf⟩ := hp
    exact ⟨w, hr, by simp [finalW, ht, hws], hf, by simp [hws]⟩

end LbzVerif.Props.C11.Expand
