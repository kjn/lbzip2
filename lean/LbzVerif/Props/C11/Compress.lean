/-
  Props.C11.Compress — C11 (compression half): the compression scheduler is
  bounded, conserves its resources and hands blocks to the writer in stream
  order, in every reachable state of `Model.SchedC` — i.e. for every worker
  count `n`, every input, every codec behaviour and every interleaving
  (spurious wake-ups included).  Guards, priority order, thresholds and
  capacities are the generated ones (`Gen.SchedC`).
-/
import LbzVerif.Lemmas.Lts
import LbzVerif.Lemmas.SchedC.Witness
import LbzVerif.Lemmas.SchedC.WitnessS
import LbzVerif.Lemmas.SchedC.Enabled
import LbzVerif.Lemmas.SchedC.Measure
import LbzVerif.Lemmas.SchedC.Quiet

namespace LbzVerif.Props.C11.Compress
open LbzVerif.Gen LbzVerif.Model.SchedC

variable {α σ : Type}

/-- **capacity**: no queue ever holds more than the extent given to
    `pqueue_init` / `deque_init` (generated `cCaps`: `coll_q` ≤ total_in_slots,
    `trans_q` ≤ num_worker, `reord_q` ≤ total_out_slots; `output_q` ≤
    total_out_slots). -/
theorem capacity {c : Cfg} {cd : Codec α σ} {input : List α} {s : State α σ}
    (h : Reach c cd input s) :
    s.collQ.length ≤ c.caps.1 ∧ s.transQ.length ≤ c.caps.2.1 ∧ s.reordQ.length ≤ c.caps.2.2 ∧
      s.outputQ.length ≤ c.totalOut :=
  capacity_of_conserved (inv1_reach h).cons

/-- capacity with the numbers `set_memory_constraints()` produces -/
theorem capacity_gen {n bs : Nat} {u : Bool} {cd : Codec α σ} {input : List α} {s : State α σ}
    (h : Reach (Cfg.ofGen n bs u) cd input s) :
    s.collQ.length ≤ 2 * n ∧ s.transQ.length ≤ n ∧ s.reordQ.length ≤ 2 * n + 2 :=
  let ⟨a, b, c, _⟩ := capacity h
  ⟨a, b, c⟩

example : wMid.reordQ.length = 1 ∧ Reach wCfg wCodec wInput wMid := by
  refine ⟨?_, wMid_reach⟩
  rw [wMid_eq]
  decide

/-- **conservation**: work units, output slots and input slots are either
    free or held by exactly one holder (`unitHolders` = workers inside a task +
    `trans_q` + `unfinished_work`; `slotHolders` = transmitting workers +
    `reord_q` + `output_q` + the buffer being written; `chunkHolders` =
    reader's buffer + `coll_q` + workers collecting), and there are `n`
    workers. -/
theorem conservation {c : Cfg} {cd : Codec α σ} {input : List α} {s : State α σ}
    (h : Reach c cd input s) :
    s.workUnits + unitHolders s = c.n ∧ s.outSlots + slotHolders s = c.totalOut ∧
      s.inSlots + chunkHolders s = c.totalIn ∧ s.ws.length = c.n :=
  let i := (inv1_reach h).cons
  ⟨i.units, i.slots, i.chunks, i.nWorkers⟩

example : wMid.workUnits = 1 ∧ unitHolders wMid = 1 ∧ slotHolders wMid = 2 ∧
    Reach wCfg wCodec wInput wMid := by
  obtain ⟨_, _, hu, _, _, huh, hsh, _⟩ := wMid_facts
  exact ⟨hu, huh, hsh, wMid_reach⟩

/-- the sequential-mode token is conserved too: either `collect_token` is set
    or exactly one worker is inside the protected part of `do_collect_seq`, and
    `unfinished_work` is NULL meanwhile. -/
theorem token_conservation {c : Cfg} {cd : Codec α σ} {input : List α} {s : State α σ}
    (h : Reach c cd input s) :
    (s.ws.map WPhase.tok).sum + boolCount s.collectToken = 1 ∧
      (s.collectToken = false → s.unfinished = none) :=
  let i := (inv1_reach h).cons
  ⟨i.token, i.unf⟩

/-- **order**: the blocks handed to `sink_write_buffer` are exactly the
    `next` chain from position (0,0) — each block starts where its
    predecessor's `next` points, `pos < next`, `order` is the end of the chain
    — and the writer thread writes them in hand-over order. -/
theorem order {c : Cfg} {cd : Codec α σ} {input : List α} {s : State α σ}
    (h : Reach c cd input s) :
    Chain ⟨0, 0⟩ s.handed s.order ∧ s.handed = s.written ++ s.wr.toList ++ s.outputQ :=
  let i := order_reach h
  ⟨i.chain, i.fifo⟩

/-- hence strictly increasing positions (each block once, no gaps by `Chain`) -/
theorem order_strict {c : Cfg} {cd : Codec α σ} {input : List α} {s : State α σ}
    (h : Reach c cd input s) : s.handed.Pairwise (fun x y => x.pos.lt y.pos = true) :=
  (chain_pairwise (order h).1).1

example : wFinal.handed.map (·.pos) = [⟨0, 0⟩, ⟨1, 0⟩, ⟨2, 0⟩] ∧
    Reach wCfg wCodec wInput wFinal := ⟨wFinal_facts.2.2.1, wFinal_reach⟩

/-- **wake-up discipline, first half**: in every state `next_task` equals
    `select_task()` of that state (so a worker that obtains the mutex and reads
    the stored `next_task` reads the right value). -/
theorem next_task_selected {c : Cfg} {cd : Codec α σ} {input : List α} {s : State α σ}
    (h : Reach c cd input s) : s.nextTask = selectTask (view c s) :=
  (inv1_reach h).sel

/-- **conservation at termination**: when `can_terminate()` holds everything
    is back (what `primary_thread` asserts, compiled out in the shipped build). -/
theorem terminal_conservation {c : Cfg} {cd : Codec α σ} {input : List α} {s : State α σ}
    (h : Reach c cd input s) (hf : finished c s = true) :
    s.workUnits = c.n ∧ s.outSlots = c.totalOut ∧ s.inSlots = c.totalIn ∧ s.eof = true ∧
      s.collQ = [] ∧ s.transQ = [] ∧ s.reordQ = [] ∧ s.outputQ = [] ∧ s.wr = none :=
  let r := restored_reach h hf
  ⟨r.units, r.outSlots, r.inSlots, r.eof, r.collQ, r.transQ, r.reordQ, r.outputQ, r.wr⟩

example : finished wCfg wFinal = true ∧ Reach wCfg wCodec wInput wFinal :=
  ⟨wFinal_facts.2.1, wFinal_reach⟩

/-- a worker that holds the mutex at the head of the worker loop ALWAYS has an
    enabled step: the stored `next_task` is runnable because its generated
    guard implies the preconditions of the task body (non-empty queue, a work
    unit / output slot to take: no `dequeue` on an empty queue, no counter
    underflow), or it waits / exits. -/
theorem head_progress {c : Cfg} {cd : Codec α σ} {input : List α} {s : State α σ}
    (h : Reach c cd input s) (i : Nat) (hi : s.ws[i]? = some .atHead) :
    ∃ k s', step c cd s (.run i k) = some s' := by
  obtain ⟨k, s', hk⟩ := head_enabled (inv1_reach h).sel i
  exact ⟨k, s', by simp only [step, hi]; exact hk⟩

/-- `sched_unlock()` always succeeds (some waiter can be chosen for the signal) -/
theorem unlock_never_blocks (c : Cfg) (s : State α σ) : ∃ k s', unlock c s k = some s' :=
  unlock_some c s

example : ∃ s : State Nat (List Nat), Reach wCfg wCodec wInput s ∧ s.ws[0]? = some .atHead :=
  ⟨_, reach_of_run [.rTake, .rDeliver 0, .acquire 0] .init rfl, by decide⟩

/-- **wake-up discipline, second half (no lost wake-up)**: in every reachable
    state in which `sched_mutex` is free and a task is ready or the process has
    finished, some worker has a wake-up pending or nobody is in `xwait`; a
    worker exits only when `can_terminate()` holds, and after the first exit
    (`xbroadcast`) nobody waits; `do_collect_seq` never trips
    `assert(iblk != NULL)`.  All interleavings, spurious wake-ups included. -/
theorem no_lost_wakeup {c : Cfg} {cd : Codec α σ} {input : List α} {s : State α σ}
    (h : Reach c cd input s) :
    (lockFree s = true → (s.nextTask.isSome = true ∨ finished c s = true) →
      WPhase.ready ∈ s.ws ∨ ∀ p ∈ s.ws, p.isWaiting = false) ∧
    (WPhase.exited ∈ s.ws → finished c s = true ∧ ∀ p ∈ s.ws, p.isWaiting = false) ∧
    (∀ p ∈ s.ws, p ≠ .s1 none none) :=
  let w := wake_reach h
  ⟨w.noLost, w.exitFin, w.noBad⟩

theorem terminate_stable {c : Cfg} {cd : Codec α σ} {input : List α} {s s' : State α σ}
    {l : Label} (h : Reach c cd input s) (hf : finished c s = true)
    (hs : step c cd s l = some s') : finished c s' = true := by
  obtain ⟨sp, k, t, hc, he, -⟩ := step_inv hs
  have i1 := inv1_reach h
  have hv := core_fin_view i1.cons i1.sel (reader_reach h) hf hc
  simp only [finished] at hf ⊢
  rw [ends_view he, hv]
  exact hf

/-- **progress, up to the quiet state** (weaker than `progress`, but it needs
    neither `Codec.OK` nor the slot hypotheses): with at least one
    worker, every reachable state that is not final has an enabled transition
    that is not a spurious wake-up — a thread that is not blocked on a condition
    variable can always move — OR the state is *quiet*: `sched_mutex` free,
    every worker in `xwait` and none gone, the reader done or stalled on
    `in_slots == 0`, the writer idle with an empty `output_q`. -/
theorem progress_partial {c : Cfg} {cd : Codec α σ} {input : List α} {s : State α σ}
    (hn : 1 ≤ c.n) (h : Reach c cd input s) (hnf : isFinal s = false) :
    (∃ l s', Label.isSpurious l = false ∧ step c cd s l = some s') ∨ Quiet s := by
  have i1 := inv1_reach h
  have wk := wake_reach h
  rcases worker_enabled (cd := cd) i1.sel wk.noBad with hc | ⟨hl, hall⟩
  · exact .inl hc
  rcases reader_enabled (c := c) (cd := cd) hl with hc | hreader
  · exact .inl hc
  rcases writer_enabled (c := c) (cd := cd) hl with hc | ⟨hwr, hoq⟩
  · exact .inl hc
  -- everybody is blocked or gone
  by_cases hex : WPhase.exited ∈ s.ws
  · exfalso
    obtain ⟨hf, hnw⟩ := wk.exitFin hex
    have hallx : ∀ p ∈ s.ws, p.isExited = true := by
      intro p hp
      rcases hall p hp with rfl | rfl
      · have := hnw _ hp
        simp [WPhase.isWaiting] at this
      · rfl
    have hrdd := (restored_reach h hf).rd
    have : isFinal s = true := by
      simp only [isFinal, List.all_eq_true.mpr hallx, hrdd, hoq, hwr, decide_true,
        List.isEmpty_nil, Option.isNone_none, Bool.and_self]
    rw [this] at hnf
    cases hnf
  · right
    refine ⟨hl, ?_, ?_, hreader, hwr, hoq⟩
    · intro p hp
      rcases hall p hp with h1 | h1
      · exact h1
      · subst h1
        exact absurd hp hex
    · intro h0
      have := i1.cons.nWorkers
      rw [h0] at this
      simp at this
      omega

/-- **quiet states are unreachable** (the all-workers-waiting case).  In a
    quiet state the no-lost-wake-up invariant says that no task guard holds and
    `can_terminate()` is false; but the block at position `order` (`canon` is a
    `next`-chain, `handed` its prefix, the rest is what is in flight) is
      * the head of `reord_q` — `can_reorder`; or
      * the head of `trans_q`, and the reserve invariant behind TRANSM_THRESH
        (`out_slots` + slot holders at or before `order` ≥ min(2, total_out))
        leaves `out_slots > 0` — `can_transmit`; or
      * still to be collected: default mode — at most `n-1` unit holders are
        later than the minimal `coll_q` entry, so `work_units > 0` —
        `can_collect`; `--sequential` — blocks already made precede the blocks
        still to be made, so `trans_q` is empty — `can_collect_seq`; or
      * not yet read, and then `coll_q` would be empty and `in_slots > 0`; or
      * nothing is left at all, and then `can_terminate()` holds.
    Hypotheses: `Codec.OK`, chunk size, worker count, input and output slot
    totals all ≥ 1. -/
theorem no_quiet_state {c : Cfg} {cd : Codec α σ} {input : List α} {s : State α σ}
    (ok : cd.OK) (hg : 0 < c.inGranul) (hn : 1 ≤ c.n) (hin : 1 ≤ c.totalIn)
    (hout : 1 ≤ c.totalOut) (h : Reach c cd input s) : ¬ Quiet s := by
  intro q
  cases hu : c.ultra with
  | true => exact quiet_unreachable_S ok hu hg hn hin hout h q
  | false => exact quiet_unreachable_N ok hu hg hn hin hout h q

/-- **progress** (full strength).  Every reachable state that is not final
    (all threads gone) has an enabled transition which is not a spurious
    wake-up: the compression scheduler cannot deadlock and loses no wake-up —
    for every worker count ≥ 1, slot totals ≥ 1, input, mode, and every
    interleaving (spurious wake-ups included) that led to the state. -/
theorem progress {c : Cfg} {cd : Codec α σ} {input : List α} {s : State α σ}
    (ok : cd.OK) (hg : 0 < c.inGranul) (hn : 1 ≤ c.n) (hin : 1 ≤ c.totalIn)
    (hout : 1 ≤ c.totalOut) (h : Reach c cd input s) (hnf : isFinal s = false) :
    ∃ l s', Label.isSpurious l = false ∧ step c cd s l = some s' := by
  rcases progress_partial hn h hnf with hc | hq
  · exact hc
  · exact absurd hq (no_quiet_state ok hg hn hin hout h)

/-- with the numbers `set_memory_constraints()` computes (`n ≥ 1` workers,
    level `bs ≥ 1`: 2n input slots, 2n+2 output slots, chunks of bs·100000) -/
theorem progress_gen {n bs : Nat} {u : Bool} {cd : Codec α σ} {input : List α} {s : State α σ}
    (ok : cd.OK) (hn : 1 ≤ n) (hbs : 1 ≤ bs) (h : Reach (Cfg.ofGen n bs u) cd input s)
    (hnf : isFinal s = false) :
    ∃ l s', Label.isSpurious l = false ∧ step (Cfg.ofGen n bs u) cd s l = some s' :=
  progress ok (by simp only [Cfg.ofGen, memCompress]; omega) hn
    (by simp only [Cfg.ofGen, memCompress]; omega) (by simp only [Cfg.ofGen, memCompress]; omega)
    h hnf

/-- a state in which no thread can move (other than by a spurious wake-up) is
    the final state, and `can_terminate()` holds there -/
theorem stuck_is_final {c : Cfg} {cd : Codec α σ} {input : List α} {s : State α σ}
    (ok : cd.OK) (hg : 0 < c.inGranul) (hn : 1 ≤ c.n) (hin : 1 ≤ c.totalIn)
    (hout : 1 ≤ c.totalOut) (h : Reach c cd input s)
    (hstuck : ¬ ∃ l s', Label.isSpurious l = false ∧ step c cd s l = some s') :
    isFinal s = true ∧ finished c s = true := by
  have hfin : isFinal s = true := by
    cases hh : isFinal s with
    | true => rfl
    | false => exact absurd (progress ok hg hn hin hout h hh) hstuck
  exact ⟨hfin, finished_of_isFinal hn h hfin⟩

theorem quiet_no_task {c : Cfg} {cd : Codec α σ} {input : List α} {s : State α σ}
    (h : Reach c cd input s) (q : Quiet s) :
    selectTask (view c s) = none ∧ finished c s = false :=
  Model.SchedC.quiet_no_task h q

/-- non-vacuity: the hypotheses of `progress` hold for the witness
    configuration and its middle state, which is not final and indeed has an
    enabled non-spurious transition -/
example : 0 < wCfg.inGranul ∧ 1 ≤ wCfg.n ∧ 1 ≤ wCfg.totalIn ∧ 1 ≤ wCfg.totalOut := by decide

example : Reach wCfg wCodec wInput wMid ∧ isFinal wMid = false ∧ 1 ≤ wCfg.n ∧
    (∃ l, Label.isSpurious l = false ∧ (step wCfg wCodec wMid l).isSome = true) := by
  refine ⟨wMid_reach, wMid_facts.2.2.2.2.2.2.2, by decide, .wTake, rfl, ?_⟩
  rw [wMid_eq]
  decide

/-- **measure**: `mu s = (workers not yet gone, 3·work + phase)` (see
    `Lemmas.SchedC.Measure`: `work` bounds the sections still to be executed,
    `phase` what idle workers still do on their own) decreases in the
    lexicographic order `muLt` (well-founded: `muLt_wf`) along EVERY transition
    of a reachable state except a spurious wake-up.  Needs the collector facts
    `Codec.OK` (a fresh encoder takes a byte, …) and a positive chunk size. -/
theorem measure_decreases {c : Cfg} {cd : Codec α σ} {input : List α} {s s' : State α σ}
    {l : Label} (ok : cd.OK) (hg : 0 < c.inGranul) (h : Reach c cd input s)
    (hl : l.isSpurious = false) (hs : step c cd s l = some s') : muLt (mu s') (mu s) :=
  step_measure ok hg (inv1_reach h).sel hl hs

/-- a spurious wake-up costs exactly 2 units of `phase` and nothing else: the
    woken worker takes the mutex, sees `next_task == NULL` and waits again. -/
theorem spurious_cost {c : Cfg} {cd : Codec α σ} {s s' : State α σ} {i : Nat}
    (hs : step c cd s (.spurious i) = some s') :
    live s' = live s ∧ work s' = work s ∧ phase s' = phase s + 2 := by
  simp only [step] at hs
  split at hs
  · next hw =>
    cases hs
    obtain ⟨e1, e2, e3⟩ := wsum3 .ready hw
    simp only [taskPot, phasePot, liveW] at e1 e2 e3
    simp only [live, work, phase, setW]
    omega
  · cases hs

/-- **terminates**: every run is finite unless it contains infinitely many
    spurious wake-ups.  Precisely: for every infinite sequence of transitions
    `f 0 →ℓ 0→ f 1 →ℓ 1→ …` starting in a reachable state (any worker count,
    input, mode, slot totals; no fairness assumed) and every `N` there is an
    `i ≥ N` whose label `ℓ i` is a spurious wake-up.  In particular there is no
    infinite run without spurious wake-ups (`terminates_ns`), so every maximal
    such run is finite, and by `progress` / `stuck_is_final` it ends in the final
    state, where `can_terminate()` holds and (C03 `output_canon`) the canonical
    block list has been written.  (A run with infinitely many spurious wake-ups
    exists in the model — wake, take the mutex, wait again, forever — and is
    harmless.) -/
theorem terminates {c : Cfg} {cd : Codec α σ} {input : List α} (ok : cd.OK)
    (hg : 0 < c.inGranul) (f : Nat → State α σ) (ℓ : Nat → Label)
    (h0 : Reach c cd input (f 0)) (hstep : ∀ i, step c cd (f i) (ℓ i) = some (f (i + 1))) :
    ∀ N, ∃ i, N ≤ i ∧ (ℓ i).isSpurious = true :=
  Lemmas.Lts.spurious_infinitely_often (step := step c cd) muLt_wf
    (fun _ _ _ hr hs => .step _ hr hs) (fun _ _ _ => measure_decreases ok hg) f ℓ h0 hstep

theorem terminates_ns {c : Cfg} {cd : Codec α σ} {input : List α} (ok : cd.OK)
    (hg : 0 < c.inGranul) (f : Nat → State α σ) (ℓ : Nat → Label)
    (h0 : Reach c cd input (f 0)) :
    ¬ ∀ i, (ℓ i).isSpurious = false ∧ step c cd (f i) (ℓ i) = some (f (i + 1)) := by
  intro h
  obtain ⟨i, _, hi⟩ := terminates ok hg f ℓ h0 (fun i => (h i).2) 0
  rw [(h i).1] at hi
  cases hi

/-- non-vacuity: the measure along the sequential witness run: 2 live workers
    at the start, 0 at the end, and a concrete decrease on the first step -/
example : (mu (init (σ := List Nat) sCfg sInput)).1 = 2 ∧ (mu sFinal).1 = 0 ∧ (mu sFinal).2 = 0 ∧
    (mu (init (σ := List Nat) sCfg sInput)).2 = 3 * (28 * 7 + 3) + 4 := by
  rw [sFinal_eq]
  decide

end LbzVerif.Props.C11.Compress
