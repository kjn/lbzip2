/-
  C03 — compressed bytes depend only on the input and the options, at file level.
  `Props.C03.output_eq` compares the block records two terminated runs of the compression scheduler
  model write.  Here the records are turned into the bytes of the file with the real collector
  (`realCodec`), the encoder model (`encodeBlock`: encode() + transmit() with the block's choices)
  and the header / trailer / combined CRC (`assemble`).  `choose` (origPtr, tables, selectors per
  block) is a function of the block's bytes: in the C code it is computed by encode() from the
  block alone, with no access to scheduler state (checked by the campaign of checks/C03.py: bytes
  compared with the -n1 run under perturbation).
-/
import LbzVerif.Props.C01.Roundtrip

namespace LbzVerif.Props.C03.File
open LbzVerif.Model.Compress
open LbzVerif.Model.SchedC LbzVerif.Props.C04.Blocks

/-- Two terminated runs, different configurations (worker counts, slot
    totals) and schedules, same chunk size and mode: identical files. -/
theorem file_eq {c₁ c₂ : Cfg} {cap : Nat} {input : List UInt8} {s₁ s₂ : State UInt8 Enc}
    (level : Nat) (choose : List UInt8 → Choice) (hcap : 1 ≤ cap)
    (hg : 0 < c₁.inGranul) (hgg : c₁.inGranul = c₂.inGranul) (hu : c₁.ultra = c₂.ultra)
    (h₁ : Reach c₁ (realCodec cap hcap) input s₁) (f₁ : finished c₁ s₁ = true)
    (h₂ : Reach c₂ (realCodec cap hcap) input s₂) (f₂ : finished c₂ s₂ = true) :
    assemble level choose (s₁.written.map blockOut) =
      assemble level choose (s₂.written.map blockOut) :=
  congrArg (fun w => assemble level choose (w.map blockOut))
    (output_eq (realCodec_ok cap hcap) hu hg hgg h₁ f₁ h₂ f₂)

/-- … in particular for the configurations `set_memory_constraints()` computes
    for worker counts `n₁`, `n₂` at the same level and mode: the file does not
    depend on the number of threads. -/
theorem file_eq_gen {n₁ n₂ bs : Nat} {u : Bool} {cap : Nat} {input : List UInt8}
    {s₁ s₂ : State UInt8 Enc} (level : Nat) (choose : List UInt8 → Choice)
    (hcap : 1 ≤ cap) (hbs : 0 < bs)
    (h₁ : Reach (Cfg.ofGen n₁ bs u) (realCodec cap hcap) input s₁)
    (f₁ : finished (Cfg.ofGen n₁ bs u) s₁ = true)
    (h₂ : Reach (Cfg.ofGen n₂ bs u) (realCodec cap hcap) input s₂)
    (f₂ : finished (Cfg.ofGen n₂ bs u) s₂ = true) :
    assemble level choose (s₁.written.map blockOut) =
      assemble level choose (s₂.written.map blockOut) := by
  have hg : 0 < (Cfg.ofGen n₁ bs u).inGranul := by
    simp only [Cfg.ofGen, Gen.memCompress]; omega
  exact file_eq (c₁ := Cfg.ofGen n₁ bs u) (c₂ := Cfg.ofGen n₂ bs u) level choose hcap hg rfl rfl
    h₁ f₁ h₂ f₂

/-- The file written by ANY terminated run — any worker count, any slot totals, any interleaving,
    spurious wake-ups included — is the sequential function of input and options. -/
theorem file_is_function {c : Cfg} {cap : Nat} {input : List UInt8} {s : State UInt8 Enc}
    (level : Nat) (choose : List UInt8 → Choice) (hcap : 1 ≤ cap) (hg : 0 < c.inGranul)
    (h : Reach c (realCodec cap hcap) input s) (hf : finished c s = true) :
    assemble level choose (s.written.map blockOut) =
      compressFileGen level cap c.inGranul c.ultra input choose :=
  Props.C01.Roundtrip.assemble_sched level choose hcap hg h hf

end LbzVerif.Props.C03.File
