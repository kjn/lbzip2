/-
  Props.C04.Blocks — C04 at the level of the whole compressor.

  `Model.SchedC` is parametric in a collector (`Codec`); here it is instantiated with the real
  one, `Model.collect` (the byte-step machine tied to encode.c by checks/C04.py), with capacity
  `cap` (`bs100k * 100000` in lbzip2).  `realCodec_ok` proves what the scheduler theorems assume
  of it, and the block list of C03 is computed: it is `Model.Compress.cutBlocks` (`blocks_cut`),
  for every input, schedule and `read()` fragmentation.  Blocks are compared through what the
  encoder hands to the sorter: `finish enc` (`Spec.rle1` is injective, `Props.C04.unrle_rle`)
  and `block_crc`.
-/
import LbzVerif.Props.C04
import LbzVerif.Props.C03
import LbzVerif.Model.Compress
import LbzVerif.Lemmas.SchedC.Witness

namespace LbzVerif.Props.C04.Blocks
open LbzVerif.Spec LbzVerif.Model LbzVerif.Model.SchedC

/-- encoder states: `struct encoder_state` restricted to the states
    `encoder_init`/`collect` can produce (`CollectState.Inv`, preserved by
    `collect`: `Props.C04.collect_preserves_inv`) -/
abbrev Enc : Type := { s : CollectState // s.Inv }

/-- `encoder_init(enc, cap, …)` and `collect()` -/
def realCodec (cap : Nat) (hcap : 1 ≤ cap) : Codec UInt8 Enc where
  init := ⟨Model.init cap, init_wellformed cap hcap⟩
  collect := fun s buf =>
    (⟨(Model.collect s.1 buf).1, collect_preserves_inv s.1 s.2 buf⟩, (Model.collect s.1 buf).2.1,
      (Model.collect s.1 buf).2.2)

/-- what a finished block is, as far as C04 is concerned: the bytes given to
    the sorter and the block CRC -/
def blockOut (w : WBlk Enc) : List UInt8 × UInt32 := (finish w.enc.1, w.enc.1.crc)

/-- the same for a block of the specification: its input bytes `b` -/
def specOut (b : List UInt8) : List UInt8 × UInt32 := (rle1 b, crcFold 0xFFFFFFFF b)

/-- **the real collector satisfies what the scheduler theorems assume** (`Codec.OK`) -/
theorem realCodec_ok (cap : Nat) (hcap : 1 ≤ cap) : (realCodec cap hcap).OK where
  fresh := by
    intro r hr
    have h := (collect_pack_single cap hcap r).1
    have hp := pack_pos cap hcap r hr
    show 1 ≤ (Model.collect (Model.init cap) r).2.1
    omega
  notFull := by
    intro s r h
    have := collect_notfull s.1 s.2 r h
    show r.length ≤ (Model.collect s.1 r).2.1
    omega
  le := fun s r => collect_consumed_le s.1 s.2 r

theorem blocksOf_nil (cap : Nat) : blocksOf cap [] = [] := rfl

theorem blocksOf_collect (cap : Nat) (hcap : 1 ≤ cap) (xs : List UInt8) (hne : xs ≠ []) :
    (blocksOf cap xs).map specOut =
      (finish (Model.collect (Model.init cap) xs).1, (Model.collect (Model.init cap) xs).1.crc) ::
        (blocksOf cap (xs.drop (Model.collect (Model.init cap) xs).2.1)).map specOut := by
  obtain ⟨h1, h2, _, h4, _⟩ := collect_pack_single cap hcap xs
  rw [blocksOf_unfold cap hcap xs, if_neg hne, List.map_cons, ← h1]
  simp only [specOut, h2, h4]

theorem collect_init_nil (cap : Nat) :
    Model.collect (Model.init cap) [] = (Model.init cap, 0, false) := by
  have : ¬ (0 > cap - 1) := by omega
  simp [Model.collect, Model.init, state0, done, this]

/-- the encoder `do_collect_seq` continues with -/
def startEnc (cap : Nat) (hcap : 1 ≤ cap) (cur : Option (WBlk Enc)) : Enc :=
  match cur with
  | some w => w.enc
  | none => (realCodec cap hcap).init

theorem startEnc_eq (cap : Nat) (hcap : 1 ≤ cap) (cur : Option (WBlk Enc)) (p : Pos) :
    (cur.getD ⟨p, p, (realCodec cap hcap).init⟩).enc = startEnc cap hcap cur := by
  cases cur <;> rfl

/-- `pre` = the bytes the pending encoder has already taken (none if there is
    no pending encoder) -/
def Pending (cap : Nat) (hcap : 1 ≤ cap) (cur : Option (WBlk Enc)) (pre : List UInt8) : Prop :=
  Model.collect (Model.init cap) pre = ((startEnc cap hcap cur).1, pre.length, false) ∧
  (cur = none → pre = []) ∧ (cur.isSome = true → pre ≠ [])

/-- collecting `pre ++ data` from a fresh encoder = continuing the pending
    encoder with `data` -/
theorem pending_step (cap : Nat) (hcap : 1 ≤ cap) (cur : Option (WBlk Enc)) (pre data : List UInt8)
    (hp : Pending cap hcap cur pre) :
    Model.collect (Model.init cap) (pre ++ data) =
      ((Model.collect (startEnc cap hcap cur).1 data).1,
        pre.length + (Model.collect (startEnc cap hcap cur).1 data).2.1,
        (Model.collect (startEnc cap hcap cur).1 data).2.2) := by
  rw [collect_split _ (init_wellformed cap hcap)]
  simp only [hp.1, Bool.false_eq_true, if_false]

theorem first_block (cap : Nat) (hcap : 1 ≤ cap) (a b : List UInt8) (ha : a ≠ [])
    (st : CollectState) (k : Nat) (hc : Model.collect (Model.init cap) a = (st, k, true)) :
    (blocksOf cap (a ++ b)).map specOut =
      (finish st, st.crc) :: (blocksOf cap ((a ++ b).drop k)).map specOut := by
  have hsplit := collect_split _ (init_wellformed cap hcap) a b
  simp only [hc, if_true] at hsplit
  rw [blocksOf_collect cap hcap (a ++ b) (by simp [ha]), hsplit]

theorem pending_none (cap : Nat) (hcap : 1 ≤ cap) : Pending cap hcap none [] :=
  ⟨collect_init_nil cap, fun _ => rfl, fun h => by cases h⟩

theorem pending_full (cap : Nat) (hcap : 1 ≤ cap) (cur : Option (WBlk Enc))
    (pre data tail : List UInt8) (hp : Pending cap hcap cur pre) (hd : data ≠ [])
    (hfull : (Model.collect (startEnc cap hcap cur).1 data).2.2 = true) :
    (blocksOf cap (pre ++ (data ++ tail))).map specOut =
      (finish (Model.collect (startEnc cap hcap cur).1 data).1,
          (Model.collect (startEnc cap hcap cur).1 data).1.crc) ::
        (blocksOf cap
          (data.drop (Model.collect (startEnc cap hcap cur).1 data).2.1 ++ tail)).map specOut := by
  have hstep := pending_step cap hcap cur pre data hp
  have hle := collect_consumed_le _ (startEnc cap hcap cur).2 data
  rw [hfull] at hstep
  rw [← List.append_assoc, first_block cap hcap (pre ++ data) tail (by simp [hd]) _ _ hstep,
    List.append_assoc, List.drop_append, List.drop_of_length_le (by omega), List.nil_append,
    Nat.add_sub_cancel_left, List.drop_append_of_le_length hle]

theorem seqBlocks_spec (cap : Nat) (hcap : 1 ≤ cap) (cur : Option (WBlk Enc))
    (ibs : List (IBlk UInt8)) :
    ∀ pre, Pending cap hcap cur pre → (∀ ib ∈ ibs, ib.data ≠ []) →
    (seqBlocks (realCodec cap hcap) cur ibs).map blockOut =
      (blocksOf cap (pre ++ (ibs.map (·.data)).flatten)).map specOut := by
  refine seqBlocks_ind (realCodec cap hcap) (motive := fun cur ibs out => ∀ pre,
    Pending cap hcap cur pre → (∀ ib ∈ ibs, ib.data ≠ []) →
    out.map blockOut = (blocksOf cap (pre ++ (ibs.map (·.data)).flatten)).map specOut)
    ?_ ?_ ?_ ?_ ?_ cur ibs
  · intro cur pre hp _
    cases cur with
    | none =>
      rw [hp.2.1 rfl]
      rfl
    | some w =>
      simp only [List.map_nil, List.flatten_nil, List.append_nil, Option.toList, List.map_cons]
      rw [blocksOf_collect cap hcap pre (hp.2.2 rfl), hp.1, List.drop_length]
      rfl
  · intro cur ib Q out hl ih pre hp hdata
    have hfull := (requeue_cond _ (realCodec_ok cap hcap) cur ib hl).1
    simp only [roundOut, roundBlk, startEnc_eq] at hl hfull ih ⊢
    simp only [List.map_cons, List.flatten_cons]
    rw [pending_full cap hcap cur pre ib.data _ hp (hdata ib List.mem_cons_self) hfull]
    have ih' := ih [] (pending_none cap hcap) (by
      intro jb hjb
      rcases List.mem_cons.mp hjb with rfl | hjb
      · exact hl
      · exact hdata jb (List.mem_cons_of_mem _ hjb))
    simp only [collectOn, realCodec, List.map_cons, List.flatten_cons, List.nil_append] at ih' ⊢
    rw [ih']
    rfl
  · intro cur ib Q hl hc _ _ _
    exact absurd (requeue_cond _ (realCodec_ok cap hcap) cur ib hl) hc
  · intro cur ib Q out hl hfull ih pre hp hdata
    simp only [roundOut, roundBlk, startEnc_eq] at hl hfull ih ⊢
    simp only [List.map_cons, List.flatten_cons]
    have h0 : ib.data.drop (Model.collect (startEnc cap hcap cur).1 ib.data).2.1 = [] := by
      simpa [collectOn, realCodec] using hl
    rw [pending_full cap hcap cur pre ib.data _ hp (hdata ib List.mem_cons_self) hfull, h0]
    have ih' := ih [] (pending_none cap hcap) (fun jb hjb => hdata jb (List.mem_cons_of_mem _ hjb))
    simp only [collectOn, realCodec, List.nil_append] at ih' ⊢
    rw [ih']
    rfl
  · intro cur ib Q out hl hfull ih pre hp hdata
    simp only [roundOut, roundBlk, startEnc_eq] at hl hfull ih ⊢
    simp only [List.map_cons, List.flatten_cons]
    have hstep := pending_step cap hcap cur pre ib.data hp
    have hfull' : (Model.collect (startEnc cap hcap cur).1 ib.data).2.2 = false := by
      simpa [collectOn, realCodec] using hfull
    have hall := collect_notfull _ (startEnc cap hcap cur).2 ib.data hfull'
    have hd : ib.data ≠ [] := hdata ib List.mem_cons_self
    rw [hfull', hall, ← List.length_append] at hstep
    rw [← List.append_assoc]
    apply ih (pre ++ ib.data) _ (fun jb hjb => hdata jb (List.mem_cons_of_mem _ hjb))
    refine ⟨?_, fun h => (by cases h), fun _ => (by simp [hd])⟩
    rw [hstep]
    rfl

/-- one chunk on its own: the sequential statement with nothing pending -/
theorem chunkBlocks_spec (cap : Nat) (hcap : 1 ≤ cap) (pos : Pos) (data : List UInt8)
    (hd : data ≠ []) :
    (chunkBlocks (realCodec cap hcap) pos data).map blockOut =
      (blocksOf cap data).map specOut := by
  rw [chunkBlocks_eq_seq _ (realCodec_ok cap hcap),
    seqBlocks_spec cap hcap none [⟨pos, data⟩] [] (pending_none cap hcap)
      (fun ib hib => by rw [List.mem_singleton.mp hib]; exact hd)]
  simp

variable {c : Cfg} {cap : Nat} {input : List UInt8} {s : State UInt8 Enc}

/-- **blocks_cut.**  In every terminated run of the compression scheduler with
    the real collector — any worker count, slot totals, interleaving — the
    blocks written are, in order, the blocks of `Compress.cutBlocks`, each
    run-length encoded by `Spec.rle1`, with the CRC of its bytes
    (`Compress.blockIn`, the same pair as `specOut`): one equation for both
    modes. -/
theorem blocks_cut (hcap : 1 ≤ cap) (hg : 0 < c.inGranul)
    (h : Reach c (realCodec cap hcap) input s) (hf : finished c s = true) :
    s.written.map blockOut = (Compress.cutBlocks cap c.inGranul c.ultra input).map Compress.blockIn := by
  show _ = (Compress.cutBlocks cap c.inGranul c.ultra input).map specOut
  rw [(C03.output_canon (realCodec_ok cap hcap) hg h hf).1]
  have hne := cutChunks_mem c.inGranul 0 input
  unfold SchedC.canon Compress.cutBlocks
  cases c.ultra with
  | true =>
    simp only [if_true]
    rw [seqBlocks_spec cap hcap none _ [] (pending_none cap hcap) (fun ib hib => (hne ib hib).2.2),
      cutChunks_flatten _ hg, List.nil_append]
  | false =>
    simp only [Bool.false_eq_true, if_false, List.map_flatMap]
    rw [List.flatMap_def, List.flatMap_def,
      List.map_congr_left fun ib hib => chunkBlocks_spec cap hcap ib.pos ib.data (hne ib hib).2.2]

/-- **blocks_nonseq** (C04, default mode).  In every terminated run of the
    compression scheduler with the real collector — any worker count, slot
    totals, interleaving, `read()` fragmentation `frags` — the blocks written
    are, in order: for each `in_granul`-byte chunk of the input in turn, the
    greedy packing `Spec.blocksOf cap` of that chunk (each block run-length
    encoded by `Spec.rle1`, with the CRC of its bytes).  Block boundaries never
    depend on anything but the chunk. -/
theorem blocks_nonseq (hcap : 1 ≤ cap) (hu : c.ultra = false) (hg : 0 < c.inGranul)
    (frags : Nat → List Nat)
    (h : Reach c (realCodec cap hcap) input s) (hf : finished c s = true) :
    s.written.map blockOut =
      ((readChunks c.inGranul frags (input.length + 1) 0 input).flatMap
        (fun ib => blocksOf cap ib.data)).map specOut := by
  rw [blocks_cut hcap hg h hf, hu, C03.reader_chunks _ hg]
  rfl

/-- **blocks_seq** (C04, `--sequential`).  In every terminated run in
    sequential mode the blocks written are the greedy packing
    `Spec.blocksOf cap` of the WHOLE input: chunk boundaries are invisible
    (a block may span chunks), whatever the worker count, slot totals,
    interleaving and chunk size. -/
theorem blocks_seq (hcap : 1 ≤ cap) (hu : c.ultra = true) (hg : 0 < c.inGranul)
    (h : Reach c (realCodec cap hcap) input s) (hf : finished c s = true) :
    s.written.map blockOut = (blocksOf cap input).map specOut := by
  rw [blocks_cut hcap hg h hf, hu]
  rfl

/-- the same two statements at the very end of a run — every thread gone
    (`isFinal`, what `primary_thread` sees after the joins) instead of
    `can_terminate()`; at least one worker -/
theorem blocks_final (hcap : 1 ≤ cap) (hg : 0 < c.inGranul) (hn : 1 ≤ c.n)
    (frags : Nat → List Nat)
    (h : Reach c (realCodec cap hcap) input s) (hfin : isFinal s = true) :
    s.written.map blockOut =
      if c.ultra then (blocksOf cap input).map specOut
      else ((readChunks c.inGranul frags (input.length + 1) 0 input).flatMap
        (fun ib => blocksOf cap ib.data)).map specOut := by
  have hf := finished_of_isFinal hn h hfin
  rw [blocks_cut hcap hg h hf, C03.reader_chunks _ hg]
  cases c.ultra <;> rfl

/-- the block boundaries themselves (input bytes of each block), recovered
    from what was written by undoing the run-length encoding -/
theorem blocks_seq_bytes (hcap : 1 ≤ cap) (hu : c.ultra = true) (hg : 0 < c.inGranul)
    (h : Reach c (realCodec cap hcap) input s) (hf : finished c s = true) :
    s.written.map (fun w => unRle1 (blockOut w).1) = (blocksOf cap input).map some ∧
    (s.written.map (fun w => unRle1 (blockOut w).1)).flatMap Option.toList =
      blocksOf cap input ∧ (blocksOf cap input).flatten = input := by
  have e : s.written.map (fun w => unRle1 (blockOut w).1) = (blocksOf cap input).map some := by
    have := congrArg (List.map (fun p : List UInt8 × UInt32 => unRle1 p.1))
      (blocks_seq hcap hu hg h hf)
    simpa only [List.map_map, Function.comp_def, specOut, unrle_rle] using this
  refine ⟨e, ?_, blocksOf_flatten cap hcap input⟩
  rw [e, List.flatMap_map]
  exact List.flatMap_singleton' _

/-- with the numbers of lbzip2: level `bs` (1…9), `n` workers,
    `set_memory_constraints()`'s slot totals, `in_granul = cap = bs·100000` -/
theorem blocks_nonseq_gen {n bs : Nat} (hbs : 1 ≤ bs) (frags : Nat → List Nat)
    {s : State UInt8 Enc}
    (h : Reach (Cfg.ofGen n bs false) (realCodec (bs * 100000) (by omega)) input s)
    (hf : finished (Cfg.ofGen n bs false) s = true) :
    s.written.map blockOut =
      ((readChunks (bs * 100000) frags (input.length + 1) 0 input).flatMap
        (fun ib => blocksOf (bs * 100000) ib.data)).map specOut :=
  blocks_nonseq (c := Cfg.ofGen n bs false) (by omega) rfl
    (by simp only [Cfg.ofGen, Gen.memCompress]; omega) frags h hf

theorem blocks_seq_gen {n bs : Nat} (hbs : 1 ≤ bs) {s : State UInt8 Enc}
    (h : Reach (Cfg.ofGen n bs true) (realCodec (bs * 100000) (by omega)) input s)
    (hf : finished (Cfg.ofGen n bs true) s = true) :
    s.written.map blockOut = (blocksOf (bs * 100000) input).map specOut :=
  blocks_seq (c := Cfg.ofGen n bs true) (by omega) rfl
    (by simp only [Cfg.ofGen, Gen.memCompress]; omega) h hf

/-! ## non-vacuity: two complete runs with the real collector

  capacity 4, input `5 5 5 5 5 6 6`, two workers.  The fourth `5` does not fit
  with its count byte, so the first block is `5 5 5` in both modes; then
  * `--sequential`, chunks of 2: the second block `5 5 6 6` spans three chunks;
  * default mode, chunks of 4: chunk `5 5 5 5` gives `5 5 5 | 5`, chunk
    `5 6 6` gives one block. -/

def xInput : List UInt8 := [5, 5, 5, 5, 5, 6, 6]
def xSeqCfg : Cfg := { Cfg.ofGen 2 1 true with inGranul := 2 }
def xNonCfg : Cfg := { Cfg.ofGen 2 1 false with inGranul := 4 }
def xCodec : Codec UInt8 Enc := realCodec 4 (by decide)

open Label in
def xSeqPath : List Label :=
  [acquire 0, run 0 0, acquire 1, run 1 0, rTake, rDeliver 0, acquire 0, run 0 0, cont 0 0,
   cont 0 0, run 0 0, rTake, rDeliver 0, acquire 0, run 0 0, cont 0 0, cont 0 1, cont 0 0,
   run 0 0, cont 0 0, cont 0 0, run 0 0, cont 0 0, run 0 0, run 0 0, acquire 1, run 1 0, rTake,
   rDeliver 0, acquire 0, run 0 0, cont 0 0, cont 0 0, run 0 0, rTake, rDeliver 0, acquire 0,
   run 0 0, cont 0 0, cont 0 0, cont 0 0, run 0 0, cont 0 0, run 0 0, run 0 0, rEof 0, wTake,
   wDone 0, wTake, wDone 0, acquire 0, run 0 0, acquire 1, run 1 0]

open Label in
def xNonPath : List Label :=
  [acquire 0, run 0 0, acquire 1, run 1 0, rTake, rDeliver 0, acquire 0, run 0 0, cont 0 1,
   cont 0 0, run 0 0, cont 0 0, run 0 0, run 0 0, cont 0 0, cont 0 0, run 0 0, cont 0 0,
   run 0 0, run 0 0, acquire 1, run 1 0, rTake, rDeliver 0, acquire 0, run 0 0, cont 0 0,
   cont 0 0, run 0 0, cont 0 0, run 0 0, run 0 0, rEof 0, wTake, wDone 0, wTake, wDone 0, wTake,
   wDone 0, acquire 0, run 0 0, acquire 1, run 1 0]

/-- what is observed of a run: `can_terminate()`, all threads gone, the
    run-length encoded blocks written -/
def observe (c : Cfg) (path : List Label) : Option (Bool × Bool × List (List UInt8)) :=
  (runLabels c xCodec (SchedC.init c xInput) path).map
    (fun s => (finished c s, isFinal s, s.written.map (fun w => (blockOut w).1)))

theorem xSeq_obs : observe xSeqCfg xSeqPath = some (true, true, [[5, 5, 5], [5, 5, 6, 6]]) := by
  decide +kernel
theorem xNon_obs : observe xNonCfg xNonPath = some (true, true, [[5, 5, 5], [5], [5, 6, 6]]) := by
  decide +kernel

theorem observe_reach {c : Cfg} {path : List Label} {f g : Bool} {out : List (List UInt8)}
    (h : observe c path = some (f, g, out)) :
    ∃ s, Reach c xCodec xInput s ∧ finished c s = f ∧ isFinal s = g ∧
      s.written.map (fun w => (blockOut w).1) = out := by
  simp only [observe, Option.map_eq_some_iff, Prod.mk.injEq] at h
  obtain ⟨s, hs, h1, h2, h3⟩ := h
  exact ⟨s, reach_of_run _ .init hs, h1, h2, h3⟩

example : ∃ s, Reach xSeqCfg xCodec xInput s ∧ finished xSeqCfg s = true ∧ isFinal s = true ∧
    s.written.map (fun w => (blockOut w).1) = [[5, 5, 5], [5, 5, 6, 6]] :=
  observe_reach xSeq_obs
example : xSeqCfg.ultra = true ∧ blocksOf 4 xInput = [[5, 5, 5], [5, 5, 6, 6]] := by decide

example : ∃ s, Reach xNonCfg xCodec xInput s ∧ finished xNonCfg s = true ∧ isFinal s = true ∧
    s.written.map (fun w => (blockOut w).1) = [[5, 5, 5], [5], [5, 6, 6]] :=
  observe_reach xNon_obs
example : xNonCfg.ultra = false ∧
    (readChunks 4 (fun _ => [1, 2]) 8 0 xInput).map (·.data) = [[5, 5, 5, 5], [5, 6, 6]] ∧
    blocksOf 4 [5, 5, 5, 5] = [[5, 5, 5], [5]] ∧ blocksOf 4 [5, 6, 6] = [[5, 6, 6]] := by decide

end LbzVerif.Props.C04.Blocks
