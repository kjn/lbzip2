/-
  Props.C01.Transmit — the bit-level emitter `transmit()` and the cost
  arithmetic of `encode()` (Model.Transmit):

  * `selectorMtf_spec` — the branch-free selector MTF of `encode()` (the
    `0x543210` nibble trick) is ordinary move-to-front coding;
  * `cost_eq_length`, `len_mod8` — `transmit()` writes exactly the number of
    bits `encode()` computed, a multiple of 8, i.e. `8·out_expect_len` (the C
    `assert`s that guard this are compiled out in the shipped build);
  * `parse_transmit` — the strict reference parser reads back exactly what
    was transmitted (full strength; `parse_transmit_bitmap/_selectors/_tables`
    are the per-field-group statements, `parse_transmit_partial` the form with
    an explicit symbol-decoding hypothesis).
-/
import LbzVerif.Model.Transmit
import LbzVerif.Lemmas.TransmitSelMtf
import LbzVerif.Lemmas.TransmitLen
import LbzVerif.Lemmas.TransmitCompose
import LbzVerif.Lemmas.PrefixRank

namespace LbzVerif.Props.C01.Transmit
open LbzVerif LbzVerif.Basic LbzVerif.Model.Canon LbzVerif.Model.Transmit
open LbzVerif.Lemmas.TransmitSelMtf LbzVerif.Lemmas.TransmitLen
open LbzVerif.Lemmas.TransmitGroups LbzVerif.Lemmas.TransmitCompose LbzVerif.Lemmas.TransmitParse

/-! ### a concrete block (what `encode()` makes of "hello", level 1, see
    harness/h_transmit.c: `encode 100000 8 68656c6c6f`) -/

def helloBlock : EncBlock :=
  { crc := 3872299714, bwtIdx := 1,
    cmap := (List.range 256).map (fun v => v == 101 || v == 104 || v == 108 || v == 111),
    numTrees := 2,
    lens := [[2, 3, 3, 3, 2, 3], [2, 2, 3, 3, 3, 3]],
    codes := [[0, 4, 5, 6, 1, 7], [0, 0, 0, 0, 0, 0]],
    selectors := [0], selectorMtf := [0, 0], numSelectors := 2, treePad := 3,
    mtfv := [2, 4, 3, 4, 0, 5] }

theorem helloBlock_wf : WF helloBlock := by decide +kernel

theorem getD_map_range (f : Nat → Bool) (n v : Nat) :
    ((List.range n).map f).getD v false = (decide (v < n) && f v) := by
  rw [List.getD_eq_getElem?_getD, List.getElem?_map]
  by_cases h : v < n
  · rw [List.getElem?_range h, decide_eq_true h]
    rfl
  · rw [List.getElem?_eq_none (by rw [List.length_range]; omega), decide_eq_false h]
    rfl

/-- Walking the 256-entry `cmap` once per entry is what costs in evaluating anything about
    `helloBlock`; with this equation an entry is looked up without a walk. -/
theorem hello_getD (v : Nat) : helloBlock.cmap.getD v false =
    (decide (v < 256) && (v == 101 || v == 104 || v == 108 || v == 111)) :=
  getD_map_range _ _ _

theorem hello_used : usedBytes helloBlock.cmap = [101, 104, 108, 111] := by
  simp only [usedBytes, hello_getD]
  decide +kernel

theorem helloBlock_coded : Coded helloBlock :=
  (Coded_iff _).mpr ⟨by rw [hello_used]; rfl, by rw [hello_used]; exact List.cons_ne_nil _ _,
    by decide, by decide, by decide, by decide⟩

/-- `bitmapCost` through a lookup function: applied to `hello_getD`, the kernel never walks the
    256-entry `cmap` (rewriting with `hello_getD` under the binders instead leaves a proof term
    whose check does). -/
theorem bitmapCost_congr {cmap : List Bool} {g : Nat → Bool} (h : ∀ v, cmap.getD v false = g v) :
    bitmapCost cmap = ((List.range 16).map (fun i =>
      (if (List.range 16).any (fun j => g (16 * i + j)) then 1 else 0) <<< 4)).sum + 16 := by
  simp only [bitmapCost, h]

theorem hello_cost : cost helloBlock = 208 := by
  rw [cost, bitmapCost_congr hello_getD]
  decide +kernel

/-- The 26 bytes the real `transmit()` wrote for "hello" (plus the zero padding
    of the last 32-bit word). -/
example : transmitBytes helloBlock =
    [0x31, 0x41, 0x59, 0x26, 0x53, 0x59, 0x19, 0x31, 0x65, 0x3d, 0x00, 0x00, 0x00, 0x81, 0x00,
     0x02, 0x44, 0xa0, 0x00, 0x41, 0x7f, 0x43, 0x41, 0x10, 0x57, 0x27, 0x00, 0x00] := by
  simp only [transmitBytes, transmitBits, bitmapBits, bigWord, packRow, hello_getD]
  decide +kernel

/-- **selectorMtf_spec.**  For every sequence of table numbers below 6, the
    loop of `encode()` that keeps the MTF list in the nibbles of a 32-bit word
    (`p = 0x543210`, `v = p ^ 0x111111·c`, `z = (v + 0xEEEEEF) & 0x888888`, …,
    `j = (ctz(h) >> 2) − 1`) stores exactly the ordinary move-to-front
    positions w.r.t. the list `[0,1,2,3,4,5]`. -/
theorem selectorMtf_spec (sels : List Nat) (h : ∀ c ∈ sels, c < Gen.MAX_TREES) :
    selectorMtfOf sels = mtfEnc (List.range Gen.MAX_TREES) sels :=
  selectorMtfOf_range _ (Nat.le_refl _) sels h

/-- … and the reference decoder, told that `n ≤ 6` tables exist, recovers the
    selectors from these values (all selectors below `n`). -/
theorem selectorMtf_decodes (n : Nat) (hn : n ≤ Gen.MAX_TREES) (sels : List Nat)
    (h : ∀ c ∈ sels, c < n) :
    Spec.Bzip2.unMtfSelectors (List.range n) (selectorMtfOf sels) #[] = some sels.toArray := by
  rw [selectorMtfOf_range n hn sels h]
  simpa using unMtf_mtfEnc _ _ (fun c hc => List.mem_range.mpr (h c hc)) #[]

example : selectorMtfOf [0, 0, 1, 2, 1, 5, 0, 3, 3, 4] = [0, 0, 1, 2, 1, 5, 3, 4, 0, 5] := by
  decide +kernel
example : mtfEnc (List.range 6) [0, 0, 1, 2, 1, 5, 0, 3, 3, 4] = [0, 0, 1, 2, 1, 5, 3, 4, 0, 5] := by
  decide

/-- **cost_eq_length.**  For a well-formed encoder state, `transmit()` writes
    exactly `cost` bits, where `cost` is the value `encode()` accumulated
    (header 48+32+1+24+3+15, the tables and symbols as counted by
    `generate_prefix_code`, `j+1` per selector, the padding
    `j = (8 − cost&7)&7` realised as `tree_pad = j>>1` extra delta steps on the
    first table and `j&1` dummy selector, 16 + 16 per used bitmap row). -/
theorem cost_eq_length (b : EncBlock) (h : WF b) : (transmitBits b).length = cost b :=
  transmitBits_length h

/-- **len_mod8.**  The block is a whole number of bytes, exactly the
    `out_expect_len` bytes `encode()` promised. -/
theorem len_mod8 (b : EncBlock) (h : WF b) :
    (transmitBits b).length % 8 = 0 ∧ (transmitBits b).length = 8 * outExpectLen b := by
  rw [cost_eq_length b h]
  have := cost_mod8 b
  refine ⟨this, ?_⟩
  unfold outExpectLen
  rw [Nat.shiftRight_eq_div_pow]
  omega

example : (transmitBits helloBlock).length = 208 ∧ outExpectLen helloBlock = 26 :=
  ⟨(cost_eq_length _ helloBlock_wf).trans hello_cost, by rw [outExpectLen, hello_cost]; rfl⟩

/-- **parse_transmit, bitmap part** (full strength): the strict parser reads
    the 16-bit word of used rows and then the row words `transmit()` wrote, and
    finds exactly the byte values marked in `cmap`.  (The fixed-width fields in
    front of the bitmap — CRC, rand bit, `bwt_idx` — are read in `parse_transmit`.) -/
theorem parse_transmit_bitmap (cmap : List Bool) (pos : Nat) (rest : Bits) :
    takeNat 16 (bitmapBits cmap ++ rest) =
      some (bigWord cmap, (List.range 16).flatMap (LbzVerif.Lemmas.TransmitBits.rowBits cmap) ++ rest) ∧
    Spec.Bzip2.readBitmapRows (bigWord cmap) (List.range 16) pos
        ((List.range 16).flatMap (LbzVerif.Lemmas.TransmitBits.rowBits cmap) ++ rest) =
      some (usedBytes cmap, pos + (bitmapCost cmap - 16), rest) := by
  constructor
  · unfold bitmapBits
    rw [List.append_assoc,
      Lemmas.TransmitBits.takeNat_send 16 _ _ (Lemmas.TransmitBits.bigWord_word cmap).1]
    rfl
  · rw [Lemmas.TransmitBits.readBitmapRows_rows cmap (List.range 16)
      (fun i hi => List.mem_range.mp hi), Lemmas.TransmitBits.usedBytes_eq]
    have := bitmapBits_length cmap
    unfold bitmapBits at this
    rw [List.length_append, send_length] at this
    have h2 : ((List.range 16).flatMap (Lemmas.TransmitBits.rowBits cmap)).length =
        bitmapCost cmap - 16 := by
      unfold Lemmas.TransmitBits.rowBits; omega
    rw [h2]

/-- **parse_transmit, selector part** (full strength): the unary codes are read
    back as `selectorMTF[]`, and undoing the MTF gives the selectors, the dummy
    selector (MTF value 0) repeating the last real one. -/
theorem parse_transmit_selectors (b : EncBlock) (hw : WF b) (pos : Nat) (rest : Bits) :
    Spec.Bzip2.readSelectorMtf b.numTrees b.numSelectors pos (selectorBits b ++ rest) #[] =
      .ok (b.selectorMtf.toArray, pos + (b.selectorMtf.map (· + 1)).sum, rest) ∧
    Spec.Bzip2.unMtfSelectors (List.range b.numTrees) b.selectorMtf #[] =
      some (b.selectors ++
        List.replicate (dummySelectors (costBase b)) (b.selectors.getLastD 0)).toArray := by
  constructor
  · rw [readSelectorMtf_transmit hw, selectorBits_length b (selectorMtf_length hw),
      Array.empty_append]
  · rw [unMtfSelectors_transmit hw, Array.empty_append]

/-- **parse_transmit, table part** (full strength): every table is accepted by
    the strict reader — start value and EVERY intermediate value of the delta
    walk within 1…20 — and the lengths come back unchanged, also for the first
    table whose start value is `tree_pad` away from `len[0]`. -/
theorem parse_transmit_tables (b : EncBlock) (hw : WF b) (pos : Nat) (rest : Bits) :
    Spec.Bzip2.readTables b.alphaSize b.numTrees pos
        ((List.range b.numTrees).flatMap (tableBits b) ++ rest) #[] =
      .ok (b.lens, pos + ((List.range b.numTrees).flatMap (tableBits b)).length, rest) := by
  have htab : (List.range b.numTrees).map (fun t => b.lens.getD t []) = b.lens := by
    rw [← hw.lens_len]
    exact Lemmas.ListAux.range_getD_self b.lens []
  have hrt := readTables_tables hw (List.range b.numTrees) (fun t ht => List.mem_range.mp ht)
    pos rest #[]
  rw [List.length_range, htab] at hrt
  exact hrt

/-- **parse_transmit_partial.**  The statement of `parse_transmit` below with the explicit
    hypothesis `hsym` — the reference symbol decoder `Spec.Bzip2.decodeSym (mkCode lens)` reads
    the code word `code[t][v]` of every symbol `v` of every table in use; `symOK_of_coded`
    discharges it.  (This form does not need the code words to be the canonical ones, only
    decodable.) -/
theorem parse_transmit_partial (b : EncBlock) (hw : WF b) (hc : Coded b)
    (hsym : ∀ s ∈ b.selectors, SymOK (b.lens.getD s []) (b.codes.getD s []))
    (level start : Nat) (rest : Bits) :
    Spec.Bzip2.parseBlock level start (bodyBits b ++ rest) =
      .ok (expectedBlock level start b, rest) := by
  have hcrc : b.crc ^^^ 0xFFFFFFFF < 2 ^ 32 := Nat.xor_lt_two_pow hw.crc_lt (by decide)
  have hnt := hw.trees_range
  have hns := numSelectors_lt hw
  have hused : (usedBytes b.cmap).isEmpty = false := List.isEmpty_eq_false_iff.mpr hc.used_ne
  rw [bodyBits_eq]
  simp only [List.append_assoc]
  unfold Spec.Bzip2.parseBlock
  rw [Lemmas.TransmitBits.takeNat_send 32 _ _ hcrc]
  dsimp only
  rw [Lemmas.TransmitBits.takeNat_send 1 0 _ (by decide)]
  dsimp only
  rw [Lemmas.TransmitBits.takeNat_send 24 _ _ hw.bwt_lt]
  dsimp only
  rw [(parse_transmit_bitmap b.cmap (start + 121) _).1]
  dsimp only
  rw [(parse_transmit_bitmap b.cmap (start + 121) _).2]
  dsimp only
  rw [hused]
  simp only [Bool.false_eq_true, if_false]
  rw [Lemmas.TransmitBits.takeNat_send 3 _ _ (by omega)]
  dsimp only
  rw [if_neg (by omega)]
  rw [Lemmas.TransmitBits.takeNat_send 15 _ _ (by omega)]
  dsimp only
  rw [if_neg (by omega), readSelectorMtf_transmit hw]
  dsimp only
  rw [Array.mkEmpty_eq, Array.empty_append, List.toList_toArray, unMtfSelectors_transmit hw]
  dsimp only
  rw [← hc.alpha_eq, Array.mkEmpty_eq, parse_transmit_tables b hw]
  dsimp only
  rw [Array.empty_append, List.toList_toArray, decodeGroups_transmit hw hc hsym _ 0]
  dsimp only
  -- the end position: the lengths of the parts add up to `cost b`
  have hlenT := transmitBits_length hw
  have hb16 : 16 ≤ bitmapCost b.cmap := by unfold bitmapCost; omega
  simp only [transmitBits, List.length_append, headerBits_length, bitmapBits_length,
    send_length] at hlenT
  have hend : start + 121 + (bitmapCost b.cmap - 16) + 18 + (selectorBits b).length +
      ((List.range b.numTrees).flatMap (tableBits b)).length +
      ((List.range b.ns).flatMap (groupBits b)).length = start + cost b := by
    omega
  rw [hend, Array.mkEmpty_eq, Array.empty_append, Nat.zero_add]
  rfl

/-- The hypothesis `hsym` of `parse_transmit_partial` follows from `Coded`:
    complete tables with canonical code words are read correctly by the
    reference symbol decoder (the bridge `Lemmas.TransmitSym.decodeSym_canon`,
    via the rank formula `canonCode lens i = first(ℓᵢ) + #{j < i | ℓⱼ = ℓᵢ}`). -/
theorem symOK_of_coded (b : EncBlock) (hw : WF b) (hc : Coded b) :
    ∀ s ∈ b.selectors, SymOK (b.lens.getD s []) (b.codes.getD s []) := by
  intro s hs i hi pos rest
  have hst : s < b.lens.length := by rw [hw.lens_len]; exact hw.sel_lt s hs
  have hmem : b.lens.getD s [] ∈ b.lens := Lemmas.ListAux.getD_mem [] hst
  have hcomp := hc.complete _ hmem
  have hlen := (hw.lens_ok _ hmem).1
  have hB : (b.lens.getD s []).getD i 0 = (b.lens.getD s [])[i]! := by
    simp [List.getD_eq_getElem?_getD]
  have hL : (b.codes.getD s []).getD i 0 = Spec.Prefix.canonCode (b.lens.getD s []) i := by
    rw [hc.canon s hs, List.getD_eq_getElem?_getD, List.getElem?_map,
      List.getElem?_range (by rw [← hlen]; exact hi)]
    rfl
  rw [hB, hL]
  exact LbzVerif.Lemmas.TransmitSym.decodeSym_canon _ hcomp i hi pos rest

/-- **parse_transmit** (full strength).  For every well-formed, coded encoder
    state `b` (what `encode()` leaves behind: `WF` — field ranges, lengths in
    1…20, selector MTF and padding as `encode()` computes them; `Coded` —
    complete tables, canonical code words for the tables in use, symbols below
    the alphabet size with EOB exactly at the end, non-empty bitmap), any
    level, any bit offset and ANY following bits `rest`:
    the strict reference parser, started after the 48-bit magic, returns the
    block with stored CRC = complemented CRC register, rand = false, origPtr =
    `bwt_idx`, used = the bytes marked in `cmap`, nGroups = `num_trees`, the
    selectors (the dummy one repeating the last real one), the tables in
    transmitted order — tree 0's lengths restored despite its `tree_pad`
    start —, all symbols before EOB, `endBit = start + cost b`; and it leaves
    exactly `rest` unread. -/
theorem parse_transmit (b : EncBlock) (hw : WF b) (hc : Coded b)
    (level start : Nat) (rest : Bits) :
    Spec.Bzip2.parseBlock level start (bodyBits b ++ rest) =
      .ok (expectedBlock level start b, rest) :=
  parse_transmit_partial b hw hc (symOK_of_coded b hw hc) level start rest

/-- The hypotheses are satisfiable: the "hello" block. -/
theorem helloBlock_symOK : ∀ s ∈ helloBlock.selectors,
    SymOK (helloBlock.lens.getD s []) (helloBlock.codes.getD s []) :=
  symOK_of_coded helloBlock helloBlock_wf helloBlock_coded

example (rest : Bits) : Spec.Bzip2.parseBlock 1 0 (bodyBits helloBlock ++ rest) =
    .ok (expectedBlock 1 0 helloBlock, rest) :=
  parse_transmit helloBlock helloBlock_wf helloBlock_coded 1 0 rest

example : (expectedBlock 1 0 helloBlock).syms = #[2, 4, 3, 4, 0] ∧
    (expectedBlock 1 0 helloBlock).selectors = [0, 0] ∧
    (expectedBlock 1 0 helloBlock).endBit = 208 :=
  ⟨by decide, by decide, by rw [expectedBlock, hello_cost]⟩

end LbzVerif.Props.C01.Transmit
