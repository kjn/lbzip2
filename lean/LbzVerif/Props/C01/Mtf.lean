/-
  Props.C01.Mtf — the MTF / zero-run stage of the compressor is inverted by the
  reference decoder (this stage's part of C01 "compression round-trips
  exactly").

  `used` is the list of byte values in use in strictly ascending order (what
  `make_map_e` turns `inuse[256]` into); `block` is the stage's input (the BWT
  output), every byte of which is in use.
-/
import LbzVerif.Spec.Mtf
import LbzVerif.Model.MtfEnc
import LbzVerif.Lemmas.MtfSpec
import LbzVerif.Lemmas.MtfEnc

namespace LbzVerif.Props.C01.Mtf
open LbzVerif

/-- The model of `make_map_e` + `do_mtf` (front symbol `u`, array `order[255]`,
zero-run counter, RUN() macro) never indexes outside its arrays and produces
exactly the reference MTF / zero-run encoding of the block. -/
theorem doMtf_eq_spec (used block : List UInt8) (hs : used.Pairwise (· < ·))
    (hmem : ∀ x ∈ block, x ∈ used) :
    Model.MtfEnc.doMtf used block = some (Spec.Mtf.mtfRle2 used block) :=
  Lemmas.MtfEnc.doMtf_spec used block hs hmem

/-- The reference decoder inverts the reference encoder (any `used`, sorted or
not), for every capacity `limit` the block fits in. -/
theorem un_mtf_spec (used block : List UInt8) (limit : Nat)
    (hmem : ∀ x ∈ block, x ∈ used) (hfit : block.length ≤ limit) :
    Spec.Mtf.unMtfRle2 used (Spec.Mtf.mtfRle2 used block) limit = some block :=
  Lemmas.MtfSpec.unMtfRle2_mtfRle2 used block limit hmem hfit

/-- C01 (MTF stage): whatever `do_mtf` emits for a block decodes back to that
block under the reference inverse, for every block over `used` that fits
`limit`. -/
theorem un_mtf (used block : List UInt8) (limit : Nat) (hs : used.Pairwise (· < ·))
    (hmem : ∀ x ∈ block, x ∈ used) (hfit : block.length ≤ limit) :
    ∃ syms, Model.MtfEnc.doMtf used block = some syms ∧
      Spec.Mtf.unMtfRle2 used syms limit = some block :=
  ⟨_, doMtf_eq_spec used block hs hmem, un_mtf_spec used block limit hmem hfit⟩

/-- The numeral written by the RUN() macro denotes the run length. -/
theorem runEmit_value (k : Nat) : Spec.Mtf.runValue 1 (Model.MtfEnc.runEmit k) = k := by
  rw [Lemmas.MtfEnc.runEmit_eq_runDigits, Lemmas.MtfSpec.runValue_runDigits]; simp

/- Non-vacuity: a block with an initial run, a run after an MTF symbol, a run of
length 2 (RUNB) and position 2. -/
example : Model.MtfEnc.doMtf [97, 98, 99] [97, 97, 98, 99, 99, 99, 99, 97]
    = some [1, 2, 3, 0, 0, 3, 4] := by decide +kernel
example : ([97, 98, 99] : List UInt8).Pairwise (· < ·) := by decide
example : ∃ syms, Model.MtfEnc.doMtf [97, 98, 99] [97, 97, 98, 99, 99, 99, 99, 97] = some syms ∧
    Spec.Mtf.unMtfRle2 [97, 98, 99] syms 8 = some [97, 97, 98, 99, 99, 99, 99, 97] :=
  un_mtf _ _ 8 (by decide) (by decide) (by decide)
/- one byte too small a capacity is rejected by the reference -/
example : Spec.Mtf.unMtfRle2 [97, 98, 99] [1, 2, 3, 0, 0, 3, 4] 7 = none := by decide

end LbzVerif.Props.C01.Mtf
