/-
  Props.C01.Prefix — the prefix-coding stage round-trips: for every complete
  length list (Kraft sum one, lengths 1…20) the canonical code is prefix-free
  and the bit-by-bit reference decoder inverts the encoder.
-/
import LbzVerif.Spec.Prefix
import LbzVerif.Model.Canon
import LbzVerif.Lemmas.PrefixCanon
import LbzVerif.Lemmas.PrefixRank
import LbzVerif.Lemmas.AssignCanon

namespace LbzVerif.Props.C01.Prefix
open LbzVerif LbzVerif.Spec.Prefix LbzVerif.Lemmas.PrefixCanon LbzVerif.Lemmas.TransmitSym

/-- Decoding the concatenated code words of any symbol string `s`, followed by
arbitrary further bits `r`, gives back `s` and leaves exactly `r`. -/
theorem decode_encode (lens : List Nat) (hc : Complete lens) (s : List Nat)
    (hs : ∀ x ∈ s, x < lens.length) (r : List Bool) :
    decodeSyms lens s.length (encodeSyms lens s ++ r) = some (s, r) := by
  induction s with
  | nil => simp [decodeSyms, encodeSyms]
  | cons a t ih =>
    have ha := hs a (List.mem_cons_self ..)
    have ht := ih (fun x hx => hs x (List.mem_cons_of_mem _ hx))
    simp only [encodeSyms, List.flatMap_cons, List.append_assoc, List.length_cons, decodeSyms]
    rw [decodeSym_encodeSym lens hc a ha]
    simp only [encodeSyms] at ht
    simp only [ht]

example : decodeSyms [2, 3, 1, 3] 5 (encodeSyms [2, 3, 1, 3] [3, 0, 2, 2, 1] ++ [true, false])
    = some ([3, 0, 2, 2, 1], [true, false]) := by decide

/-- No code word of a complete canonical code is a prefix of another. -/
theorem canon_prefix_free (lens : List Nat) (hc : Complete lens) (i j : Nat)
    (hi : i < lens.length) (hj : j < lens.length)
    (hp : encodeSym lens i <+: encodeSym lens j) : i = j := by
  obtain ⟨t, ht⟩ := hp
  have h1 := decodeSym_encodeSym lens hc i hi t
  have h2 := decodeSym_encodeSym lens hc j hj []
  rw [List.append_nil, ← ht, h1] at h2
  exact (Prod.mk.inj (Option.some.inj h2)).1

example : Complete [2, 3, 1, 3] := by decide

/-- lbzip2's encoder-side code assignment (the tail of `assign_codes`: per-depth
`base_code[]` via `next_code = (next_code + avail) << 1`, then
`code[symbol] = base_code[length[symbol]]++`, all in uint32 arithmetic) gives
every symbol exactly the Spec's canonical code word, for every complete length
list.  No extra hypothesis (no bound on the alphabet size, `lens = []` is not
complete). -/
theorem assign_eq_canon (lens : List Nat) (hc : Complete lens) :
    Model.Canon.assignCodes lens = (List.range lens.length).map (canonCode lens) :=
  Lemmas.AssignCanon.assignCodes_eq_canon lens hc

example : Model.Canon.assignCodes [2, 3, 1, 3] =
    (List.range [2, 3, 1, 3].length).map (canonCode [2, 3, 1, 3]) :=
  assign_eq_canon [2, 3, 1, 3] (by decide)

example : Model.Canon.assignCodes [2, 3, 1, 3] = (List.range 4).map (canonCode [2, 3, 1, 3]) := by
  decide

end LbzVerif.Props.C01.Prefix
