/-
  Props.C01.Roundtrip — C01 "compression round-trips exactly" for the whole file: the strict
  reference decoder `Spec.Bzip2.decodeFile` inverts the compressor model
  `Model.Compress.compressFile`, for every input (the empty one included), every level 1…9, both
  modes, and every choice of the three unverified parts (BWT, table clustering, code lengths)
  that satisfies the decidable contract `Model.Compress.ChoicesOK`.  The stage theorems meet in
  `Lemmas.CompressCut.blockOK_compressBlock` (one block) and `walk_blocks` (the file); the
  scheduler form adds `Props.C04.Blocks.blocks_cut`.
-/
import LbzVerif.Model.Compress
import LbzVerif.Lemmas.CompressCut
import LbzVerif.Lemmas.CompressSimple
import LbzVerif.Lemmas.CompressWitness
import LbzVerif.Lemmas.CompressWitnessHello
import LbzVerif.Props.C04.Blocks

namespace LbzVerif.Props.C01.Roundtrip
open LbzVerif LbzVerif.Basic LbzVerif.Model.Compress LbzVerif.Model.Transmit
open LbzVerif.Lemmas.CompressCut
open LbzVerif.Lemmas.TransmitCompose

/-- **block_roundtrip.**  For every non-empty block `bytes` whose run-length
    encoding fits the level's capacity, and every choice satisfying the
    contract for it: the bytes `compressBlock` puts into the file are the bits
    `transmit()` writes (a whole number of bytes); they start with the 48-bit
    block magic; the strict reference parser, started after the magic at ANY
    bit offset `start` and followed by ANY bits `rest`, returns a block and
    leaves exactly `rest`; and the reference block decoder (MTF/zero-run
    stage, inverse BWT, final run-length decoding, CRC comparison) turns that
    block back into `bytes`. -/
theorem block_roundtrip (level : Nat) (h9 : level ≤ 9) (choose : List UInt8 → Choice)
    (bytes : List UInt8) (hne : bytes ≠ [])
    (hfit : (Spec.rle1 bytes).length ≤ level * 100000)
    (hok : ChoicesOK (Spec.rle1 bytes) (choose (Spec.rle1 bytes))) (start : Nat) (rest : Bits) :
    let b := compressBlock choose bytes
    bytesToBits (blockBytes b) = transmitBits b ∧
    takeNat 48 (transmitBits b ++ rest) = some (Spec.Bzip2.blockMagic, bodyBits b ++ rest) ∧
    ∃ blk, Spec.Bzip2.parseBlock level start (bodyBits b ++ rest) = .ok (blk, rest) ∧
      blk.endBit = start + 8 * (blockBytes b).length ∧
      Spec.Bzip2.decodeBlock blk =
        .ok { nblock := (Spec.rle1 bytes).length, bytes := bytes.toArray } := by
  intro b
  have hitem := blockOK_compressBlock level h9 choose bytes hne hfit hok
  refine ⟨Lemmas.CompressBits.blockBytes_bits b hitem.wf,
    Lemmas.CompressBits.takeNat_magic b rest,
    expectedBlock level start b,
    Props.C01.Transmit.parse_transmit b hitem.wf hitem.coded level start rest, ?_,
    hitem.dec start⟩
  rw [Lemmas.CompressBits.blockBytes_length b hitem.wf]
  rfl

/-- **roundtrip_gen.**  The round trip with the block capacity `cap`
    (1 … level·100000) and the chunk size `granul ≥ 1` as parameters. -/
theorem roundtrip_gen (level cap granul : Nat) (h1 : 1 ≤ level) (h9 : level ≤ 9)
    (hcap : 1 ≤ cap) (hcl : cap ≤ level * 100000) (hg : 0 < granul) (seq : Bool)
    (input : List UInt8) (choose : List UInt8 → Choice)
    (hch : ∀ b ∈ cutBlocks cap granul seq input, ChoicesOK (Spec.rle1 b) (choose (Spec.rle1 b))) :
    Spec.Bzip2.decodeFile (compressFileGen level cap granul seq input choose) = .ok input := by
  unfold Spec.Bzip2.decodeFile compressFileGen
  rw [walk_blocks false level h1 h9 choose _ (cutBlocks_fit hcl granul seq input) hch,
    cutBlocks_flatten cap granul hcap hg]

/-- **roundtrip** (C01, whole file).  For every input, every level 1…9, both
    modes (`seq` = `--sequential`), and every choice function `choose` that
    satisfies the contract `ChoicesOK` on the blocks of this input: the strict
    reference decoder decodes what the compressor writes back to the input.
    In particular the stream is accepted: magics, stored block CRCs, combined
    CRC, byte-aligned end, no block over the level's capacity. -/
theorem roundtrip (level : Nat) (h1 : 1 ≤ level) (h9 : level ≤ 9) (seq : Bool)
    (input : List UInt8) (choose : List UInt8 → Choice)
    (hch : ∀ b ∈ cutBlocks (level * 100000) (Gen.memCompress 1 level).2.2.1 seq input,
      ChoicesOK (Spec.rle1 b) (choose (Spec.rle1 b))) :
    Spec.Bzip2.decodeFile (compressFile level seq input choose) = .ok input :=
  roundtrip_gen level (level * 100000) (Gen.memCompress 1 level).2.2.1 h1 h9 (by omega)
    (Nat.le_refl _) (by simp only [Gen.memCompress]; omega) seq input choose hch

/-- The empty input: header and trailer only, no contract to satisfy. -/
theorem roundtrip_empty (level : Nat) (h1 : 1 ≤ level) (h9 : level ≤ 9) (seq : Bool)
    (choose : List UInt8 → Choice) :
    compressFile level seq [] choose = headerBytes level ++ trailerBytes 0 ∧
    Spec.Bzip2.decodeFile (compressFile level seq [] choose) = .ok [] := by
  refine ⟨?_, roundtrip level h1 h9 seq [] choose (by rw [cutBlocks_nil]; intro b hb; cases hb)⟩
  unfold compressFile compressFileGen
  rw [cutBlocks_nil]
  rfl

/-- **roundtrip_simple.**  For the simple executable choice function (naive
    rotation-sort BWT, two copies of the dummy table of `generate_prefix_code`,
    every group coded with table 0) the table half `TablesOK` of the contract
    holds for every block (`Lemmas.CompressSimple.simpleChoice_tablesOK`, from
    `Props.C02.dummyTable_complete`), so the round trip needs only `BwtOK` of
    the naive BWT on each block — the hypothesis `hbwt`, a decidable statement
    about the input (the driver evaluates it on every campaign case).
    `roundtrip_naive` below proves it for every input. -/
theorem roundtrip_simple (level : Nat) (h1 : 1 ≤ level) (h9 : level ≤ 9) (seq : Bool)
    (input : List UInt8)
    (hbwt : ∀ b ∈ cutBlocks (level * 100000) (Gen.memCompress 1 level).2.2.1 seq input,
      BwtOK (Spec.rle1 b) (naiveBwt (Spec.rle1 b)).1 (naiveBwt (Spec.rle1 b)).2) :
    Spec.Bzip2.decodeFile (compressFile level seq input simpleChoice) = .ok input := by
  apply roundtrip level h1 h9 seq input simpleChoice
  intro b hb
  have hrne := Lemmas.Rle1Len.rle1_ne_nil (cutBlocks_mem _ _ seq input b hb).1
  exact (Lemmas.CompressSimple.simpleChoice_ok_iff _ hrne).mpr (hbwt b hb)

/-- **roundtrip_naive** (the contract is satisfiable for EVERY input).  No
    hypothesis about choices: for every input, every level 1…9 and both modes,
    the compressor model with the simple executable choice function — the
    rotation-sort BWT `naiveBwt`, two copies of the dummy table, every group
    coded with table 0 — writes a file that the strict reference decoder
    decodes to exactly the input.  The BWT half of the contract is
    `Lemmas.BwtInverse.naiveBwt_ok`: the format's inverse BWT recovers every
    non-empty block from the last column of its sorted rotations and the row of
    the unrotated block (LF-mapping argument, `Lemmas.BwtInverse.lf_eq`; equal
    rotations of periodic blocks included). -/
theorem roundtrip_naive (level : Nat) (h1 : 1 ≤ level) (h9 : level ≤ 9) (seq : Bool)
    (input : List UInt8) :
    Spec.Bzip2.decodeFile (compressFile level seq input simpleChoice) = .ok input :=
  roundtrip level h1 h9 seq input simpleChoice (simpleChoice_ok_cut _ _ seq input)

/-- the contract `ChoicesOK` is satisfiable on every non-empty block -/
theorem choicesOK_satisfiable (rb : List UInt8) (hne : rb ≠ []) : ∃ ch, ChoicesOK rb ch :=
  ⟨simpleChoice rb, Lemmas.CompressSimple.simpleChoice_ok rb hne⟩

open LbzVerif.Model.SchedC LbzVerif.Props.C04.Blocks in
/-- **assemble_sched.**  In every terminated run of the compression scheduler
    model with the real collector — any worker count, slot totals,
    interleaving (spurious wake-ups included) — the file made of the header,
    the blocks WRITTEN by the run in the order written (each one
    `encode()` + `transmit()` of its collector state `finish enc`,
    `block_crc`), and the trailer with the combined CRC of those blocks, is
    `compressFileGen` of the input: a function of input, level, capacity,
    chunk size and mode only. -/
theorem assemble_sched {c : Cfg} {cap : Nat} {input : List UInt8} {s : State UInt8 Enc}
    (level : Nat) (choose : List UInt8 → Choice) (hcap : 1 ≤ cap) (hg : 0 < c.inGranul)
    (h : Reach c (realCodec cap hcap) input s) (hf : finished c s = true) :
    assemble level choose (s.written.map blockOut) =
      compressFileGen level cap c.inGranul c.ultra input choose :=
  congrArg (assemble level choose) (blocks_cut hcap hg h hf)

open LbzVerif.Model.SchedC LbzVerif.Props.C04.Blocks in
/-- **roundtrip_sched** (C01 over the scheduler).  For every terminated run of
    the compression scheduler model (every worker count, every schedule) with
    the real `collect()`, capacity `cap ≤ level·100000`: the file the run
    writes — header, written blocks in order, trailer — is decoded by the
    strict reference decoder to exactly the input. -/
theorem roundtrip_sched {c : Cfg} {cap : Nat} {input : List UInt8} {s : State UInt8 Enc}
    (level : Nat) (h1 : 1 ≤ level) (h9 : level ≤ 9) (hcap : 1 ≤ cap)
    (hcl : cap ≤ level * 100000) (hg : 0 < c.inGranul)
    (choose : List UInt8 → Choice)
    (hch : ∀ b ∈ cutBlocks cap c.inGranul c.ultra input,
      ChoicesOK (Spec.rle1 b) (choose (Spec.rle1 b)))
    (h : Reach c (realCodec cap hcap) input s) (hf : finished c s = true) :
    Spec.Bzip2.decodeFile (assemble level choose (s.written.map blockOut)) = .ok input := by
  rw [assemble_sched level choose hcap hg h hf]
  exact roundtrip_gen level cap c.inGranul h1 h9 hcap hcl hg c.ultra input choose hch

open LbzVerif.Model.SchedC LbzVerif.Props.C04.Blocks in
/-- … with the numbers of lbzip2: `n` workers, level `bs`, the slot totals and
    chunk size of `set_memory_constraints()`, capacity `bs·100000`: every
    terminated run writes `compressFile bs u input choose`, which decodes to the
    input. -/
theorem roundtrip_sched_gen {n bs : Nat} {u : Bool} {input : List UInt8} {s : State UInt8 Enc}
    (h1 : 1 ≤ bs) (h9 : bs ≤ 9) (choose : List UInt8 → Choice)
    (hch : ∀ b ∈ cutBlocks (bs * 100000) (Gen.memCompress 1 bs).2.2.1 u input,
      ChoicesOK (Spec.rle1 b) (choose (Spec.rle1 b)))
    (h : Reach (Cfg.ofGen n bs u) (realCodec (bs * 100000) (by omega)) input s)
    (hf : finished (Cfg.ofGen n bs u) s = true) :
    assemble bs choose (s.written.map blockOut) = compressFile bs u input choose ∧
    Spec.Bzip2.decodeFile (assemble bs choose (s.written.map blockOut)) = .ok input := by
  have hg : 0 < (Cfg.ofGen n bs u).inGranul := by
    simp only [Cfg.ofGen, Gen.memCompress]
    omega
  refine ⟨assemble_sched (c := Cfg.ofGen n bs u) bs choose (by omega) hg h hf, ?_⟩
  exact roundtrip_sched (c := Cfg.ofGen n bs u) bs h1 h9 (by omega) (Nat.le_refl _) hg choose hch
    h hf

open LbzVerif.Model.SchedC LbzVerif.Props.C04.Blocks in
/-- **roundtrip_sched_naive**: `roundtrip_sched` without any hypothesis about
    choices — every terminated run of the scheduler model (any worker count,
    slot totals, schedule, either mode) with the real `collect()`, capacity
    `cap ≤ level·100000`, and the simple choice function writes a file that
    the strict reference decoder decodes to the input. -/
theorem roundtrip_sched_naive {c : Cfg} {cap : Nat} {input : List UInt8} {s : State UInt8 Enc}
    (level : Nat) (h1 : 1 ≤ level) (h9 : level ≤ 9) (hcap : 1 ≤ cap)
    (hcl : cap ≤ level * 100000) (hg : 0 < c.inGranul)
    (h : Reach c (realCodec cap hcap) input s) (hf : finished c s = true) :
    Spec.Bzip2.decodeFile (assemble level simpleChoice (s.written.map blockOut)) = .ok input :=
  roundtrip_sched level h1 h9 hcap hcl hg simpleChoice (simpleChoice_ok_cut _ _ c.ultra input) h hf

open LbzVerif.Model.SchedC LbzVerif.Props.C04.Blocks in
/-- … with the numbers of lbzip2 (`n` workers, level `bs`, slot totals and chunk
    size of `set_memory_constraints()`, capacity `bs·100000`). -/
theorem roundtrip_sched_naive_gen {n bs : Nat} {u : Bool} {input : List UInt8}
    {s : State UInt8 Enc} (h1 : 1 ≤ bs) (h9 : bs ≤ 9)
    (h : Reach (Cfg.ofGen n bs u) (realCodec (bs * 100000) (by omega)) input s)
    (hf : finished (Cfg.ofGen n bs u) s = true) :
    assemble bs simpleChoice (s.written.map blockOut) = compressFile bs u input simpleChoice ∧
    Spec.Bzip2.decodeFile (assemble bs simpleChoice (s.written.map blockOut)) = .ok input :=
  roundtrip_sched_gen h1 h9 simpleChoice (simpleChoice_ok_cut _ _ u input) h hf

/-! ## non-vacuity

  The witnesses are in Lemmas/CompressWitness*.lean (the block lists and the bytes
  written for "hello" are evaluated by the kernel, the contract is not): the
  contract holds for the simple executable choice function
  (`Model.Compress.simpleChoice`) on the blocks `5 5 5 | 5 5 6 6` (capacity 4,
  `--sequential`, chunks of 2 — the witness run of Props.C04.Blocks), on the
  blocks `5 5 5 | 5 | 5 6 6` of the default mode with chunks of 4, and on
  "hello" at level 9. -/

open LbzVerif.Lemmas.CompressWitness (xChoices_seq xChoices_non xCut)
open LbzVerif.Lemmas.CompressWitnessHello (hello helloChoices helloBytes)

example : Props.C04.Blocks.xInput = Lemmas.CompressWitness.xInput := rfl

example : cutBlocks 4 2 true Props.C04.Blocks.xInput = [[5, 5, 5], [5, 5, 6, 6]] ∧
    cutBlocks 4 4 false Props.C04.Blocks.xInput = [[5, 5, 5], [5], [5, 6, 6]] := xCut

/-- `block_roundtrip` on the block `5 5 6 6` -/
example (start : Nat) (rest : Bits) :
    ∃ blk, Spec.Bzip2.parseBlock 1 start
        (bodyBits (compressBlock simpleChoice [5, 5, 6, 6]) ++ rest) = .ok (blk, rest) ∧
      Spec.Bzip2.decodeBlock blk = .ok { nblock := 4, bytes := #[5, 5, 6, 6] } := by
  have hmem : [5, 5, 6, 6] ∈ cutBlocks 4 2 true Lemmas.CompressWitness.xInput := by
    rw [xCut.1]
    simp
  obtain ⟨_, _, blk, h1, _, h2⟩ := block_roundtrip 1 (by decide) simpleChoice [5, 5, 6, 6]
    (by decide) (by decide) (xChoices_seq _ hmem) start rest
  exact ⟨blk, h1, h2⟩

example : Spec.Bzip2.decodeFile
    (compressFileGen 1 4 2 true Props.C04.Blocks.xInput simpleChoice) =
      .ok Props.C04.Blocks.xInput :=
  roundtrip_gen 1 4 2 (by decide) (by decide) (by decide) (by decide) (by decide) true _ _
    xChoices_seq

example : Spec.Bzip2.decodeFile
    (compressFileGen 1 4 4 false Props.C04.Blocks.xInput simpleChoice) =
      .ok Props.C04.Blocks.xInput :=
  roundtrip_gen 1 4 4 (by decide) (by decide) (by decide) (by decide) (by decide) false _ _
    xChoices_non

/-- the one-block file for "hello" at level 9 (`helloBytes`: the 39 bytes the
    model writes, kernel-evaluated) -/
example : Spec.Bzip2.decodeFile (compressFile 9 false hello simpleChoice) = .ok hello :=
  roundtrip 9 (by decide) (by decide) false _ _ helloChoices

example : (compressFile 9 false hello simpleChoice).length = 39 := by rw [helloBytes]; rfl

example : Spec.Bzip2.decodeFile (compressFile 9 false hello simpleChoice) = .ok hello :=
  roundtrip_simple 9 (by decide) (by decide) false hello (fun b hb => (helloChoices b hb).1)

/-- `roundtrip_naive` needs no witness: any input will do -/
example (input : List UInt8) :
    Spec.Bzip2.decodeFile (compressFile 7 true input simpleChoice) = .ok input :=
  roundtrip_naive 7 (by decide) (by decide) true input

example : ∃ ch, ChoicesOK [1, 2, 2, 3] ch := choicesOK_satisfiable _ (by decide)

example : Spec.Bzip2.decodeFile (compressFile 1 true [] simpleChoice) = .ok [] :=
  (roundtrip_empty 1 (by decide) (by decide) true simpleChoice).2

/-- the scheduler form on the two witness runs of Props.C04.Blocks (two
    workers, capacity 4): the file made of the blocks each run wrote decodes to
    the input -/
example : ∃ s, Model.SchedC.Reach Props.C04.Blocks.xSeqCfg Props.C04.Blocks.xCodec
      Props.C04.Blocks.xInput s ∧
    Model.SchedC.finished Props.C04.Blocks.xSeqCfg s = true ∧
    Spec.Bzip2.decodeFile
      (assemble 1 simpleChoice (s.written.map Props.C04.Blocks.blockOut)) =
        .ok Props.C04.Blocks.xInput := by
  obtain ⟨s, hr, hf, _, _⟩ := Props.C04.Blocks.observe_reach Props.C04.Blocks.xSeq_obs
  exact ⟨s, hr, hf, roundtrip_sched (c := Props.C04.Blocks.xSeqCfg) 1 (by decide) (by decide)
    (by decide) (by decide) (by decide) simpleChoice xChoices_seq hr hf⟩

example : ∃ s, Model.SchedC.Reach Props.C04.Blocks.xNonCfg Props.C04.Blocks.xCodec
      Props.C04.Blocks.xInput s ∧
    Model.SchedC.finished Props.C04.Blocks.xNonCfg s = true ∧
    Spec.Bzip2.decodeFile
      (assemble 1 simpleChoice (s.written.map Props.C04.Blocks.blockOut)) =
        .ok Props.C04.Blocks.xInput := by
  obtain ⟨s, hr, hf, _, _⟩ := Props.C04.Blocks.observe_reach Props.C04.Blocks.xNon_obs
  exact ⟨s, hr, hf, roundtrip_sched (c := Props.C04.Blocks.xNonCfg) 1 (by decide) (by decide)
    (by decide) (by decide) (by decide) simpleChoice xChoices_non hr hf⟩

/-- `roundtrip_sched_naive` on the sequential witness run -/
example : ∃ s, Model.SchedC.Reach Props.C04.Blocks.xSeqCfg Props.C04.Blocks.xCodec
      Props.C04.Blocks.xInput s ∧
    Model.SchedC.finished Props.C04.Blocks.xSeqCfg s = true ∧
    Spec.Bzip2.decodeFile
      (assemble 1 simpleChoice (s.written.map Props.C04.Blocks.blockOut)) =
        .ok Props.C04.Blocks.xInput := by
  obtain ⟨s, hr, hf, _, _⟩ := Props.C04.Blocks.observe_reach Props.C04.Blocks.xSeq_obs
  exact ⟨s, hr, hf, roundtrip_sched_naive (c := Props.C04.Blocks.xSeqCfg) 1 (by decide)
    (by decide) (by decide) (by decide) (by decide) hr hf⟩

end LbzVerif.Props.C01.Roundtrip
