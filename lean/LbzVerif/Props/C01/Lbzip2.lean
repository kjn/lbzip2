/-
  C01 — the round trip through lbzip2's own decompressor, at model level.
  `Props.C01.Roundtrip`: the strict reference decoder recovers the input from `compressFile …`;
  `Props.C06.File.expand_complete`: the model of `lbzip2 -d` (`Model.Expand.expandFile`, built
  from the translated parser `Gen.parseStep` and the retrieve/decode/emit models) accepts
  whatever the reference accepts, with the same bytes.  Composed: lbzip2 -d (lbzip2 -z input) =
  input, for every input, level 1…9, both modes, every contract-meeting choice function, and
  in the scheduler form (`sched_roundtrip`) for every terminated run of either scheduler model.
-/
import LbzVerif.Props.C01.Roundtrip
import LbzVerif.Props.C06.File
import LbzVerif.Props.C09.File

namespace LbzVerif.Props.C01.Lbzip2
open LbzVerif LbzVerif.Model.Compress LbzVerif.Model.Expand

/-- lbzip2 -d ∘ lbzip2 -z = id, sequential models. -/
theorem expand_compress (level : Nat) (h1 : 1 ≤ level) (h9 : level ≤ 9) (seq : Bool)
    (input : List UInt8) (choose : List UInt8 → Choice)
    (hch : ∀ b ∈ cutBlocks (level * 100000) (Gen.memCompress 1 level).2.2.1 seq input,
      ChoicesOK (Spec.rle1 b) (choose (Spec.rle1 b))) :
    expandFile (compressFile level seq input choose) = .ok input :=
  Props.C06.File.expand_complete _ _
    (Props.C01.Roundtrip.roundtrip level h1 h9 seq input choose hch)

/-- … unconditionally for the rotation-sort BWT with dummy tables (so the
    statement above is not vacuous for any input). -/
theorem expand_compress_naive (level : Nat) (h1 : 1 ≤ level) (h9 : level ≤ 9) (seq : Bool)
    (input : List UInt8) :
    expandFile (compressFile level seq input simpleChoice) = .ok input :=
  Props.C06.File.expand_complete _ _
    (Props.C01.Roundtrip.roundtrip_naive level h1 h9 seq input)

/-- An accepted file starts with a bzip2 header (the other branch of
    `expandFile` is the `notBzip2` error). -/
theorem accepted_hasHeader (x y : List UInt8) (h : expandFile x = .ok y) :
    Lemmas.Copy.hasHeader x = true := by
  rw [Lemmas.ExpandTop.expandFile_eq] at h
  by_cases hh : Lemmas.Copy.hasHeader x = true
  · exact hh
  · rw [if_neg hh] at h
    cases h

open LbzVerif.Model.SchedC LbzVerif.Props.C04.Blocks in
/-- **Scheduler to scheduler.**  Take the file written by ANY terminated run of
    the compression scheduler model (real collector, any worker count, slot
    totals, schedule), feed it to ANY run of the decompression scheduler model
    (any worker count `n`, input granularity `W`, slot totals, `ultra`,
    candidate set `cand`, schedule): that run never fails, and when it has
    terminated the bytes handed to the sink are exactly the original input. -/
theorem sched_roundtrip {c : Cfg} {cap : Nat} {input : List UInt8}
    {s : State UInt8 Enc}
    (level : Nat) (h1 : 1 ≤ level) (h9 : level ≤ 9) (hcap : 1 ≤ cap)
    (hcl : cap ≤ level * 100000) (hg : 0 < c.inGranul)
    (choose : List UInt8 → Choice)
    (hch : ∀ b ∈ cutBlocks cap c.inGranul c.ultra input,
      ChoicesOK (Spec.rle1 b) (choose (Spec.rle1 b)))
    (h : Reach c (realCodec cap hcap) input s)
    (hf : finished c s = true)
    (n W totalIn totalOut : Nat) (ultra : Bool) (cand : List Nat)
    {d : Model.SchedD.State} :
    let file := assemble level choose (s.written.map blockOut)
    let cfg := Lemmas.ExpandSched.cfgOf (Lemmas.Copy.headerLevel file) (file.drop 4)
                 n W totalIn totalOut ultra cand
    Model.SchedD.Reach cfg d →
      d.failed = false ∧
      (Model.SchedD.terminated cfg d = true →
        d.written.flatMap
          (Lemmas.ExpandSched.render (Lemmas.Copy.headerLevel file) (file.drop 4)) = input) := by
  intro file cfg hr
  have hdec : Spec.Bzip2.decodeFile file = .ok input :=
    Props.C01.Roundtrip.roundtrip_sched level h1 h9 hcap hcl hg choose hch h hf
  have hex : expandFile file = .ok input := Props.C06.File.expand_complete _ _ hdec
  exact Props.C09.File.accepted_never_fails file (accepted_hasHeader _ _ hex) input hex
    n W totalIn totalOut ultra cand hr

/-! non-vacuity: "hello" at level 9 through both models (nothing is evaluated: the contract
    holds for `simpleChoice` on every block) -/
example : expandFile (compressFile 9 false [104, 101, 108, 108, 111] simpleChoice)
    = .ok [104, 101, 108, 108, 111] :=
  expand_compress_naive 9 (by omega) (by omega) false [104, 101, 108, 108, 111]

end LbzVerif.Props.C01.Lbzip2
