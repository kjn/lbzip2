/-
  C10 — speculative block discovery never influences the output.

  Model: `Model.SchedD` (expansion scheduler, every interleaving, every
  worker count `n`, every input granularity `W`, every slot count), parametric
  in the uninterpreted `parseAt`, `retrieveFrom` and in the ARBITRARY candidate
  set `cand` the scanner reports (true and spurious block starts, including
  spurious ones that decode as complete blocks).  `seqRun c` is the sequential
  decoder over the same `parseAt`/`retrieveFrom`; it does not mention `cand`,
  `n`, `W` or the slot counts.
-/
import LbzVerif.Lemmas.SchedD.Inv
import LbzVerif.Lemmas.SchedD.Witness
import LbzVerif.Lemmas.SchedD.Taint
import LbzVerif.Lemmas.SchedD.Holder

namespace LbzVerif.Props.C10
open LbzVerif.Model.SchedD LbzVerif.Lemmas.SchedD LbzVerif.Gen

/-- **spec_safe** (full strength, all `n`, inputs, candidate sets, schedules).
    In every reachable state:
    * if `failf` has not been called, the sequential decoding is exactly what
      was handed to the sink so far, followed by what the blocks waiting in
      `order_q` (from their current buffer index on) and then the rest of the
      sequential parse produce — so `order_q` is the not-yet-written part of
      the sequential parse chain;
    * the sink sequence is a prefix of the sequential decoding;
    * failure is reported only if the sequential decoding fails. -/
theorem spec_safe {c : Cfg} {s : State} (h : Reach c s) :
    (s.failed = false →
      seqRun c = (s.written ++ (expect c s).1, (expect c s).2)) ∧
    s.written <+: (seqRun c).1 ∧
    (s.failed = true → (seqRun c).2 = false) := by
  cases hf : s.failed with
  | false =>
    have g := (si_reach h hf).main
    exact ⟨fun _ => g, by rw [g]; exact List.prefix_append _ _, fun h' => Bool.noConfusion h'⟩
  | true =>
    have g := failOK_reach h hf
    exact ⟨fun h' => Bool.noConfusion h', g.2, fun _ => g.1⟩

/-- Every buffer passed to `sink_write_buffer` is the head of `order_q` at
    that moment (same base, same buffer index) and is not an error buffer. -/
theorem sink_only_order_head {c : Cfg} {s s' : State} {ob : OB}
    (hs : step c s (.reorder ob) = some s') (hw : s'.written ≠ s.written) :
    (∃ r, s.orderQ = (ob.base, ob.idx) :: r) ∧ s'.written = s.written ++ [(ob.base, ob.idx)] := by
  obtain ⟨-, st⟩ := step_inv hs
  cases st with
  | reorderBogus | reorderErr => exact absurd rfl hw
  | reorderMore _ r _ _ _ hord | reorderOk _ r _ _ _ hord => exact ⟨⟨r, hord⟩, rfl⟩

/-- Bogus blocks (`base <` head of `order_q`, or `order_q` empty once parsing
    is done) are freed without reaching the sink; the slot comes back. -/
theorem bogus_dropped {c : Cfg} {s s' : State} {ob : OB}
    (hs : step c s (.reorder ob) = some s') (hb : dReorderBogus (view c s) = true) :
    s'.written = s.written ∧ s'.outSlots = s.outSlots + 1 ∧ s'.failed = false := by
  obtain ⟨hf, st⟩ := step_inv hs
  cases st with
  | reorderBogus => exact ⟨rfl, rfl, hf⟩
  | reorderErr _ r hsel _ hmin hord | reorderMore _ r hsel _ hmin hord
  | reorderOk _ r hsel _ hmin hord =>
    -- the head of `order_q` is not bogus
    rcases bogus_facts hsel hmin hb with ⟨ho, _⟩ | ⟨x, r', ho, hlt⟩
    · rw [hord] at ho; cases ho
    · rw [hord] at ho
      cases ho
      omega

/-- An `unord_blk` is flagged legitimate only for the block the parser has just
    arrived at: the job that owns a legitimate entry decodes the LAST parsed
    block (its end is the origin of the next header parse). -/
theorem legit_only_at_parser_base {c : Cfg} {s : State} (h : Reach c s) (hf : s.failed = false)
    {j : Job} {f : UF} (hj : j ∈ s.retrQ ∨ ∃ k, Phase.retr j k ∈ s.busy)
    (hu : j.ub = some f) (hl : f.complete = true ∧ f.legit = true) :
    (rres c j.base).e = s.gnext := by
  have g := si_reach h hf
  have hm : LbzVerif.Lemmas.SchedD.Job.mc j = true := by
    simp [LbzVerif.Lemmas.SchedD.Job.mc, hu, hl.1, hl.2]
  rcases hj with hj | ⟨k, hk⟩
  · exact (g.jobs j hj).mc_end hm
  · exact (g.busy _ hk).mc_end hm

/-- No retrieve job is ever attached behind `head_offs` (it would decode
    released input), hence none ever acts as master, is taken over by the parser
    or reaches the sink: the model's ghost `taint` flag is never set, and no
    job, emit job, buffer or unord_blk is ever marked corrupt. -/
theorem no_stale_data {c : Cfg} {s : State} (h : Reach c s) :
    s.taint = false ∧ (∀ j ∈ s.retrQ, j.corrupt = false) ∧ (∀ o ∈ s.reordQ, o.corrupt = false) :=
  let t := ti_reach h
  ⟨t.tt, t.jq, t.ob⟩

/-- Non-vacuity: on the F4/F2 witness shape (one real block, four spurious
    candidates, n = 2) a run reaches clean termination having written exactly
    the sequential output `[(1,0)]`. -/
example : ∃ s, Reach cfgF4 s ∧ terminated cfgF4 s = true ∧ s.written = [(1, 0)]
    ∧ seqRun cfgF4 = ([(1, 0)], true) := by
  obtain ⟨s, hr, hp⟩ := reach_of_run f2_repaired
  simp only [Bool.and_eq_true, decide_eq_true_eq] at hp
  have hq : seqRun cfgF4 = ([(1, 0)], true) := by decide +kernel
  have hw := hp.2
  rw [hq] at hw
  exact ⟨s, hr, hp.1.1.1, (Prod.mk.inj hw).1, hq⟩

end LbzVerif.Props.C10
