/-
  C22 — Invocation name and option sources select the documented mode.

  Every theorem is about `Model.Cli` (`opts_setup`, `opts_outmode`,
  `opts_decompress`, `small = 0` in `main`) interpreting the tables that are
  regenerated from src/main.c on every run (`Gen.longOpts`, `Gen.shortOpts`,
  `Gen.evNames`, `Gen.envSep`, `Gen.decompressNames`, `Gen.catNames`,
  `Gen.smallForcedOff`).  They quantify over all program names, all
  environments and ALL token lists (no bound on length or content).

  Vocabulary:
    `parse p env argv`   what `main` works with (String face);
    `parseL p args`      the same for the homogeneous argument list `args`
                         (environment tokens ++ argv) as character lists;
    `flatten args`       the scanned option events, `lastMode` the last
                         mode-setting one among them;
    `scanState xs = .normal`  after the list `xs` the next element is read as
                         an operand/option (it is not the argument of a
                         trailing `-n`/`-m` and no `--` came before).
-/
import LbzVerif.Lemmas.CliParse

namespace LbzVerif.Props.C22
open LbzVerif.Gen LbzVerif.Model.Cli LbzVerif.Lemmas.CliParse

/-- Environment variables and their order, separators, the four program
names, the documented spelling of every mode / compatibility option. If
main.c renames, removes or reroutes one of them, this stops compiling. -/
theorem documented_tables :
    evNames = ["LBZIP2", "BZIP2", "BZIP"] ∧ envSep = [' ', '\t']
    ∧ decompressNames.Perm ["bunzip2", "lbunzip2"] ∧ catNames.Perm ["bzcat", "lbzcat"]
    ∧ smallForcedOff = true
    ∧ [('d', OptAct.decompressD), ('z', .decompressZ), ('c', .outmodeC), ('t', .outmodeT),
       ('k', .keep), ('f', .force), ('v', .verbose), ('u', .ultra), ('S', .cctrs),
       ('q', .nop), ('s', .small), ('h', .usage), ('V', .version), ('L', .version),
       ('n', .argN), ('m', .argM), ('1', .levelDigit), ('5', .levelDigit), ('9', .levelDigit)].all
        (fun p => shortOpts.lookup p.1 == some p.2) = true
    ∧ [("decompress", OptAct.decompressD), ("compress", .decompressZ), ("stdout", .outmodeC),
       ("test", .outmodeT), ("keep", .keep), ("force", .force), ("verbose", .verbose),
       ("sequential", .ultra), ("fast", .level 1), ("best", .level 9), ("small", .small),
       ("quiet", .nop), ("repetitive-fast", .nop), ("repetitive-best", .nop),
       ("exponential", .nop), ("help", .usage), ("version", .version), ("license", .version)].all
        (fun p => longOpts.lookup p.1 == some p.2) = true := by
  decide +kernel

def tokensOpt : Option String → List String
  | none => []
  | some v => tokens v

private theorem map_toList_ofList (l : List Tok) :
    (l.map String.ofList).map String.toList = l := by
  induction l with
  | nil => rfl
  | cons a l ih => simp [String.toList_ofList]

/-- Tokens from the environment act exactly as if placed before the
command-line arguments: the environment can be traded for a prefix of argv. -/
theorem env_prefix (p : String) (env : String → Option String) (argv : List String) :
    parse p env argv
      = parse p (fun _ => none) ((envToks env).map String.ofList ++ argv) := by
  have h0 : envToks (fun _ => none) = [] := by
    unfold envToks
    induction evNames with
    | nil => rfl
    | cons a l ih => simp [List.flatMap_cons, ih]
  simp only [parse, argList, h0, List.nil_append, List.map_append, map_toList_ofList]

/-- … and the prefix is `tokens $LBZIP2 ++ tokens $BZIP2 ++ tokens $BZIP` (`tokens_spec`). -/
theorem env_prefix_names (p : String) (env : String → Option String) (argv : List String) :
    parse p env argv
      = parse p (fun _ => none)
          (tokensOpt (env "LBZIP2") ++ tokensOpt (env "BZIP2") ++ tokensOpt (env "BZIP") ++ argv) := by
  rw [env_prefix]
  congr 2
  have : evNames = ["LBZIP2", "BZIP2", "BZIP"] := documented_tables.1
  unfold envToks
  rw [this]
  simp only [List.flatMap_cons, List.flatMap_nil, List.append_nil, List.map_append]
  cases env "LBZIP2" <;> cases env "BZIP2" <;> cases env "BZIP" <;>
    simp [tokensOpt, tokens]

/-- What `tokens` is: split at every space / tab, empty pieces dropped, nothing
else is special (no quoting, no escaping).  The three equations determine the
function. -/
theorem tokens_spec :
    tokensL [] = []
    ∧ (∀ t : Tok, t ≠ [] → (∀ c ∈ t, c ≠ ' ' ∧ c ≠ '\t') → tokensL t = [t])
    ∧ (∀ (a b : List Char) (sep : Char), sep = ' ' ∨ sep = '\t' →
        tokensL (a ++ sep :: b) = tokensL a ++ tokensL b) := by
  have hs : envSep = [' ', '\t'] := documented_tables.2.1
  refine ⟨rfl, ?_, ?_⟩
  · intro t ht hc
    unfold tokensL
    rw [tokAux_run envSep t (by
      intro c hcm
      have := hc c hcm
      rw [hs]
      simp [this.1, this.2])]
    simp [flush, ht]
  · intro a b sep hsep
    unfold tokensL
    exact tokAux_split envSep sep (by
      rw [hs]
      rcases hsep with rfl | rfl <;> simp) b a []

example : tokens " -d\t \t-k  x " = ["-d", "-k", "x"] := by decide +kernel
example : tokens "\"-d -k\"" = ["\"-d", "-k\""] := by decide +kernel

theorem names_disjoint (q : String) (h1 : q ∈ decompressNames) (h2 : q ∈ catNames) : False := by
  have m1 : q ∈ ["bunzip2", "lbunzip2"] := documented_tables.2.2.1.mem_iff.mp h1
  have m2 : q ∈ ["bzcat", "lbzcat"] := documented_tables.2.2.2.1.mem_iff.mp h2
  simp only [List.mem_cons, List.not_mem_nil, or_false] at m1 m2
  rcases m1 with rfl | rfl <;> rcases m2 with m2 | m2 <;> exact absurd m2 (by decide)

theorem initial_cat (p : String) (hp : catNames.contains p = true) :
    (initial p).outmode = .stdout := by
  rcases initial_cases p with ⟨h1, _⟩ | ⟨_, _, h⟩ | ⟨_, h2, _⟩
  · exact (names_disjoint p (by simpa using h1) (by simpa using hp)).elim
  · rw [h]
  · rw [hp] at h2
    cases h2

def decompressOf : Outcome → Option Bool
  | .config c _ => some c.decompress
  | _ => none

/-- `decompress` is decided by the LAST of `-d`/`--decompress` (on),
`-z`/`--compress` (off), `-t`/`--test` (on) among the options scanned from
environment and command line; without any of them by the invocation name:
on exactly for `bunzip2`, `lbunzip2`, `bzcat`, `lbzcat`. -/
theorem mode_last_wins_list (p : String) (args : List Tok) (c : Config) (ops : List Tok)
    (h : parseL p args = .config c ops) :
    c.decompress = (lastMode (flatten args)).getD
      (decompressNames.contains p || catNames.contains p) := by
  obtain ⟨c0, hi, hc⟩ := parseL_config h
  rw [hc, (finalC_fields c0 ops).1, (interp_fields _ _ _ _ hi).2.2.2, initial_decompress]

theorem mode_last_wins (p : String) (env : String → Option String) (argv : List String)
    (c : Config) (ops : List String) (h : parse p env argv = .config c ops) :
    c.decompress
      = (lastMode (flatten (argList env (argv.map String.toList)))).getD
          (decompressNames.contains p || catNames.contains p) := by
  obtain ⟨opsL, h⟩ := toOutcome_config h
  exact mode_last_wins_list p _ c opsL h

private theorem lastMode_append_single (A B : List Ev) (e : Ev) (b : Bool)
    (he : modeOf e = some b) (hB : ∀ x ∈ B, modeOf x = none) :
    lastMode (A ++ e :: B) = some b := by
  have : B.filterMap modeOf = [] := List.filterMap_eq_nil_iff.mpr hB
  simp [lastMode, List.filterMap_append, he, this]

def modeTokens : List (String × Bool) :=
  [("-d", true), ("--decompress", true), ("-z", false), ("--compress", false),
   ("-t", true), ("--test", true)]

/-- the options documented as accepted and ignored, and `--small` -/
def noopTokens : List String :=
  ["-q", "--quiet", "--repetitive-fast", "--repetitive-best", "--exponential", "-s", "--small"]

/-- How the option spellings this file names are scanned, evaluated on the
generated tables: each is a single event, the one its name promises. -/
theorem token_events :
    (∀ p ∈ modeTokens, (tokenEv p.1.toList).bind modeOf = some p.2)
    ∧ (∀ t ∈ noopTokens, (tokenEv t.toList).map isNoopEv = some true)
    ∧ (∀ t ∈ ["-c", "--stdout"], (tokenEv t.toList).bind actOf = some .outmodeC)
    ∧ (∀ t ∈ ["-t", "--test"], (tokenEv t.toList).bind actOf = some .outmodeT) := by
  decide +kernel

/-- Token form of "the last one wins": a mode option at an option position,
followed by anything that contains no further mode option (in particular:
the last mode option of the list), decides `decompress` — whatever came
before it in the environment or on the command line, whatever the name. -/
theorem mode_last_token (p : String) (t : String) (b : Bool) (ht : (t, b) ∈ modeTokens)
    (xs ys : List Tok) (hx : scanState xs = .normal)
    (hy : ∀ e ∈ flatten ys, modeOf e = none) (c : Config) (ops : List Tok)
    (h : parseL p (xs ++ t.toList :: ys) = .config c ops) : c.decompress = b := by
  obtain ⟨e, hte, hm⟩ := Option.bind_eq_some_iff.mp (token_events.1 (t, b) ht)
  rw [mode_last_wins_list p _ c ops h, flatten_insert_token hte xs ys hx,
    lastMode_append_single _ _ e b hm hy]
  rfl

example : decompressOf (parse "bunzip2" (fun _ => none) ["-d", "-k", "-z", "-v", "x", "-1"])
    = some false := by decide +kernel

example : parse "bunzip2" (fun n => if n = "BZIP2" then some "-z" else none) ["-v", "-dk", "--compress", "x"]
    = .config { decompress := false, keep := true, verbose := true } ["x"] := by decide +kernel

/-- what `lastMode` looks at: `-t` counts, `-c`/`-k`/operands/ignored options do not -/
example : (flatten ["-zk".toList, "x".toList, "--test".toList, "-q".toList]).filterMap modeOf
    = [false, true] := by decide +kernel

/-- No mode option at all: the invocation name alone decides. -/
theorem mode_default (p : String) (env : String → Option String) (argv : List String)
    (c : Config) (ops : List String) (h : parse p env argv = .config c ops)
    (hno : ∀ e ∈ flatten (argList env (argv.map String.toList)), modeOf e = none) :
    c.decompress = (decompressNames.contains p || catNames.contains p) := by
  rw [mode_last_wins p env argv c ops h]
  have : (flatten (argList env (argv.map String.toList))).filterMap modeOf = [] := by
    rw [List.filterMap_eq_nil_iff]
    exact hno
  simp [lastMode, this]

example : ∀ p ∈ ["bunzip2", "lbunzip2", "bzcat", "lbzcat"],
    decompressOf (parse p (fun _ => none) ["-k", "f"]) = some true := by decide +kernel
example : ∀ p ∈ ["bzip2", "lbzip2", "x", "BZCAT", ""],
    decompressOf (parse p (fun _ => none) ["-k", "f"]) = some false := by decide +kernel

/-- Invoked as `bzcat` / `lbzcat`, output goes to standard output whatever
the options are (and `-t` is refused, see `cat_t_conflict`). -/
theorem cat_names (p : String) (hp : catNames.contains p = true)
    (env : String → Option String) (argv : List String)
    (c : Config) (ops : List String) (h : parse p env argv = .config c ops) :
    c.outmode = .stdout := by
  obtain ⟨c0, opsL, hi, hc⟩ := parse_config h
  rw [hc]
  exact (finalC_outmode c0 opsL).2 (interp_stdout_absorbing _ _ _ _ hi (initial_cat p hp))

example : parse "lbzcat" (fun _ => none) ["-z", "-1", "f"]
    = .config { decompress := false, outmode := .stdout, bs100k := 1 } ["f"] := by decide +kernel

/-- `-t` (discard output) always comes with decompression. -/
theorem discard_implies_decompress (p : String) (env : String → Option String)
    (argv : List String) (c : Config) (ops : List String)
    (h : parse p env argv = .config c ops) (hd : c.outmode = .discard) :
    c.decompress = true := by
  obtain ⟨c0, opsL, hi, hc⟩ := parse_config h
  rw [hc] at hd ⊢
  rw [(finalC_fields c0 opsL).1]
  exact interp_discard_decompress _ _ _ _ hi (initial_flags p).2.2.2
    ((finalC_outmode c0 opsL).1.mp hd)

example : parse "lbzip2" (fun _ => none) ["-t", "f"]
    = .config { decompress := true, outmode := .discard } ["f"] := by decide +kernel

/-- `keep` / `force` are set exactly when some `-k`/`--keep` resp.
`-f`/`--force` is among the scanned options; the block size is that of the
last `-1 … -9` / `--fast` / `--best`, 9 without any.  (These are the flags the
theorems of C17 take as given.) -/
theorem flags_and_level (p : String) (args : List Tok) (c : Config) (ops : List Tok)
    (h : parseL p args = .config c ops) :
    c.keep = (flatten args).any isKeepEv
    ∧ c.force = (flatten args).any isForceEv
    ∧ c.bs100k = (((flatten args).filterMap levelOf).getLast?).getD 9 := by
  obtain ⟨c0, hi, hc⟩ := parseL_config h
  obtain ⟨hk, hf, hl, _⟩ := interp_fields _ _ _ _ hi
  obtain ⟨ik, iF, il, _⟩ := initial_flags p
  obtain ⟨_, fk, ff, fl⟩ := finalC_fields c0 ops
  rw [ik, Bool.false_or] at hk
  rw [iF, Bool.false_or] at hf
  rw [il] at hl
  rw [hc, fk, ff, fl]
  exact ⟨hk, hf, hl⟩

example : parse "lbzip2" (fun _ => none) ["-1", "--keep", "-5f", "--fast", "-3", "x"]
    = .config { keep := true, force := true, bs100k := 3 } ["x"] := by decide +kernel

/-- Up to `opts_setup` (before `main` clears `small`): inserting an ignored
option or `-s`/`--small` at any option position of the argument list leaves
the outcome, every option variable except `small`, and the operand list
unchanged. -/
theorem noop_insert_setup (p : String) (t : String) (ht : t ∈ noopTokens) (xs ys : List Tok)
    (hpos : scanState xs = .normal) :
    unsmall (optsSetupL p (xs ++ t.toList :: ys)) = unsmall (optsSetupL p (xs ++ ys)) := by
  obtain ⟨e, hte, he⟩ := Option.map_eq_some_iff.mp (token_events.2.1 t ht)
  simp only [optsSetupL, unsmall_finalize]
  rw [flatten_insert_token hte xs ys hpos, flatten_append' xs ys hpos, interp_erase_noops,
    interp_erase_noops (flatten xs ++ flatten ys), List.filter_append, List.filter_append,
    List.filter_cons_of_neg (by rw [he]; decide)]

example : optsSetupL "lbzip2" ["-d".toList, "--small".toList, "f".toList]
      = .config { decompress := true, small := true } ["f".toList]
    ∧ optsSetupL "lbzip2" ["-d".toList, "f".toList]
      = .config { decompress := true } ["f".toList] := by decide +kernel

/-- As `main` sees it (`small` forced to 0): the whole outcome is unchanged. -/
theorem noop_insert_list (p : String) (t : String) (ht : t ∈ noopTokens) (xs ys : List Tok)
    (hpos : scanState xs = .normal) :
    parseL p (xs ++ t.toList :: ys) = parseL p (xs ++ ys) := by
  simp only [parseL, mainView_eq_unsmall]
  exact noop_insert_setup p t ht xs ys hpos

/-- The same on the command line, with any environment. -/
theorem noop_insert (p : String) (env : String → Option String) (t : String)
    (ht : t ∈ noopTokens) (xs ys : List String)
    (hpos : scanState (argList env (xs.map String.toList)) = .normal) :
    parse p env (xs ++ t :: ys) = parse p env (xs ++ ys) := by
  simp only [parse, argList, List.map_append, List.map_cons, ← List.append_assoc] at hpos ⊢
  rw [noop_insert_list p t ht _ _ hpos]

example : parse "lbzip2" (fun _ => none) ["-d", "--quiet", "-k", "-s", "f"]
    = parse "lbzip2" (fun _ => none) ["-d", "-k", "f"] := by decide +kernel
/-- the position hypothesis is needed: after `-n` the token is the thread count -/
example : parse "lbzip2" (fun _ => none) ["-n", "-q", "2"] = .fatal
    ∧ scanState ["-n".toList] = .pending ∧ scanState ["--".toList] = .stopped
    ∧ scanState ["-dn".toList, "4".toList, "f".toList] = .normal := by decide +kernel

/-- Inside a cluster of short options: inserting the letter `q` or `s` at any
place before an `n`/`m` letter changes nothing. -/
theorem noop_insert_cluster (p : String) (l : Char) (hl : l = 'q' ∨ l = 's')
    (l1 l2 : List Char) (xs ys : List Tok)
    (h1 : ∀ ch ∈ l1, shortOpts.lookup ch ≠ some .argN ∧ shortOpts.lookup ch ≠ some .argM)
    (hh : (l1 ++ l2).head? ≠ some '-')
    (hpos : scanState xs = .normal) :
    parseL p (xs ++ ('-' :: (l1 ++ l :: l2)) :: ys) = parseL p (xs ++ ('-' :: (l1 ++ l2)) :: ys) := by
  have hlk : ∃ a, shortOpts.lookup l = some a ∧ Simple a ∧ isNoopEv (.act a l) = true := by
    rcases hl with rfl | rfl
    · exact ⟨.nop, by decide, by simp [Simple], rfl⟩
    · exact ⟨.small, by decide, by simp [Simple], rfl⟩
  obtain ⟨a, hla, hsimple, ha⟩ := hlk
  have hh' : (l1 ++ l :: l2).head? ≠ some '-' := by
    cases l1 with
    | nil => rcases hl with rfl | rfl <;> simp
    | cons c t => simpa using hh
  have hk := argKind_short _ hh
  have hk' := argKind_short _ hh'
  simp only [parseL, mainView_eq_unsmall, optsSetupL, unsmall_finalize]
  congr 1
  rw [flatten_append' xs _ hpos, flatten_append' xs _ hpos,
    flatten_short _ _ ys hk, flatten_short _ _ ys hk']
  rcases cluster_insert l a hla hsimple l2 l1 h1 with he | ⟨A, B, e1, e2, e3⟩
  · rw [he]
  · rw [e1, e2, e3, interp_erase_noops, interp_erase_noops (flatten xs ++ _)]
    simp only [List.filter_append]
    rw [List.filter_cons_of_neg (by rw [ha]; decide)]

example : parse "lbzip2" (fun _ => none) ["-dqk", "f"] = parse "lbzip2" (fun _ => none) ["-dk", "f"]
    ∧ parse "lbzip2" (fun _ => none) ["-sdk", "f"] = parse "lbzip2" (fun _ => none) ["-dk", "f"]
    ∧ parse "lbzip2" (fun _ => none) ["-dks", "f"] = parse "lbzip2" (fun _ => none) ["-dk", "f"] := by
  decide +kernel

/-- A cluster of option letters that take no argument (`-dkf`) is read
exactly like the separate options (`-d -k -f`), at any option position. -/
theorem cluster_eq_separate (p : String) (ls : List Char) (xs ys : List Tok)
    (h : ∀ ch ∈ ls, ch ≠ '-' ∧ shortOpts.lookup ch ≠ some .argN ∧ shortOpts.lookup ch ≠ some .argM)
    (hpos : scanState xs = .normal) :
    parseL p (xs ++ ('-' :: ls) :: ys)
      = parseL p (xs ++ (ls.map (fun ch => ['-', ch]) ++ ys)) := by
  simp only [parseL, optsSetupL]
  congr 2
  rw [flatten_append' xs _ hpos, flatten_append' xs _ hpos]
  exact interp_prefix_congr id (fun _ _ => rfl) _ _
    (interp_cluster_separate ys ls h) (flatten xs) (initial p)

example : parse "bzip2" (fun _ => none) ["-v", "-dkf", "x"]
    = parse "bzip2" (fun _ => none) ["-v", "-d", "-k", "-f", "x"] := by decide +kernel
/-- letters with an argument are different: `-n4` is not `-n -4` -/
example : parse "bzip2" (fun _ => none) ["-n4"] ≠ parse "bzip2" (fun _ => none) ["-n", "-4"] := by
  decide +kernel

/-- `opts_outmode`: `-c` is refused exactly when output is being discarded
(`-t` in effect), `-t` exactly when output goes to standard output (`-c` in
effect, or invoked as `bzcat`/`lbzcat`). -/
theorem c_t_conflict (c : Config) (ch : Char) :
    (applyAct .outmodeC ch c = none ↔ c.outmode = .discard)
    ∧ (applyAct .outmodeT ch c = none ↔ c.outmode = .stdout) := by
  constructor <;> simp only [applyAct] <;> split <;> simp_all

example : applyAct .outmodeC 'c' { outmode := .discard, decompress := true } = none
    ∧ applyAct .outmodeT 't' { outmode := .stdout } = none
    ∧ (applyAct .outmodeT 't' {}).isSome = true := by decide

private theorem two_acts {p : String} {args : List Tok} {A M B : List Ev} {a1 a2 : OptAct}
    {ch1 ch2 : Char} {c : Config} {ops : List Tok}
    (hf : flatten args = A ++ .act a1 ch1 :: M ++ .act a2 ch2 :: B)
    (h : parseL p args = .config c ops) :
    ∃ c1 c2 c3 c4 o, applyAct a1 ch1 c1 = some c2 ∧ interp c2 M = .config c3 o
      ∧ applyAct a2 ch2 c3 = some c4 := by
  obtain ⟨c0, hi, _⟩ := parseL_config h
  rw [hf] at hi
  obtain ⟨c3, _, c4, _, h3, hx2, _⟩ := interp_append_act hi
  obtain ⟨c1, _, c2, o, _, hx1, hM⟩ := interp_append_act h3
  exact ⟨c1, c2, c3, c4, o, hx1, hM, hx2⟩

/-- Event form, all lists: `-c` followed LATER (anything in between) by `-t`
is never accepted; `-t` followed later by `-c` is never accepted unless a
`-d`/`-z` in between cancelled the test mode. -/
theorem c_t_conflict_events (p : String) (args : List Tok) (A M B : List Ev) (ch1 ch2 : Char) :
    (flatten args = A ++ .act .outmodeC ch1 :: M ++ .act .outmodeT ch2 :: B →
        ∀ c ops, parseL p args ≠ .config c ops)
    ∧ (flatten args = A ++ .act .outmodeT ch1 :: M ++ .act .outmodeC ch2 :: B →
        (∀ e ∈ M, modeOf e = none) → ∀ c ops, parseL p args ≠ .config c ops) := by
  constructor
  · intro hf c ops hcfg
    obtain ⟨c1, c2, c3, c4, o, hx1, hm, hx2⟩ := two_acts hf hcfg
    have hs3 := interp_stdout_absorbing _ _ _ _ hm (outmode_set.1 hx1)
    rw [(c_t_conflict c3 ch2).2.mpr hs3] at hx2
    cases hx2
  · intro hf hM c ops hcfg
    obtain ⟨c1, c2, c3, c4, o, hx1, hm, hx2⟩ := two_acts hf hcfg
    have hs3 := interp_discard_stays _ hM _ _ _ hm (outmode_set.2 hx1)
    rw [(c_t_conflict c3 ch2).1.mpr hs3] at hx2
    cases hx2

example : flatten ["-ck".toList, "x".toList, "--test".toList]
    = [] ++ .act .outmodeC 'c' :: [.act .keep 'k', .operand "x".toList] ++ .act .outmodeT '0' :: []
    ∧ parseL "lbzip2" ["-ck".toList, "x".toList, "--test".toList] = .fatal := by decide +kernel

/-- Token form: `-c`/`--stdout` … `-t`/`--test` in either order at option
positions (with no mode option in between for the second order). -/
theorem c_t_conflict_tokens (p : String) (tc tt : String)
    (htc : tc ∈ ["-c", "--stdout"]) (htt : tt ∈ ["-t", "--test"]) (xs ys zs : List Tok)
    (hx : scanState xs = .normal) (hy : scanState ys = .normal) :
    (∀ c ops, parseL p (xs ++ tc.toList :: (ys ++ tt.toList :: zs)) ≠ .config c ops)
    ∧ ((∀ e ∈ flatten ys, modeOf e = none) →
        ∀ c ops, parseL p (xs ++ tt.toList :: (ys ++ tc.toList :: zs)) ≠ .config c ops) := by
  obtain ⟨chc, hc⟩ := tokenEv_act (token_events.2.2.1 tc htc)
  obtain ⟨cht, ht⟩ := tokenEv_act (token_events.2.2.2 tt htt)
  have split2 : ∀ {a b : Tok} {ea eb : Ev}, tokenEv a = some ea → tokenEv b = some eb →
      flatten (xs ++ a :: (ys ++ b :: zs)) = flatten xs ++ ea :: flatten ys ++ eb :: flatten zs := by
    intro a b ea eb ha hb
    rw [flatten_insert_token ha xs _ hx, flatten_insert_token hb ys zs hy]
    simp
  constructor
  · exact (c_t_conflict_events p _ (flatten xs) (flatten ys) (flatten zs) chc cht).1 (split2 hc ht)
  · intro hM
    exact (c_t_conflict_events p _ (flatten xs) (flatten ys) (flatten zs) cht chc).2
      (split2 ht hc) hM

example : parse "lbzip2" (fun _ => none) ["-c", "-k", "--test", "f"] = .fatal
    ∧ parse "lbzip2" (fun _ => none) ["-tc"] = .fatal
    ∧ parse "lbzip2" (fun _ => none) ["-c", "-d", "-t"] = .fatal
    -- the asymmetry: -d / -z after -t cancels the test mode, so -c is accepted
    ∧ parse "lbzip2" (fun _ => none) ["-t", "-d", "-c"]
        = .config { decompress := true, outmode := .stdout } [] := by decide +kernel

/-- invoked as `bzcat`/`lbzcat`, `-t` is always refused -/
theorem cat_t_conflict (p : String) (hp : catNames.contains p = true) (args : List Tok)
    (A B : List Ev) (ch : Char) (hf : flatten args = A ++ .act .outmodeT ch :: B) :
    ∀ c ops, parseL p args ≠ .config c ops := by
  intro c ops hcfg
  obtain ⟨c0, hi, _⟩ := parseL_config hcfg
  rw [hf] at hi
  obtain ⟨c1, _, c2, _, h1, hx, _⟩ := interp_append_act hi
  rw [(c_t_conflict c1 ch).2.mpr (interp_stdout_absorbing _ _ _ _ h1 (initial_cat p hp))] at hx
  cases hx

example : parse "bzcat" (fun _ => none) ["-t"] = .fatal := by decide +kernel

end LbzVerif.Props.C22
