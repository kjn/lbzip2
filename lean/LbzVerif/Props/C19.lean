/-
  Props.C19 — `-cdf` passes non-bzip2 data through unchanged.

  Model: `LbzVerif.Model.Copy` (sniff of `work()`, `xread`, the copy pipeline
  of `copy()` as a transition system whose steps are the critical sections and
  the individual read(2)/write(2) calls of the source and sink threads).

  Quantifiers: every input, every fragmentation of the reads (`frag`, and the
  `hint` carried by every `srcRead` label), every size of every write (`hint`
  of `snkWrite`), every interleaving of the two threads (`Reach` is the
  reflexive-transitive closure of `step` over arbitrary labels).
-/
import LbzVerif.Lemmas.Copy

namespace LbzVerif.Props.C19

open LbzVerif.Gen LbzVerif.Model.Copy LbzVerif.Lemmas.Copy

/-- `xread` delivers exactly the first `vacant` bytes (fewer only at end of
input), leaves the rest unread and reports the shortfall — whatever sizes the
individual `read(2)` calls return. -/
theorem xread_spec (inp : List UInt8) (vacant : Nat) (frag : List Nat) :
    (xread inp vacant frag).got = inp.take vacant ∧
    (xread inp vacant frag).rest = inp.drop vacant ∧
    (xread inp vacant frag).vacant = vacant - inp.length :=
  Lemmas.Copy.xread_spec inp vacant frag

example : (xread [1, 2, 3, 4, 5, 6] 4 [1, 2, 7]).got = [1, 2, 3, 4] ∧
          (xread [1, 2] 4 [1, 1]).vacant = 2 := by decide

/-- Decompression is chosen iff the input has at least four bytes and they are
`B`, `Z`, `h`, `1`…`9`; independent of `-f`, of the output, and of how the
reads were fragmented. -/
theorem sniff_iff (inp : List UInt8) (frag : List Nat) (force stdout : Bool) :
    (∃ k, (sniff inp frag force stdout).1 = .decompress k) ↔
      ∃ b3 rest, inp = 0x42 :: 0x5A :: 0x68 :: b3 :: rest ∧ 0x31 ≤ b3.toNat ∧ b3.toNat ≤ 0x39 := by
  rw [sniff_decision, ← hasHeader_iff]
  by_cases hh : hasHeader inp = true
  · rw [if_pos hh]
    exact ⟨fun _ => hh, fun _ => ⟨_, rfl⟩⟩
  · rw [if_neg hh]
    refine ⟨fun ⟨k, hk⟩ => ?_, fun h => absurd h hh⟩
    split at hk <;> cases hk

example : (sniff [0x42, 0x5A, 0x68, 0x39, 0x17] [1, 1, 1, 1] false false).1 = .decompress 9 ∧
          (sniff [0x42, 0x5A, 0x68, 0x30, 0x17] [] true true).1 = .copy [0x42, 0x5A, 0x68, 0x30] ∧
          (sniff [0x42, 0x5A, 0x68] [2] true true).1 = .copy [0x42, 0x5A, 0x68] ∧
          (sniff [0x42, 0x5A, 0x68, 0x3A] [] true false).1 = .fail := by decide

/-- The complete decision of `work()`: a header gives decompression at the
level of the digit; otherwise the copy (with the ≤ 4 bytes already read as the
partial header) iff `-f` and the output is stdout; otherwise the fatal "not a
valid bzip2 file". -/
theorem sniff_decision (inp : List UInt8) (frag : List Nat) (force stdout : Bool) :
    (sniff inp frag force stdout).1 =
      if hasHeader inp then .decompress (headerLevel inp)
      else if force && stdout then .copy (inp.take 4) else .fail :=
  Lemmas.Copy.sniff_decision inp frag force stdout

theorem sniff_frag_irrelevant (inp : List UInt8) (frag frag' : List Nat) (force stdout : Bool) :
    (sniff inp frag force stdout).1 = (sniff inp frag' force stdout).1 ∧
    (sniff inp frag force stdout).2.1 = inp.drop 4 := by
  refine ⟨by rw [sniff_decision, sniff_decision], ?_⟩
  exact (Lemmas.Copy.xread_spec inp sniffLen frag).2.1

example : (sniff [1, 2, 3, 4, 5] [1, 1, 1, 1] true true).1 = (sniff [1, 2, 3, 4, 5] [3, 9] true true).1 := by
  decide

/-- With a stream header the run is plain decompression: `-f` and the kind of
output play no role, the level is the header digit (1…9) and the decompressor
starts on the bytes after the header. -/
theorem header_case (inp : List UInt8) (frag : List Nat) (force stdout : Bool)
    (h : hasHeader inp = true) :
    (sniff inp frag force stdout).1 = (sniff inp frag false false).1 ∧
    (sniff inp frag force stdout).1 = .decompress (headerLevel inp) ∧
    1 ≤ headerLevel inp ∧ headerLevel inp ≤ 9 ∧
    (sniff inp frag force stdout).2.1 = inp.drop 4 := by
  refine ⟨by rw [sniff_decision, sniff_decision, if_pos h, if_pos h], by rw [sniff_decision, if_pos h],
    ?_, ?_, (sniff_frag_irrelevant inp frag frag force stdout).2⟩
  all_goals
    obtain ⟨b3, rest, rfl, hlo, hhi⟩ := (hasHeader_iff inp).mp h
    have e : headerLevel (0x42 :: 0x5A :: 0x68 :: b3 :: rest) = b3.toNat - 0x30 := rfl
    omega

example : hasHeader [0x42, 0x5A, 0x68, 0x35, 1, 2] = true ∧
    headerLevel [0x42, 0x5A, 0x68, 0x35, 1, 2] = 5 := by decide

theorem reach_inv {hdr inp : List UInt8} {s : St} (hr : Reach (init hdr inp) s) :
    Inv (hdr ++ inp) s := by
  induction hr with
  | refl => exact inv_init hdr inp
  | step l _ hs ih => exact inv_step ih hs

/-- Bytes written = input (partial header included), in every state where both
threads are at rest. -/
theorem copy_identity {hdr inp : List UInt8} {s : St}
    (hr : Reach (init hdr inp) s) (ht : terminal s = true) : s.out = hdr ++ inp := by
  obtain ⟨hc, _⟩ := reach_inv hr
  obtain ⟨hsrc, hsnk, hq⟩ := terminal_iff.mp ht
  have hb := hc.bytes
  have hch := hc.chunk
  simp only [chunkOk, hsrc] at hch
  simpa [snkBytes, srcBytes, hsrc, hsnk, hq, hch] using hb

/-- SIGUSR2 is raised exactly once in every complete run. -/
theorem usr2_once {hdr inp : List UInt8} {s : St}
    (hr : Reach (init hdr inp) s) (ht : terminal s = true) : s.usr2 = 1 := by
  rw [(reach_inv hr).usr2_eq, if_pos ht]

/-- The same, from the user's point of view: for a non-bzip2 input the sniff
chooses the copy, and header bytes plus copied bytes are the input. -/
theorem copy_identity_whole (inp : List UInt8) (frag : List Nat) (h : hasHeader inp = false) :
    ∃ hdr rest fr, sniff inp frag true true = (.copy hdr, rest, fr) ∧ hdr ++ rest = inp ∧
      ∀ s, Reach (init hdr rest) s → terminal s = true → s.out = inp ∧ s.usr2 = 1 := by
  have hd := sniff_decision inp frag true true
  have hr := (sniff_frag_irrelevant inp frag frag true true).2
  rw [h] at hd
  simp only [Bool.false_eq_true, if_false, Bool.and_self, if_true] at hd
  refine ⟨inp.take 4, inp.drop 4, (sniff inp frag true true).2.2, ?_, List.take_append_drop 4 inp, ?_⟩
  · rw [← hd, ← hr]
  · intro s hs ht
    have := copy_identity hs ht
    rw [List.take_append_drop] at this
    exact ⟨this, usr2_once hs ht⟩

inductive ReachN (s0 : St) : Nat → St → Prop
  | refl : ReachN s0 0 s0
  | step {n : Nat} {s s' : St} (l : Label) : ReachN s0 n s → step s l = some s' → ReachN s0 (n + 1) s'

theorem reachN_reach {s0 s : St} {n : Nat} (h : ReachN s0 n s) : Reach s0 s := by
  induction h with
  | refl => exact .refl
  | step l _ hs ih => exact .step l ih hs

/-- Termination: every step of either thread lowers `Lemmas.Copy.cost`, so an execution
of the copy has at most `cost (init hdr inp)` steps. -/
theorem copy_terminates {hdr inp : List UInt8} {s : St} {n : Nat}
    (hr : ReachN (init hdr inp) n s) : n + cost s ≤ cost (init hdr inp) := by
  induction hr with
  | refl => omega
  | step l hprev hs ih =>
    have := cost_step (reach_inv (reachN_reach hprev)) hs
    omega

/-- The bound in closed form. -/
theorem copy_step_bound (hdr inp : List UInt8) : cost (init hdr inp) = 30 * inp.length + 5 := by
  simp [cost, init, srcBytes, snkBytes, srcW, snkW]

/-- No stuck state: a reachable state in which a thread is still busy or a
block is still queued always has an enabled step (no deadlock between the
`in_slots` wait of the source and the queue wait of the sink). -/
theorem copy_progress {hdr inp : List UInt8} {s : St}
    (hr : Reach (init hdr inp) s) (hnt : terminal s = false) : ∃ l s', step s l = some s' :=
  progress (reach_inv hr) hnt

/-- SIGUSR2 is never raised a second time, at any point of any execution (a
second one would stay pending while blocked and kill the process at `sti()`). -/
theorem usr2_never_twice {hdr inp : List UInt8} {s : St}
    (hr : Reach (init hdr inp) s) : s.usr2 ≤ 1 := by
  rw [(reach_inv hr).usr2_eq]
  split <;> omega

/-- When the signal has been raised, everything has been written and both
threads are at rest: the main thread, which leaves `halt()` at that moment,
cannot overtake pending output, and no step (hence no second `xraise`) is
possible afterwards. -/
theorem usr2_after_output {hdr inp : List UInt8} {s : St}
    (hr : Reach (init hdr inp) s) (h1 : s.usr2 = 1) :
    terminal s = true ∧ s.out = hdr ++ inp ∧ ∀ l, step s l = none := by
  rw [(reach_inv hr).usr2_eq] at h1
  split at h1
  next hterm =>
    obtain ⟨hsrc, hsnk, hq⟩ := terminal_iff.mp hterm
    refine ⟨hterm, copy_identity hr hterm, fun l => ?_⟩
    cases l <;> simp [step, hsrc, hsnk, hq]
  · cases h1

/-- A 5-byte input `BZh0\n`: the sniff takes `BZh0`, the pipeline copies `\n`;
one schedule with one-byte reads. -/
example :
    runCopy [0x42, 0x5A, 0x68, 0x30, 0x0A] [1, 1, 2] [(0, 1), (5, 1), (3, 1), (7, 1)] 100 =
      some ([0x42, 0x5A, 0x68, 0x30, 0x0A], 1, true) := by decide

/-- The hypotheses of `copy_identity`/`usr2_once` are satisfiable (reader first, then writer). -/
example : ∃ s, Reach (init [1] [2, 3]) s ∧ terminal s = true ∧ s.out = [1, 2, 3] ∧ s.usr2 = 1 := by
  have h : (runLabels [.srcTake, .srcRead 1, .srcRead 5, .srcRead 5, .srcDispatch, .srcPush,
      .snkShift, .snkWrite 1, .srcEof, .snkWrite 9, .snkRelease, .snkInc] (init [1] [2, 3])).map
      (fun s => (terminal s, s.out, s.usr2)) = some (true, [1, 2, 3], 1) := by decide
  obtain ⟨s, hs, h⟩ := Option.map_eq_some_iff.mp h
  simp only [Prod.mk.injEq] at h
  exact ⟨s, reach_of_labels _ hs, h.1, h.2.1, h.2.2⟩

/-- The interleaving in which `out_slots` wraps below zero is reachable in the
model (it is observed in traces of the real program too): three blocks have
had their `out_slots--` while the sink, which already returned the input slot
of the first one, has not yet executed its `out_slots++`. -/
example : dec32 (dec32 (dec32 copyOutSlots)) = 4294967295 ∧
    inc32 (dec32 (dec32 (dec32 copyOutSlots))) = 0 := by decide

end LbzVerif.Props.C19
