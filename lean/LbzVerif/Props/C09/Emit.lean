/-
  C09 — the output of `emit()` does not depend on how the output space is cut
  into buffers.

  `Model.Emit.run st sizes` calls the six-state emitter once per buffer size
  (stopping at the first call that does not return MORE).  All theorems hold
  for EVERY list of sizes; the only conditions are those under which the C
  function itself is meaningful: `size < 0xFFFFFFFF` (`m = *buf_sz` is
  truncated to 32 bits and `0xFFFFFFFF` is the "exhausted" mark) and a block
  shorter than `0xFFFFFFFF` nodes (it has at most 900000).  Sizes of 0 are
  allowed here (such a call returns MORE without output).
-/
import LbzVerif.Lemmas.Emit

namespace LbzVerif.Props.C09

open LbzVerif.Model.Emit
open LbzVerif.Lemmas.Emit

/-- Two ways of cutting the output space — in particular any
list of buffers and one huge buffer — produce the same bytes (concatenated
over the calls), the same final status and the same block CRC, from the state
`decode()` leaves and from any consistent suspended state. -/
theorem emit_split (st : St) (hi : Inv st) (sizes₁ sizes₂ : List Nat)
    (h₁ : ∀ z ∈ sizes₁, z < M1) (h₂ : ∀ z ∈ sizes₂, z < M1)
    (f₁ : (run st sizes₁).final ≠ .more) (f₂ : (run st sizes₂).final ≠ .more) :
    (run st sizes₁).bytes = (run st sizes₂).bytes ∧
      (run st sizes₁).final = (run st sizes₂).final ∧
      ((run st sizes₁).final = .ok → (run st sizes₁).crc = (run st sizes₂).crc) := by
  have r₁ := run_ok sizes₁ st hi h₁
  have r₂ := run_ok sizes₂ st hi h₂
  obtain ⟨a1, a2⟩ := r₁.done f₁
  obtain ⟨b1, b2⟩ := r₂.done f₂
  have hb : (run st sizes₁).bytes = (run st sizes₂).bytes := a1.symm.trans b1
  have hf : (run st sizes₁).final = (run st sizes₂).final := a2.trans b2.symm
  refine ⟨hb, hf, fun e => ?_⟩
  rw [(r₁.ok e).2.2.1, (r₂.ok (hf ▸ e)).2.2.1, hb]

/-- The instance asked for: a block as `decode()` leaves it, any list of
buffers against one buffer of size `big`. -/
theorem emit_split_oneshot (xs : List UInt8) (hx : xs.length < M1) (sizes : List Nat)
    (big : Nat) (h₁ : ∀ z ∈ sizes, z < M1) (hb : big < M1)
    (f₁ : (run (St.init xs) sizes).final ≠ .more)
    (f₂ : (emit (St.init xs) big).status ≠ .more) :
    (run (St.init xs) sizes).bytes = (emit (St.init xs) big).out ∧
      (run (St.init xs) sizes).final = (emit (St.init xs) big).status ∧
      ((run (St.init xs) sizes).final = .ok →
        (run (St.init xs) sizes).crc = (emit (St.init xs) big).crc) := by
  have h := emit_split (St.init xs) (init_Inv xs hx) sizes [big] h₁
    (by intro z hz; simp at hz; omega) f₁ (by simp [run, f₂])
  simpa [run, f₂, Run.bytes] using h

/-- Buffers exhausted early: what has been written so far is exactly as many
bytes as were offered, and it is a prefix of what any completed run writes;
the suspended state is consistent (so the run can be continued). -/
theorem emit_prefix (st : St) (hi : Inv st) (sizes₁ sizes₂ : List Nat)
    (h₁ : ∀ z ∈ sizes₁, z < M1) (h₂ : ∀ z ∈ sizes₂, z < M1)
    (f₁ : (run st sizes₁).final = .more) (f₂ : (run st sizes₂).final ≠ .more) :
    (run st sizes₁).bytes.length = sizes₁.sum ∧ Inv (run st sizes₁).st ∧
      ∃ rest, (run st sizes₂).bytes = (run st sizes₁).bytes ++ rest := by
  obtain ⟨a1, _, a3, _, a5⟩ := (run_ok sizes₁ st hi h₁).more f₁
  refine ⟨a3, a5, meaningOut (run st sizes₁).st, ?_⟩
  rw [← ((run_ok sizes₂ st hi h₂).done f₂).1, a1]

/-- Progress: once more space has been offered than the block decodes to, the
run has finished (with sizes ≥ 1 every call that returns MORE has filled its
buffer completely, by `emit_prefix`). -/
theorem emit_terminates (st : St) (hi : Inv st) (sizes : List Nat)
    (h : ∀ z ∈ sizes, z < M1) (hbig : (meaningOut st).length < sizes.sum) :
    (run st sizes).final ≠ .more :=
  run_ne_more st hi sizes h hbig

private def blk : List UInt8 := [7, 7, 7, 7, 2, 9, 9, 9, 9, 0, 5]

-- 7 7 7 7 (+2) 9 9 9 9 (+0) 5 with buffers 3,1,1,2,1,40 (suspends in states
-- 3, 4, 4, 5 …) against one buffer of 100 bytes
example : (run (St.init blk) [3, 1, 1, 2, 1, 40]).bytes = [7, 7, 7, 7, 7, 7, 9, 9, 9, 9, 5] ∧
    (run (St.init blk) [3, 1, 1, 2, 1, 40]).final = .ok ∧
    (run (St.init blk) [3, 1, 1, 2, 1, 40]).calls.length = 6 ∧
    (emit (St.init blk) 100).out = [7, 7, 7, 7, 7, 7, 9, 9, 9, 9, 5] ∧
    (emit (St.init blk) 100).left = 89 := by decide

end LbzVerif.Props.C09
