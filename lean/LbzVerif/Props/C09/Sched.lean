/-
  C09 (scheduler half) — the decompression result does not depend on the
  worker count, the schedule, the input granularity, the slot counts or the
  candidate set: a run of `Model.SchedD` that is over produced what the
  sequential decoder `seqRun` produces, and `seqRun` reads none of those.
-/
import LbzVerif.Lemmas.SchedD.Safe
import LbzVerif.Lemmas.SchedD.Witness
import LbzVerif.Lemmas.SchedD.Exact
import LbzVerif.Lemmas.SchedD.Inv

namespace LbzVerif.Props.C09.Sched
open LbzVerif.Model.SchedD LbzVerif.Lemmas.SchedD LbzVerif.Gen

/-- The reference result reads only `parseAt`, `retrieveFrom` and the input
    length: two configurations that differ in `n`, `W`, slot counts, `ultra`
    and the scanner's candidate set have the same reference result. -/
theorem seqRun_indep (c1 c2 : Cfg) (hp : c1.parseAt = c2.parseAt)
    (hr : c1.retrieveFrom = c2.retrieveFrom) (hT : c1.T = c2.T) : seqRun c1 = seqRun c2 := by
  have e1 : pres c1 = pres c2 := by funext p; simp [pres, hp, hT]
  have e2 : rres c1 = rres c2 := by funext b; simp [rres, hr, hT]
  have e3 : blockOut c1 = blockOut c2 := by funext b i; simp [blockOut, e2]
  have e4 : ∀ f p, seqFrom c1 f p = seqFrom c2 f p := by
    intro f
    induction f with
    | zero => intro p; rfl
    | succ f ih => intro p; simp only [seqFrom, e1, e2, e3, ih]
  simp [seqRun, hT, e4]

/-- **output_eq, failure side** (full strength): a run that ended in `failf`
    happens only on inputs whose sequential decoding fails, and what it handed
    to the sink is a prefix of the sequential output. -/
theorem output_eq_failed {c : Cfg} {s : State} (h : Reach c s) (hf : s.failed = true) :
    (seqRun c).2 = false ∧ s.written <+: (seqRun c).1 :=
  failOK_reach h hf

/-- **output_eq** (full strength; every `n`, input granularity, slot count,
    candidate set, `parseAt`/`retrieveFrom` and every interleaving): a run that
    terminated — all workers left the loop: `can_terminate` holds and nothing
    is selectable — handed exactly the sequential output to the sink, and the
    sequential decoding succeeds.  With `output_eq_failed` and `seqRun_indep`:
    result and status are those of the sequential run, whatever the
    configuration and the schedule.  (`order_q` is empty at termination because
    every entry keeps a producer holding a work unit or an output slot:
    `Lemmas/SchedD/Inv.lean: terminated_order_empty`.) -/
theorem output_eq {c : Cfg} {s : State} (h : Reach c s) (ht : terminated c s = true) :
    seqRun c = (s.written, true) := by
  obtain ⟨hf, -, -, hpd, -⟩ := terminated_facts ht
  have := (si_reach h hf).main
  simpa [expect, future, terminated_order_empty h ht, hpd, orderOut] using this

/-- Non-vacuity of `output_eq`: the F2 witness run (n = 2, four spurious
    candidates) terminates with `order_q` empty. -/
example : ∃ s, Reach cfgF4 s ∧ terminated cfgF4 s = true ∧ s.orderQ = [] := by
  obtain ⟨s, hr, hp⟩ := reach_of_run f2_repaired
  simp only [Bool.and_eq_true, decide_eq_true_eq] at hp
  exact ⟨s, hr, hp.1.1.1, hp.1.2⟩

end LbzVerif.Props.C09.Sched
