/-
  C09 (file level) — the decompression scheduler, run on the instance built from a concrete FILE
  (`Lemmas.ExpandSched.cfgOf`), writes exactly what the sequential decompressor
  `Model.Expand.expandFile` writes, whatever the worker count, the input granularity, the slot
  counts, `ultra`, the scanner's candidate set and the interleaving.
  `Lemmas.ExpandSched.render bs100k rest (b, i)` is the bytes of the sink record `(b, i)` (one
  output buffer per block: `i = 0`).  The theorems compose `Props.C09.Sched.output_eq` /
  `output_eq_failed` (the scheduler against its sequential reference `seqRun`) with
  `Lemmas.ExpandSched.seqRun_expandRest` (`seqRun` of the instance against `expandRest`).
-/
import LbzVerif.Lemmas.ExpandSchedWitness
import LbzVerif.Lemmas.ExpandTop
import LbzVerif.Lemmas.ExpandHello
import LbzVerif.Props.C09.Sched

namespace LbzVerif.Props.C09.File
open LbzVerif.Model.SchedD LbzVerif.Model.Expand
open LbzVerif.Lemmas.ExpandSched (cfgOf render seqRun_expandRest fileA cfgA traceA cfgB traceB
  runA_terminates runB_terminates)

theorem runA_state : ∃ s, Reach cfgA s ∧ terminated cfgA s = true ∧ s.written = [(80, 0)] := by
  obtain ⟨s, hr, h⟩ := Lemmas.SchedD.reach_of_run runA_terminates
  simp only [Bool.and_eq_true, decide_eq_true_eq] at h
  exact ⟨s, hr, h⟩

/-- **The sequential reference of the instance is `expandRest`**: `expandRest` answers
    `ok y` iff `seqRun` of the instance succeeds and `y` is its sink records, rendered. -/
theorem seqRun_is_expandRest (bs100k : Nat) (rest : List UInt8) (n W totalIn totalOut : Nat)
    (ultra : Bool) (cand : List Nat) (y : List UInt8) :
    expandRest bs100k rest = .ok y ↔
      ∃ recs, seqRun (cfgOf bs100k rest n W totalIn totalOut ultra cand) = (recs, true) ∧
        y = recs.flatMap (render bs100k rest) := by
  have h := seqRun_expandRest bs100k rest n W totalIn totalOut ultra cand
  generalize seqRun (cfgOf bs100k rest n W totalIn totalOut ultra cand) = S at h ⊢
  obtain ⟨recs, b⟩ := S
  cases b with
  | true =>
    rw [h.1 rfl]
    constructor
    · rintro ⟨⟩
      exact ⟨recs, rfl, rfl⟩
    · rintro ⟨_, ⟨⟩, rfl⟩
      rfl
  | false =>
    obtain ⟨e, he⟩ := h.2 rfl
    rw [he]
    constructor
    · rintro ⟨⟩
    · rintro ⟨_, ⟨⟩, _⟩

/-- Non-vacuity: on the one-block file `fileA` ("a" compressed) the sequential reference of the
    instance succeeds with the one record `(80, 0)`, and `expandRest` answers `ok "a"`. -/
example : seqRun cfgA = ([(80, 0)], true) ∧ expandRest 9 (fileA.drop 4) = .ok [97] := by
  obtain ⟨s, hr, ht, hw⟩ := runA_state
  have h : seqRun (cfgOf 9 (fileA.drop 4) 2 1000 2 2 false []) = ([(80, 0)], true) := by
    rw [← hw]; exact Props.C09.Sched.output_eq hr ht
  refine ⟨h, ?_⟩
  have he := Lemmas.ExpandHello.expandFile_aBz2
  rw [Lemmas.ExpandTop.expandFile_eq, if_pos (by decide)] at he
  exact he

/-- The same for the failure side: `expandRest` rejects iff `seqRun` of the instance fails. -/
theorem seqRun_fails_iff (bs100k : Nat) (rest : List UInt8) (n W totalIn totalOut : Nat)
    (ultra : Bool) (cand : List Nat) :
    (∃ e, expandRest bs100k rest = .error e) ↔
      (seqRun (cfgOf bs100k rest n W totalIn totalOut ultra cand)).2 = false := by
  have h := seqRun_expandRest bs100k rest n W totalIn totalOut ultra cand
  cases hb : (seqRun (cfgOf bs100k rest n W totalIn totalOut ultra cand)).2 with
  | false => exact ⟨fun _ => rfl, fun _ => h.2 hb⟩
  | true =>
    rw [h.1 hb]
    constructor
    · rintro ⟨e, ⟨⟩⟩
    · rintro ⟨⟩

/-- Non-vacuity / shape of the instance: a 5-byte rest is zero-padded to two 32-bit words,
    i.e. 64 positions; with no input at all there is no position. -/
example : (cfgOf 9 [1, 2, 3, 4, 5] 2 1 4 4 false []).T = 64 := by decide
example : (cfgOf 9 [] 2 1 4 4 false []).T = 0 := by decide

/-- **Every run of the scheduler model on the instance of `(bs100k, rest)` agrees with
    `expandRest`** — any level, any bytes, no file around them: a terminated run wrote what
    `expandRest` answers, a run that ended in `failf` happens only where `expandRest` rejects. -/
theorem sched_is_expandRest (bs100k : Nat) (rest : List UInt8) (n W totalIn totalOut : Nat)
    (ultra : Bool) (cand : List Nat) {s : State}
    (hr : Reach (cfgOf bs100k rest n W totalIn totalOut ultra cand) s) :
    (terminated (cfgOf bs100k rest n W totalIn totalOut ultra cand) s = true →
      expandRest bs100k rest = .ok (s.written.flatMap (render bs100k rest))) ∧
    (s.failed = true → ∃ e, expandRest bs100k rest = .error e) := by
  have h := seqRun_expandRest bs100k rest n W totalIn totalOut ultra cand
  constructor
  · intro ht
    rw [Props.C09.Sched.output_eq hr ht] at h
    exact h.1 rfl
  · intro hf
    exact h.2 (Props.C09.Sched.output_eq_failed hr hf).1

/-- **A terminated run of the scheduler model on the instance built from a file writes exactly
    `expandFile`'s output** (and `expandFile` accepts the file): for every worker count `n`,
    input granularity `W`, slot counts, `ultra`, candidate set and interleaving. -/
theorem sched_output_is_expandFile (x : List UInt8) (hh : Lemmas.Copy.hasHeader x = true)
    (n W totalIn totalOut : Nat) (ultra : Bool) (cand : List Nat) {s : State}
    (hr : Reach (cfgOf (Lemmas.Copy.headerLevel x) (x.drop 4) n W totalIn totalOut ultra cand) s)
    (ht : terminated (cfgOf (Lemmas.Copy.headerLevel x) (x.drop 4) n W totalIn totalOut ultra cand) s
      = true) :
    expandFile x = .ok (s.written.flatMap (render (Lemmas.Copy.headerLevel x) (x.drop 4))) := by
  rw [Lemmas.ExpandTop.expandFile_eq, if_pos hh]
  exact (sched_is_expandRest _ _ n W totalIn totalOut ultra cand hr).1 ht

/-- the record `(80, 0)` of `fileA` is the byte "a": the run `traceA` wrote just this record, and
a terminated run writes what `expandFile` answers (`Lemmas.ExpandHello.expandFile_aBz2`) -/
theorem _root_.LbzVerif.Lemmas.ExpandSched.render_fileA :
    render 9 (fileA.drop 4) (80, 0) = [97] := by
  have hl : Lemmas.Copy.headerLevel fileA = 9 := by decide
  obtain ⟨s, hr, ht, hw⟩ := runA_state
  have h := sched_output_is_expandFile fileA (by decide) 2 1000 2 2 false [] (s := s)
    (by rw [hl]; exact hr) (by rw [hl]; exact ht)
  rw [hl, hw] at h
  have he : Model.Expand.expandFile fileA = .ok [97] := Lemmas.ExpandHello.expandFile_aBz2
  rw [he] at h
  simp only [List.flatMap_cons, List.flatMap_nil, List.append_nil, Except.ok.injEq] at h
  exact h.symm

/-- Non-vacuity of `sched_output_is_expandFile`: on the real one-block file `fileA` the run
    `traceA` terminates (kernel-evaluated: parser, retriever, decoder, emitter and CRC of the
    model on these bytes), it handed the record `(80, 0)` to the sink, and `expandFile fileA`
    is `ok "a"` (kernel-evaluated as well: `Lemmas.ExpandHello.expandFile_aBz2`); `render_fileA`
    above is the theorem applied to these two. -/
example : ∃ s, Reach (cfgOf (Lemmas.Copy.headerLevel fileA) (fileA.drop 4) 2 1000 2 2 false []) s ∧
    terminated (cfgOf (Lemmas.Copy.headerLevel fileA) (fileA.drop 4) 2 1000 2 2 false []) s = true ∧
    s.written = [(80, 0)] ∧ expandFile fileA = .ok [97] := by
  have hl : Lemmas.Copy.headerLevel fileA = 9 := by decide
  obtain ⟨s, hreach, ht, hw⟩ := runA_state
  rw [hl]
  exact ⟨s, hreach, ht, hw, Lemmas.ExpandHello.expandFile_aBz2⟩

/-- **A run that ended in `failf` happens only on files `expandFile` rejects.** -/
theorem sched_failed_is_expandFile_error (x : List UInt8) (hh : Lemmas.Copy.hasHeader x = true)
    (n W totalIn totalOut : Nat) (ultra : Bool) (cand : List Nat) {s : State}
    (hr : Reach (cfgOf (Lemmas.Copy.headerLevel x) (x.drop 4) n W totalIn totalOut ultra cand) s)
    (hf : s.failed = true) : ∃ e, expandFile x = .error e := by
  rw [Lemmas.ExpandTop.expandFile_eq, if_pos hh]
  exact (sched_is_expandRest _ _ n W totalIn totalOut ultra cand hr).2 hf

/-- a file that is only the 4-byte header "BZh9" -/
def fileH : List UInt8 := [0x42, 0x5a, 0x68, 0x39]

/-- Non-vacuity of `sched_failed_is_expandFile_error`: on the header-only file the parser runs
    into the end of the input inside a stream (ERR_EOF) and the run ends in `failf`. -/
example : ∃ s, Reach (cfgOf (Lemmas.Copy.headerLevel fileH) (fileH.drop 4) 1 1 1 1 false []) s ∧
    s.failed = true ∧ ∃ e, expandFile fileH = .error e := by
  have hl : Lemmas.Copy.headerLevel fileH = 9 := by decide
  have h : (run (cfgOf 9 (fileH.drop 4) 1 1 1 1 false [])
      (init (cfgOf 9 (fileH.drop 4) 1 1 1 1 false []))
      [.rTake, .rEmpty, .rEof, .parseStart, .parseEnd]).any (fun s => s.failed) = true := by
    decide +kernel
  obtain ⟨s, hreach, hf⟩ := Lemmas.SchedD.reach_of_run h
  rw [hl]
  exact ⟨s, hreach, hf, sched_failed_is_expandFile_error fileH (by decide) 1 1 1 1 false []
    (by rw [hl]; exact hreach) hf⟩

/-- Corollary: on a file `expandFile` rejects no run of the scheduler terminates cleanly. -/
theorem rejected_never_terminates (x : List UInt8) (hh : Lemmas.Copy.hasHeader x = true)
    (e : Err) (he : expandFile x = .error e)
    (n W totalIn totalOut : Nat) (ultra : Bool) (cand : List Nat) {s : State}
    (hr : Reach (cfgOf (Lemmas.Copy.headerLevel x) (x.drop 4) n W totalIn totalOut ultra cand) s) :
    terminated (cfgOf (Lemmas.Copy.headerLevel x) (x.drop 4) n W totalIn totalOut ultra cand) s
      = false := by
  cases ht : terminated (cfgOf (Lemmas.Copy.headerLevel x) (x.drop 4) n W totalIn totalOut ultra
      cand) s with
  | false => rfl
  | true =>
    have := sched_output_is_expandFile x hh n W totalIn totalOut ultra cand hr ht
    rw [he] at this
    cases this

/-- Non-vacuity of `rejected_never_terminates`: the header-only file is rejected (ERR_EOF). -/
example : Lemmas.Copy.hasHeader fileH = true ∧ expandFile fileH = .error (.data Gen.ERR_EOF) := by
  decide +kernel

/-- Corollary: on a file `expandFile` accepts no run of the scheduler ends in `failf`, and a
    run that terminated wrote exactly the accepted output. -/
theorem accepted_never_fails (x : List UInt8) (hh : Lemmas.Copy.hasHeader x = true)
    (y : List UInt8) (hy : expandFile x = .ok y)
    (n W totalIn totalOut : Nat) (ultra : Bool) (cand : List Nat) {s : State}
    (hr : Reach (cfgOf (Lemmas.Copy.headerLevel x) (x.drop 4) n W totalIn totalOut ultra cand) s) :
    s.failed = false ∧
    (terminated (cfgOf (Lemmas.Copy.headerLevel x) (x.drop 4) n W totalIn totalOut ultra cand) s
      = true → s.written.flatMap (render (Lemmas.Copy.headerLevel x) (x.drop 4)) = y) := by
  constructor
  · cases hf : s.failed with
    | false => rfl
    | true =>
      obtain ⟨e, he⟩ := sched_failed_is_expandFile_error x hh n W totalIn totalOut ultra cand hr hf
      rw [hy] at he
      cases he
  · intro ht
    have := sched_output_is_expandFile x hh n W totalIn totalOut ultra cand hr ht
    rw [hy] at this
    injection this with this
    exact this.symm

/-- Non-vacuity of `accepted_never_fails`: `fileA` is accepted. -/
example : Lemmas.Copy.hasHeader fileA = true ∧ expandFile fileA = .ok [97] :=
  ⟨by decide, Lemmas.ExpandHello.expandFile_aBz2⟩

/-- Corollary (C09 for files): two terminated runs on the same file — different worker counts,
    input granularities, slot counts, `ultra`, candidate sets, schedules — wrote the same
    bytes. -/
theorem sched_output_indep (x : List UInt8) (hh : Lemmas.Copy.hasHeader x = true)
    (n1 W1 in1 out1 : Nat) (u1 : Bool) (cand1 : List Nat)
    (n2 W2 in2 out2 : Nat) (u2 : Bool) (cand2 : List Nat) {s1 s2 : State}
    (hr1 : Reach (cfgOf (Lemmas.Copy.headerLevel x) (x.drop 4) n1 W1 in1 out1 u1 cand1) s1)
    (ht1 : terminated (cfgOf (Lemmas.Copy.headerLevel x) (x.drop 4) n1 W1 in1 out1 u1 cand1) s1
      = true)
    (hr2 : Reach (cfgOf (Lemmas.Copy.headerLevel x) (x.drop 4) n2 W2 in2 out2 u2 cand2) s2)
    (ht2 : terminated (cfgOf (Lemmas.Copy.headerLevel x) (x.drop 4) n2 W2 in2 out2 u2 cand2) s2
      = true) :
    s1.written.flatMap (render (Lemmas.Copy.headerLevel x) (x.drop 4)) =
      s2.written.flatMap (render (Lemmas.Copy.headerLevel x) (x.drop 4)) := by
  have a := sched_output_is_expandFile x hh n1 W1 in1 out1 u1 cand1 hr1 ht1
  have b := sched_output_is_expandFile x hh n2 W2 in2 out2 u2 cand2 hr2 ht2
  rw [a] at b
  injection b

/-- Non-vacuity of `sched_output_indep`: two terminated runs on `fileA` under different
    configurations (`cfgA`: two workers, one input block, run `traceA`; `cfgB`: one worker, five
    input blocks of 64 bits, `ultra`, a spurious scanner candidate, run `traceB`). -/
example : ∃ s1 s2, Reach cfgA s1 ∧ terminated cfgA s1 = true ∧
    Reach cfgB s2 ∧ terminated cfgB s2 = true := by
  obtain ⟨s1, hr1, ht1, _⟩ := runA_state
  obtain ⟨s2, hr2, h2⟩ := Lemmas.SchedD.reach_of_run runB_terminates
  simp only [Bool.and_eq_true] at h2
  exact ⟨s1, s2, hr1, ht1, hr2, h2.1⟩

end LbzVerif.Props.C09.File
