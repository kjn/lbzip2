/-
  Props.C09.Retrieve — the block retriever gives the same result however its
  input is cut into segments (`retrieve_split`), and its fast decoding branch is
  equivalent to the slow one (`fast_eq_slow`; for C08 also `fast_no_overread`,
  `fast_reads_within_segment`).
  Model: `Model.Retrieve` (the whole of `retrieve()` in src/decode.c with its
  seven resume states, the bit buffer, `NEED` / `NEED_FAST`, the fast and the
  slow group branch; tied to the C code by checks/w15_retrieve.py, which
  compares the real function with the model at every split point).
-/
import LbzVerif.Lemmas.RetrieveCall
import LbzVerif.Lemmas.RetrieveFast
import LbzVerif.Props.C08.Arith

namespace LbzVerif.Props.C09.Retrieve
open LbzVerif LbzVerif.Model.Retrieve
open LbzVerif.Lemmas.RetrieveSplit LbzVerif.Lemmas.RetrieveFast LbzVerif.Lemmas.RetrieveCall
open LbzVerif.Lemmas.RetrieveEqns LbzVerif.Lemmas.RetrieveSim

/-- All segments but the last are non-empty. -/
def MiddleNonEmpty : List (List Nat) → Prop
  | [] => True
  | [_] => True
  | s :: s2 :: rest => s ≠ [] ∧ MiddleNonEmpty (s2 :: rest)

/-- The segmentations `retrieve()` may legally be driven with from state `st`:
every segment except the last holds at least one word — except that the very
first call of a block (`S_INIT`) may find no word at all.  (The caller,
`do_retrieve` in expand.c, attaches a retriever only when `can_attach` holds:
a word is available, or the input has ended.)  The LAST segment may be empty. -/
def Admissible (st : St) : List (List Nat) → Prop
  | s :: s2 :: rest => (s ≠ [] ∨ st.pc = .init) ∧ MiddleNonEmpty (s2 :: rest)
  | _ => True

theorem admissible_of_middle (st : St) (segs : List (List Nat)) (h : MiddleNonEmpty segs) :
    Admissible st segs := by
  match segs, h with
  | [], _ => trivial
  | [_], _ => trivial
  | _ :: _ :: _, h => exact ⟨Or.inl h.1, h.2⟩

theorem halt_ne_more (h : Halt) : h.toStatus ≠ .more := by cases h <;> simp [Halt.toStatus]

/-- A call that answers OK or MORE is a run of the machine (stated for the one
without the fast branch): the entry of a resumed call refuses with `ERR_EOF`
or an `assert` when it finds no word, and with the other `assert` when 32 bits
or more are left over. -/
theorem retrieve_eq_run (st : St) (ws : List Nat) (eof : Bool)
    (h : (retrieve st ws eof).status = .ok ∨ (retrieve st ws eof).status = .more) :
    retrieve st ws eof = (run false st ws).result eof := by
  rw [← run_fast_eq_slow]
  unfold retrieve retrieveWith at h ⊢
  by_cases hi : st.pc = .init
  · rw [if_pos hi]
  · rw [if_neg hi] at h ⊢
    by_cases ha : ws = []
    · rw [if_pos ha] at h
      cases eof <;> simp at h
    · rw [if_neg ha] at h ⊢
      by_cases hw : 32 ≤ st.w
      · rw [if_pos hw] at h
        simp at h
      · rw [if_neg hw]

theorem retrieve_init (st : St) (ws : List Nat) (eof : Bool) (h : st.pc = .init) :
    retrieve st ws eof = (run false st ws).result eof := by
  unfold retrieve retrieveWith
  rw [if_pos h, run_fast_eq_slow]

theorem result_ok {o : RunOut} {eof : Bool} (h : (o.result eof).status = .ok) :
    ∃ s rest, o = .halt .ok s rest := by
  cases o with
  | susp s => cases eof <;> cases h
  | halt r s rest =>
    cases r with
    | ok => exact ⟨s, rest, rfl⟩
    | err c => cases h
    | ub => cases h
    | overread => cases h

theorem retrieve_append (st : St) (a b : List Nat) (ha : a ≠ [] ∨ st.pc = .init) :
    retrieve st (a ++ b) true =
      match (retrieve st a false).status with
      | .more => retrieve (retrieve st a false).st b true
      | _ => (retrieve st a false).addRest b := by
  have key : (run true st (a ++ b)).result true =
      match ((run true st a).result false).status with
      | .more => retrieve ((run true st a).result false).st b true
      | _ => ((run true st a).result false).addRest b := by
    rw [run_fast_eq_slow, run_fast_eq_slow, run_append]
    cases hr : run false st a with
    | halt h s rest =>
      simp only [RunOut.result, addRestR]
      cases h <;> rfl
    | susp st' =>
      obtain ⟨hw, hn⟩ := run_susp st a st' hr
      have hpc := normPc_ne_init st' hn
      show (run false st' b).result true = retrieve st' b true
      unfold retrieve retrieveWith
      rw [if_neg hpc]
      by_cases hb : b = []
      · subst hb
        rw [if_pos rfl, if_pos rfl]
        unfold run
        rw [toTop_at_need st' hw hn]
        rfl
      · rw [if_neg hb, if_neg (show ¬ 32 ≤ st'.w by omega), run_fast_eq_slow]
  unfold retrieve retrieveWith
  by_cases hi : st.pc = .init
  · rw [if_pos hi, if_pos hi]
    exact key
  · have ha' : a ≠ [] := by
      cases ha with
      | inl h => exact h
      | inr h => exact absurd h hi
    have hab : a ++ b ≠ [] := by
      intro h
      exact ha' (List.append_eq_nil_iff.mp h).1
    rw [if_neg hi, if_neg hi, if_neg hab, if_neg ha']
    by_cases hw : 32 ≤ st.w
    · rw [if_pos hw, if_pos hw]
      rfl
    · rw [if_neg hw, if_neg hw]
      exact key

/-- After MORE the state is a proper resume state (not `S_INIT`). -/
theorem retrieve_more_pc (st : St) (a : List Nat) (eof : Bool)
    (h : (retrieve st a eof).status = .more) : (retrieve st a eof).st.pc ≠ .init := by
  have e := retrieve_eq_run st a eof (Or.inr h)
  rw [e] at h ⊢
  cases hr : run false st a with
  | halt r s rest =>
    rw [hr] at h
    exact absurd h (halt_ne_more r)
  | susp st' => exact normPc_ne_init st' (run_susp st a st' hr).2

/-- **retrieve_split (C09).**  For every state of the retriever (in particular
the initial one, with any bit-buffer contents), every word list and EVERY
admissible segmentation of it — one-word segments, an empty first segment of a
fresh block, an empty last segment, anything — feeding the segments one call
at a time (`eof` only with the last; further calls only after MORE) gives
exactly the result of ONE call on the whole list: same status, same final
state — bit position (`v`, `w`, unread words), `rand`, `bwt_idx`, block size,
the bytes written to `tt`, `ftab`; for MORE / ERR_EOF the same complete resume
state. -/
theorem retrieve_split : ∀ (segs : List (List Nat)) (st : St), Admissible st segs →
    retrieveAll st segs = retrieve st segs.flatten true := by
  intro segs
  induction segs with
  | nil => intro st _; rfl
  | cons s tl ih =>
    intro st hadm
    cases tl with
    | nil =>
      show retrieveWith true st s true = retrieve st ([s].flatten) true
      simp only [List.flatten_cons, List.flatten_nil, List.append_nil]
      rfl
    | cons s2 rest =>
      obtain ⟨h1, h2⟩ := hadm
      have hflat : (s :: s2 :: rest).flatten = s ++ (s2 :: rest).flatten := rfl
      rw [hflat, retrieve_append st s _ h1]
      show (match (retrieve st s false).status with
            | .more => retrieveAll (retrieve st s false).st (s2 :: rest)
            | _ => (retrieve st s false).addRest (s2 :: rest).flatten) = _
      cases (retrieve st s false).status with
      | more => exact ih _ (admissible_of_middle _ _ h2)
      | ok => rfl
      | err c => rfl
      | ub => rfl
      | overread => rfl
      | assertFail => rfl

/-- Why empty middle segments are excluded: a RESUMED call that finds no word
and no end of input trips `assert(bs->eof)` in the C code (the model's
`assertFail`; with `-DNDEBUG` the code would answer ERR_EOF — either way not
MORE).  `do_retrieve` never makes such a call (`can_attach`). -/
theorem retrieve_empty_resume (st : St) (h : st.pc ≠ .init) :
    (retrieve st [] false).status = .assertFail := by
  unfold retrieve retrieveWith
  rw [if_neg h]
  rfl

/-- **fast_eq_slow (C09 / C08), one group.**  Whenever the guard of the fast
branch holds — at least `Gen.fastWords` (32) words remain in the segment — the
fast branch (`NEED_FAST`, locals, one tree pointer) and the slow branch
(`NEED(S_PREFIX)` per symbol), started after tree selection in the same state
on the same words, end the group identically: same state at the top of the
next group, or the same final result / error, and the same unread words. -/
theorem fast_eq_slow_group (st1 : St) (ws : List Nat) (h : Gen.fastWords ≤ ws.length) :
    fastGroup st1 ws = toTop { st1 with pc := .prefix, j := 0 } ws :=
  group_fast_eq_slow st1 ws h

/-- **fast_eq_slow (C09), whole call**: `retrieve()` = `retrieve()` without the
fast branch (`retrieveSlow`), for every state, segment and `eof` flag. -/
theorem fast_eq_slow (st : St) (ws : List Nat) (eof : Bool) :
    retrieve st ws eof = retrieveSlow st ws eof := by
  unfold retrieve retrieveSlow retrieveWith
  rw [run_fast_eq_slow]

/-- … and therefore for every segmentation. -/
theorem fast_eq_slow_all : ∀ (segs : List (List Nat)) (st : St),
    retrieveAll st segs = retrieveAllWith false st segs := by
  intro segs
  induction segs with
  | nil => intro st; exact fast_eq_slow st [] true
  | cons s tl ih =>
    intro st
    cases tl with
    | nil => exact fast_eq_slow st s true
    | cons s2 rest =>
      show (match (retrieveWith true st s false).status with
            | .more => retrieveAllWith true (retrieveWith true st s false).st (s2 :: rest)
            | _ => (retrieveWith true st s false).addRest (s2 :: rest).flatten) =
           (match (retrieveWith false st s false).status with
            | .more => retrieveAllWith false (retrieveWith false st s false).st (s2 :: rest)
            | _ => (retrieveWith false st s false).addRest (s2 :: rest).flatten)
      have e : retrieveWith true st s false = retrieveWith false st s false := fast_eq_slow st s false
      rw [e]
      cases (retrieveWith false st s false).status <;> first | rfl | exact ih _

/-- **fast_no_overread (C08).**  Entered under its guard (≥ `Gen.fastWords`
words left, any buffer fill), the fast branch never executes `NEED_FAST` with
`next == limit`: for every tree, every 50-symbol group, whatever the code
lengths (they are ≤ 20 by construction of the lookup).  The arithmetic is that
of `Props.C08.fastpath_consts`: 50·20 + 12 ≤ 32·32 + w. -/
theorem fast_no_overread (T : Model.Canon.Tree) (v w : Nat) (ws : List Nat)
    (rs : Model.MtfDec.RunSt) (h : Gen.fastWords ≤ ws.length) (rest : List Nat) :
    fastLoop T Gen.GROUP_SIZE v w ws rs ≠ .stop .overread rest := by
  have hfw : Gen.fastWords = 32 := rfl
  exact fastLoop_no_overread T Gen.GROUP_SIZE v w ws rs
    (by simp only [Gen.GROUP_SIZE]; omega) rest

/-- **fast_reads_within_segment (C08)**, through `Props.C08.fastpath_refills`:
entered under its guard with a legal buffer fill (`w ≤ 63`), the fast branch
takes its words from the front of the segment, at most `Gen.fastWords` of them
(`refills w lens` with ≤ 50 lengths ≤ 20), and hands back the rest. -/
theorem fast_reads_within_segment (T : Model.Canon.Tree) (v w : Nat) (ws : List Nat)
    (rs : Model.MtfDec.RunSt) (hw : w ≤ 63) (h : Gen.fastWords ≤ ws.length) :
    ∃ taken rest, ws = taken ++ rest ∧ taken.length ≤ Gen.fastWords ∧
      match fastLoop T Gen.GROUP_SIZE v w ws rs with
      | .next _ _ ws' _ => ws' = rest
      | .eob _ _ ws' _ => ws' = rest
      | .stop _ ws' => ws' = rest := by
  obtain ⟨lens, taken, h1, h2, h3, h4⟩ := fastLoop_words T Gen.GROUP_SIZE v w ws rs
  have hb := (Props.C08.fastpath_refills w lens hw h1 (by simpa [Gen.MAX_CODE_LENGTH] using h2)).1
  cases hf : fastLoop T Gen.GROUP_SIZE v w ws rs with
  | next a b ws' c =>
    rw [hf] at h4
    exact ⟨taken, ws', h4, h3 ▸ hb, rfl⟩
  | eob a b ws' c =>
    rw [hf] at h4
    exact ⟨taken, ws', h4, h3 ▸ hb, rfl⟩
  | stop r ws' =>
    rw [hf] at h4
    simp only at h4
    cases h4 with
    | inl hr =>
      subst hr
      exact absurd hf (fast_no_overread T v w ws rs h ws')
    | inr h4 => exact ⟨taken, ws', h4, h3 ▸ hb, rfl⟩

/-- A complete block (bytes in use `a`,`b`; tables [2,2,2,2] and [1,2,3,3];
symbols RUNA, position 1, EOB) followed by padding: the last column is "ab". -/
def tiny : List Nat := [1, 3145760, 3178537, 230686720, 2863311530, 2863311530]

theorem tiny_eval :
    (retrieve (St.start 0 0) tiny true).status = .ok ∧
    (retrieve (St.start 0 0) tiny true).rest = [2863311530] ∧
    (retrieve (St.start 0 0) tiny true).st.w = 54 ∧
    (retrieve (St.start 0 0) tiny true).st.rand = 0 ∧
    (retrieve (St.start 0 0) tiny true).st.bwtIdx = 0 ∧
    (retrieve (St.start 0 0) tiny true).st.run.n = 2 ∧
    (retrieve (St.start 0 0) tiny true).st.run.out = [98, 97] := by decide +kernel

theorem tiny_ok : (retrieve (St.start 0 0) tiny true).status = .ok := tiny_eval.1

theorem tiny_out : (retrieve (St.start 0 0) tiny true).st.run.out.reverse = [97, 98] := by
  rw [tiny_eval.2.2.2.2.2.2]
  rfl

example : (retrieve (St.start 0 0) tiny true).status = .ok ∧
    (retrieve (St.start 0 0) tiny true).st.run.out.reverse = [97, 98] ∧
    (retrieve (St.start 0 0) tiny true).rest = [2863311530] :=
  ⟨tiny_ok, tiny_out, tiny_eval.2.1⟩

-- three admissible segmentations (with an empty first, one-word, and an empty last segment)
example : Admissible (St.start 0 0) [[], [1], [3145760, 3178537], [230686720, 2863311530, 2863311530]] ∧
    Admissible (St.start 0 0) [[1], [3145760], [3178537], [230686720], [2863311530], [2863311530], []] := by
  simp [Admissible, MiddleNonEmpty, St.start, St.blank]

example : (retrieveAll (St.start 0 0) [[], [1], [3145760, 3178537], [230686720, 2863311530, 2863311530]]).status = .ok :=
  (congrArg Result.status (retrieve_split _ _ (by simp [Admissible, MiddleNonEmpty, St.start, St.blank]))).trans
    tiny_ok

-- the call really suspends: one word is not enough
example : (retrieve (St.start 0 0) [1] false).status = .more ∧
    (retrieve (St.start 0 0) [1] false).st.pc = .bitmapBig := by decide +kernel

-- fast_eq_slow: the retriever without the fast branch decodes `tiny` as well
example : (retrieveSlow (St.start 0 0) tiny true).status = .ok ∧
    retrieve (St.start 0 0) tiny true = retrieveSlow (St.start 0 0) tiny true :=
  ⟨(congrArg Result.status (fast_eq_slow _ tiny true)).symm.trans tiny_ok, fast_eq_slow _ _ _⟩

/-- 40 zero words under the code [1,2,3,3]: every code is the 1-bit RUN-A. -/
def zeros40 : List Nat := List.replicate 40 0

-- the guard of the fast branch holds; the loop takes TWO words (`w` = 0, then 31
-- after the first code) for 21 one-bit RUN-A codes — after 20 of them `run` =
-- 2^20 - 1 > 900000 and the 21st is refused with ERR_OVERFLOW — and hands back 38
example : Gen.fastWords ≤ zeros40.length ∧
    (match fastLoop (Model.Canon.mkTree [1, 2, 3, 3]) Gen.GROUP_SIZE 0 0 zeros40 blankRun with
      | .next _ _ ws' _ => ws'.length + 1000
      | .eob _ _ ws' _ => ws'.length + 2000
      | .stop r ws' => ws'.length + (if r = .err Gen.ERR_OVERFLOW then 0 else 3000)) = 38 := by
  decide +kernel

example : ∃ taken rest, zeros40 = taken ++ rest ∧ taken.length ≤ Gen.fastWords ∧
    match fastLoop (Model.Canon.mkTree [1, 2, 3, 3]) Gen.GROUP_SIZE 0 0 zeros40 blankRun with
    | .next _ _ ws' _ => ws' = rest
    | .eob _ _ ws' _ => ws' = rest
    | .stop _ ws' => ws' = rest :=
  fast_reads_within_segment (Model.Canon.mkTree [1, 2, 3, 3]) 0 0 zeros40 blankRun (by decide) (by decide)

example : fastGroup (St.start 0 0) zeros40 = toTop { St.start 0 0 with pc := .prefix, j := 0 } zeros40 :=
  fast_eq_slow_group _ _ (by decide)

end LbzVerif.Props.C09.Retrieve
