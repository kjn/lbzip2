/-
  Props.C14 — "Block-header scanner matches exactly the header pattern".
-/
import LbzVerif.Lemmas.ScanLps
import LbzVerif.Lemmas.ScanTabs
import LbzVerif.Lemmas.ScanOcc
import LbzVerif.Lemmas.ScanLoop

namespace LbzVerif.Props.C14

open LbzVerif LbzVerif.Spec.Scan LbzVerif.Model.Scan

/-- Generic KMP step (all bit strings, both bits): how much of the pattern has
been matched after reading one more bit depends only on how much was matched
before, through the transition `δ`.  Pure border argument; no table involved. -/
theorem lps_step (w : List Bool) (b : Bool) : lps (w ++ [b]) = δ (lps w) b :=
  Lemmas.ScanLps.lpsFrom_step P w patLen (by decide) b

example : lps ([true, false, false] ++ [true]) = δ (lps [true, false, false]) true ∧
    lps [true, false, false] = 2 ∧ lps [true, false, false, true] = 3 := by decide

/-- Every entry of the generated `mini_dfa` is the KMP transition `δ` of the
pattern `0x314159265359` (all 48 non-accepting states, both bits). -/
theorem mini_is_delta : ∀ s < 48, ∀ b : Bool, mini s b = δ s b :=
  Lemmas.ScanTabs.mini_eq_delta

example : mini 47 true = 48 ∧ δ 47 true = 48 ∧ mini 33 false = 7 := by decide

/-- Every entry of the generated `big_dfa` (49 states × 256 byte values) is
eight `mini_dfa` steps on the bits of the byte, most significant first, staying
in `ACCEPT` (= 48) once it is reached; row 48 is constantly 48. -/
theorem big_is_mini8 : ∀ s < 49, ∀ c < 256,
    big s c = (bitsMSB 8 c).foldl miniAbs s :=
  Lemmas.ScanTabs.big_rows

example : big 0 0x31 = 8 ∧ big 40 0x59 = 48 ∧ big 48 0 = 48 := by decide

/-- `scan()` is exact (all word lists = one input block, all consistent
buffer states, all `skip`).  Let `tail` be the bits still to be read, minus the
`effStart bs skip` bits that the `skip` prologue really drops (0 when
`skip ≤ live`: the code then ignores `skip`; otherwise `live` plus the rest of
`skip` rounded up to whole words in `unsigned` arithmetic, clamped at the end of
the block).  Then exactly one of the following holds.

* `tail` contains a header candidate (pattern, then 32 bits, wholly inside the
  block and beginning at or after the effective start); `i` is the end of the
  FIRST one; `scan` returns `OK` and leaves a consistent stream over the same
  words whose remaining bits are exactly `tail.drop i` — it is positioned right
  after the 32 bits that follow the pattern, and nowhere else.
* `tail` contains no such candidate; `scan` returns `MORE` and has consumed the
  block (`live = 0`, `buff = 0`, `data = limit`).

No `skip < 2^32` hypothesis is needed for the model (the model wraps like the
code does); the C `unsigned` parameter only ever carries such values. -/
theorem scan_correct (bs : BS) (skip : Nat) (hc : Consistent bs) :
    (∃ i, firstOcc ((rem bs).drop (effStart bs skip)) i ∧
        (scan bs skip).1 = .ok ∧ Consistent (scan bs skip).2 ∧
        (scan bs skip).2.words = bs.words ∧
        rem (scan bs skip).2 = ((rem bs).drop (effStart bs skip)).drop i) ∨
    ((∀ i, ¬ occursAt ((rem bs).drop (effStart bs skip)) i) ∧
        scan bs skip =
          (.more, { live := 0, buff := 0, data := bs.words.length, words := bs.words })) := by
  have hs := Lemmas.ScanLoop.scan_spec bs skip hc
  obtain ⟨s1, s2, s3⟩ := Lemmas.ScanBits.skipPhase_spec bs skip hc
  have ho := Lemmas.ScanOcc.findAcc_zero_occ ((rem bs).drop (effStart bs skip))
  have hcons : Lemmas.ScanBits.consumed (skipPhase bs skip) = Lemmas.ScanBits.consumed bs := by
    simp [Lemmas.ScanBits.consumed, s3]
  unfold Lemmas.ScanLoop.Outcome at hs
  cases hf : Lemmas.ScanAuto.findAcc 0 ((rem bs).drop (effStart bs skip)) with
  | some k =>
    rw [hf] at hs ho
    simp only at hs ho
    rw [s2] at hs
    by_cases hfit : k + 32 ≤ ((rem bs).drop (effStart bs skip)).length
    · rw [if_pos hfit] at hs ho
      obtain ⟨r1, r2, r3, r4⟩ := hs
      exact Or.inl ⟨k + 32, ho, r1, r2, by rw [r3, s3], r4⟩
    · rw [if_neg hfit] at hs ho
      exact Or.inr ⟨ho, hs.trans (congrArg _ hcons)⟩
  | none =>
    rw [hf] at hs ho
    simp only at hs ho
    exact Or.inr ⟨ho, hs.trans (congrArg _ hcons)⟩

/-- The hypothesis is satisfiable and both branches are taken on concrete
streams: 5 buffered bits, then the pattern at bit offset 5, 32 more bits, ...;
the same block cut 1 word short (only 16 of the 32 trailing bits present). -/
example :
    Consistent ⟨5, 0xf800000000000000, 0, [0x31415926, 0x53590000, 7, 9]⟩ ∧
    scan ⟨5, 0xf800000000000000, 0, [0x31415926, 0x53590000, 7, 9]⟩ 0 =
      (.ok, ⟨16, 0x0007000000000000, 3, [0x31415926, 0x53590000, 7, 9]⟩) ∧
    Consistent ⟨0, 0, 0, [0x31415926, 0x53590000]⟩ ∧
    scan ⟨0, 0, 0, [0x31415926, 0x53590000]⟩ 0 =
      (.more, ⟨0, 0, 2, [0x31415926, 0x53590000]⟩) := by
  refine ⟨⟨by decide, by decide, by decide, by decide, by decide⟩, by decide +kernel,
    ⟨by decide, by decide, by decide, by decide, by decide⟩, by decide +kernel⟩

/-- `OK` is returned iff there is a candidate after the effective start. -/
theorem scan_ok_iff (bs : BS) (skip : Nat) (hc : Consistent bs) :
    (scan bs skip).1 = .ok ↔ ∃ i, occursAt ((rem bs).drop (effStart bs skip)) i := by
  rcases scan_correct bs skip hc with ⟨i, h1, h2, -⟩ | ⟨h1, h2⟩
  · exact ⟨fun _ => ⟨i, h1.1⟩, fun _ => h2⟩
  · constructor
    · intro h; rw [h2] at h; cases h
    · rintro ⟨i, hi⟩; exact absurd hi (h1 i)

example : (scan ⟨0, 0, 0, [0x31415926, 0x53590000, 0]⟩ 0).1 = .ok := by decide +kernel

/-- Repeated calls (as `do_scan` makes them): once the first candidate, ending
at `i`, has been reported, any other candidate ending at `j` either begins
inside the 80 bits of the reported one, or lies wholly in what is left
(`tail.drop i`), where the next call will find it by `scan_correct`. -/
theorem scan_rescan (tail : List Bool) (i j : Nat) (hi : firstOcc tail i)
    (hj : occursAt tail j) :
    j = i ∨ (i < j ∧ j < i + 80) ∨ occursAt (tail.drop i) (j - i) := by
  have hle := hi.2 j hj
  rcases Nat.lt_or_ge j (i + 80) with h | h
  · rcases Nat.eq_or_lt_of_le hle with e | l
    · exact Or.inl e.symm
    · exact Or.inr (Or.inl ⟨l, h⟩)
  · exact Or.inr (Or.inr (Lemmas.ScanOcc.occursAt_drop tail i j hj h))

example : firstOcc (P ++ List.replicate 32 false) 80 ∧
    occursAt (P ++ List.replicate 32 false) 80 := by
  have h : occursAt (P ++ List.replicate 32 false) 80 :=
    ⟨by decide, [], List.replicate 32 false, by decide, by decide⟩
  refine ⟨⟨h, ?_⟩, h⟩
  intro j hj
  have := ((Lemmas.ScanOcc.occursAt_iff _ _).mp hj).1
  exact this

end LbzVerif.Props.C14
