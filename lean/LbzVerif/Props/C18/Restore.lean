/-
  Props.C18.Restore — C18 (scheduler part, compression): when a compression
  run terminates, every static that `init()` / `primary_thread()` do NOT reset
  (`collect_token`, `unfinished_work`, `next_task`) has its initial value
  again, so the next operand starts in the state the first one started in.
-/
import LbzVerif.Lemmas.SchedC.Witness

namespace LbzVerif.Props.C18.Restore
open LbzVerif.Model.SchedC

variable {α σ : Type}

/-- **terminal_restores**: in every reachable state in which `can_terminate()`
    holds (in particular when all workers have left), `collect_token = true`,
    `unfinished_work = NULL`, `next_task = NULL`, all queues are empty and the
    counters are back at their totals — for every `n`, input and schedule. -/
theorem terminal_restores {c : Cfg} {cd : Codec α σ} {input : List α} {s : State α σ}
    (h : Reach c cd input s) (hf : finished c s = true) :
    s.collectToken = true ∧ s.unfinished = none ∧ s.nextTask = none ∧
    s.collQ = [] ∧ s.transQ = [] ∧ s.reordQ = [] ∧ s.outputQ = [] ∧ s.wr = none ∧
    s.workUnits = c.n ∧ s.outSlots = c.totalOut ∧ s.inSlots = c.totalIn ∧
    s.eof = true ∧ s.input = [] := by
  have r := restored_reach h hf
  exact ⟨r.token, r.unf, r.nextTask, r.collQ, r.transQ, r.reordQ, r.outputQ, r.wr, r.units,
    r.outSlots, r.inSlots, r.eof, r.input⟩

/-- hence the next run (any configuration `c'`, any input) starts from
    `init`: the statics carried over are those of a first run. -/
theorem next_run_starts_fresh {c c' : Cfg} {cd : Codec α σ} {input input' : List α}
    {s : State α σ} (h : Reach c cd input s) (hf : finished c s = true) :
    initWith c' input' s.collectToken s.unfinished = init c' input' := by
  obtain ⟨a1, a2, _⟩ := terminal_restores h hf
  rw [a1, a2]
  rfl

/-- non-vacuity: a terminated 3-block run -/
example : finished wCfg wFinal = true ∧ isFinal wFinal = true ∧
    Reach wCfg wCodec wInput wFinal := ⟨wFinal_facts.2.1, wFinal_facts.1, wFinal_reach⟩

end LbzVerif.Props.C18.Restore
