/-
  Props.C21 — I/O failures on filters terminate promptly.

  All theorems are about `Model.Fail`: every state reachable from
  `init ms ps rs ws` under ANY interleaving (`Reach`), for ALL scripts — i.e.
  every position of the failing read()/write() in every thread, every errno —
  and both inherited dispositions of SIGPIPE / SIGXFSZ (`Disp`).
-/
import LbzVerif.Lemmas.Fail

namespace LbzVerif.Props.C21

open LbzVerif.Model.Fail

/-- has executed `xraise(SIGUSR1)` -/
def past : Sub → Bool
  | .raised => true
  | .exited => true
  | _ => false

/-- holds (and will never release) the stderr lock -/
def holds : Sub → Bool
  | .locked _ _ => true
  | .logged _ => true
  | .promoted => true
  | .raised => true
  | .exited => true
  | _ => false

/-- is past the message (`log_generic` done or suppressed) -/
def spoke : Sub → Bool
  | .logged _ => true
  | .promoted => true
  | .raised => true
  | .exited => true
  | _ => false

/-- a SIGPIPE / SIGXFSZ recorded as pending on a failing thread is one the kernel really
generated, which it does only under the default disposition -/
def sigOk (d : Disp) (sg : Option Signo) : Prop :=
  ((sg == some SIGPIPE) = true → d.pipeDfl = true) ∧
  ((sg == some SIGXFSZ) = true → d.xfszDfl = true)

def subSigOk (d : Disp) : Sub → Prop
  | .failed _ sg => sigOk d sg
  | .locked _ sg => sigOk d sg
  | .logged sg => sigOk d sg
  | _ => True

def isRun : Sub → Bool
  | .run _ => true
  | _ => false

structure Inv (d : Disp) (s : St) : Prop where
  /-- the success path is taken only when every thread completed its script -/
  succ : (s.usr2 = true ∨ s.main = .post ∨ s.main = .done (.exit 0)) → ∀ u, s.get u = .finished
  /-- SIGUSR1 is pending exactly when some sub-thread has executed `xraise(SIGUSR1)` -/
  usr1 : s.usr1 = true ↔ ∃ u, past (s.get u) = true
  /-- stderr's FILE lock is held exactly when some bailing sub-thread has passed `flockfile` -/
  lock : s.lock = true ↔ ∃ u, holds (s.get u) = true
  /-- once P has finished, its SIGUSR2 is pending or main has consumed it -/
  pfin : s.p = .finished → s.usr2 = true ∨ s.main = .post ∨ ∃ e, s.main = .done e
  /-- a failed `write()` leaves a sub-thread on its way through `bailout()`, or main ended badly -/
  wf : s.wfail = true → (∃ u, (s.get u).bad = true) ∨ ∃ e, s.main = .done e ∧ e ≠ .exit 0
  /-- before main enters `halt()` no sub-thread has started, so SIGUSR2 is not pending -/
  pre : ∀ l, s.main = .pre l → (∀ u, isRun (s.get u) = true) ∧ s.usr2 = false
  /-- the ways the process ends; a signal only under its default disposition -/
  fin : ∀ e, s.main = .done e → e = .exit 0 ∨ e = .exit 1 ∨ (e = .died SIGPIPE ∧ d.pipeDfl = true) ∨
    (e = .died SIGXFSZ ∧ d.xfszDfl = true)
  /-- a pending SIGPIPE / SIGXFSZ, process-wide or on a thread, was really generated -/
  sigs : (s.pipe = true → d.pipeDfl = true) ∧ (s.xfsz = true → d.xfszDfl = true) ∧
    ∀ u, subSigOk d (s.get u)

theorem bail_cases (d : Disp) (a b : Bool) (ha : a = true → d.pipeDfl = true)
    (hb : b = true → d.xfszDfl = true) :
    mainBailoutEnd a b = .exit 1 ∨ (mainBailoutEnd a b = .died SIGPIPE ∧ d.pipeDfl = true) ∨
    (mainBailoutEnd a b = .died SIGXFSZ ∧ d.xfszDfl = true) := by
  rcases mainBailoutEnd_cases a b with ⟨h, ha'⟩ | ⟨h, hb'⟩ | h
  · exact .inr (.inl ⟨h, ha ha'⟩)
  · exact .inr (.inr ⟨h, hb hb'⟩)
  · exact .inl h

theorem or_dfl {a b : Bool} {p : Prop} (ha : a = true → p) (hb : b = true → p) :
    (a || b) = true → p :=
  fun h => ((Bool.or_eq_true a b).mp h).elim ha hb

theorem genSignal_ok (d : Disp) (rw : RW) (e : Errno) : sigOk d (genSignal d rw e) := by
  cases rw <;> simp only [genSignal, sigOk]
  · simp
  · split
    · cases d.pipeDfl <;> simp [SIGPIPE, SIGXFSZ]
    · cases d.xfszDfl <;> simp [SIGPIPE, SIGXFSZ]

theorem inv_init (d : Disp) (ms ps rs ws : List Io) : Inv d (init ms ps rs ws) := by
  constructor <;>
    simp [init, Tid.forall_iff, Tid.exists_iff, St.get, past, holds, Sub.bad, isRun, subSigOk]

theorem inv_main {d : Disp} {s s' : St} (h : Inv d s) (hst : MainStep d s s') : Inv d s' := by
  obtain ⟨hg, hu1, hl, hp, hx⟩ := hst.frame
  -- on the success path nobody has raised SIGUSR1
  have hlate : s.main = .post → s.usr1 = true → False := fun hm hu => by
    obtain ⟨u, hp⟩ := h.usr1.mp hu
    rw [h.succ (.inr (.inl hm)) u] at hp
    cases hp
  have hnd := hst.not_done
  refine
    { usr1 := by simpa only [hg, hu1] using h.usr1
      lock := by simpa only [hg, hl] using h.lock
      sigs := by simpa only [hg, hp, hx] using h.sigs
      succ := ?succ, pfin := ?pfin, wf := ?wf, pre := ?pre, fin := ?fin }
  case succ =>
    simp only [hg]
    cases hst with
    | io hm _ | ioFail hm _ | suspend hm => simp [(h.pre _ hm).2, mainBailoutEnd_ne_exit0]
    | bail hm hu => simpa [mainBailoutEnd_ne_exit0] using fun h2 => h.succ (.inl h2)
    | wake hm hu hu2 => exact fun _ => h.succ (.inl hu2)
    | late hm hu => exact (hlate hm hu).elim
    | ok hm hu => exact fun _ => h.succ (.inr (.inl hm))
  case pfin =>
    cases hst with
    | io hm _ | ioFail hm _ | suspend hm =>
      intro hf
      have hr := (h.pre _ hm).1 .p
      rw [show s.get .p = .finished from hf] at hr
      cases hr
    | wake => exact fun _ => .inr (.inl rfl)
    | _ => exact fun _ => .inr (.inr ⟨_, rfl⟩)
  case wf =>
    simp only [hg]
    cases hst with
    | ioFail => exact fun _ => .inr ⟨_, rfl, mainBailoutEnd_ne_exit0 _ _⟩
    | _ => exact fun hw => .inl ((h.wf hw).resolve_right fun ⟨e, he, _⟩ => hnd e he)
  case pre =>
    simp only [hg]
    cases hst with
    | io hm _ =>
      rintro _ ⟨⟩
      exact h.pre _ hm
    | _ => exact fun _ hl => nomatch hl
  case fin =>
    cases hst with
    | @ioFail io _ e hm _ =>
      rintro _ ⟨⟩
      have hg := genSignal_ok d io.rw e
      exact .inr (bail_cases d _ _ (or_dfl h.sigs.1 hg.1) (or_dfl h.sigs.2.1 hg.2))
    | bail =>
      rintro _ ⟨⟩
      exact .inr (bail_cases d _ _ h.sigs.1 h.sigs.2.1)
    | late hm hu => exact (hlate hm hu).elim
    | ok =>
      rintro _ ⟨⟩
      exact .inl rfl
    | _ => exact fun _ hl => nomatch hl

section SubStep
variable {d : Disp} {s s' : St} {t : Tid}

/-- A flag that means "some sub-thread is in a state satisfying `P`" stays exact over a step of
thread `t`, if `P` persists along `t`'s program and the flag is raised when `t` enters `P`. -/
theorem track {P : Sub → Bool} {b b' : Bool} (hst : SubStep d s t s')
    (hb : b = true ↔ ∃ u, P (s.get u) = true)
    (hP : (P (s.get t) = true → P (s'.get t) = true) ∧
      b' = (b || (P (s'.get t) && !P (s.get t)))) :
    b' = true ↔ ∃ u, P (s'.get u) = true := by
  rw [hP.2, Bool.or_eq_true, hb]
  constructor
  · rintro (h | h)
    · exact hst.exists_get h hP.1
    · exact ⟨t, (Bool.and_eq_true _ _ ▸ h).1⟩
  · intro h
    rcases hst.exists_get_inv h with h | h
    · cases hp : P (s.get t) with
      | false => exact .inr (by simp [h])
      | true => exact .inl ⟨t, hp⟩
    · exact .inl h

/-- SIGUSR1 and the stderr lock are flags in the sense of `track`: raised by `t`'s `xraise` resp.
`flockfile`, never taken back. -/
theorem flags_step (h : SubStep d s t s') :
    ((past (s.get t) = true → past (s'.get t) = true) ∧
      s'.usr1 = (s.usr1 || (past (s'.get t) && !past (s.get t)))) ∧
    ((holds (s.get t) = true → holds (s'.get t) = true) ∧
      s'.lock = (s.lock || (holds (s'.get t) && !holds (s.get t)))) := by
  cases h <;> simp [*, past, holds]

theorem bad_step (h : SubStep d s t s') :
    ((s.get t).bad = true → (s'.get t).bad = true) ∧
    (s'.wfail = true → s.wfail = true ∨ (s'.get t).bad = true) := by
  cases h <;> simp [*, Sub.bad]

theorem usr2_step (h : SubStep d s t s') :
    (t = .p ∧ s.r = .finished ∧ s.w = .finished ∧ s'.p = .finished ∧ s'.usr2 = true) ∨
    (s'.usr2 = s.usr2 ∧ s.get t ≠ .finished ∧ (t = .p → s'.get .p ≠ .finished)) := by
  cases h with
  | finP hx hr hw => exact .inl ⟨rfl, hr, hw, rfl, rfl⟩
  | fin hne hx => exact .inr ⟨by simp, by simp [hx], fun h => absurd h hne⟩
  | _ =>
    refine .inr ⟨by simp, by simp [*], ?_⟩
    rintro rfl
    simp

theorem sigs_step (h : SubStep d s t s') (hp : s.pipe = true → d.pipeDfl = true)
    (hx : s.xfsz = true → d.xfszDfl = true) (ht : subSigOk d (s.get t)) :
    (s'.pipe = true → d.pipeDfl = true) ∧ (s'.xfsz = true → d.xfszDfl = true) ∧
    subSigOk d (s'.get t) := by
  cases h with
  | ioFail hg he =>
    exact ⟨by simpa using hp, by simpa using hx, by simpa [subSigOk] using genSignal_ok d _ _⟩
  | promote hg =>
    -- `promote()` forwards the signal pending on the thread, which the kernel generated
    simp only [hg, subSigOk] at ht
    exact ⟨or_dfl hp ht.1, or_dfl hx ht.2, by simp [subSigOk]⟩
  | _ => simp_all [subSigOk]

end SubStep

theorem inv_sub {d : Disp} {s s' : St} {t : Tid} (h : Inv d s) (ha : s.subsAlive = true)
    (hst : SubStep d s t s') : Inv d s' := by
  have hm := hst.main
  obtain ⟨hnd, hnp⟩ := alive_main ha
  refine
    { usr1 := track hst h.usr1 (flags_step hst).1
      lock := track hst h.lock (flags_step hst).2
      pre := fun l hl => absurd (hm ▸ hl) (hnp l)
      fin := hm ▸ h.fin
      succ := fun hp => ?_, pfin := fun hp => ?_, wf := fun hw => .inl ?_, sigs := ?_ }
  · rcases usr2_step hst with ⟨rfl, hr, hw, hp', _⟩ | ⟨he, hnf, _⟩
    · exact Tid.forall_iff.mpr
        ⟨hp', (hst.get_ne (by decide)).trans hr, (hst.get_ne (by decide)).trans hw⟩
    · rw [he, hm] at hp
      exact absurd (h.succ hp t) hnf
  · rw [hm]
    rcases usr2_step hst with ⟨_, _, _, _, hu⟩ | ⟨he, _, hnp⟩
    · exact .inl hu
    · rw [he]
      by_cases htp : t = .p
      · exact absurd hp (hnp htp)
      · exact h.pfin ((hst.get_ne (Ne.symm htp)).symm.trans hp)
  · rcases (bad_step hst).2 hw with hw | hb
    · exact hst.exists_get ((h.wf hw).resolve_right fun ⟨e, he, _⟩ => hnd e he)
        (bad_step hst).1
    · exact ⟨t, hb⟩
  · obtain ⟨hp, hx, hu⟩ := h.sigs
    obtain ⟨hp', hx', ht'⟩ := sigs_step hst hp hx (hu t)
    exact ⟨hp', hx', hst.forall_get hu ht'⟩

theorem inv_step {d : Disp} {s s' : St} (t : Thr) (h : Inv d s) (hs : step d s t = some s') :
    Inv d s' := by
  rcases step_eq_some hs with hm | ⟨u, ha, hu⟩
  · exact inv_main h hm
  · exact inv_sub h ha hu

theorem inv_reach {d : Disp} {ms ps rs ws : List Io} {s : St}
    (h : Reach d (init ms ps rs ws) s) : Inv d s := by
  induction h with
  | init => exact inv_init d ms ps rs ws
  | step t _ hs ih => exact inv_step t ih hs

/-- every failing call of the script fails with the one errno `e` (a device that stays full, a
pipe that stays broken) -/
def scriptUni (e : Errno) (l : List Io) : Prop := ∀ io ∈ l, io.err = none ∨ io.err = some e

/-- the same for what a sub-thread still has before it: the rest of its script, or the errno it
carries to `log_generic` -/
def subUni (e : Errno) : Sub → Prop
  | .run l => scriptUni e l
  | .failed e' _ => e' = e
  | .locked e' _ => e' = e
  | _ => True

def mainUni (e : Errno) : Main → Prop
  | .pre l => scriptUni e l
  | _ => True

/-- Under one errno `e` for all failing calls: stderr is written only if `e` is not silent
(`quiet`), and is written once a thread is past its message (`loud`) or main ended badly (`fin`). -/
structure Inv2 (e : Errno) (s : St) : Prop where
  um : mainUni e s.main
  us : ∀ u, subUni e (s.get u)
  quiet : s.stderr = true → silent e = false
  loud : (∃ u, spoke (s.get u) = true) → silent e = false → s.stderr = true
  fin : ∀ x, s.main = .done x → x ≠ .exit 0 → silent e = false → s.stderr = true

theorem past_spoke (x : Sub) : past x = true → spoke x = true := by
  cases x <;> simp [past, spoke]

theorem Inv2.frame {e : Errno} {s s' : St} (h : Inv2 e s) (hg : ∀ u, s'.get u = s.get u)
    (hse : s'.stderr = s.stderr) (hum : mainUni e s'.main)
    (hfin : ∀ x, s'.main = .done x → x ≠ .exit 0 → silent e = false → s.stderr = true) :
    Inv2 e s' where
  um := hum
  us u := hg u ▸ h.us u
  quiet := hse ▸ h.quiet
  loud := by simpa only [hg, hse] using h.loud
  fin := by simpa only [hse] using hfin

theorem subUni_step {e : Errno} {io : Io} {l : List Io} (h : subUni e (.run (io :: l))) :
    subUni e (.run l) ∧ ∀ e', io.err = some e' → e' = e := by
  refine ⟨fun x hx => h x (List.mem_cons_of_mem _ hx), fun e' he => ?_⟩
  simpa [he] using h io List.mem_cons_self

theorem inv2_main {d : Disp} {e : Errno} {s s' : St} (h0 : Inv d s) (h : Inv2 e s)
    (hst : MainStep d s s') : Inv2 e s' := by
  -- main leaves `halt` through SIGUSR1 only after some thread got past its message
  have hu : s.usr1 = true → silent e = false → s.stderr = true := fun hu =>
    h.loud ((h0.usr1.mp hu).imp fun u => past_spoke _)
  have hg := hst.frame.1
  cases hst with
  | @io io l hm he =>
    have k : subUni e (.run (io :: l)) := (hm ▸ h.um : mainUni e (.pre (io :: l)))
    exact h.frame hg rfl (subUni_step k).1 (fun _ hx => nomatch hx)
  | @ioFail io l e' hm he =>
    have k : subUni e (.run (io :: l)) := (hm ▸ h.um : mainUni e (.pre (io :: l)))
    have he' : e' = e := (subUni_step k).2 e' he
    exact
      { um := trivial
        us := fun u => hg u ▸ h.us u
        quiet := or_dfl h.quiet (by simp [he'])
        loud := fun _ hne => by simp [he', hne]
        fin := fun _ _ _ hne => by simp [he', hne] }
  | suspend | wake => exact h.frame hg rfl trivial (fun _ hx => nomatch hx)
  | bail _ hu1 | late _ hu1 => exact h.frame hg rfl trivial (fun _ _ _ => hu hu1)
  | ok => exact h.frame hg rfl trivial (fun _ hx hne => absurd (Main.done.inj hx).symm hne)

theorem uni_step {d : Disp} {e : Errno} {s s' : St} {t : Tid} (h : SubStep d s t s')
    (hu : subUni e (s.get t)) :
    subUni e (s'.get t) ∧ (s.stderr = true → s'.stderr = true) ∧
    (s'.stderr = true → s.stderr = true ∨ silent e = false) ∧
    (spoke (s'.get t) = true → silent e = false → spoke (s.get t) = true ∨ s'.stderr = true) := by
  cases h with
  | io hx he =>
    rw [hx] at hu
    exact ⟨by simpa using (subUni_step hu).1, by simp, fun h => .inl (by simpa using h),
      by simp [spoke]⟩
  | ioFail hx he =>
    rw [hx] at hu
    exact ⟨by simpa [subUni] using (subUni_step hu).2 _ he, by simp,
      fun h => .inl (by simpa using h), by simp [spoke]⟩
  | _ => simp_all [subUni, spoke]

theorem inv2_sub {d : Disp} {e : Errno} {s s' : St} {t : Tid} (h : Inv2 e s)
    (ha : s.subsAlive = true) (hst : SubStep d s t s') : Inv2 e s' := by
  obtain ⟨hu, hmono, hq, hl⟩ := uni_step hst (h.us t)
  have hm := hst.main
  refine
    { um := hm ▸ h.um
      us := hst.forall_get h.us hu
      quiet := fun h' => (hq h').elim h.quiet id
      loud := fun hsp hne => ?_
      fin := fun x hx => absurd (hm ▸ hx) ((alive_main ha).1 x) }
  rcases hst.exists_get_inv hsp with h' | h'
  · exact (hl h' hne).elim (fun h'' => hmono (h.loud ⟨t, h''⟩ hne)) id
  · exact hmono (h.loud h' hne)

theorem inv2_step {d : Disp} {e : Errno} {s s' : St} (t : Thr) (h0 : Inv d s) (h : Inv2 e s)
    (hs : step d s t = some s') : Inv2 e s' := by
  rcases step_eq_some hs with hm | ⟨u, ha, hu⟩
  · exact inv2_main h0 h hm
  · exact inv2_sub h ha hu

theorem inv2_init (e : Errno) (ms ps rs ws : List Io) (hm : scriptUni e ms) (hp : scriptUni e ps)
    (hr : scriptUni e rs) (hw : scriptUni e ws) : Inv2 e (init ms ps rs ws) := by
  constructor <;>
    simp_all [init, Tid.forall_iff, Tid.exists_iff, St.get, mainUni, subUni, spoke]

theorem inv2_reach {d : Disp} {e : Errno} {ms ps rs ws : List Io} {s : St}
    (hm : scriptUni e ms) (hp : scriptUni e ps) (hr : scriptUni e rs) (hw : scriptUni e ws)
    (h : Reach d (init ms ps rs ws) s) : Inv2 e s := by
  induction h with
  | init => exact inv2_init e ms ps rs ws hm hp hr hw
  | step t hr' hs ih => exact inv2_step t (inv_reach hr') ih hs

theorem step_dec {d : Disp} {s s' : St} (t : Thr) (hs : step d s t = some s') :
    s'.weight < s.weight := by
  rcases step_eq_some hs with hm | ⟨u, _, hu⟩
  · exact hm.weight_lt
  · exact hu.weight_lt

theorem run_bounded {d : Disp} {s s' : St} {ts : List Thr} (h : Run d s ts s') :
    ts.length + s'.weight ≤ s.weight := by
  induction h with
  | nil => simp
  | cons t hs _ ih =>
    have := step_dec t hs
    simp only [List.length_cons]
    omega

theorem progress {d : Disp} {ms ps rs ws : List Io} {s : St}
    (h : Reach d (init ms ps rs ws) s) (hno : ∀ t, step d s t = none) : s.final = true := by
  have hi := inv_reach h
  rcases stepMain_eq_none (hno .main) with ⟨hm, hu1, hu2⟩ | ⟨e, hm⟩
  · exfalso
    have ha : s.subsAlive = true := by simp [St.subsAlive, hm]
    have hsub := fun u => stepSub_eq_none (d := d) (t := u) ha
      (match u with | .p => hno .p | .r => hno .r | .w => hno .w)
    -- SIGUSR1 is not pending, so nobody is past `xraise`
    have hpast : ∀ u, past (s.get u) = false := fun u => Bool.eq_false_iff.mpr fun hp =>
      Bool.false_ne_true (hu1 ▸ hi.usr1.mpr ⟨u, hp⟩)
    -- a thread that holds the lock is enabled until it has raised SIGUSR1
    have hl : s.lock = false := Bool.eq_false_iff.mpr fun hl => by
      obtain ⟨u, hu⟩ := hi.lock.mp hl
      have hp := hpast u
      rcases hsub u with hx | hx | ⟨_, _, hx, _⟩ | ⟨_, hx, _⟩ <;> simp [hx, holds, past] at hu hp
    have hfin : ∀ u, s.get u = .finished ∨ u = .p ∧ ¬(s.r = .finished ∧ s.w = .finished) :=
      fun u => by
        rcases hsub u with hx | hx | ⟨_, _, _, hx⟩ | ⟨hu, _, hx⟩
        · exact absurd (hpast u) (by simp [hx, past])
        · exact .inl hx
        · exact absurd hx (by simp [hl])
        · exact .inr ⟨hu, hx⟩
    rcases hfin .p with hx | ⟨_, hx⟩
    · exact absurd (hi.pfin hx) (by simp [hu2, hm])
    · exact hx ⟨(hfin .r).resolve_right (fun h => nomatch h.1),
        (hfin .w).resolve_right (fun h => nomatch h.1)⟩
  · simp [St.final, hm]

section
variable (d : Disp) (ms ps rs ws : List Io)

/-- **terminates.**  From any reachable state (1) every run, under any
scheduler, is at most `s.weight` steps long — there is no infinite run — and
(2) a state in which no thread can make a step is final: the main thread has
left sigsuspend and the process has ended.  So every maximal run ends with the
process gone: lbzip2 cannot hang, whatever fails where, and in particular not
with a writer/reader that died holding the stderr lock while other threads
wait for it forever. -/
theorem terminates {s : St} (h : Reach d (init ms ps rs ws) s) :
    (∀ ts s', Run d s ts s' → ts.length + s'.weight ≤ s.weight) ∧
    ((∀ t, step d s t = none) → s.final = true) :=
  ⟨fun _ _ hr => run_bounded hr, progress h⟩

theorem exit0_clean {s : St} (h : Reach d (init ms ps rs ws) s) (hm : s.main = .done (.exit 0)) :
    (∀ u, s.get u = .finished) ∧ s.wfail = false := by
  have hi := inv_reach h
  have hf := hi.succ (.inr (.inr hm))
  refine ⟨hf, Bool.eq_false_iff.mpr fun hw => ?_⟩
  rcases hi.wf hw with ⟨u, hb⟩ | ⟨e, hm', hne⟩
  · exact absurd hb (by simp [hf u, Sub.bad])
  · exact hne (Main.done.inj (hm'.symm.trans hm))

/-- **never_zero.**  Once any write() has returned -1 (in any thread), the
process cannot end with status 0. -/
theorem never_zero {s : St} (h : Reach d (init ms ps rs ws) s) (hw : s.wfail = true)
    {e : Ending} (hm : s.main = .done e) : e ≠ .exit 0 := by
  rintro rfl
  exact Bool.false_ne_true ((exit0_clean d ms ps rs ws h hm).2.symm.trans hw)

/-- The same for any failed call, read or write. -/
theorem never_zero_any {s : St} (h : Reach d (init ms ps rs ws) s)
    (hb : (s.p.bad || s.r.bad || s.w.bad) = true) {e : Ending} (hm : s.main = .done e) :
    e ≠ .exit 0 := by
  rintro rfl
  have hf := (exit0_clean d ms ps rs ws h hm).1
  rw [show s.p = .finished from hf .p, show s.r = .finished from hf .r,
    show s.w = .finished from hf .w] at hb
  cases hb

/-- **outcome.**  A process that does not end with status 0 ends with status 1,
or dies from SIGPIPE / SIGXFSZ — and that only when the signal has its default
action (with SIG_IGN inherited it is status 1). -/
theorem outcome {s : St} (h : Reach d (init ms ps rs ws) s) {e : Ending}
    (hm : s.main = .done e) (hne : e ≠ .exit 0) :
    e = .exit 1 ∨ (e = .died SIGPIPE ∧ d.pipeDfl = true) ∨
    (e = .died SIGXFSZ ∧ d.xfszDfl = true) := by
  rcases (inv_reach h).fin e hm with h0 | h1
  · exact absurd h0 hne
  · exact h1

/-- **diagnostic_iff.**  If every failing call of the run fails with the same
errno `e` (one failing call; or a device that stays full, a pipe that stays
broken), then when the process has ended unsuccessfully, stderr is non-empty
iff `e ∉ {EPIPE, EFBIG}`. -/
theorem diagnostic_iff (e : Errno) (hm : scriptUni e ms) (hp : scriptUni e ps)
    (hr : scriptUni e rs) (hw : scriptUni e ws) {s : St}
    (h : Reach d (init ms ps rs ws) s) {x : Ending} (hd : s.main = .done x)
    (hne : x ≠ .exit 0) : s.stderr = true ↔ silent e = false := by
  have h2 := inv2_reach hm hp hr hw h
  exact ⟨h2.quiet, h2.fin x hd hne⟩

/-- When the one errno of the run is a silent one (EPIPE, EFBIG), stderr stays empty in every
reachable state; with no failing call at all this covers the success path, on which this model
prints nothing. -/
theorem silent_success (e : Errno) (hm : scriptUni e ms) (hp : scriptUni e ps)
    (hr : scriptUni e rs) (hw : scriptUni e ws) {s : St}
    (h : Reach d (init ms ps rs ws) s) (hs : silent e = true) : s.stderr = false := by
  have h2 := inv2_reach hm hp hr hw h
  cases hst : s.stderr with
  | false => rfl
  | true =>
    have := h2.quiet hst
    simp [hs] at this

end

namespace Ex

def dfl : Disp := ⟨true, true⟩
def okR : Io := ⟨.read, none⟩
def okW : Io := ⟨.write, none⟩

/-- compression, the writer's second write() fails with EPIPE -/
def s0 : St := init [] [okW, okW] [okR, okR] [okW, ⟨.write, some EPIPE⟩, okW]

def runT (s : St) (ts : List Thr) : Option St :=
  ts.foldlM (fun s t => step dfl s t) s

theorem reach_runT {s0 s' : St} : ∀ (ts : List Thr) {s : St}, Reach dfl s0 s →
    runT s ts = some s' → Reach dfl s0 s'
  | [], _, h, hr => Option.some.inj hr ▸ h
  | t :: ts, _, h, hr => by
    rw [runT, List.foldlM_cons] at hr
    obtain ⟨s1, hs, hr⟩ := Option.bind_eq_some_iff.mp hr
    exact reach_runT ts (.step t h hs) hr

/-- main suspends; W writes once, fails, locks stderr, (no message), promotes
SIGPIPE, raises SIGUSR1, exits; main wakes and dies from SIGPIPE -/
def sched : List Thr := [.main, .w, .w, .w, .w, .w, .w, .w, .main]

def sEnd : St := (runT s0 sched).getD s0

theorem sEnd_run : runT s0 sched = some sEnd := by decide +kernel

theorem sEnd_reach : Reach dfl s0 sEnd := reach_runT sched Reach.init sEnd_run

example : sEnd.main = .done (.died SIGPIPE) ∧ sEnd.stderr = false ∧ sEnd.wfail = true := by
  decide +kernel

example : Ending.died SIGPIPE ≠ .exit 0 :=
  never_zero dfl _ _ _ _ sEnd_reach (by decide +kernel) (e := .died SIGPIPE) (by decide +kernel)

example :=
  outcome dfl _ _ _ _ sEnd_reach (e := .died SIGPIPE) (by decide +kernel) (by decide +kernel)

example : sEnd.stderr = true ↔ silent EPIPE = false :=
  diagnostic_iff dfl _ _ _ _ EPIPE (by simp [scriptUni]) (by simp [scriptUni, okW])
    (by simp [scriptUni, okR]) (by simp [scriptUni, okW]) sEnd_reach
    (x := .died SIGPIPE) (by decide +kernel) (by decide +kernel)

example := (terminates dfl _ _ _ _ sEnd_reach).2 (by intro t; cases t <;> decide +kernel)

/-- the same with EIO -/
def s1 : St := init [] [okW, okW] [okR, okR] [okW, ⟨.write, some EIO⟩, okW]
def sEnd1 : St := (runT s1 sched).getD s1
theorem sEnd1_reach : Reach dfl s1 sEnd1 :=
  reach_runT sched Reach.init (by decide +kernel : runT s1 sched = some sEnd1)

example : sEnd1.main = .done (.exit 1) ∧ sEnd1.stderr = true := by decide +kernel
example : sEnd1.stderr = true ↔ silent EIO = false :=
  diagnostic_iff dfl _ _ _ _ EIO (by simp [scriptUni]) (by simp [scriptUni, okW])
    (by simp [scriptUni, okR]) (by simp [scriptUni, okW]) sEnd1_reach
    (x := .exit 1) (by decide +kernel) (by decide +kernel)

end Ex

end LbzVerif.Props.C21
