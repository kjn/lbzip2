/-
  Props.C02 — arithmetic facts behind "the output is a strictly well-formed
  bzip2 stream", over the constants regenerated from the C source
  (`Gen.encSelectorExtent`, `Gen.encSelectorMtfExtent`, `Gen.cl0`,
  `Gen.GROUP_SIZE`, `Gen.MAX_BLOCK_SIZE`, `Gen.selectorBound`).
-/
import LbzVerif.Spec.Prefix
import LbzVerif.Model.Canon
import LbzVerif.Lemmas.PrefixDummy

namespace LbzVerif.Props.C02
open LbzVerif LbzVerif.Spec.Prefix LbzVerif.Model.Canon LbzVerif.Lemmas.PrefixDummy

/-- A block of `nblock ≤ 900000` run-length-encoded bytes gives `nm ≤ nblock+1`
MTF values (`do_mtf`: at most one value per byte, plus EOB).  Then, with
`ns = ⌈nm/50⌉` = `num_selectors` of `generate_prefix_code`:
* the sentinel `selector[ns] = MAX_TREES` is inside `selector[18000+1+1]`;
* `ns` real selectors plus the dummy selector `encode()` may append are inside
  `selectorMTF[18000+1+7]`;
* the transmitted selector count `ns + dummy` is at most 18002 (the property's
  bound) and fits the 15-bit field;
* all real selectors are among the first 18001, the ones lbzip2's own
  decoder keeps (`Gen.selectorBound`). -/
theorem numSelectors_le (nblock nm dummy : Nat)
    (hb : nblock ≤ Gen.MAX_BLOCK_SIZE) (hm : nm ≤ nblock + 1) (hd : dummy ≤ 1) :
    numSelectors nm + 1 ≤ Gen.encSelectorExtent ∧
    numSelectors nm + dummy ≤ Gen.encSelectorMtfExtent ∧
    numSelectors nm + dummy ≤ 18002 ∧
    numSelectors nm + dummy ≤ Gen.MAX_SELECTORS ∧
    numSelectors nm ≤ Gen.selectorBound := by
  simp only [numSelectors, Gen.MAX_BLOCK_SIZE, Gen.GROUP_SIZE, Gen.encSelectorExtent,
    Gen.encSelectorMtfExtent, Gen.MAX_SELECTORS, Gen.selectorBound] at *
  omega

/-- The bound is reached: a full level-9 block of 900000 distinct-run bytes. -/
example : numSelectors (Gen.MAX_BLOCK_SIZE + 1) + 1 = 18002 := by decide

/-- The dummy selector of `encode()` is 0 or 1, so `numSelectors_le` applies. -/
theorem dummySelectors_le (cost : Nat) : dummySelectors cost ≤ 1 := by
  unfold dummySelectors
  exact Nat.le_of_lt_succ (Nat.and_lt_two_pow _ (by decide : 1 < 2 ^ 1))

/-- For every alphabet size 3…258, `cl0` as written in encode.c is ⌊log₂ as⌋ and
the dummy second table of a single-table block (`cl0` for the first
`2^(cl0+1) − as` symbols, `cl0+1` for the rest) is a complete prefix code with
lengths in 1…20, one length per symbol. -/
theorem dummyTable_complete (as : Nat) (h3 : Gen.MIN_ALPHA_SIZE ≤ as)
    (h258 : as ≤ Gen.MAX_ALPHA_SIZE) :
    Gen.cl0 as = Nat.log2 as ∧ Complete (dummyLens as) ∧ (dummyLens as).length = as := by
  change 3 ≤ as at h3
  change as ≤ 258 at h258
  have hcl : Gen.cl0 as = Nat.log2 as := by
    have h := cl0_eq_log2 (as - 3) (by omega)
    rwa [show as - 3 + 3 = as by omega] at h
  refine ⟨hcl, ?_, by simp [dummyLens]⟩
  have h0 : as ≠ 0 := by omega
  have hlo : 2 ^ Nat.log2 as ≤ as := Nat.log2_self_le h0
  have hhi : as < 2 ^ (Nat.log2 as + 1) := Nat.lt_log2_self
  have hc1 : 1 ≤ Nat.log2 as := (Nat.le_log2 h0).mpr (by omega)
  have hc8 : Nat.log2 as < 9 := (Nat.log2_lt h0).mpr (by omega)
  unfold dummyLens
  simp only [hcl]
  generalize Nat.log2 as = c at *
  have h2 : 2 ^ (c + 1) = 2 * 2 ^ c := by rw [Nat.pow_succ, Nat.mul_comm]
  have hP : 2 ^ (c + 1) ≤ 2 ^ 9 := Nat.pow_le_pow_right (by omega) (by omega)
  -- the unsigned subtraction `(2 << cl0) - as` does not wrap
  have hn : ((2 <<< c) % M32 + M32 - as % M32) % M32 = 2 ^ (c + 1) - as := by
    rw [Nat.shiftLeft_eq, ← h2]
    unfold M32
    omega
  rw [hn, Lemmas.ListAux.map_range_lt _ _ (by omega)]
  refine ⟨kraft20_two_lengths c _ as (by omega) (by omega) (by omega), ?_⟩
  intro l hl
  rw [List.mem_append, List.mem_replicate, List.mem_replicate] at hl
  omega

example : dummyLens 5 = [2, 2, 2, 3, 3] := by decide
example : Complete (dummyLens 258) := (dummyTable_complete 258 (by decide) (by decide)).2.1

/-- `encode()`: after adding `2·tree_pad` bits (delta codes) and the dummy
selector bit, the block length is a multiple of 8; `tree_pad ≤ 3`. -/
theorem pad_mod8 (cost : Nat) :
    (cost + 2 * treePad cost + dummySelectors cost) % 8 = 0 ∧ treePad cost ≤ 3 ∧
    padBits cost = 2 * treePad cost + dummySelectors cost := by
  have h7 : cost &&& 7 = cost % 8 := Nat.and_two_pow_sub_one_eq_mod cost 3
  have hp : padBits cost = (8 - cost % 8) % 8 := by
    unfold padBits
    rw [h7]
    exact Nat.and_two_pow_sub_one_eq_mod _ 3
  have h1 : dummySelectors cost = padBits cost % 2 := by
    unfold dummySelectors
    exact Nat.and_two_pow_sub_one_eq_mod _ 1
  have h2 : treePad cost = padBits cost / 2 := by
    unfold treePad
    rw [Nat.shiftRight_eq_div_pow]
  rw [h1, h2, hp]
  omega

/-- All values strictly inside the walk lie between its end points. -/
theorem deltaWalk_between (fuel a c : Nat) :
    ∀ x ∈ deltaWalk fuel a c, min a c ≤ x ∧ x ≤ max a c := by
  induction fuel generalizing a with
  | zero => intro x hx; simp only [deltaWalk, List.mem_singleton] at hx; omega
  | succ n ih =>
    intro x hx
    unfold deltaWalk at hx
    split at hx
    · rcases List.mem_cons.mp hx with h | h
      · omega
      · have := ih (a + 1) x h; omega
    · split at hx
      · rcases List.mem_cons.mp hx with h | h
        · omega
        · have := ih (a - 1) x h; omega
      · simp only [List.mem_singleton] at hx; omega

/-- `transmit()`: with `len[0] = a ∈ 1…20` and `tree_pad = pad ≤ 3`, the 5-bit
start value `a < 4 ? a + pad : a − pad` is in 1…20, it is exactly `pad` steps
away from `a` (so the delta code back to `len[0]` costs `2·pad` bits), and every
intermediate value of the walk back is in 1…20. -/
theorem treePad_in_range (a pad : Nat) (ha1 : Gen.MIN_CODE_LENGTH ≤ a)
    (ha20 : a ≤ Gen.MAX_CODE_LENGTH) (hp : pad ≤ 3) :
    1 ≤ paddedStart a pad ∧ paddedStart a pad ≤ 20 ∧
    (if a < 4 then paddedStart a pad - a else a - paddedStart a pad) = pad ∧
    ∀ x ∈ deltaWalk pad (paddedStart a pad) a, 1 ≤ x ∧ x ≤ 20 := by
  simp only [Gen.MIN_CODE_LENGTH, Gen.MAX_CODE_LENGTH] at ha1 ha20
  have hs : 1 ≤ paddedStart a pad ∧ paddedStart a pad ≤ 20 := by
    unfold paddedStart; split <;> omega
  refine ⟨hs.1, hs.2, ?_, ?_⟩
  · unfold paddedStart; split <;> omega
  · intro x hx
    have := deltaWalk_between pad (paddedStart a pad) a x hx
    omega

example : paddedStart 3 3 = 6 ∧ paddedStart 4 3 = 1 ∧ deltaWalk 3 (paddedStart 4 3) 4 = [1, 2, 3, 4] := by
  decide

end LbzVerif.Props.C02
