/-
  C13 (decompression half): live heap memory of the expansion pipeline is bounded by a linear
  function of the worker count in every reachable state of `Model.SchedD` (every input
  abstraction, every candidate set, every schedule), as a corollary of C11's conservation and
  capacity theorems.  In particular the bound does not depend on the input: a million-fold
  decompression bomb occupies one decoder and `total_out` output buffers like any other block.
  Hypotheses: input granularity `W ≥ 1`, `n ≥ 1`, and `EMIT_THRESH < total_out` (needed by
  `unord_q_capacity`; the shipped slot formulas give `total_out ≥ 2n`, and `16n` without `-s`).
  `live_le` holds in all reachable states, including the one in which `failf` has just been
  called (`Lemmas/SchedD/Mem.lean`: `failed_step`); `small_objects` is stated for non-failed states.
  The allocation sites and what limits them are listed at `liveBytes`.
-/
import LbzVerif.Lemmas.SchedD.Mem
import LbzVerif.Lemmas.SchedD.Witness

namespace LbzVerif.Props.C13.Expand
open LbzVerif.Model.SchedD LbzVerif.Lemmas.SchedD LbzVerif.Gen

structure Sizes where
  /-- sizeof(retr_blk) + sizeof(emit_blk) + 900000·4 (`tt`) + sizeof(retriever_internal_state) -/
  decBytes : Nat
  /-- in_granul + sizeof(in_blk) -/
  inBytes : Nat
  /-- out_granul + sizeof(out_blk) -/
  outBytes : Nat
  /-- sizeof(unord_blk) = 72 -/
  unordBytes : Nat
  /-- sizeof(detached_bitstream) -/
  scanBytes : Nat
  /-- sizeof(void *): element of a pqueue / of input_q -/
  ptrBytes : Nat
  /-- sizeof(head_blk): element of order_q -/
  headBytes : Nat

/-- the queue arrays of `init()` (expand.c:970-977): input_q, scan_q (in_slots
    each), retr_q, emit_q (work_units each), unord_q, reord_q, order_q -/
def fixedBytes (z : Sizes) (c : Cfg) : Nat :=
  z.ptrBytes * (2 * c.totalIn + 2 * c.n + unordCap c.n c.totalOut + c.totalOut)
    + z.headBytes * orderCap c.n c.totalOut

/-- Bytes alive in a state (every object at its maximal size).
    Allocation sites (src/expand.c, src/process.c, src/decode.c) and what limits
    them (holders: `Lemmas/SchedD/Mem.lean`):
      * `struct retr_blk` + `decoder_init` (`tt` = 900000·4 bytes,
        `retriever_internal_state`): do_parse:572-575, do_scan:856-858;
        `struct emit_blk` takes the decoder over (do_retrieve:677-682); freed by
        `discard()`:381-382 and do_emit:736-737 — one per retrieve/emit job, each
        of which holds a WORK UNIT (`decHolders ≤ n`, conservation);
      * input buffer `XNMALLOC(in_granul)` (source thread) + `struct in_blk`
        (on_input_avail:891), freed when `ref_count` drops to 0 (detach:343-346,
        advance:402-405, do_parse:488-491) or at once when parsing is done
        (908-910) — one per INPUT SLOT in use (`inputAlive`, `in_slots_conservation`);
      * `xmalloc(sizeof(struct out_blk) + out_granul)`: do_emit:717 (after
        `out_slots--`), freed by do_reorder:765 (bogus block) and
        on_write_complete:928 (before `++out_slots`) — one per OUTPUT SLOT in use
        (`slotsHeld`, conservation);
      * `struct unord_blk` (72 bytes): do_scan:850, freed by `discard()`:378,
        do_parse:514/543/560, do_retrieve:669 — linked from a live retrieve job
        or queued in unord_q (`no_unord_leak`), so ≤ cap(unord_q) + n;
      * scan descriptor `struct detached_bitstream`: on_input_avail:902, freed
        by advance:420, do_parse:506, do_scan:831/868 — at most one per live
        input block (`scanLive ≤ inputAlive`, from `scanBlocks.Nodup`);
      * `struct head_blk`: stored by value in the array of `order_q`;
      * the seven queue arrays, allocated once in `init()`:970-977 with the
        capacities `Gen.unordCap`, `Gen.orderCap`, in_slots, work_units,
        out_slots (`fixedBytes`); `small_objects` shows they never overflow.
    Sizes are parameters (`Sizes`).  Not modelled: the fixed process-level
    allocations (thread descriptors, stdio, `struct parser_state` is static). -/
def liveBytes (z : Sizes) (c : Cfg) (s : State) : Nat :=
  z.decBytes * decHolders s + z.inBytes * inputAlive s + z.outBytes * slotsHeld s
    + z.unordBytes * unordLive s + z.scanBytes * scanLive s + fixedBytes z c

/-- the bound; `n + total_out` stands for cap(unord_q) = n + total_out − 3 -/
def memBound (z : Sizes) (c : Cfg) : Nat :=
  z.decBytes * c.n + z.inBytes * c.totalIn + z.outBytes * c.totalOut
    + z.unordBytes * (2 * c.n + c.totalOut) + z.scanBytes * c.totalIn
    + (z.ptrBytes * (2 * c.totalIn + 3 * c.n + 2 * c.totalOut) + z.headBytes * (c.n + c.totalOut))

theorem inputAlive_le {c : Cfg} (hW : 0 < c.W) {s : State} (h : Reach c s) :
    inputAlive s ≤ c.totalIn := by
  have := in_slots_conserved hW h
  omega

/-- the part that needs no hypothesis on `failed`, `n` or `total_out`: input
    buffers and scan descriptors, in EVERY reachable state -/
theorem live_input_le (z : Sizes) {c : Cfg} (hW : 0 < c.W) {s : State} (h : Reach c s) :
    z.inBytes * inputAlive s + z.scanBytes * scanLive s ≤
      z.inBytes * c.totalIn + z.scanBytes * c.totalIn :=
  Nat.add_le_add (Nat.mul_le_mul_left _ (inputAlive_le hW h))
    (Nat.mul_le_mul_left _ (scanLive_le hW h))

/-- **C13 (decompression)**: live bytes never exceed `memBound`, whatever the
    input (size, compression ratio, planted block headers) and the schedule, in
    every reachable state (failed or not). -/
theorem live_le (z : Sizes) {c : Cfg} (hW : 0 < c.W) (hn : 1 ≤ c.n) (ho : EMIT_THRESH < c.totalOut)
    {s : State} (h : Reach c s) : liveBytes z c s ≤ memBound z c := by
  obtain ⟨a, d, e'⟩ := holders_le_all hW hn ho h
  have b := inputAlive_le hW h
  have e : unordLive s ≤ 2 * c.n + c.totalOut := by
    have := unordCap_le c.n c.totalOut
    omega
  have g : fixedBytes z c ≤
      z.ptrBytes * (2 * c.totalIn + 3 * c.n + 2 * c.totalOut) + z.headBytes * (c.n + c.totalOut) := by
    have := unordCap_le c.n c.totalOut
    exact Nat.add_le_add (Nat.mul_le_mul_left _ (by omega)) (Nat.le_refl _)
  unfold liveBytes memBound
  exact Nat.add_le_add (Nat.add_le_add (Nat.add_le_add (Nat.add_le_add (Nat.add_le_add
    (Nat.mul_le_mul_left _ a) (Nat.mul_le_mul_left _ b)) (Nat.mul_le_mul_left _ d))
    (Nat.mul_le_mul_left _ e)) (Nat.mul_le_mul_left _ (scanLive_le hW h))) g

/-- **small_objects**: the small heap objects and the queue entries are bounded
    by the capacities the queues are created with: live `unord_blk`s by
    cap(unord_q) + n (`unord_q_capacity`, `no_unord_leak`: each is queued or
    linked from one of at most n retrieve jobs), live scan descriptors by the
    live input blocks ≤ in_slots, and `unord_q`, `order_q`, `scan_q`, `input_q`,
    `retr_q`, `emit_q`, `reord_q` never hold more entries than `init()` sized
    them for. -/
theorem small_objects {c : Cfg} (hW : 0 < c.W) (hn : 1 ≤ c.n) (ho : EMIT_THRESH < c.totalOut)
    {s : State} (h : Reach c s) (hf : s.failed = false) :
    unordLive s ≤ unordCap c.n c.totalOut + c.n ∧
    scanLive s ≤ inputAlive s ∧ inputAlive s ≤ c.totalIn ∧
    unordSize s ≤ unordCap c.n c.totalOut ∧
    s.orderQ.length ≤ orderCap c.n c.totalOut ∧
    s.scanQ.length ≤ c.totalIn ∧ s.rd - s.head ≤ c.totalIn ∧
    s.retrQ.length ≤ c.n ∧ s.emitQ.length ≤ c.n ∧ s.reordQ.length ≤ c.totalOut := by
  have cap := capacities h hf
  have sq := scan_q_cap hW h
  exact ⟨unordLive_le hW hn ho h hf, scanLive_le_input hW h, inputAlive_le hW h,
    unord_cap hW hn ho h hf,
    order_cap h hf, sq.1, sq.2, cap.1, cap.2.1, cap.2.2.1⟩

/-- the configuration `set_memory_constraints()` produces for `n` workers
    (`-d`, not `-s`): slot counts and input granularity from `Gen.memExpand` -/
def cfgOfGen (n T : Nat) (ultra : Bool) (parseAt : Nat → PRes) (retrieveFrom : Nat → RRes)
    (cand : List Nat) : Cfg :=
  { n := n, W := (memExpand n).2.2.1 / 4, T := T, totalIn := (memExpand n).1,
    totalOut := (memExpand n).2.1, ultra := ultra, parseAt := parseAt,
    retrieveFrom := retrieveFrom, cand := cand }

/-- … and for `-d -s` (`Gen.memExpandSmall`) -/
def cfgOfGenSmall (n T : Nat) (ultra : Bool) (parseAt : Nat → PRes) (retrieveFrom : Nat → RRes)
    (cand : List Nat) : Cfg :=
  { n := n, W := (memExpandSmall n).2.2.1 / 4, T := T, totalIn := (memExpandSmall n).1,
    totalOut := (memExpandSmall n).2.1, ultra := ultra, parseAt := parseAt,
    retrieveFrom := retrieveFrom, cand := cand }

/-- bytes per worker with the generated slot formulas -/
def perWorker (z : Sizes) : Nat :=
  z.decBytes + 4 * z.inBytes + 16 * z.outBytes + (18 * z.unordBytes + 4 * z.scanBytes
    + 43 * z.ptrBytes + 17 * z.headBytes)

/-- with the generated `set_memory_constraints()` the bound is linear in the
    worker count, `n·(decoder + 4·in + 16·out + small)` (+ 0), and mentions
    neither the input length `T` nor the input functions / candidate set. -/
theorem memBound_linear (z : Sizes) (n T : Nat) (u : Bool) (pa : Nat → PRes) (rf : Nat → RRes)
    (cd : List Nat) : memBound z (cfgOfGen n T u pa rf cd) = n * perWorker z := by
  simp only [memBound, cfgOfGen, memExpand, perWorker]
  grind

/-- `-s`: `n·(decoder + 2·out + small) + 2·in + const` -/
theorem memBound_linear_small (z : Sizes) (n T : Nat) (u : Bool) (pa : Nat → PRes)
    (rf : Nat → RRes) (cd : List Nat) :
    memBound z (cfgOfGenSmall n T u pa rf cd) =
      n * (z.decBytes + 2 * z.outBytes + (4 * z.unordBytes + 7 * z.ptrBytes + 3 * z.headBytes))
        + (2 * z.inBytes + 2 * z.scanBytes + 4 * z.ptrBytes) := by
  simp only [memBound, cfgOfGenSmall, memExpandSmall]
  grind

/-- the hypotheses of `live_le` hold for the generated configuration as soon
    as there is a worker -/
theorem cfgOfGen_hyps (n T : Nat) (u : Bool) (pa : Nat → PRes) (rf : Nat → RRes) (cd : List Nat)
    (hn : 1 ≤ n) :
    0 < (cfgOfGen n T u pa rf cd).W ∧ 1 ≤ (cfgOfGen n T u pa rf cd).n ∧
      EMIT_THRESH < (cfgOfGen n T u pa rf cd).totalOut := by
  simp only [cfgOfGen, memExpand, EMIT_THRESH]
  refine ⟨by decide, hn, by omega⟩

/-- C13 for the shipped configuration, in one statement -/
theorem live_le_gen (z : Sizes) (n T : Nat) (u : Bool) (pa : Nat → PRes) (rf : Nat → RRes)
    (cd : List Nat) (hn : 1 ≤ n) {s : State} (h : Reach (cfgOfGen n T u pa rf cd) s) :
    liveBytes z (cfgOfGen n T u pa rf cd) s ≤ n * perWorker z := by
  obtain ⟨h1, h2, h3⟩ := cfgOfGen_hyps n T u pa rf cd hn
  rw [← memBound_linear z n T u pa rf cd]
  exact live_le z h1 h2 h3 h

/-- the hypotheses are satisfiable: the F4 shape (n = 2, in = 2, out = 4,
    W = 2) at its initial state, where only the queue arrays are alive … -/
example : liveBytes ⟨1000, 100, 10, 72, 40, 8, 24⟩ cfgF4 (init cfgF4) =
    8 * (4 + 4 + 3 + 4) + 24 * 6 ∧
    liveBytes ⟨1000, 100, 10, 72, 40, 8, 24⟩ cfgF4 (init cfgF4) ≤
      memBound ⟨1000, 100, 10, 72, 40, 8, 24⟩ cfgF4 :=
  ⟨by decide, live_le _ (by decide) (by decide) (by decide) Reach.init⟩

/-- … and somewhere on the F4 run a decoder, an input block and an unord_blk are alive at
    the same time -/
example : ∃ s, Reach cfgF4 s ∧ s.failed = false ∧ 1 ≤ decHolders s ∧ 1 ≤ inputAlive s ∧
    1 ≤ unordLive s := by
  have h : (run cfgF4 (init cfgF4) (traceF4.take 13)).any
      (fun s => !s.failed && decide (1 ≤ decHolders s) && decide (1 ≤ inputAlive s)
        && decide (1 ≤ unordLive s)) = true := by decide +kernel
  obtain ⟨s, hr, hp⟩ := reach_of_run h
  simp only [Bool.and_eq_true, decide_eq_true_eq, Bool.not_eq_true'] at hp
  exact ⟨s, hr, hp.1.1.1, hp.1.1.2, hp.1.2, hp.2⟩

end LbzVerif.Props.C13.Expand
