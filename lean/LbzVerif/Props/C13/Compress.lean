/-
  Props.C13.Compress — C13 (compression half): live heap memory of the
  compression pipeline is bounded by a linear function of the worker count,
  in every reachable state (every input, every schedule), as a corollary of
  C11's conservation laws.

  Allocation sites (src/compress.c, src/process.c) and what limits them:
    * `xmalloc(encoder_alloc_size(bs100k*100000))` + `struct work_blk`
      (do_collect / do_collect_seq), freed in do_transmit — one per WORK UNIT
      in use (`unitHolders`);
    * `XNMALLOC(in_granul)` in source_thread_proc + `struct in_blk`, freed by
      source_release_buffer — one per INPUT SLOT in use (`chunkHolders`);
    * `XNMALLOC((size+3)/4, uint32_t)` in do_transmit, freed in
      on_write_complete — one per OUTPUT SLOT in use (`slotHolders`).
  Sizes are parameters (`encBytes` = encoder_alloc_size(...) + sizeof work_blk,
  `chunkBytes` = in_granul + sizeof in_blk, `bufBytes` = bound on a compressed
  block + sizeof work_blk); the queue arrays are fixed-size (`cCaps`).
-/
import LbzVerif.Lemmas.SchedC.Witness

namespace LbzVerif.Props.C13.Compress
open LbzVerif.Gen LbzVerif.Model.SchedC

variable {α σ : Type}

structure Sizes where
  encBytes : Nat
  chunkBytes : Nat
  bufBytes : Nat

/-- bytes alive in a state (upper bound: every object at its maximal size) -/
def liveBytes (z : Sizes) (s : State α σ) : Nat :=
  z.encBytes * unitHolders s + z.chunkBytes * chunkHolders s + z.bufBytes * slotHolders s

def memBound (z : Sizes) (c : Cfg) : Nat :=
  z.encBytes * c.n + z.chunkBytes * c.totalIn + z.bufBytes * c.totalOut

/-- **C13 (compression)**: live bytes never exceed `memBound`, whatever the
    input size, compression ratio or schedule. -/
theorem live_le (z : Sizes) {c : Cfg} {cd : Codec α σ} {input : List α} {s : State α σ}
    (h : Reach c cd input s) : liveBytes z s ≤ memBound z c := by
  obtain ⟨_, i2, i3, i4, _, _⟩ := (inv1_reach h).cons
  have a : unitHolders s ≤ c.n := by omega
  have b : chunkHolders s ≤ c.totalIn := by omega
  have d : slotHolders s ≤ c.totalOut := by omega
  exact Nat.add_le_add (Nat.add_le_add (Nat.mul_le_mul_left _ a) (Nat.mul_le_mul_left _ b))
    (Nat.mul_le_mul_left _ d)

/-- with the generated `set_memory_constraints()` the bound is linear in the
    worker count: `n·(enc + 2·chunk + 2·buf) + 2·buf`, independent of the input. -/
theorem memBound_linear (z : Sizes) (n bs : Nat) (u : Bool) :
    memBound z (Cfg.ofGen n bs u) =
      n * (z.encBytes + 2 * z.chunkBytes + 2 * z.bufBytes) + 2 * z.bufBytes := by
  simp only [memBound, Cfg.ofGen, memCompress, Nat.mul_add, Nat.mul_comm 2]
  ac_rfl

/-- non-vacuity: a reachable state with 1 encoder, no chunk and 2 output buffers alive -/
example : liveBytes ⟨1000, 100, 10⟩ wMid = 1000 * 1 + 100 * 0 + 10 * 2 ∧
    Reach wCfg wCodec wInput wMid := by
  refine ⟨?_, wMid_reach⟩
  rw [wMid_eq]
  decide

end LbzVerif.Props.C13.Compress
