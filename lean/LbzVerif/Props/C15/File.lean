/-
  Props.C15.File — the stored CRC fields are enforced, for WHOLE FILES (`Props.C15` shows the two
  comparisons at the level of the translated pieces).  In ANY byte string `lbzip2 -d` accepts
  (`Model.Expand.expandFile x = .ok y`, equivalently — `Props.C06.File.expand_iff` — any file the
  strict reference accepts), flipping ANY ONE bit of the stored 32-bit CRC of ANY block of ANY
  stream, or of the stored combined CRC of ANY stream (streams without blocks and every stream of
  a concatenation included), gives a file that `lbzip2 -d` rejects; the reference rejects it for
  exactly the CRC reason.  WHERE the fields are is computed from the file by the reference's own
  walk, `Lemmas.CrcFlipMain.crcFields`; `flipBit x p` flips bit `p` of the byte string.
-/
import LbzVerif.Lemmas.CrcFlipMain
import LbzVerif.Lemmas.CrcFlipWitness
import LbzVerif.Props.C06.File
import LbzVerif.Props.C09.File

namespace LbzVerif.Props.C15.File
open LbzVerif.Basic LbzVerif.Model.Expand LbzVerif.Model.SchedD
open LbzVerif.Lemmas.CrcFlipMain LbzVerif.Lemmas.CrcFlipBits
open LbzVerif.Lemmas.ExpandSched (cfgOf)

/-- `x` any byte string that `lbzip2 -d` accepts; `q` the position
of the stored CRC of any block the reference walk finds in `x` (any stream); `k < 32` any of its
bits.  The file with that bit flipped is rejected by `lbzip2 -d`; the strict reference rejects it
with `blockCrc`. -/
theorem block_crc_flip_rejected (x y : List UInt8) (h : expandFile x = .ok y) (q : Nat)
    (hq : Field.block q ∈ crcFields x) (k : Nat) (hk : k < 32) :
    (∃ e, expandFile (flipBit x (q + k)) = .error e) ∧
    Spec.Bzip2.decodeFile (flipBit x (q + k)) = .error .blockCrc := by
  have hd := Props.C05.File.expand_sound x y h
  have hr := decodeFile_flip x y hd (.block q) hq k hk
  exact ⟨Props.C05.File.expand_rejects_malformed _ _ hr, hr⟩

/-- The same for the stored combined CRC of any stream of `x`
(first or later stream of a concatenation, with or without blocks): rejected by `lbzip2 -d`, and
by the strict reference with `streamCrc`. -/
theorem stream_crc_flip_rejected (x y : List UInt8) (h : expandFile x = .ok y) (q : Nat)
    (hq : Field.stream q ∈ crcFields x) (k : Nat) (hk : k < 32) :
    (∃ e, expandFile (flipBit x (q + k)) = .error e) ∧
    Spec.Bzip2.decodeFile (flipBit x (q + k)) = .error .streamCrc := by
  have hd := Props.C05.File.expand_sound x y h
  have hr := decodeFile_flip x y hd (.stream q) hq k hk
  exact ⟨Props.C05.File.expand_rejects_malformed _ _ hr, hr⟩

/-- Both, for any field: after the flip no output is accepted at all. -/
theorem crc_flip_never_accepted (x y : List UInt8) (h : expandFile x = .ok y) (f : Field)
    (hf : f ∈ crcFields x) (k : Nat) (hk : k < 32) (y' : List UInt8) :
    expandFile (flipBit x (f.pos + k)) ≠ .ok y' := by
  intro hy'
  have hd := Props.C05.File.expand_sound x y h
  have hr := decodeFile_flip x y hd f hf k hk
  rw [Props.C05.File.expand_sound _ _ hy'] at hr
  cases hr

/-- What the recorded positions are, in the file itself: a recorded
field starts at a bit offset `≥ 80`, its 32 bits lie inside the file, and the 48 bits in front of
it are the block magic (for `Field.block`) resp. the end-of-stream magic (for `Field.stream`). -/
theorem crc_field_position (x : List UInt8) (f : Field) (hf : f ∈ crcFields x) :
    80 ≤ f.pos ∧ f.pos + 32 ≤ 8 * x.length ∧
    takeNat 48 ((bytesToBits x).drop (f.pos - 48)) = some (f.magic, (bytesToBits x).drop f.pos) := by
  unfold crcFields at hf
  cases h32 : takeNat 32 (bytesToBits x) with
  | none => rw [h32] at hf; simp at hf
  | some r =>
    obtain ⟨w, bits⟩ := r
    rw [h32] at hf
    simp only at hf
    have hlen := takeNat_length h32
    rw [bytesToBits_length] at hlen
    have hbits := takeNat_drop h32
    cases hl : Spec.Bzip2.headerLevel w with
    | none => rw [hl] at hf; simp at hf
    | some level =>
      rw [hl] at hf
      simp only at hf
      obtain ⟨a1, a2, a3⟩ := fieldsGo_magic _ _ _ _ f hf
      refine ⟨by omega, by omega, ?_⟩
      rw [hbits, List.drop_drop, List.drop_drop] at a3
      have e1 : 32 + (f.pos - 48 - 32) = f.pos - 48 := by omega
      have e2 : 32 + (f.pos - 32) = f.pos := by omega
      rw [e1, e2] at a3
      exact a3

/-- The walk that collects the fields is not cut short: any larger fuel finds the same fields. -/
theorem crcFields_fuel_enough (n : Nat) (level pos : Nat) (bits : Bits) (x : List UInt8)
    (hb : bits.length ≤ 8 * x.length) (hn : 8 * x.length < n) :
    fieldsGo (8 * x.length + 1) (some level) pos bits = fieldsGo n (some level) pos bits :=
  fieldsGo_fuel _ _ _ _ _ (by omega) (by omega)

/-- The flip really changes the file, and only that bit (so the theorems are about a different
file of the same length). -/
theorem flipBit_changes (x : List UInt8) (p : Nat) (hp : p < 8 * x.length) :
    flipBit x p ≠ x ∧ (flipBit x p).length = x.length ∧ flipBit (flipBit x p) p = x := by
  refine ⟨?_, flipBit_length x p, flipBit_flipBit x p⟩
  intro e
  have h1 := bytesToBits_flipBit x p
  rw [e] at h1
  exact flipAt_ne (bytesToBits x) p (by rw [bytesToBits_length]; exact hp) h1.symm

/-- **No schedule lets the damaged file through**: on the file with a flipped CRC bit no reachable
state of the decompression scheduler model (any worker count, granularity, slot totals, candidate
set, interleaving) is a clean termination. -/
theorem crc_flip_never_terminates (x y : List UInt8) (h : expandFile x = .ok y) (f : Field)
    (hf : f ∈ crcFields x) (k : Nat) (hk : k < 32)
    (n W totalIn totalOut : Nat) (ultra : Bool) (cand : List Nat) {s : State}
    (hr : Reach (cfgOf (Lemmas.Copy.headerLevel (flipBit x (f.pos + k)))
      ((flipBit x (f.pos + k)).drop 4) n W totalIn totalOut ultra cand) s) :
    terminated (cfgOf (Lemmas.Copy.headerLevel (flipBit x (f.pos + k)))
      ((flipBit x (f.pos + k)).drop 4) n W totalIn totalOut ultra cand) s = false := by
  have hd := Props.C05.File.expand_sound x y h
  have hrj := decodeFile_flip x y hd f hf k hk
  obtain ⟨e, he⟩ := Props.C05.File.expand_rejects_malformed _ _ hrj
  have hh' : Lemmas.Copy.hasHeader (flipBit x (f.pos + k)) = true :=
    Lemmas.ExpandTop.hasHeader_of_reason hrj (by cases f <;> exact fun e => by cases e)
      (by cases f <;> exact fun e => by cases e)
  exact Props.C09.File.rejected_never_terminates _ hh' e he n W totalIn totalOut ultra cand hr

/-! ### non-vacuity: the real file `aBz2` ("a", `bzip2 -9`) and a two-stream file -/

open LbzVerif.Lemmas.ExpandHello LbzVerif.Lemmas.CrcFlipWitness

-- the hypotheses hold: the file is accepted and has one block field (bits 80…111) and one stream
-- field (bits 259…290); the conclusions, instantiated at bit 5 resp. bit 31
example : (∃ e, expandFile (flipBit aBz2 (80 + 5)) = .error e) ∧
    Spec.Bzip2.decodeFile (flipBit aBz2 (80 + 5)) = .error .blockCrc :=
  block_crc_flip_rejected aBz2 [97] expandFile_aBz2 80 (by rw [crcFields_aBz2]; simp) 5 (by omega)

example : (∃ e, expandFile (flipBit aBz2 (259 + 31)) = .error e) ∧
    Spec.Bzip2.decodeFile (flipBit aBz2 (259 + 31)) = .error .streamCrc :=
  stream_crc_flip_rejected aBz2 [97] expandFile_aBz2 259 (by rw [crcFields_aBz2]; simp) 31 (by omega)

-- … and the kernel evaluation of the model on the two flipped files agrees, with the error the
-- real program prints ("block CRC mismatch" from do_reorder, "stream CRC mismatch" from parse())
example : expandFile (flipBit aBz2 (80 + 5)) = .error (.block Gen.ERR_BLKCRC) ∧
    expandFile (flipBit aBz2 (259 + 31)) = .error (.data Gen.ERR_STRMCRC) :=
  ⟨flip_block_aBz2, flip_stream_aBz2⟩

-- a second stream without blocks: its CRC field (bits 376…407) is found and enforced too
example : (∃ e, expandFile (flipBit twoStreams (376 + 0)) = .error e) ∧
    Spec.Bzip2.decodeFile (flipBit twoStreams (376 + 0)) = .error .streamCrc :=
  stream_crc_flip_rejected twoStreams [97] expandFile_twoStreams 376
    (by rw [crcFields_twoStreams]; simp) 0 (by omega)

-- the scheduler form, instantiated (hypotheses satisfiable: the initial state is reachable)
example : terminated (cfgOf (Lemmas.Copy.headerLevel (flipBit aBz2 (80 + 5)))
    ((flipBit aBz2 (80 + 5)).drop 4) 4 65536 16 64 false [])
    (init (cfgOf (Lemmas.Copy.headerLevel (flipBit aBz2 (80 + 5)))
      ((flipBit aBz2 (80 + 5)).drop 4) 4 65536 16 64 false [])) = false :=
  crc_flip_never_terminates aBz2 [97] expandFile_aBz2 (.block 80) (by rw [crcFields_aBz2]; simp) 5
    (by omega) 4 65536 16 64 false [] Reach.init

-- the recorded positions of `aBz2`, and what stands in front of them
example : crcFields aBz2 = [.block 80, .stream 259] ∧
    takeNat 48 ((bytesToBits aBz2).drop 32) = some (Spec.Bzip2.blockMagic, (bytesToBits aBz2).drop 80) :=
  ⟨crcFields_aBz2, (crc_field_position aBz2 (.block 80) (by rw [crcFields_aBz2]; simp)).2.2⟩

end LbzVerif.Props.C15.File
