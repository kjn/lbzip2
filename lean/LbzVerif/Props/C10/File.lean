/-
  C10 — speculative block discovery never influences the output, at file level.
  In `Lemmas.ExpandSched.cfgOf` the scanner's findings are a free parameter `cand : List Nat` — ANY
  list of bit positions, true block headers, look-alike magics inside coded data, or positions
  where nothing is — while the parser and the retriever are the real models run on the file's
  bits.  Whatever the scanner reports, and however the speculative jobs it starts are interleaved
  with the parser, a terminated run writes exactly what the sequential decoder (`expandFile`, no
  scanner at all) writes; on a file the sequential decoder accepts, no candidate set can make a
  run fail.
-/
import LbzVerif.Props.C09.File

namespace LbzVerif.Props.C10.File
open LbzVerif.Model.SchedD LbzVerif.Model.Expand
open LbzVerif.Lemmas.ExpandSched (cfgOf render)

/-- A terminated run with scanner findings `cand` writes what a terminated run
    WITHOUT any scanner findings writes (`cand = []`: the parser discovers
    every block itself) — for every file, every pair of configurations and
    schedules. -/
theorem speculation_invisible (x : List UInt8) (hh : Lemmas.Copy.hasHeader x = true)
    (n W tin tout : Nat) (u : Bool) (cand : List Nat)
    (n' W' tin' tout' : Nat) (u' : Bool) {s s' : State}
    (hr : Reach (cfgOf (Lemmas.Copy.headerLevel x) (x.drop 4) n W tin tout u cand) s)
    (ht : terminated (cfgOf (Lemmas.Copy.headerLevel x) (x.drop 4) n W tin tout u cand) s = true)
    (hr' : Reach (cfgOf (Lemmas.Copy.headerLevel x) (x.drop 4) n' W' tin' tout' u' []) s')
    (ht' : terminated (cfgOf (Lemmas.Copy.headerLevel x) (x.drop 4) n' W' tin' tout' u' []) s'
      = true) :
    s.written.flatMap (render (Lemmas.Copy.headerLevel x) (x.drop 4)) =
      s'.written.flatMap (render (Lemmas.Copy.headerLevel x) (x.drop 4)) :=
  Props.C09.File.sched_output_indep x hh n W tin tout u cand n' W' tin' tout' u' [] hr ht hr' ht'

/-- The output of a terminated run is the sequential decoder's, whatever the
    scanner found. -/
theorem speculation_output (x : List UInt8) (hh : Lemmas.Copy.hasHeader x = true)
    (n W tin tout : Nat) (u : Bool) (cand : List Nat) {s : State}
    (hr : Reach (cfgOf (Lemmas.Copy.headerLevel x) (x.drop 4) n W tin tout u cand) s)
    (ht : terminated (cfgOf (Lemmas.Copy.headerLevel x) (x.drop 4) n W tin tout u cand) s = true) :
    expandFile x = .ok (s.written.flatMap (render (Lemmas.Copy.headerLevel x) (x.drop 4))) :=
  Props.C09.File.sched_output_is_expandFile x hh n W tin tout u cand hr ht

/-- A spurious candidate cannot turn a good file into an error: on a file the
    sequential decoder accepts, no run fails, for any candidate set. -/
theorem speculation_never_fails (x : List UInt8) (hh : Lemmas.Copy.hasHeader x = true)
    (y : List UInt8) (hy : expandFile x = .ok y)
    (n W tin tout : Nat) (u : Bool) (cand : List Nat) {s : State}
    (hr : Reach (cfgOf (Lemmas.Copy.headerLevel x) (x.drop 4) n W tin tout u cand) s) :
    s.failed = false :=
  (Props.C09.File.accepted_never_fails x hh y hy n W tin tout u cand hr).1

/-- … nor can it rescue a bad one: on a file the sequential decoder rejects no
    run terminates cleanly, for any candidate set. -/
theorem speculation_never_rescues (x : List UInt8) (hh : Lemmas.Copy.hasHeader x = true)
    (e : Err) (he : expandFile x = .error e)
    (n W tin tout : Nat) (u : Bool) (cand : List Nat) {s : State}
    (hr : Reach (cfgOf (Lemmas.Copy.headerLevel x) (x.drop 4) n W tin tout u cand) s) :
    terminated (cfgOf (Lemmas.Copy.headerLevel x) (x.drop 4) n W tin tout u cand) s = false :=
  Props.C09.File.rejected_never_terminates x hh e he n W tin tout u cand hr

end LbzVerif.Props.C10.File
